/-
C08 — executable model of the temporal aggregation / disaggregation code of hydrodiy:

* `c_aggregate`   (src/hydrodiy/data/c_dutils.c:11-102) → `aggregate`
* `c_flathomogen` (src/hydrodiy/data/c_dutils.c:143-229) → `flathomogen`
* `dutils.monthly2daily` flat and cubic cores (src/hydrodiy/data/dutils.py:331-431) with the
  Gregorian calendar that pandas supplies (`days_in_month`)    → `m2dFlat`, `m2dCubic`

No Mathlib. The text is generic over the notation classes only, so it runs at `Float` (driver, IEEE
double like the kernels), at core `Rat`, and is reasoned about over any ordered field in `Props/C08.lean`.
NaN is `none` at every place the code tests `isnan`. C `int` is `Int`/`Nat`.
The model follows the code after the `fix:` commits fa09ee1 (max initialised by the first non-missing value), 6ef10af
(tail ignores missing values), 01a6a56 and 999604b (an empty series is rejected: `Err.emptyInput`); operation order is
the kernels' order.
-/
namespace HydroVerif.C08

inductive Err
  | emptyInput        -- `if(nval < 1) return DUTILS_ERROR + __LINE__` (the property has length ≥ 1)
  | decreasingIndex   -- `if(ia < iaprev) return DUTILS_ERROR + __LINE__`
  | bufferFull        -- `if(count >= nval) return DUTILS_ERROR + __LINE__`
  | badMonth          -- monthly2daily: start month outside 1..12 (cannot be built as a pandas timestamp)
  | lengthMismatch    -- dutils.aggregate / flathomogen: `len(aggindex) != len(inputs)` → ValueError
  | intOverflow       -- `np.int32(operator)` / `np.int32(maxnan)` on a python int outside int32 → OverflowError
  | badInterpolation  -- monthly2daily: interpolation not in flat / cubic → ValueError
  | badTimestep       -- compute_aggindex: time step not in AS / AS-MMM / MS / D / h → AssertionError
  | assertFailed      -- c_hydrodiy_data.aggregate / flathomogen: `assert nval == inputs.shape[0]` … → AssertionError
  deriving DecidableEq, Repr

/-- representable as a C `int` (what `np.int32(x)` / a Cython `int` argument accept of a python int) -/
def inInt32 (i : Int) : Bool := decide (-2147483648 ≤ i) && decide (i ≤ 2147483647)

/-- `np.array(aggindex).astype(np.int32)` on integer input: C cast, wraps modulo 2^32 -/
def wrap32 (i : Int) : Int := (i + 2147483648) % 4294967296 - 2147483648

section kernels
variable {α : Type} [Add α] [Div α] [LT α] [DecidableLT α] [OfNat α 0] [NatCast α]

/-- running reduction of the current group: `agg`, `nagg`, `nagg_nan` -/
structure Acc (α : Type) where
  agg : α
  nagg : Nat
  nnan : Nat

/-- `agg = 0; nagg = 0; nagg_nan = 0;` -/
def Acc.init : Acc α := { agg := 0, nagg := 0, nnan := 0 }

/-- c_dutils.c:64-87 — one input folded into the running reduction.
A missing input counts in `nnan` and enters the sum/mean as `0`; max and tail skip it.
Operators outside 0..3 follow the C `if / else if` chain (`<= 1` sums, `> 3` leaves `agg` alone). -/
def accStep (op : Int) (a : Acc α) : Option α → Acc α
  | none =>
    if op ≤ 1 then { agg := a.agg + 0, nagg := a.nagg, nnan := a.nnan + 1 }
    else { agg := a.agg, nagg := a.nagg, nnan := a.nnan + 1 }
  | some v =>
    if op ≤ 1 then { agg := a.agg + v, nagg := a.nagg + 1, nnan := a.nnan }
    else if op = 2 then
      { agg := if a.nagg + 1 = 1 then v else if a.agg < v then v else a.agg,
        nagg := a.nagg + 1, nnan := a.nnan }
    else if op = 3 then { agg := v, nagg := a.nagg + 1, nnan := a.nnan }
    else { agg := a.agg, nagg := a.nagg + 1, nnan := a.nnan }

/-- c_dutils.c:43-51 and 90-97 — the value stored for a finished group:
mean divides by the number of non-missing values when there is one; more than `maxnan` missing ⇒ NaN -/
def flush (op maxnan : Int) (a : Acc α) : Option α :=
  let agg := if op = 1 ∧ 0 < a.nagg then a.agg / (a.nagg : α) else a.agg
  if maxnan < (a.nnan : Int) then none else some agg

/-- loop state of `c_aggregate`: `iaprev`, the running reduction, `outputs[0..count)` reversed -/
structure St (α : Type) where
  prev : Int
  acc : Acc α
  out : List (Option α)

/-- one iteration of the `for` loop of `c_aggregate` (c_dutils.c:33-88) -/
def step (op maxnan : Int) (nval : Nat) (s : St α) (ia : Int) (x : Option α) : Except Err (St α) :=
  if ia < s.prev then .error .decreasingIndex
  else if ia ≠ s.prev then
    let out := flush op maxnan s.acc :: s.out
    if nval ≤ out.length then .error .bufferFull
    else .ok { prev := ia, acc := accStep op Acc.init x, out := out }
  else .ok { prev := s.prev, acc := accStep op s.acc x, out := s.out }

def loop (op maxnan : Int) (nval : Nat) : St α → List (Int × Option α) → Except Err (St α)
  | s, [] => .ok s
  | s, (ia, x) :: rest =>
    match step op maxnan nval s ia x with
    | .error e => .error e
    | .ok s' => loop op maxnan nval s' rest

/-- `c_aggregate` followed by the truncation `outputs[:iend[0]]` of `dutils.aggregate` -/
def aggregate (op maxnan : Int) (l : List (Int × Option α)) : Except Err (List (Option α)) :=
  match l with
  | [] => .error .emptyInput
  | (i0, _) :: _ =>
    match loop op maxnan l.length ({ prev := i0, acc := Acc.init, out := [] } : St α) l with
    | .error e => .error e
    | .ok s => .ok (flush op maxnan s.acc :: s.out).reverse

/-- loop state of `c_flathomogen`: `iaprev`, running sum (operator-0 accumulation),
`inputs[start..i)` reversed, `outputs[0..start)` reversed -/
structure HSt (α : Type) where
  prev : Int
  acc : Acc α
  grp : List (Option α)
  out : List (Option α)

/-- c_dutils.c:175-190 / 212-226 — the second pass over a finished group (result reversed like `grp`):
missing stays missing, the others receive `agg/nagg`, with `agg = nan` when too many are missing -/
def hflush (maxnan : Int) (a : Acc α) (grp : List (Option α)) : List (Option α) :=
  let agg : Option α := if maxnan < (a.nnan : Int) then none else some a.agg
  grp.map fun x => match x with
    | none => none
    | some _ => agg.map fun s => s / (a.nagg : α)

def hstep (maxnan : Int) (s : HSt α) (ia : Int) (x : Option α) : Except Err (HSt α) :=
  if ia < s.prev then .error .decreasingIndex
  else if ia ≠ s.prev then
    .ok { prev := ia, acc := accStep 0 Acc.init x, grp := [x], out := hflush maxnan s.acc s.grp ++ s.out }
  else .ok { prev := s.prev, acc := accStep 0 s.acc x, grp := x :: s.grp, out := s.out }

def hloop (maxnan : Int) : HSt α → List (Int × Option α) → Except Err (HSt α)
  | s, [] => .ok s
  | s, (ia, x) :: rest =>
    match hstep maxnan s ia x with
    | .error e => .error e
    | .ok s' => hloop maxnan s' rest

/-- `c_flathomogen` as called by `dutils.flathomogen` -/
def flathomogen (maxnan : Int) (l : List (Int × Option α)) : Except Err (List (Option α)) :=
  match l with
  | [] => .error .emptyInput
  | (i0, _) :: _ =>
    match hloop maxnan ({ prev := i0, acc := Acc.init, grp := [], out := [] } : HSt α) l with
    | .error e => .error e
    | .ok s => .ok (hflush maxnan s.acc s.grp ++ s.out).reverse

end kernels

/-! ### the kernels at buffer level: what is left in the caller's `outputs` / `iend` arrays, also when an error code
is returned (c_dutils.c writes `outputs[count]` as it goes and sets `iend[0]` only on the success path) -/
section buffers
variable {α : Type} [Add α] [Div α] [LT α] [DecidableLT α] [OfNat α 0] [NatCast α]

/-- `step`, keeping the loop state reached when the kernel returns its error code: a decrease is seen before anything
is written for the current element, the (unreachable) capacity guard after `outputs[count] = agg; count++` -/
def stepB (op maxnan : Int) (nval : Nat) (s : St α) (ia : Int) (x : Option α) : Except (Err × St α) (St α) :=
  if ia < s.prev then .error (.decreasingIndex, s)
  else if ia ≠ s.prev then
    let out := flush op maxnan s.acc :: s.out
    if nval ≤ out.length then .error (.bufferFull, { prev := s.prev, acc := s.acc, out := out })
    else .ok { prev := ia, acc := accStep op Acc.init x, out := out }
  else .ok { prev := s.prev, acc := accStep op s.acc x, out := s.out }

def loopB (op maxnan : Int) (nval : Nat) : St α → List (Int × Option α) → Except (Err × St α) (St α)
  | s, [] => .ok s
  | s, (ia, x) :: rest =>
    match stepB op maxnan nval s ia x with
    | .error e => .error e
    | .ok s' => loopB op maxnan nval s' rest

/-- what `c_aggregate` leaves behind: return code (`none` = 0), the `outputs` buffer, `iend[0]` -/
structure KOut (α : Type) where
  ierr : Option Err
  outputs : List (Option α)
  iend : Int
  deriving DecidableEq

/-- `c_aggregate(nval, operator, maxnan, aggindex, inputs, outputs, iend)` with `nval` the common length of
`aggindex` / `inputs` (asserted by the Cython layer), `buf` the content of `outputs` before the call and `iend0` that of
`iend[0]`: the closed groups overwrite the head of the buffer, the rest is not touched, `iend[0]` is written on success only -/
def cAggregate (op maxnan : Int) (l : List (Int × Option α)) (buf : List (Option α)) (iend0 : Int) : KOut α :=
  match l with
  | [] => { ierr := some .emptyInput, outputs := buf, iend := iend0 }
  | (i0, _) :: _ =>
    match loopB op maxnan l.length ({ prev := i0, acc := Acc.init, out := [] } : St α) l with
    | .error (e, s) => { ierr := some e, outputs := s.out.reverse ++ buf.drop s.out.length, iend := iend0 }
    | .ok s =>
      let w := (flush op maxnan s.acc :: s.out).reverse
      { ierr := none, outputs := w ++ buf.drop w.length, iend := (w.length : Int) }

def hstepB (maxnan : Int) (s : HSt α) (ia : Int) (x : Option α) : Except (Err × HSt α) (HSt α) :=
  if ia < s.prev then .error (.decreasingIndex, s)
  else if ia ≠ s.prev then
    .ok { prev := ia, acc := accStep 0 Acc.init x, grp := [x], out := hflush maxnan s.acc s.grp ++ s.out }
  else .ok { prev := s.prev, acc := accStep 0 s.acc x, grp := x :: s.grp, out := s.out }

def hloopB (maxnan : Int) : HSt α → List (Int × Option α) → Except (Err × HSt α) (HSt α)
  | s, [] => .ok s
  | s, (ia, x) :: rest =>
    match hstepB maxnan s ia x with
    | .error e => .error e
    | .ok s' => hloopB maxnan s' rest

/-- `c_flathomogen(nval, maxnan, aggindex, inputs, outputs)`: return code and the `outputs` buffer after the call
(the groups closed before a decrease are already written) -/
def cFlathomogen (maxnan : Int) (l : List (Int × Option α)) (buf : List (Option α)) : Option Err × List (Option α) :=
  match l with
  | [] => (some .emptyInput, buf)
  | (i0, _) :: _ =>
    match hloopB maxnan ({ prev := i0, acc := Acc.init, grp := [], out := [] } : HSt α) l with
    | .error (e, s) => (some e, s.out.reverse ++ buf.drop s.out.length)
    | .ok s =>
      let w := (hflush maxnan s.acc s.grp ++ s.out).reverse
      (none, w ++ buf.drop w.length)

/-- `c_hydrodiy_data.aggregate(oper, maxnan, aggindex, inputs, outputs, iend)` (c_hydrodiy_data.pyx:119-139):
C-int conversion of the two scalars, the three shape assertions, then the kernel on the caller's buffers -/
def pyxAggregate (op maxnan : Int) (idx : List Int) (vals buf : List (Option α)) (iend : List Int) :
    Except Err (KOut α) :=
  if !(inInt32 op) || !(inInt32 maxnan) then .error .intOverflow
  else if idx.length ≠ vals.length ∨ idx.length ≠ buf.length ∨ iend.length ≠ 1 then .error .assertFailed
  else .ok (cAggregate op maxnan (idx.zip vals) buf (iend.headD 0))

/-- `c_hydrodiy_data.flathomogen(maxnan, aggindex, inputs, outputs)` (c_hydrodiy_data.pyx:142-159) -/
def pyxFlathomogen (maxnan : Int) (idx : List Int) (vals buf : List (Option α)) :
    Except Err (Option Err × List (Option α)) :=
  if !(inInt32 maxnan) then .error .intOverflow
  else if idx.length ≠ vals.length ∨ idx.length ≠ buf.length then .error .assertFailed
  else .ok (cFlathomogen maxnan (idx.zip vals) buf)

end buffers

/-! ### the Python wrappers `dutils.aggregate` / `dutils.flathomogen` (dutils.py:150-250): argument glue -/

section wrappers
variable {α : Type} [Add α] [Div α] [LT α] [DecidableLT α] [OfNat α 0] [NatCast α]

/-- `dutils.aggregate(aggindex, inputs, operator, maxnan)`: length check, `np.int32(operator)`,
`np.int32(maxnan)`, index cast to int32, kernel, `ierr > 0` → ValueError, truncation to `iend` -/
def aggregateW (op maxnan : Int) (idx : List Int) (vals : List (Option α)) :
    Except Err (List (Option α)) :=
  if idx.length ≠ vals.length then .error .lengthMismatch
  else if !(inInt32 op) || !(inInt32 maxnan) then .error .intOverflow
  else aggregate op maxnan ((idx.map wrap32).zip vals)

/-- `dutils.flathomogen(aggindex, inputs, maxnan)` -/
def flathomogenW (maxnan : Int) (idx : List Int) (vals : List (Option α)) :
    Except Err (List (Option α)) :=
  if idx.length ≠ vals.length then .error .lengthMismatch
  else if !(inInt32 maxnan) then .error .intOverflow
  else flathomogen maxnan ((idx.map wrap32).zip vals)

/-- `outputs = 0.*inputs` (dutils.py:191, 241): the freshly allocated output buffer -/
def zeroTimes [Mul α] : Option α → Option α
  | none => none
  | some x => some (0 * x)

/-- `dutils.aggregate` line by line through the Cython layer and the buffers: `outputs = 0.*inputs`,
`iend = np.array([0])`, the call, `if ierr > 0: raise ValueError`, `outputs[:iend[0]]` -/
def aggregateWB [Mul α] (op maxnan : Int) (idx : List Int) (vals : List (Option α)) :
    Except Err (List (Option α)) :=
  if idx.length ≠ vals.length then .error .lengthMismatch
  else if !(inInt32 op) || !(inInt32 maxnan) then .error .intOverflow
  else
    match pyxAggregate op maxnan (idx.map wrap32) vals (vals.map zeroTimes) [0] with
    | .error e => .error e
    | .ok k =>
      match k.ierr with
      | some e => .error e
      | none => .ok (k.outputs.take k.iend.toNat)

/-- `dutils.flathomogen` through the Cython layer and the buffer -/
def flathomogenWB [Mul α] (maxnan : Int) (idx : List Int) (vals : List (Option α)) :
    Except Err (List (Option α)) :=
  if idx.length ≠ vals.length then .error .lengthMismatch
  else if !(inInt32 maxnan) then .error .intOverflow
  else
    match pyxFlathomogen maxnan (idx.map wrap32) vals (vals.map zeroTimes) with
    | .error e => .error e
    | .ok (some e, _) => .error e
    | .ok (none, out) => .ok out

end wrappers

/-! ### histories on one set of arrays: the caller's `aggindex` / `inputs`, the calls, the arrays handed out -/
section histories
variable {α : Type} [Add α] [Div α] [LT α] [DecidableLT α] [OfNat α 0] [NatCast α]

/-- what the caller holds: the two argument arrays and every array returned so far (oldest first) -/
structure Hist (α : Type) where
  idx : List Int
  vals : List (Option α)
  outs : List (List (Option α))
  deriving DecidableEq

inductive HOp (α : Type)
  | setVal (i : Nat) (v : Option α)     -- `inputs[i] = v` (an index out of range raises IndexError: nothing changes)
  | setIdx (i : Nat) (k : Int)          -- `aggindex[i] = k`
  | scribble (r : Nat) (v : Option α)   -- `outs[r][...] = v`: the caller overwrites an array it was given
  | callAgg (op maxnan : Int)           -- `dutils.aggregate(aggindex, inputs, op, maxnan)`
  | callHomog (maxnan : Int)            -- `dutils.flathomogen(aggindex, inputs, maxnan)`

def HOp.isEdit : HOp α → Bool
  | .setVal .. => true
  | .setIdx .. => true
  | _ => false

/-- one operation: the new state and, for a call, its answer.  The wrappers copy their arguments (`astype`) and
allocate a fresh result (`0.*inputs`), so a call reads the current arrays, never writes them, never touches an
array handed out earlier; a rejected call (ValueError) changes nothing at all -/
def histStep (s : Hist α) : HOp α → Hist α × Option (Except Err (List (Option α)))
  | .setVal i v => ({ s with vals := s.vals.set i v }, none)
  | .setIdx i k => ({ s with idx := s.idx.set i k }, none)
  | .scribble r v => ({ s with outs := s.outs.modify r fun o => o.map fun _ => v }, none)
  | .callAgg op maxnan =>
    match aggregateW op maxnan s.idx s.vals with
    | .ok out => ({ s with outs := s.outs ++ [out] }, some (.ok out))
    | .error e => (s, some (.error e))
  | .callHomog maxnan =>
    match flathomogenW maxnan s.idx s.vals with
    | .ok out => ({ s with outs := s.outs ++ [out] }, some (.ok out))
    | .error e => (s, some (.error e))

/-- a whole history: final state and the answers of the calls, in order -/
def histRun : Hist α → List (HOp α) → Hist α × List (Except Err (List (Option α)))
  | s, [] => (s, [])
  | s, o :: rest =>
    let r := histStep s o
    let r' := histRun r.1 rest
    (r'.1, match r.2 with | some a => a :: r'.2 | none => r'.2)

end histories

/-! ### a floating-point aggregation index: `np.array(aggindex).astype(np.int32)` on float64 values -/

/-- the integer part, rounding toward zero (C conversion of a double to `int`) -/
def truncQ (q : Rat) : Int := if 0 ≤ q then q.floor else -((-q).floor)

/-- the C cast of one float64 index value to int32; `none` is NaN / ±inf.  A value whose integer part is outside
int32 has no defined conversion in C; the x86-64 conversion instruction, which numpy uses, returns INT_MIN -/
def castIdx : Option Rat → Int
  | none => -2147483648
  | some q => if inInt32 (truncQ q) then truncQ q else -2147483648

section wrappersF
variable {α : Type} [Add α] [Div α] [LT α] [DecidableLT α] [OfNat α 0] [NatCast α]

/-- `dutils.aggregate` called with a float64 aggregation index -/
def aggregateWF (op maxnan : Int) (idx : List (Option Rat)) (vals : List (Option α)) :
    Except Err (List (Option α)) :=
  if idx.length ≠ vals.length then .error .lengthMismatch
  else if !(inInt32 op) || !(inInt32 maxnan) then .error .intOverflow
  else aggregate op maxnan ((idx.map castIdx).zip vals)

end wrappersF

/-! ### `dutils.compute_aggindex` (dutils.py:116-147): the aggregation index built from time stamps -/

/-- broken-down time stamp: year, month 1..12, day 1..31, hour 0..23 -/
structure Stamp where
  y : Int
  m : Nat
  d : Nat
  h : Nat
  deriving DecidableEq, Repr

/-- accepted time steps; `ASm e` is `"AS-<MMM>"` with `e` the 1-based position of MMM in JAN..DEC -/
inductive Step
  | AS | ASm (e : Nat) | MS | D | H
  deriving DecidableEq, Repr

def monthAbbr : List (List Char) :=
  [['J','A','N'], ['F','E','B'], ['M','A','R'], ['A','P','R'], ['M','A','Y'], ['J','U','N'],
   ['J','U','L'], ['A','U','G'], ['S','E','P'], ['O','C','T'], ['N','O','V'], ['D','E','C']]

/-- `re.sub("AS-", "", timestep)`: every (leftmost, non-overlapping) occurrence removed -/
def removeAS : List Char → List Char
  | 'A' :: 'S' :: '-' :: r => removeAS r
  | c :: r => c :: removeAS r
  | [] => []

/-- the `startswith("AS")` / `allowed` assertions of `compute_aggindex`, on the characters of the time step -/
def parseStep (s : List Char) : Except Err Step :=
  match s with
  | ['A', 'S'] => .ok .AS
  | 'A' :: 'S' :: _ =>
    match monthAbbr.idxOf? (removeAS s) with
    | some i => .ok (.ASm (i + 1))
    | none => .error .badTimestep
  | ['M', 'S'] => .ok .MS
  | ['D'] => .ok .D
  | ['h'] => .ok .H
  | _ => .error .badTimestep

/-- the index value of one time stamp in exact integers; `AS-MMM`: `imth = 11 - pos`,
`(time + DateOffset(months=imth)).year - 1` with `pos` the 0-based position of MMM in JAN..DEC, so `imth = 12 - e` -/
def aggIndexRaw : Step → Stamp → Int
  | .AS, t => t.y
  | .ASm e, t => t.y + (((t.m - 1 + (12 - e)) / 12 : Nat) : Int) - 1
  | .MS, t => t.y * 100 + (t.m : Int)
  | .D, t => t.y * 10000 + (t.m : Int) * 100 + (t.d : Int)
  | .H, t => t.y * 1000000 + (t.m : Int) * 10000 + (t.d : Int) * 100 + (t.h : Int)

/-- what `compute_aggindex` returns: pandas hands out `time.year`, `time.month`, … as int32 Index objects, so
`time.year*1000000 + …` is int32 arithmetic and wraps modulo 2^32 (only reachable by the hourly index of a year
beyond 2147; pandas time stamps go up to 2262) -/
def aggIndex (st : Step) (t : Stamp) : Int := wrap32 (aggIndexRaw st t)

def computeAggindex (timestep : List Char) (ts : List Stamp) : Except Err (List Int) :=
  match parseStep timestep with
  | .error e => .error e
  | .ok st => .ok (ts.map (aggIndex st))

/-! ### Gregorian calendar (what `DatetimeIndex.days_in_month` returns) -/

def isLeap (y : Int) : Bool := y % 4 == 0 && (y % 100 != 0 || y % 400 == 0)

/-- days of month `m ∈ 1..12` of year `y`; `0` for an invalid month (never produced by `monthAt`) -/
def daysInMonth (y : Int) (m : Nat) : Nat :=
  match m with
  | 1 => 31 | 2 => if isLeap y then 29 else 28 | 3 => 31 | 4 => 30 | 5 => 31 | 6 => 30
  | 7 => 31 | 8 => 31 | 9 => 30 | 10 => 31 | 11 => 30 | 12 => 31
  | _ => 0

/-- the `j`-th month of a month-start series beginning in month `m0 ∈ 1..12` of year `y0` -/
def monthAt (y0 : Int) (m0 j : Nat) : Int × Nat :=
  (y0 + (((m0 - 1 + j) / 12 : Nat) : Int), (m0 - 1 + j) % 12 + 1)

def ndaysAt (y0 : Int) (m0 j : Nat) : Nat := daysInMonth (monthAt y0 m0 j).1 (monthAt y0 m0 j).2

def monthLengths (y0 : Int) (m0 k : Nat) : List Nat := (List.range k).map (ndaysAt y0 m0)

/-! ### calendar days (what `pd.date_range(start, end)` / `resample("D")` enumerate) -/

structure Date where
  y : Int
  m : Nat
  d : Nat
  deriving DecidableEq, Repr

/-- the day after -/
def nextDay (t : Date) : Date :=
  if t.d < daysInMonth t.y t.m then { y := t.y, m := t.m, d := t.d + 1 }
  else if t.m < 12 then { y := t.y, m := t.m + 1, d := 1 }
  else { y := t.y + 1, m := 1, d := 1 }

/-- `n` consecutive days starting at `t` -/
def daysFrom : Date → Nat → List Date
  | _, 0 => []
  | t, n + 1 => t :: daysFrom (nextDay t) n

/-- the calendar days of one month, in order -/
def monthDays (y : Int) (m : Nat) : List Date :=
  (List.range (daysInMonth y m)).map fun d => { y := y, m := m, d := d + 1 }

/-- position, in a month-start series beginning at `(y0, m0)`, of the month a day belongs to
(`ffill`: the latest month start not after the day) -/
def monthIndex (y0 : Int) (m0 : Nat) (t : Date) : Int := (t.y - y0) * 12 + (t.m : Int) - (m0 : Int)

/-! ### monthly2daily -/
section m2d
variable {α : Type} [Add α] [Sub α] [Mul α] [Div α] [LT α] [DecidableLT α]
  [OfNat α 0] [OfNat α 1] [NatCast α]

/-- flat branch, one month: missing ↦ `minthreshold-1`; `sed /= days_in_month`;
`sed[sed < minthreshold] = nan` -/
def flatMonth (minthr : α) (v : Option α) (n : Nat) : List (Option α) :=
  let v' := match v with | none => minthr - 1 | some v => v
  let d := v' / (n : α)
  List.replicate n (if d < minthr then none else some d)

def m2dFlat (y0 : Int) (m0 : Nat) (minthr : α) (vs : List (Option α)) :
    Except Err (List (List (Option α))) :=
  if m0 < 1 ∨ 12 < m0 then .error .badMonth
  else if vs = [] then .error .emptyInput
  else .ok (List.zipWith (flatMonth minthr) vs (monthLengths y0 m0 vs.length))

/-- one month of the cubic branch: value, number of days, derivative constraints `const[1,i]`, `const[2,i]` -/
structure Month (α : Type) where
  y : α
  n : Nat
  c1 : α
  c2 : α

/-- `dyc = concatenate([[u[0]], (u[1:]+u[:-1])/2, [u[-1]]])` without its first element -/
def dycTail : List α → List α
  | [] => []
  | [a] => [a]
  | a :: b :: r => (b + a) / ((2 : Nat) : α) :: dycTail (b :: r)

def dyc : List α → List α
  | [] => []
  | u0 :: us => u0 :: dycTail (u0 :: us)

/-- `const = [y, dyc[:-1]*ndays, dyc[1:]*ndays]` -/
def cubicInit (ys : List α) (ns : List Nat) : List (Month α) :=
  let u := List.zipWith (fun (y : α) (n : Nat) => y / (n : α)) ys ns
  let d := dyc u
  let c1 := List.zipWith (fun (d : α) (n : Nat) => d * (n : α)) d ns
  let c2 := List.zipWith (fun (d : α) (n : Nat) => d * (n : α)) d.tail ns
  List.zipWith (fun (yn : α × Nat) (c : α × α) => { y := yn.1, n := yn.2, c1 := c.1, c2 := c.2 })
    (List.zip ys ns) (List.zip c1 c2)

/-- dutils.py:402-409 — the sequential sweep making the derivative continuous at month boundaries;
`cur` is month `i` (its `c1` already rewritten by iteration `i-1`), the head of the list month `i+1` -/
def sweepGo (cur : Month α) : List (Month α) → List (Month α)
  | [] => [cur]
  | nxt :: rest =>
    let F1 := cur.y / (cur.n : α)
    let d0 := cur.c1 / (cur.n : α)
    let d2 := nxt.c2 / (nxt.n : α)
    let F2 := nxt.y / (nxt.n : α)
    let d1 := (((6 : Nat) : α) * (F1 + F2) - ((2 : Nat) : α) * (d0 + d2)) / ((8 : Nat) : α)
    { cur with c2 := d1 * (cur.n : α) } :: sweepGo { nxt with c1 := d1 * (nxt.n : α) } rest

def sweep : List (Month α) → List (Month α)
  | [] => []
  | m :: rest => sweepGo m rest

/-- rows 1..3 of `np.dot(Mi, const)` for one month, `Mi = [[0,1,0],[3,-2,-1],[-2,1,1]]`
(row 0 of `coefs` is the inserted 0) -/
def coefs (m : Month α) : α × α × α :=
  let z : α := 0
  let o : α := 1
  let two : α := ((2 : Nat) : α)
  let three : α := ((3 : Nat) : α)
  (z * m.y + o * m.c1 + z * m.c2,
   three * m.y + (z - two) * m.c1 + (z - o) * m.c2,
   (z - two) * m.y + o * m.c1 + o * m.c2)

/-- `numpy.polynomial.polynomial.polyval(t, [0, k1, k2, k3])` (Horner, numpy's operation order) -/
def polyval (k : α × α × α) (t : α) : α :=
  let r3 := k.2.2 + t * 0
  let r2 := k.2.1 + r3 * t
  let r1 := k.1 + r2 * t
  0 + r1 * t

/-- cumulative curve of the month at day `j` : `polyval(j/ndays, coefs)` -/
def cum (m : Month α) (j : Nat) : α := polyval (coefs m) ((j : α) / (m.n : α))

/-- `np.diff(yyc)` over the days of the month -/
def cubicMonth (m : Month α) : List α :=
  (List.range m.n).map fun j => cum m (j + 1) - cum m j

/-- `sec[pd.isnull(sec)] = minthreshold-1` (dutils.py:353-354) -/
def fillMissing (minthr : α) : Option α → α
  | none => minthr - 1
  | some y => y

/-- cubic branch; missing months enter as `minthreshold-1` like any other value -/
def m2dCubic (y0 : Int) (m0 : Nat) (minthr : α) (vs : List (Option α)) : Except Err (List (List α)) :=
  if m0 < 1 ∨ 12 < m0 then .error .badMonth
  else if vs = [] then .error .emptyInput
  else
    let ys := vs.map (fillMissing minthr)
    .ok ((sweep (cubicInit ys (monthLengths y0 m0 ys.length))).map cubicMonth)

/-- `monthly2daily(se, interpolation, minthreshold)`: dispatch on the interpolation name -/
def m2d (interp : String) (y0 : Int) (m0 : Nat) (minthr : α) (vs : List (Option α)) :
    Except Err (List (List (Option α))) :=
  if interp = "flat" then m2dFlat y0 m0 minthr vs
  else if interp = "cubic" then
    match m2dCubic y0 m0 minthr vs with
    | .error e => .error e
    | .ok ms => .ok (ms.map fun d => d.map some)
  else .error .badInterpolation

/-! #### monthly2daily at the level of the returned daily Series: every value with its calendar-day stamp -/

/-- flat branch, day by day (dutils.py:356-369): the fictive month appended after the last one, `resample("D").ffill()`
over the days from the first stamp to the fictive one, `sed /= sed.index.days_in_month`, the threshold mask,
`sed.iloc[:-1]` -/
def m2dFlatSeries (y0 : Int) (m0 : Nat) (minthr : α) (vs : List (Option α)) :
    Except Err (List (Date × Option α)) :=
  if m0 < 1 ∨ 12 < m0 then .error .badMonth
  else if vs = [] then .error .emptyInput
  else
    let sec : List (Option α) := vs.map fun v => some (fillMissing minthr v)
    let ndays := (monthLengths y0 m0 sec.length).sum + 1
    let up : List (Date × Option α) := (daysFrom { y := y0, m := m0, d := 1 } ndays).map fun t =>
      (t, (sec[(monthIndex y0 m0 t).toNat]?).join)
    let sed := up.map fun p => (p.1, p.2.map fun v => v / ((daysInMonth p.1.y p.1.m : Nat) : α))
    let sed := sed.map fun p => (p.1, p.2.bind fun d => if d < minthr then none else some d)
    .ok sed.dropLast

/-- one row of `np.diff(yyc, axis=1)` (dutils.py:416-421): 31 columns; `xxt[xxt > 1] = nan` blanks the columns beyond the
length of the month; `isnan` is the carrier's NaN test (constant `false` over a field) -/
def cubicRow (isnan : α → Bool) (m : Month α) : List (Option α) :=
  (List.range 31).map fun j =>
    if (1 : α) < ((j + 1 : Nat) : α) / (m.n : α) then none
    else
      let v := cum m (j + 1) - cum m j
      if isnan v then none else some v

/-- cubic branch up to the returned Series (dutils.py:371-425): `yy = np.diff(yyc, axis=1).ravel()`,
`yy = yy[~np.isnan(yy)]`, `pd.date_range(start, start + len(yy) days - 1 day)` -/
def m2dCubicSeries (isnan : α → Bool) (y0 : Int) (m0 : Nat) (minthr : α) (vs : List (Option α)) :
    Except Err (List (Date × α)) :=
  if m0 < 1 ∨ 12 < m0 then .error .badMonth
  else if vs = [] then .error .emptyInput
  else
    let ys := vs.map (fillMissing minthr)
    let rows := (sweep (cubicInit ys (monthLengths y0 m0 ys.length))).map (cubicRow isnan)
    let yy := rows.flatten.filterMap id
    .ok ((daysFrom { y := y0, m := m0, d := 1 } yy.length).zip yy)

/-- `monthly2daily(se, interpolation, minthreshold)` as the daily Series it returns -/
def m2dSeries (isnan : α → Bool) (interp : String) (y0 : Int) (m0 : Nat) (minthr : α) (vs : List (Option α)) :
    Except Err (List (Date × Option α)) :=
  if interp = "flat" then m2dFlatSeries y0 m0 minthr vs
  else if interp = "cubic" then
    match m2dCubicSeries isnan y0 m0 minthr vs with
    | .error e => .error e
    | .ok out => .ok (out.map fun p => (p.1, some p.2))
  else .error .badInterpolation

/-- the per-month lists of `m2d` stamped with the calendar days of their months -/
def stampMonths {β : Type} (y0 : Int) (m0 : Nat) (months : List (List β)) : List (Date × β) :=
  (List.range months.length).flatMap fun j =>
    (monthDays (monthAt y0 m0 j).1 (monthAt y0 m0 j).2).zip (months.getD j [])

end m2d

end HydroVerif.C08
