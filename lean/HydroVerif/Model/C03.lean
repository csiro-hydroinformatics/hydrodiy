/-
C03 — model of `hydrodiy.stat.metrics.crps`: the kernel `c_crps` (src/hydrodiy/stat/c_crps.c, called with
`use_weights = 0`, `is_sorted = 0`) and the Python wrapper's filtering and shape handling
(`__check_ensemble_data`); of the extension-level entry `c_hydrodiy_stat.crps` (both flags, weight vector,
caller-owned output arrays: `kernelGen`, `stepOp`, `runOps`); and the executable definition `definitionCrps`.
No Mathlib. Generic over the numeric type: `Float` (driver), `Rat` (driver, exact), ordered field (theorems).

Conventions
* NaN is `none`: observations / members entering the wrapper are `Option α`; inside the kernel the only
  NaN the code can produce from finite input is `o[j] = b[j]/g[j]` with `g[j] = 0` (`0/0`), which propagates to
  `r[j]`, `c[j]` of the table — these three columns are `Option α`.
* `qsort` is the parameter `sort` (theorems assume `Pairwise (· ≤ ·)` and `Perm`).
* `pow(x, 2)` is `x * x`.
* conditional `+=` of the C text are conditional updates here (not "add zero").
-/
namespace HydroVerif.C03

inductive Err
  /-- wrapper: `ens.shape[0] != obs.shape[0]`, or (kernel) a ragged / empty ensemble row -/
  | shape
  /-- wrapper: no forecast with a non-missing observation and at least one non-missing member -/
  | noValidData
  /-- a kept forecast has a missing member: outside the modelled domain (the property quantifies over
      finite members; the code does not reject such rows, the model declines to describe the result) -/
  | nanMember
  /-- kernel: `ensemb[j+1] < ensemb[j]` after sorting (`return EDOM`) -/
  | edom
  /-- wrapper: `obs` still has more than one dimension after `squeeze` (`ValueError("obs is not 1D")`) -/
  | obsNot1D
  /-- `ens` with more than two dimensions: never answered (the code raises a `ValueError` or an `IndexError`,
      depending on the shapes; the harness checks "rejected", not which) -/
  | ensNot2D
  /-- extension level: one of the `assert`s of `c_hydrodiy_stat.crps` fails (`AssertionError`) -/
  | assertion
  /-- extension level: `use_weights == 1` with fewer weights than forecasts — the C code reads past the end of
      `weights_vector` (the Cython wrapper does not check its length): outside the modelled domain -/
  | weightsLen
  deriving DecidableEq, Repr

/-- per-bin state after the forecast loop (c_crps.c:91-165) -/
structure Acc (α : Type) where
  /-- `(a[j], b[j])` for the inner bins `j = 1 .. ncol-1` -/
  ab : List (α × α)
  /-- `b[0]` -/
  b0 : α
  /-- `a[ncol]` -/
  aN : α
  /-- `o[0]` -/
  o0 : α
  /-- `o[ncol]` -/
  oN : α
  unc : α

/-- one row of the 7-column reliability table -/
structure Row (α : Type) where
  p : α
  a : α
  b : α
  g : α
  o : Option α
  r : Option α
  c : Option α

structure Result (α : Type) where
  crps : α
  reli : Option α
  resol : Option α
  unc : α
  pot : Option α
  table : List (Row α)

section
variable {α : Type} [Add α] [Sub α] [Mul α] [Div α] [LT α] [DecidableLT α] [LE α] [DecidableLE α]
  [BEq α] [OfNat α 0] [OfNat α 1] [NatCast α]

/-- `fabs` -/
def absv (d : α) : α := if d < 0 then 0 - d else d

/-- `pow(x, 2)` -/
def sq (x : α) : α := x * x

/-- c_crps.c:125-135 — the three `if`s of one bin `[l, r] = [ensemb[j], ensemb[j+1]]` of one forecast,
acting on `(a[j+1], b[j+1])` -/
def binStep (w y l r : α) (ab : α × α) : α × α :=
  let b1 := if y ≤ l then ab.2 + (r - l) * w else ab.2
  let a1 := if r ≤ y then ab.1 + (r - l) * w else ab.1
  if l < y ∧ y < r then (a1 + (y - l) * w, b1 + (r - y) * w) else (a1, b1)

/-- c_crps.c:109-136 over the whole sorted ensemble -/
def binsStep (w y : α) : List α → List (α × α) → List (α × α)
  | l :: r :: es, ab :: rest => binStep w y l r ab :: binsStep w y (r :: es) rest
  | _, acc => acc

/-- c_crps.c:112 — is there a `j` with `ensemb[j+1] < ensemb[j]` -/
def unsortedAt : List α → Bool
  | l :: r :: es => decide (r < l) || unsortedAt (r :: es)
  | _ => false

/-- c_crps.c:155-164 — `uncertainty += weight * weight_k * fabs(obs[k]-obs[i])` for `k < i`, in order -/
def uncStep (w y : α) (prev : List α) (u : α) : α :=
  prev.foldl (fun u yk => u + w * w * absv (yk - y)) u

/-- c_crps.c:109-164 for one forecast whose sorted ensemble `e` has first member `f` and last member `l`;
`prev` = the observations of the forecasts already processed -/
def step (w : α) (prev : List α) (y : α) (e : List α) (f l : α) (s : Acc α) : Acc α :=
  { ab := binsStep w y e s.ab
    b0 := if y < f then s.b0 + (f - y) * w else s.b0
    aN := if l ≤ y then s.aN + (y - l) * w else s.aN
    o0 := if y < f then s.o0 + w else s.o0
    oN := if y < l then s.oN + w else s.oN
    unc := uncStep w y prev s.unc }

/-- c_crps.c:91-165 -/
def loop (sort : List α → List α) (w : α) : List α → List (α × List α) → Acc α → Except Err (Acc α)
  | _, [], s => .ok s
  | prev, (y, row) :: rest, s =>
    let e := sort row
    if unsortedAt e then .error .edom
    else match e.head?, e.getLast? with
      | some f, some l => loop sort w (prev ++ [y]) rest (step w prev y e f l s)
      | _, _ => .error .shape

/-- c_crps.c:79-88 -/
def init (m : Nat) : Acc α :=
  { ab := List.replicate (m - 1) (0, 0), b0 := 0, aN := 0, o0 := 0, oN := 0, unc := 0 }

/-- c_crps.c:195,198 -/
def mkRow (p a b g : α) (o : Option α) : Row α :=
  { p := p, a := a, b := b, g := g, o := o
    r := o.map fun o => g * sq (o - p)
    c := o.map fun o => g * o * (1 - o) }

/-- row `j = 0` (c_crps.c:181-182): `a[0] = 0`, `g[0] = b[0]/o[0]` unless `o[0] == 0` -/
def row0 (m : Nat) (s : Acc α) : Row α :=
  mkRow (((0 : Nat) : α) / (m : α)) 0 s.b0 (if s.o0 != 0 then s.b0 / s.o0 else 0) (some s.o0)

/-- row `j = ncol` (c_crps.c:184-185): `b[ncol] = 0`, `g = a/(1-o)` unless `o == 1` -/
def rowN (m : Nat) (s : Acc α) : Row α :=
  mkRow ((m : α) / (m : α)) s.aN 0 (if s.oN != 1 then s.aN / (1 - s.oN) else 0) (some s.oN)

/-- rows `0 < j < ncol` (c_crps.c:188-192): `g = a+b`, `o = b/g` (`0/0 = NaN` when the bin is empty) -/
def rowMid (m j : Nat) (ab : α × α) : Row α :=
  let g := ab.1 + ab.2
  mkRow ((j : α) / (m : α)) ab.1 ab.2 g (if g == 0 then none else some (ab.2 / g))

def mids (m : Nat) : Nat → List (α × α) → List (Row α)
  | _, [] => []
  | j, ab :: t => rowMid m j ab :: mids m (j + 1) t

def table (m : Nat) (s : Acc α) : List (Row α) :=
  row0 m s :: (mids m 1 s.ab ++ [rowN m s])

/-- running `crps_decompos[0]`, `crps_decompos[1]`, `crps_potential` -/
structure Tot (α : Type) where
  crps : α
  reli : Option α
  pot : Option α

/-- c_crps.c:210-216 -/
def accRow (t : Tot α) (r : Row α) : Tot α :=
  let crps := t.crps + (r.a * sq r.p + r.b * sq (1 - r.p))
  if 0 < r.g then
    { crps := crps
      reli := t.reli.bind fun x => r.r.map fun v => x + v
      pot := t.pot.bind fun x => r.c.map fun v => x + v }
  else { crps := crps, reli := t.reli, pot := t.pot }

/-- the frequencies `o[0]`, `o[ncol]` cut back to 1 when the rounded weight sum exceeds it
(`if(o[0]>1.0) o[0] = 1.0; if(o[ncol]>1.0) o[ncol] = 1.0;`) -/
def clampFreq (s : Acc α) : Acc α :=
  { s with o0 := if 1 < s.o0 then 1 else s.o0, oN := if 1 < s.oN then 1 else s.oN }

/-- the table loop and the totals on the final state -/
def finishCore (m : Nat) (s : Acc α) : Result α :=
  let tb := table m s
  let t := tb.foldl accRow ({ crps := 0, reli := some 0, pot := some 0 } : Tot α)
  { crps := t.crps, reli := t.reli, resol := t.pot.map fun p => s.unc - p, unc := s.unc, pot := t.pot,
    table := tb }

/-- everything after the forecast loop: frequency clamp, table, totals -/
def finish (m : Nat) (s : Acc α) : Result α := finishCore m (clampFreq s)

/-- `c_crps(nval, ncol, use_weights=0, is_sorted=0, obs, sim, …)` on zeroed outputs;
`obs.length = nval`, `m = ncol`, every row of `ens` has `m ≥ 1` members (else `shape`: the Cython wrapper's
asserts / the 2-D array type guarantee it) -/
def kernel (sort : List α → List α) (m : Nat) (obs : List α) (ens : List (List α)) : Except Err (Result α) :=
  if ens.length ≠ obs.length ∨ m = 0 ∨ ens.any (fun r => r.length != m) then .error .shape
  else
    let w : α := 1 / (obs.length : α)
    match loop sort w [] (obs.zip ens) (init m) with
    | .error e => .error e
    | .ok s => .ok (finish m s)

def optAll {β : Type} : List (Option β) → Option (List β)
  | [] => some []
  | none :: _ => none
  | some a :: t => (optAll t).map (a :: ·)

/-- `idx = notnull(obs) & notnull(ens).any(axis=1)` (metrics.py:48-49) -/
def keep (p : Option α × List (Option α)) : Bool := p.1.isSome && p.2.any Option.isSome

/-- a kept forecast as finite numbers (`none` when a member is missing) -/
def finiteRow (p : Option α × List (Option α)) : Option (α × List α) :=
  match p.1, optAll p.2 with
  | some y, some r => some (y, r)
  | _, _ => none

/-- `metrics.crps(obs, ens)` with `obs` of shape `[n]`, `ens` of shape `[n', m]` (metrics.py:29-59, 148-194) -/
def wrapper (sort : List α → List α) (m : Nat) (obs : List (Option α)) (ens : List (List (Option α))) :
    Except Err (Result α) :=
  if ens.length ≠ obs.length then .error .shape
  else
    let kept := (obs.zip ens).filter keep
    if kept.isEmpty then .error .noValidData
    else match optAll (kept.map finiteRow) with
      | none => .error .nanMember
      | some rows => kernel sort m (rows.map (·.1)) (rows.map (·.2))


/-! ### shape handling of `__check_ensemble_data` (metrics.py:32-45) -/

/-- row-major `reshape(n, m)` of a flat buffer -/
def reshape {β : Type} (m : Nat) : Nat → List β → List (List β)
  | 0, _ => []
  | n + 1, l => l.take m :: reshape m n (l.drop m)

/-- shape of `obs` after `np.atleast_1d`, then — only when `ndim > 1` — `np.atleast_1d(obs.squeeze())`;
more than one dimension left is `ValueError("obs is not 1D")` -/
def obsForecasts (shape : List Nat) : Except Err Nat :=
  let s1 := if shape.isEmpty then [1] else shape
  let s2 := if 1 < s1.length then
      (let q := s1.filter (fun d => d != 1); if q.isEmpty then [1] else q)
    else s1
  match s2 with
  | [n] => .ok n
  | _ => .error .obsNot1D

/-- shape of `ens` after `np.atleast_2d` -/
def ensDims (shape : List Nat) : Except Err (Nat × Nat) :=
  match shape with
  | [] => .ok (1, 1)
  | [p] => .ok (1, p)
  | [a, b] => .ok (a, b)
  | _ => .error .ensNot2D

/-- `metrics.crps(obs, ens)` on arrays given by shape and C-ordered flat data
(`squeeze` and `atleast_nd` do not reorder the data) -/
def wrapperNd (sort : List α → List α) (oshape : List Nat) (obs : List (Option α)) (eshape : List Nat)
    (ens : List (Option α)) : Except Err (Result α) :=
  match obsForecasts oshape with
  | .error e => .error e
  | .ok _ =>
    match ensDims eshape with
    | .error e => .error e
    | .ok (n, m) => wrapper sort m obs (reshape m n ens)



/-! ### the extension-level entry point `c_hydrodiy_stat.crps(use_weights, is_sorted, obs, sim, weight_vector,
reliability_table, crps_decompos)` (c_hydrodiy_stat.pyx:109-132 → c_crps.c:43-234): both flags, the caller's
weight vector and the caller's output arrays, which `c_crps` *adds to* (`crps_decompos[0] += …`,
`crps_decompos[1] += …`) — `metrics.crps` is the call with `0, 0`, and freshly zeroed arrays -/

/-- c_crps.c:155-164 with `weight_k = weights_vector[k]`: `prev` = `(obs[k], weight_k)` for `k < i`, in order -/
def uncStepW (w y : α) (prev : List (α × α)) (u : α) : α :=
  prev.foldl (fun u p => u + w * p.2 * absv (p.1 - y)) u

/-- c_crps.c:109-164 for one forecast of weight `w` -/
def stepW (w : α) (prev : List (α × α)) (y : α) (e : List α) (f l : α) (s : Acc α) : Acc α :=
  { ab := binsStep w y e s.ab
    b0 := if y < f then s.b0 + (f - y) * w else s.b0
    aN := if l ≤ y then s.aN + (y - l) * w else s.aN
    o0 := if y < f then s.o0 + w else s.o0
    oN := if y < l then s.oN + w else s.oN
    unc := uncStepW w y prev s.unc }

/-- c_crps.c:91-165 with one weight per forecast; `srt` is `qsort` (`is_sorted == 0`) or nothing -/
def loopW (srt : List α → List α) : List (α × α) → List ((α × α) × List α) → Acc α → Except Err (Acc α)
  | _, [], s => .ok s
  | prev, ((y, w), row) :: rest, s =>
    let e := srt row
    if unsortedAt e then .error .edom
    else match e.head?, e.getLast? with
      | some f, some l => loopW srt (prev ++ [(y, w)]) rest (stepW w prev y e f l s)
      | _, _ => .error .shape

/-- c_crps.c:167-222 on output arrays holding `out`: only `crps_decompos[0]` and `crps_decompos[1]` are read
(added to); every other cell is overwritten -/
def finishInto (m : Nat) (s : Acc α) (out : Result α) : Result α :=
  let s := clampFreq s
  let tb := table m s
  let t := tb.foldl accRow ({ crps := out.crps, reli := out.reli, pot := some 0 } : Tot α)
  { crps := t.crps, reli := t.reli, resol := t.pot.map fun p => s.unc - p, unc := s.unc, pot := t.pot,
    table := tb }

/-- `c_crps(nval, ncol, use_weights, is_sorted, obs, sim, weights_vector, reliability_table, crps_decompos)`;
an error return (`EDOM`) happens inside the forecast loop, before anything is written to the output arrays -/
def kernelGen (sort : List α → List α) (useW isSorted : Int) (m : Nat) (obs : List α) (ens : List (List α))
    (weights : List α) (out : Result α) : Except Err (Result α) :=
  if ens.length ≠ obs.length ∨ m = 0 ∨ ens.any (fun r => r.length != m) then .error .shape
  else if useW = 1 ∧ weights.length < obs.length then .error .weightsLen
  else
    let ws := if useW = 1 then weights.take obs.length else List.replicate obs.length (1 / (obs.length : α))
    let srt := if isSorted = 0 then sort else id
    match loopW srt [] ((obs.zip ws).zip ens) (init m) with
    | .error e => .error e
    | .ok s => .ok (finishInto m s out)

/-- an array filled with `v` (`np.full`; `np.zeros` for `v = 0`) in both outputs -/
def filled (m : Nat) (v : α) : Result α :=
  { crps := v, reli := some v, resol := some v, unc := v, pot := some v
    table := List.replicate (m + 1) { p := v, a := v, b := v, g := v, o := some v, r := some v, c := some v } }

/-- what a caller can do with one pair of output arrays of shapes `(m+1, 7)` and `(5,)` -/
inductive Op (α : Type) where
  /-- `reliability_table[...] = v; crps_decompos[...] = v` -/
  | fill (v : α)
  /-- `c_hydrodiy_stat.crps(use_weights, is_sorted, obs, sim, weights, table, decompos)` with `sim` of shape
  `[sim.length, cols]` -/
  | call (useW isSorted : Int) (obs : List α) (cols : Nat) (sim : List (List α)) (weights : List α)

/-- one operation on the output arrays: the new content and what the caller sees (`none`: returned 0;
`assertion`: `AssertionError` from the Cython wrapper's shape checks; `edom`: returned `EDOM`). Every failing
operation leaves the arrays as they were. -/
def stepOp (sort : List α → List α) (m : Nat) (out : Result α) : Op α → Result α × Option Err
  | .fill v => (filled m v, none)
  | .call useW isSorted obs cols sim weights =>
    -- c_hydrodiy_stat.pyx:119-122
    if obs.length ≠ sim.length ∨ m ≠ cols then (out, some .assertion)
    else match kernelGen sort useW isSorted cols obs sim weights out with
      | .error e => (out, some e)
      | .ok r => (r, none)

/-- a history of operations on one pair of output arrays; returns the final content and every outcome -/
def runOps (sort : List α → List α) (m : Nat) : Result α → List (Op α) → Result α × List (Option Err)
  | out, [] => (out, [])
  | out, op :: ops =>
    let (out', e) := stepOp sort m out op
    let (fin, es) := runOps sort m out' ops
    (fin, e :: es)

/-! ### the definition the property compares with, executable (exact over `Rat`) -/

/-- `Σ_x |x - y|` -/
def sumAbs (y : α) (row : List α) : α := row.foldr (fun x acc => absv (x - y) + acc) 0

/-- `E|X-y| - ½ E|X-X'|` over the empirical distribution of the members as given (unsorted) -/
def energyM (y : α) (row : List α) : α :=
  sumAbs y row / (row.length : α)
    - row.foldr (fun a acc => sumAbs a row + acc) 0 / ((1 + 1) * ((row.length : α) * (row.length : α)))

/-- mean of `energyM` over the forecasts whose observation is present -/
def definitionCrps (obs : List (Option α)) (ens : List (List α)) : α :=
  let kept := (obs.zip ens).filterMap fun p => p.1.map fun y => (y, p.2)
  kept.foldr (fun p acc => energyM p.1 p.2 + acc) 0 / (kept.length : α)

end
end HydroVerif.C03
