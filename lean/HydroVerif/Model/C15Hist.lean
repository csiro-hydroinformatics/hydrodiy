/-
C15 — state histories.

`points_inside_polygon` and `Grid.cells_inside_polygon` are called many times on the same arrays / the same object.
This file models what lives BETWEEN the calls and every operation the harness drives:

  * `PipWorld` / `PipOp` / `pipStep`: the caller's points array, polygon array, tolerance and (optional) int32 answer
    buffer; operations: re-fill / replace either array, change the tolerance, allocate / drop / scribble on the buffer,
    call with no `inside`, with the caller's buffer, or with a foreign vector of some dtype and length (the refused
    calls). The only thing a call may write is the caller's buffer, and only after both guards of `gutils.py` passed
    (`inside.fill(0)` sits behind them); a call refused later, by the extension layer, has already zeroed it (in this machine that
    is the empty polygon: `pipStep` passes both array widths as 2).
  * `GridWorld` / `GridOp` / `gridStep`: a list of Grid objects (geometry only — the model has no other state);
    operations: re-assign `xllcorner` / `yllcorner` / `cellsize` of one object, clone one (clone, deepcopy, pickle
    round trip), query one with a polygon array of some width (width ≠ 2 and the empty polygon are the refused queries).
  * `PipAbs` / `pipAbsStep`, `GridOp.isQuery`: the memoryless specifications the two machines are proved to refine in
    `Props/C15.lean` (no buffer content; the operations with `isQuery` erased).

No Mathlib.
-/
import HydroVerif.Model.C15
namespace HydroVerif.C15

section generic
variable {α : Type} [Add α] [Sub α] [Mul α] [Div α] [Neg α] [LT α] [DecidableLT α] [LE α] [DecidableLE α]
  [OfNat α 0]

/-! ### `points_inside_polygon` on one set of argument arrays -/

/-- what the caller owns between two calls -/
structure PipWorld (α : Type) where
  pts : List (α × α)
  poly : List (α × α)
  atol : α
  /-- the int32 answer buffer the caller keeps (`none`: its variable holds `None`) -/
  buf : Option (List Int)
  deriving DecidableEq

/-- the `inside` argument of one call -/
inductive InsideArg
  | none                                    -- not passed: a fresh vector is returned
  | buffer                                  -- the caller's own buffer
  | foreign (isInt32 : Bool) (len : Nat)    -- some other vector (thrown away afterwards)
  deriving DecidableEq, Repr

inductive PipOp (α : Type)
  | setPoints (l : List (α × α))            -- array re-filled in place or replaced: the model sees values only
  | setPolygon (l : List (α × α))
  | setAtol (a : α)
  | newBuffer (content : List Int)
  | dropBuffer
  | scribble (v : Int)                      -- the caller overwrites every entry of its buffer
  | call (arg : InsideArg)

/-- `(dtype is int32, length)` of the vector that reaches `gutils.points_inside_polygon` -/
def insideOf (w : PipWorld α) : InsideArg → Option (Bool × Nat)
  | .none => none
  | .buffer => w.buf.map fun b => (true, b.length)
  | .foreign i n => some (i, n)

def answersToInt (l : List Bool) : List Int := l.map fun b => if b then 1 else 0

/-- the caller's buffer after a call with argument `arg` whose outcome is `r` -/
def bufAfter (buf : Option (List Int)) (arg : InsideArg) (r : Except Err (List Bool)) : Option (List Int) :=
  match arg, r with
  | .buffer, .ok l => buf.map fun _ => answersToInt l
  | .buffer, .error .shapeAssert => buf.map fun b => b.map fun _ => 0     -- refused after `inside.fill(0)`
  | .buffer, .error .emptyPolygon => buf.map fun b => b.map fun _ => 0    -- refused after `inside.fill(0)`
  | _, _ => buf                                                            -- refused before it, or not the caller's

/-- one operation: new world, and the outcome when the operation is a call -/
def pipStep (w : PipWorld α) : PipOp α → PipWorld α × Option (Except Err (List Bool))
  | .setPoints l => ({ w with pts := l }, none)
  | .setPolygon l => ({ w with poly := l }, none)
  | .setAtol a => ({ w with atol := a }, none)
  | .newBuffer c => ({ w with buf := some c }, none)
  | .dropBuffer => ({ w with buf := none }, none)
  | .scribble v => ({ w with buf := w.buf.map fun b => b.map fun _ => v }, none)
  | .call arg =>
    let r := pointsInsidePolygonCall w.atol 2 w.pts 2 w.poly (insideOf w arg)
    ({ w with buf := bufAfter w.buf arg r }, some r)

/-- a whole history: the outcomes of its calls, in order, and the final world -/
def pipRun (w : PipWorld α) : List (PipOp α) → List (Except Err (List Bool)) × PipWorld α
  | [] => ([], w)
  | op :: rest =>
    let s := pipStep w op
    let r := pipRun s.1 rest
    ((match s.2 with | some o => o :: r.1 | none => r.1), r.2)

/-- the memoryless view: arrays, tolerance and the LENGTH of the caller's buffer — no content, no past answers -/
structure PipAbs (α : Type) where
  pts : List (α × α)
  poly : List (α × α)
  atol : α
  buflen : Option Nat
  deriving DecidableEq

def PipWorld.abs (w : PipWorld α) : PipAbs α := ⟨w.pts, w.poly, w.atol, w.buf.map List.length⟩

def absInsideOf (a : PipAbs α) : InsideArg → Option (Bool × Nat)
  | .none => none
  | .buffer => a.buflen.map fun n => (true, n)
  | .foreign i n => some (i, n)

/-- specification: a call is a pure function of the arrays' current content and changes nothing -/
def pipAbsStep (a : PipAbs α) : PipOp α → PipAbs α × Option (Except Err (List Bool))
  | .setPoints l => ({ a with pts := l }, none)
  | .setPolygon l => ({ a with poly := l }, none)
  | .setAtol t => ({ a with atol := t }, none)
  | .newBuffer c => ({ a with buflen := some c.length }, none)
  | .dropBuffer => ({ a with buflen := none }, none)
  | .scribble _ => (a, none)
  | .call arg => (a, some (pointsInsidePolygonCall a.atol 2 a.pts 2 a.poly (absInsideOf a arg)))

def pipAbsRun (a : PipAbs α) : List (PipOp α) → List (Except Err (List Bool)) × PipAbs α
  | [] => ([], a)
  | op :: rest =>
    let s := pipAbsStep a op
    let r := pipAbsRun s.1 rest
    ((match s.2 with | some o => o :: r.1 | none => r.1), r.2)

/-! ### `Grid.cells_inside_polygon` on Grid objects that live on -/

/-- `Grid.cells_inside_polygon(polygon)` as the caller makes it: `polyWidth` is `polygon.shape[1]` -/
def cellsInsideCall [NatCast α] (nrows ncols : Nat) (xll yll csz : α) (atolDefault : α) (polyWidth : Nat)
    (poly : List (α × α)) : Except Err (List (α × α × Nat)) :=
  if polyWidth != 2 then .error .shapeAssert else cellsInsideTable nrows ncols xll yll csz atolDefault poly

structure Geom (α : Type) where
  nrows : Nat
  ncols : Nat
  xll : α
  yll : α
  csz : α
  deriving DecidableEq

inductive GridOp (α : Type)
  | setXll (i : Nat) (v : α)
  | setYll (i : Nat) (v : α)
  | setCsz (i : Nat) (v : α)
  | clone (i : Nat)                                       -- clone / deepcopy / pickle round trip, appended
  | query (i : Nat) (polyWidth : Nat) (poly : List (α × α))

def GridOp.isQuery : GridOp α → Bool
  | .query .. => true
  | _ => false

def modifyAt {β : Type} (f : β → β) : Nat → List β → List β
  | _, [] => []
  | 0, g :: t => f g :: t
  | i + 1, g :: t => g :: modifyAt f i t

/-- one operation on the list of live objects; `atolDefault` is the default of `points_inside_polygon`.
An index beyond the live objects addresses nothing: no change, no outcome -/
def gridStep [NatCast α] (atolDefault : α) (objs : List (Geom α)) :
    GridOp α → List (Geom α) × Option (Except Err (List (α × α × Nat)))
  | .setXll i v => (modifyAt (fun g => { g with xll := v }) i objs, none)
  | .setYll i v => (modifyAt (fun g => { g with yll := v }) i objs, none)
  | .setCsz i v => (modifyAt (fun g => { g with csz := v }) i objs, none)
  | .clone i => (match objs[i]? with | some g => objs ++ [g] | none => objs, none)
  | .query i w poly =>
    (objs, objs[i]?.map fun g => cellsInsideCall g.nrows g.ncols g.xll g.yll g.csz atolDefault w poly)

def gridRun [NatCast α] (atolDefault : α) (objs : List (Geom α)) :
    List (GridOp α) → List (Except Err (List (α × α × Nat))) × List (Geom α)
  | [] => ([], objs)
  | op :: rest =>
    let s := gridStep atolDefault objs op
    let r := gridRun atolDefault s.1 rest
    ((match s.2 with | some o => o :: r.1 | none => r.1), r.2)

end generic

end HydroVerif.C15
