/-
C06 — model of the flow-direction routines of hydrodiy:
`c_upstream`, `c_downstream` (c_grid.c), `c_delineate_area`, `c_delineate_river`,
`c_delineate_flowpathlengths_in_catchment` (c_catchment.c) and the hole-filling arithmetic of
`Catchment.delineate_area` (grid.py).

Also here (round 7): the call with its defaults (`delineateAreaPy`), the definitions the theorems are STATED with —
`Bfs.walk`, `downStep`, `Reaches`, `chainCell`, `chainSteps`, `chainCells`, `GoesOn`, `reachArea` (the area by brute
force over the grid), `countBy` — so that the driver runs them against the real code too, and the read-only calls of a
`Catchment` object (`HistQuery`, `histQuery`) interleaved with the state-changing ones (`HistCall`, `callRun`).

No Mathlib. Everything is total and computable. The integer grid core (cell <-> (row, col), `validCell`,
`neighbour k`) is imported from `Model/C07.lean`; the direction-code table the Python side passes to the
kernels is `HydroVerif.Generated.FlowDir.codes`, regenerated from `grid.py` on every run — the functions
below take the table as their first argument (`codes`), exactly as the kernels take `flowdircode`.

Conventions: C `long long` is `Int`; a flow-direction grid is a function `fd : Int → Int` (`flowdir[idx]`)
— by construction every function here reads it only at a cell that passed the validity guard or came out of
the neighbour table as a value `≠ -1` (a valid cell: `neighbour_valid`); the driver supplies the array lookup.
-/
import HydroVerif.Num
import HydroVerif.Model.C07
import HydroVerif.Generated.FlowDir

namespace HydroVerif.C06
open HydroVerif.C07 (validCell colOf rowOf neighbour cell2rowcol)

/-- the error exits, in the order of the `return ..._ERROR + __LINE__` statements -/
inductive Err
  /-- `c_upstream` / `c_downstream` / `c_delineate_river`: cell number outside `0 .. nrows*ncols-1` -/
  | badCell
  /-- `c_delineate_area`: `nval < 1` -/
  | badNval
  /-- `c_delineate_area`: outlet outside the grid -/
  | badOutlet
  /-- `c_delineate_area`: an inlet outside the grid -/
  | badInlet
  /-- `c_delineate_area`: `i == nval-1` when a cell is to be stored -/
  | areaFull
  /-- `c_delineate_area`: `nbuffer2 == nval-1` after a cell was stored -/
  | bufferFull
  /-- `c_delineate_area`: `i == nval-1` when the outlet is to be stored after the first layer -/
  | outletFull
  /-- `Catchment.idxcells_area` is `None` (no successful delineation is stored on the object) when
  `compute_flowpathlengths` asks for it -/
  | noArea
  /-- the model's own recursion bound ran out (proved unreachable: `Props/C06.lean`, fourth clause of `delineate_outcomes`) -/
  | fuel
  deriving DecidableEq, Repr

/-- a flow-direction grid: `flowdir.shape` and `flowdir[idx]` -/
structure FlowGrid where
  nrows : Int
  ncols : Int
  fd : Int → Int

/-! ## upstream / downstream (c_grid.c) -/

/-- loop body of `c_downstream` for one cell (behind the guard):
`idxdown = -1; if(fd==0) idxdown = -2; else for(j=0..8) if(fd == flowdircode[j]) idxdown = neighbours[j];`
(no `break`: the last matching position wins) -/
def downstreamCell (codes : List Int) (g : FlowGrid) (u : Int) : Int :=
  let f := g.fd u
  if f = 0 then -2
  else (List.range 9).foldl
    (fun acc j => if codes[j]? = some f then neighbour g.nrows g.ncols u j else acc) (-1)

/-- one entry of `c_downstream`: error for a cell outside the grid -/
def downstream (codes : List Int) (g : FlowGrid) (u : Int) : Except Err Int :=
  if validCell g.nrows g.ncols u then .ok (downstreamCell codes g u) else .error .badCell

/-- loop body of `c_upstream` for one cell (behind the guard): the neighbours `j = 0..8` that exist
(`!= -1`), are not sinks (`fd != 0`) and whose code is the mirrored entry `flowdircode[8-j]`,
in the order of `j` -/
def upstreamCells (codes : List Int) (g : FlowGrid) (d : Int) : List Int :=
  (List.range 9).filterMap fun j =>
    let nb := neighbour g.nrows g.ncols d j
    if nb = -1 then none
    else
      let f := g.fd nb
      if f = 0 then none
      else if codes[8 - j]? = some f then some nb else none

/-- one row of `c_upstream` (the cells found; the kernel pads the row of 9 with `-1`, see `upstreamRow`) -/
def upstream (codes : List Int) (g : FlowGrid) (d : Int) : Except Err (List Int) :=
  if validCell g.nrows g.ncols d then .ok (upstreamCells codes g d) else .error .badCell

/-- the row of 9 written to `idxup`: `for(j=k; j<9; j++) idxup[9*i+j] = -1` -/
def upstreamRow (cells : List Int) : List Int := cells ++ List.replicate (9 - cells.length) (-1)

/-- a whole call (`nval` cells): the first cell outside the grid aborts the call -/
def mapCells {β} (f : Int → Except Err β) : List Int → Except Err (List β)
  | [] => .ok []
  | c :: cs => match f c with
    | .error e => .error e
    | .ok b => match mapCells f cs with
      | .error e => .error e
      | .ok bs => .ok (b :: bs)

/-! ## catchment area (c_catchment.c: c_delineate_area) -/

/-- `idxcells_area[0..i)` and `buffer2[0..nbuffer2)` (`i` and `nbuffer2` are the lengths) -/
structure Acc where
  area : List Int
  buf2 : List Int
  deriving Repr

/-- what happens to one entry `idx >= 0` of `idxup`: skipped when it is an inlet, else stored in
`idxcells_area` and `buffer2` between the two buffer-exhaustion exits -/
def store (nval : Int) (inlets : List Int) (st : Acc) (idx : Int) : Except Err Acc :=
  if idx ∈ inlets then .ok st
  else if (st.area.length : Int) = nval - 1 then .error .areaFull
  else if (st.buf2.length : Int) = nval - 1 then .error .bufferFull
  else .ok { area := st.area ++ [idx], buf2 := st.buf2 ++ [idx] }

/-- `for(k=0; k<9; k++) { idx = idxup[k]; if(idx>=0) … }` for one cell of `buffer1`
(the entries `>= 0` of `idxup` are exactly `upstreamCells`) -/
def expandCell (codes : List Int) (g : FlowGrid) (nval : Int) (inlets : List Int)
    (st : Acc) (c : Int) : Except Err Acc :=
  (upstreamCells codes g c).foldlM (store nval inlets) st

/-- `for(l=0; l<nbuffer1; l++)` with `nbuffer2 = 0` at the start -/
def expandLayer (codes : List Int) (g : FlowGrid) (nval : Int) (inlets : List Int)
    (area buf1 : List Int) : Except Err Acc :=
  buf1.foldlM (expandCell codes g nval inlets) { area := area, buf2 := [] }

/-- the `while(nlayer>=0)` loop. The recursion bound stands for nothing in the C text: every
iteration that does not return stores at least one cell, and `i` cannot pass `nval-1`. -/
def areaLoop (codes : List Int) (g : FlowGrid) (outlet : Int) (inlets : List Int) (nval : Int) :
    Nat → Nat → List Int → List Int → Except Err (List Int)
  | 0, _, _, _ => .error .fuel
  | fuel + 1, nlayer, area, buf2 =>
    match expandLayer codes g nval inlets area buf2 with
    | .error e => .error e
    | .ok st =>
      if st.buf2 = [] then .ok st.area
      else if nlayer = 0 then
        if (st.area.length : Int) = nval - 1 then .error .outletFull
        else areaLoop codes g outlet inlets nval fuel (nlayer + 1) (st.area ++ [outlet]) st.buf2
      else areaLoop codes g outlet inlets nval fuel (nlayer + 1) st.area st.buf2

/-- `c_delineate_area`; the result is `idxcells_area[0..i)`, which is what
`Catchment.delineate_area` keeps (`idxcells[idxcells >= 0]` of an array initialised with `-1`) -/
def delineateArea (codes : List Int) (g : FlowGrid) (outlet : Int) (inlets : List Int) (nval : Int) :
    Except Err (List Int) :=
  if nval < 1 then .error .badNval
  else if !validCell g.nrows g.ncols outlet then .error .badOutlet
  else if inlets.any (fun m => !validCell g.nrows g.ncols m) then .error .badInlet
  else areaLoop codes g outlet inlets nval (nval.toNat + 1) 0 [] [outlet]

/-! ## hole filling (grid.py: Catchment.delineate_area) -/

def minList (x : Int) (xs : List Int) : Int := xs.foldl (fun a b => if b < a then b else a) x
def maxList (x : Int) (xs : List Int) : Int := xs.foldl (fun a b => if a < b then b else a) x

/-- the rectangle handed to `binary_fill_holes`: first row/col `i0, j0` and its size -/
structure BBox where
  i0 : Int
  j0 : Int
  nr : Nat
  nc : Nat
  deriving Repr, DecidableEq

/-- `i0, j0 = maximum(0, rowcol.min(axis=0)-1)`, `i1, j1 = min(n-1, rowcol.max(axis=0)+1)`,
`nrows, ncols = i1-i0+1, j1-j0+1` from the extreme rows / columns of the area -/
def bboxOf (nrows ncols rmin rmax cmin cmax : Int) : BBox :=
  let i0 := max 0 (rmin - 1)
  let j0 := max 0 (cmin - 1)
  let i1 := min (nrows - 1) (rmax + 1)
  let j1 := min (ncols - 1) (cmax + 1)
  { i0 := i0, j0 := j0, nr := (i1 - i0 + 1).toNat, nc := (j1 - j0 + 1).toNat }

/-- the rectangle of a non-empty area (`rowcol = flowdir.cell2rowcol(idxcells_area)`); `none` when the
area is empty (the wrapper then sets `idxcells_area_filled = idxcells_area`) -/
def bbox (g : FlowGrid) (area : List Int) : Option BBox :=
  match area with
  | [] => none
  | c :: cs =>
    let rows := cs.map fun a => (cell2rowcol g.nrows g.ncols a).1
    let cols := cs.map fun a => (cell2rowcol g.nrows g.ncols a).2
    let r0 := (cell2rowcol g.nrows g.ncols c).1
    let c0 := (cell2rowcol g.nrows g.ncols c).2
    some (bboxOf g.nrows g.ncols (minList r0 rows) (maxList r0 rows) (minList c0 cols) (maxList c0 cols))

/-- `grid[rowcol[:,0]-i0, rowcol[:,1]-j0] = 1` -/
def areaMask (g : FlowGrid) (b : BBox) (area : List Int) (r c : Nat) : Bool :=
  area.any fun a =>
    decide ((cell2rowcol g.nrows g.ncols a).1 - b.i0 = (r : Int)) &&
    decide ((cell2rowcol g.nrows g.ncols a).2 - b.j0 = (c : Int))

/-- `irows, icols = np.where(grid == 1); filled = (irows+i0)*ncols + (icols+j0)` (row-major order) -/
def maskCells (ncols : Int) (b : BBox) (m : Nat → Nat → Bool) : List Int :=
  (List.range b.nr).flatMap fun r =>
    (List.range b.nc).filterMap fun c =>
      if m r c then some (((r : Int) + b.i0) * ncols + ((c : Int) + b.j0)) else none

/-- `idxcells_area_filled`; `fill nr nc mask` stands for `scipy.ndimage.binary_fill_holes` (external) -/
def areaFilled (g : FlowGrid) (fill : Nat → Nat → (Nat → Nat → Bool) → (Nat → Nat → Bool))
    (area : List Int) : List Int :=
  match bbox g area with
  | none => area
  | some b => maskCells g.ncols b (fill b.nr b.nc (areaMask g b area))

/-! ## river trace and flow-path lengths (c_catchment.c) -/

/-- a step between neighbouring cells is diagonal when both the column and the row change
(`stepsquaredist` of the repaired kernel returns 2) -/
def isDiag (ncols a b : Int) : Bool :=
  (colOf ncols a != colOf ncols b) && (rowOf ncols a != rowOf ncols b)

/-- the classification of the pinned kernel: `diff = |down - up|; diff == 1 || diff == ncols ? 1 : 2`.
Kept so that the finding is a theorem (`pinned_step_misclassified`) and for replay diagnostics. -/
def isDiagPinned (ncols a b : Int) : Bool :=
  !(decide ((b - a).natAbs = 1) || decide (((b - a).natAbs : Int) = ncols))

section Lengths
variable {α : Type} [Add α] [Mul α] [OfNat α 0] [OfNat α 1] [IntCast α] [Transc α]

/-- `sqrt(squaredist)` with `squaredist` 1 or 2 -/
def stepLen (diag : Bool) : α := Transc.sqrt (if diag then (1 + 1 : α) else 1)

/-- `length = 0; …; length += sqrt(squaredist)` in the order of the steps -/
def pathLength (steps : List Bool) : α := steps.foldl (fun acc d => acc + stepLen d) 0

/-- `sqrt(dx*dx+dy*dy)` of `c_delineate_river`, `dx, dy` = `(double)(n1-n2)` -/
def hypot (dx dy : Int) : α := Transc.sqrt ((dx : α) * (dx : α) + (dy : α) * (dy : α))

/-- one row of the river table (`x, y` are `getcoord` of C07 and are added by the driver) -/
structure RiverRow (α : Type) where
  cell : Int
  dist : α
  dx : Int
  dy : Int

/-- `for(i=0; i<nval; i++)` of `c_delineate_river`; state: current cell, running distance and the
displacement from the previous cell. `c_downstream` is called on a cell that passed the guard (the
start) or came out of it as a value `>= 0`. -/
def riverLoop (codes : List Int) (g : FlowGrid) : Nat → Int → α → Int → Int → List (RiverRow α)
  | 0, _, _, _, _ => []
  | n + 1, cur, dist, dx, dy =>
    let down := downstreamCell codes g cur
    let dist' := dist + hypot dx dy
    let row : RiverRow α := { cell := cur, dist := dist', dx := dx, dy := dy }
    if down < 0 then [row]
    else row :: riverLoop codes g n down dist'
      (colOf g.ncols cur - colOf g.ncols down) (rowOf g.ncols cur - rowOf g.ncols down)

/-- `c_delineate_river`: the rows `0 .. npoints-1` -/
def delineateRiver (codes : List Int) (g : FlowGrid) (start nval : Int) : Except Err (List (RiverRow α)) :=
  if validCell g.nrows g.ncols start then .ok (riverLoop codes g nval.toNat start 0 0 0)
  else .error .badCell

end Lengths

/-- state of the walk of `c_delineate_flowpathlengths_in_catchment` -/
structure FpState where
  ipath : Nat
  up : Int
  down : Int
  steps : List Bool
  deriving Repr

/-- `while(ipath < nval)`; the first argument is `nval - ipath` -/
def fpLoop (codes : List Int) (g : FlowGrid) (outlet : Int) (diag : Int → Int → Bool) :
    Nat → FpState → FpState
  | 0, s => s
  | rem + 1, s =>
    match downstream codes g s.up with
    | .error _ => s                                   -- `ierr_down > 0`: break, `idxcell_down` untouched
    | .ok d =>
      if d < 0 then { s with down := d }              -- left the grid or reached a sink
      else if d = outlet then { s with down := d }    -- reached the outlet
      else fpLoop codes g outlet diag rem
        { ipath := s.ipath + 1, up := d, down := d, steps := s.steps ++ [diag s.up d] }

/-- one row `(start, end, steps)` of `c_delineate_flowpathlengths_in_catchment`: the end cell and the
steps whose lengths were added up (`length = 0` when the walk left the grid); `nval` is the length of
`idxcells_area`; `diag` is the step classification (`isDiag g.ncols` for the repaired kernel) -/
def flowPathWith (codes : List Int) (g : FlowGrid) (outlet : Int) (diag : Int → Int → Bool)
    (nval : Nat) (start : Int) : Int × List Bool :=
  let s := fpLoop codes g outlet diag nval { ipath := 0, up := start, down := -1, steps := [] }
  let steps := if s.ipath + 1 < nval ∧ 0 ≤ s.down then s.steps ++ [diag s.up s.down] else s.steps
  (s.down, if s.down < 0 then [] else steps)

def flowPath (codes : List Int) (g : FlowGrid) (outlet : Int) (nval : Nat) (start : Int) :
    Int × List Bool :=
  flowPathWith codes g outlet (isDiag g.ncols) nval start


/-! ## where the property leaves the outcome open: flow cycles and capped walks

The property only asks for "an error or a bounded result" on flow cycles. These three predicates are the
model's own account of where that applies; the correspondence compares values everywhere else. -/

/-- a flow cycle passes through the outlet (inlets removed): the search run with room for every cell of the
grid still exhausts its buffers (`Props/C06.lean`: `cycleThroughOutlet_iff`) -/
def cycleThroughOutlet (codes : List Int) (g : FlowGrid) (outlet : Int) (inlets : List Int) : Bool :=
  match delineateArea codes g outlet inlets (g.nrows * g.ncols + 2) with
  | .error .areaFull => true
  | .error .bufferFull => true
  | .error .outletFull => true
  | _ => false

/-- the downstream chain from `c` reaches a sink / exit within `n` cells -/
def chainEnds (codes : List Int) (g : FlowGrid) : Nat → Int → Bool
  | 0, _ => false
  | n + 1, c => if downstreamCell codes g c < 0 then true else chainEnds codes g n (downstreamCell codes g c)

/-- the downstream chain from a cell of the grid runs into a flow cycle: it has not ended after one cell
more than the grid has -/
def chainCyclic (codes : List Int) (g : FlowGrid) (start : Int) : Bool :=
  validCell g.nrows g.ncols start && !chainEnds codes g ((g.nrows * g.ncols).toNat + 1) start

/-- the flow-path walk from `start` used up all its `nval` iterations (neither the outlet nor an exit met) -/
def flowPathCapped (codes : List Int) (g : FlowGrid) (outlet : Int) (nval : Nat) (start : Int) : Bool :=
  (fpLoop codes g outlet (isDiag g.ncols) nval { ipath := 0, up := start, down := -1, steps := [] }).ipath == nval

/-! ## the downstream chain as such, and the area as a reachability set

What the theorems of `Props/C06.lean` state the results WITH (their right-hand sides). They are ordinary
executable definitions: the driver runs them (`chain`, `reach` requests) and the harness compares them with
the real code — iterated `Catchment.downstream` calls, `idxcells_area` — like every other model function. -/

namespace Bfs
/-- k-fold downstream walk over an abstract `down` -/
def walk {C : Type} (down : C → Option C) : Nat → C → Option C
  | 0, c => some c
  | k+1, c => (down c).bind (walk down k)
end Bfs

/-- one step down the chain: defined for a valid cell that is not an inlet and drains to a cell
(`none` for sinks, exits, invalid codes, inlets, cells off the grid) -/
def downStep (codes : List Int) (g : FlowGrid) (inlets : List Int) (u : Int) : Option Int :=
  if validCell g.nrows g.ncols u = true ∧ u ∉ inlets then
    (if 0 ≤ downstreamCell codes g u then some (downstreamCell codes g u) else none)
  else none

/-- `c` reaches `o` in exactly `k` steps of the downstream chain, none of the `k` cells it leaves being an
inlet (or off the grid, a sink, an exit) -/
def Reaches (codes : List Int) (g : FlowGrid) (inlets : List Int) (k : Nat) (c o : Int) : Prop :=
  Bfs.walk (downStep codes g inlets) k c = some o

instance (codes : List Int) (g : FlowGrid) (inlets : List Int) (k : Nat) (c o : Int) :
    Decidable (Reaches codes g inlets k c o) :=
  inferInstanceAs (Decidable (Bfs.walk (downStep codes g inlets) k c = some o))

/-- the cell `k` steps down the chain from `c` (meaningful while the chain stays on the grid) -/
def chainCell (codes : List Int) (g : FlowGrid) : Nat → Int → Int
  | 0, c => c
  | k + 1, c => chainCell codes g k (downstreamCell codes g c)

/-- the classification (`true` = diagonal) of the first `k` steps of the chain from `c` -/
def chainSteps (codes : List Int) (g : FlowGrid) (diag : Int → Int → Bool) : Nat → Int → List Bool
  | 0, _ => []
  | k + 1, c => diag c (downstreamCell codes g c) :: chainSteps codes g diag k (downstreamCell codes g c)

/-- cells of the river: the chain from the start, cut after the first cell that drains nowhere -/
def chainCells (codes : List Int) (g : FlowGrid) : Nat → Int → List Int
  | 0, _ => []
  | n + 1, c => c :: (if downstreamCell codes g c < 0 then [] else chainCells codes g n (downstreamCell codes g c))

/-- "iteration `i` of the flow-path walk from `c` goes on": the cell it stands on is a cell of the grid, drains to a
cell, and that cell is not the outlet -/
def GoesOn (codes : List Int) (g : FlowGrid) (outlet c : Int) (i : Nat) : Prop :=
  validCell g.nrows g.ncols (chainCell codes g i c) = true ∧ 0 ≤ chainCell codes g (i + 1) c ∧
    chainCell codes g (i + 1) c ≠ outlet

instance (codes : List Int) (g : FlowGrid) (outlet c : Int) (i : Nat) : Decidable (GoesOn codes g outlet c i) := by
  unfold GoesOn; infer_instance

/-- how many iterations go on before the first one that does not, among the first `n` -/
def goesOnCount (codes : List Int) (g : FlowGrid) (outlet c : Int) (n : Nat) : Nat :=
  ((List.range n).takeWhile fun i => decide (GoesOn codes g outlet c i)).length

/-- `n` counted in the arithmetic of `α` by steps of `step`: `0 + step + … + step` (with `step = 1` the double `n`
itself for `n < 2^53`: what the length of `n` orthogonal steps is, bit for bit) -/
def countBy {α : Type} [Add α] [OfNat α 0] (step : α) : Nat → α
  | 0 => 0
  | n + 1 => countBy step n + step

/-- the cells of the grid, `0 .. nrows*ncols-1` -/
def gridCells (g : FlowGrid) : List Int := (List.range (g.nrows * g.ncols).toNat).map fun n : Nat => (n : Int)

/-- **the area as the property states it**, by brute force over the grid: the outlet, provided some cell that
is not an inlet drains into it, plus every cell whose downstream chain reaches the outlet in `1 .. ncells` steps
without leaving from an inlet (more steps than the grid has cells would mean a flow cycle through the outlet) -/
def reachArea (codes : List Int) (g : FlowGrid) (outlet : Int) (inlets : List Int) : List Int :=
  let drains := (gridCells g).any fun u => decide (Reaches codes g inlets 1 u outlet)
  (gridCells g).filter fun c =>
    (decide (c = outlet) && drains) ||
      (List.range (g.nrows * g.ncols).toNat).any fun k => decide (Reaches codes g inlets (k + 1) c outlet)

/-! ## the Python wrapper around `c_delineate_area`, and the `Catchment` object as a state machine -/

/-- `idxcells = -1*np.ones(nval)` after the kernel wrote `area` into its first entries -/
def areaBuffer (nval : Int) (area : List Int) : List Int :=
  area ++ List.replicate (nval.toNat - area.length) (-1)

/-- `idxcells[idxcells >= 0]` -/
def keepCells (buf : List Int) : List Int := buf.filter fun c => decide (0 ≤ c)

/-- `Catchment.delineate_area(outlet, inlets, nval)` as far as `idxcells_area` goes: `inlets = None` is the
empty list (done by the caller of this function), a kernel error is re-raised, else the entries `>= 0` of the
work array are kept -/
def wrapperArea (codes : List Int) (g : FlowGrid) (outlet : Int) (inlets : List Int) (nval : Int) :
    Except Err (List Int) :=
  match delineateArea codes g outlet inlets nval with
  | .error e => .error e
  | .ok area => .ok (keepCells (areaBuffer nval area))

/-- the call as it is usually made, `Catchment.delineate_area(idxcell_outlet, idxinlets=None, nval=1000000)`:
`idxinlets=None` is an empty array of inlets, the default buffer has 10^6 entries -/
def delineateAreaPy (codes : List Int) (g : FlowGrid) (outlet : Int) (inlets : Option (List Int))
    (nval : Option Int) : Except Err (List Int) :=
  wrapperArea codes g outlet (inlets.getD []) (nval.getD 1000000)

/-- what a `Catchment` object remembers between calls (as far as this property goes): its own copy of the
flow-direction grid (`_flowdir`, cloned at construction, editable in place through `catchment.flowdir.data`),
`_idxcell_outlet` and `_idxcells_area` -/
structure CatchState where
  grid : FlowGrid
  outlet : Option Int
  area : Option (List Int)

/-- a freshly constructed `Catchment(name, flowdir)` -/
def CatchState.init (g : FlowGrid) : CatchState := { grid := g, outlet := none, area := none }

/-- calls made on one object -/
inductive HistOp
  /-- `c.delineate_area(outlet, inlets, nval)` -/
  | delineate (outlet : Int) (inlets : List Int) (nval : Int)
  /-- `c.compute_flowpathlengths(); c.flowpathlengths` -/
  | flowpaths
  /-- `c.flowdir.data.flat[cell] = code` (in place) -/
  | setCell (cell code : Int)
  /-- `c.flowdir.data = new` (same shape) -/
  | setGrid (fd : Int → Int)

/-- what a call returns -/
inductive HistObs
  | area (r : Except Err (List Int))
  /-- rows `(start, end, steps)` in the order of `idxcells_area` -/
  | table (r : Except Err (List (Int × Int × List Bool)))
  | nothing

/-- one call: new state and what the caller sees. `delineate_area` stores the outlet before it calls the
kernel and stores `None` as area when the kernel fails; `compute_flowpathlengths` reads the stored area and
outlet and the *current* grid. -/
def histStep (codes : List Int) (s : CatchState) : HistOp → CatchState × HistObs
  | .delineate o inlets nval =>
    match wrapperArea codes s.grid o inlets nval with
    | .error e => ({ s with outlet := some o, area := none }, .area (.error e))
    | .ok a => ({ s with outlet := some o, area := some a }, .area (.ok a))
  | .flowpaths =>
    match s.area, s.outlet with
    | some a, some o => (s, .table (.ok (a.map fun c => (c, flowPath codes s.grid o a.length c))))
    | _, _ => (s, .table (.error .noArea))
  | .setCell cell code =>
    ({ s with grid := { s.grid with fd := fun i => if i = cell then code else s.grid.fd i } }, .nothing)
  | .setGrid fd => ({ s with grid := { s.grid with fd := fd } }, .nothing)

/-- a whole history: the observations in order, and the final state -/
def histRun (codes : List Int) : CatchState → List HistOp → CatchState × List HistObs
  | s, [] => (s, [])
  | s, op :: ops =>
    let r := histStep codes s op
    let rest := histRun codes r.1 ops
    (rest.1, r.2 :: rest.2)

/-- the grid an object holds after a history: only the edits count -/
def gridAfter (g : FlowGrid) : List HistOp → FlowGrid
  | [] => g
  | .setCell cell code :: ops => gridAfter { g with fd := fun i => if i = cell then code else g.fd i } ops
  | .setGrid fd :: ops => gridAfter { g with fd := fd } ops
  | _ :: ops => gridAfter g ops

/-! ### read-only calls on the object, interleaved with the others -/

/-- read-only calls: they answer for what the object holds NOW and never change it -/
inductive HistQuery
  /-- `c.upstream(cells)` -/
  | upstream (cells : List Int)
  /-- `c.downstream(cells)` -/
  | downstream (cells : List Int)
  /-- `delineate_river(c.flowdir, start, nval)` -/
  | river (start nval : Int)
  /-- the accessor `c.idxcells_area` (raises while no delineation is stored) -/
  | area
  /-- `c.isin(cell)` (raises while no delineation is stored) -/
  | isin (cell : Int)

/-- what a read-only call returns -/
inductive QueryObs (α : Type)
  | rows (r : Except Err (List (List Int)))
  | cells (r : Except Err (List Int))
  | river (r : Except Err (List (RiverRow α)))
  | flag (r : Except Err Bool)

section Queries
variable {α : Type} [Add α] [Mul α] [OfNat α 0] [OfNat α 1] [IntCast α] [Transc α]

/-- the answer of a read-only call in state `s`: the kernels on the grid held now, the stored area -/
def histQuery (codes : List Int) (s : CatchState) : HistQuery → QueryObs α
  | .upstream cells =>
    match mapCells (upstream codes s.grid) cells with
    | .error e => .rows (.error e)
    | .ok l => .rows (.ok (l.map upstreamRow))
  | .downstream cells => .cells (mapCells (downstream codes s.grid) cells)
  | .river start nval => .river (delineateRiver codes s.grid start nval)
  | .area =>
    match s.area with
    | some a => .cells (.ok a)
    | none => .cells (.error .noArea)
  | .isin cell =>
    match s.area with
    | some a => .flag (.ok (decide (cell ∈ a)))
    | none => .flag (.error .noArea)

/-- any call made on one object -/
inductive HistCall
  | op (o : HistOp)
  | query (q : HistQuery)

/-- what it returns -/
inductive CallObs (α : Type)
  | op (o : HistObs)
  | query (q : QueryObs α)

/-- one call of either kind: a query leaves the state as it is -/
def callStep (codes : List Int) (s : CatchState) : HistCall → CatchState × CallObs α
  | .op o => ((histStep codes s o).1, .op (histStep codes s o).2)
  | .query q => (s, .query (histQuery codes s q))

/-- a whole interleaved history -/
def callRun (codes : List Int) : CatchState → List HistCall → CatchState × List (CallObs α)
  | s, [] => (s, [])
  | s, c :: cs =>
    let r : CatchState × CallObs α := callStep codes s c
    let rest := callRun codes r.1 cs
    (rest.1, r.2 :: rest.2)

end Queries

/-- the state-changing calls of an interleaved history -/
def opsOf : List HistCall → List HistOp
  | [] => []
  | .op o :: cs => o :: opsOf cs
  | .query _ :: cs => opsOf cs

end HydroVerif.C06
