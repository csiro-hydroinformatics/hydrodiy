/-
C18 — buffer-ownership model of the kernel-facing Python wrappers of hydrodiy.

A wrapper body is abstracted to the statements that decide WHICH BUFFER reaches which parameter of a
C kernel: numpy operations that always produce a new buffer (`copy`), operations that return the
source buffer itself when it already has the requested dtype / layout (`view`), allocations, Python
level in-place writes (`pywrite`: `x.fill(..)`, `x[idx] = ..`) and kernel calls, where every argument
carries the flag "the C code writes through this pointer" (read off the C sources).

Buffers are `caller i` (anything that exists before the call: the i-th array handed in by the caller,
the arrays held by a Grid / Catchment argument or receiver, module constants such as FLOWDIRCODE)
or `fresh n` (allocated inside the call).  Every local name that the wrapper has not assigned yet
denotes something from outside: local `i` is initially bound to `caller i` (the conservative reading:
an unassigned name is never assumed to be private).

numpy's copy semantics are the axioms of this model (they are what the recorder shim of
harness/c18.py observes on the real code); the C kernels appear only through their write-sets.
No Mathlib.  Everything is total and computable; the driver runs `run`.
-/
namespace HydroVerif.C18

inductive Buf
  | caller (i : Nat)
  | fresh (n : Nat)
  deriving DecidableEq, Repr

def Buf.isFresh : Buf → Bool
  | .fresh _ => true
  | .caller _ => false

inductive DType | f64 | f32 | i64 | i32 | other
  deriving DecidableEq, Repr

/-- what matters of a caller argument for numpy's "view or copy" decisions -/
structure Kind where
  /-- `np.asarray(arg)` is a view of the caller's buffer (an ndarray, or a pandas object whose
      values are exposed without conversion); false for lists, scalars, mixed frames -/
  view : Bool
  dt : DType
  /-- C-contiguous -/
  contig : Bool
  deriving DecidableEq, Repr

/-- requirement of a view-or-copy conversion (`ascontiguousarray(x, dtype=d)`, `asarray`, `atleast_nd`,
`astype(copy=False)`, `reshape`, basic slicing, `.values`, `if not x.flags.c_contiguous: ...`) -/
structure Cond where
  dt : Option DType
  contig : Bool
  deriving DecidableEq, Repr

def Cond.sat (c : Cond) (k : Kind) : Bool :=
  k.view && (match c.dt with | none => true | some d => decide (d = k.dt)) && (!c.contig || k.contig)

/-- no requirement beyond being viewable: `atleast_1d`, `atleast_2d`, `reshape`, `squeeze`, `x[:n]`, `.values` -/
def anyLayout : Cond := ⟨none, false⟩
/-- `if not x.flags["C_CONTIGUOUS"]: x = np.ascontiguousarray(x)` -/
def cContig : Cond := ⟨none, true⟩
/-- `np.ascontiguousarray(x, dtype=d)` -/
def contigOf (d : DType) : Cond := ⟨some d, true⟩

inductive Stmt
  /-- `dst = src.astype(d)` (default `copy=True`), `np.array(src)`, `src.copy()`, `0.*src`, `src[mask]`,
      `copy.deepcopy`: always a new buffer -/
  | copy (dst src : Nat) (dt : Option DType)
  /-- the source buffer itself when `c.sat`, otherwise a new buffer -/
  | view (dst src : Nat) (c : Cond)
  /-- `np.zeros / ones / empty / zeros_like` -/
  | alloc (dst : Nat) (dt : DType)
  /-- `grid.dtype = d` on a Grid ARGUMENT (`self._data = self._data.astype(d)`): the caller's object now holds a
      converted array. The local keeps denoting "the cell data of that caller object" — the same caller buffer,
      whichever ndarray holds it now — with the new dtype, C-contiguous; cell values are kept. A later write
      through it is a write to the caller's grid. On a private buffer it is a plain conversion. -/
  | retype (x : Nat) (dt : DType)
  /-- Python-level in-place write into the buffer of `x` (`x.fill(v)`, `x[idx] = v`, `x += v`) -/
  | pywrite (x : Nat)
  /-- call of a C kernel through the Cython layer (which never copies): per argument, the local passed
      and whether the C code writes through that pointer -/
  | kernel (name : String) (args : List (Nat × Bool))
  deriving Repr

abbrev Program := List Stmt

structure Entry where
  buf : Buf
  kind : Kind
  deriving Repr

/-- one kernel call as seen at the Cython boundary: per argument, the caller buffer it aliases (if any)
and whether the kernel writes it -/
structure Event where
  name : String
  args : List (Option Nat × Bool)
  deriving DecidableEq, Repr

structure State where
  env : Nat → Entry
  next : Nat
  events : List Event
  written : List Buf
  /-- caller OBJECTS whose array was replaced by a converted one (`grid.dtype = d` on a Grid argument), latest
      first: the only way the dtype of something the caller passed can differ after the call -/
  retyped : List (Nat × DType) := []

def upd (env : Nat → Entry) (x : Nat) (e : Entry) : Nat → Entry :=
  fun y => if y = x then e else env y

def Buf.callerIdx : Buf → Option Nat
  | .caller i => some i
  | .fresh _ => none

/-- kind of a buffer produced by numpy itself: an ndarray, C-contiguous (layouts of private buffers
never influence ownership: a view of a private buffer is private whatever the test says) -/
def freshKind (dt : DType) : Kind := ⟨true, dt, true⟩

def step (st : State) : Stmt → State
  | .copy d s dt =>
      let k := (st.env s).kind
      { st with env := upd st.env d ⟨.fresh st.next, freshKind (dt.getD k.dt)⟩, next := st.next + 1 }
  | .view d s c =>
      let e := st.env s
      if c.sat e.kind then { st with env := upd st.env d e }
      else { st with env := upd st.env d ⟨.fresh st.next, freshKind (c.dt.getD e.kind.dt)⟩,
                     next := st.next + 1 }
  | .alloc d dt =>
      { st with env := upd st.env d ⟨.fresh st.next, freshKind dt⟩, next := st.next + 1 }
  | .retype x dt =>
      { st with env := upd st.env x ⟨(st.env x).buf, freshKind dt⟩,
                retyped := match (st.env x).buf with
                           | .caller i => (i, dt) :: st.retyped
                           | .fresh _ => st.retyped }
  | .pywrite x => { st with written := (st.env x).buf :: st.written }
  | .kernel name args =>
      { st with
        events := st.events ++ [⟨name, args.map fun a => ((st.env a.1).buf.callerIdx, a.2)⟩],
        written := ((args.filter (·.2)).map fun a => (st.env a.1).buf) ++ st.written }

def runFrom (st : State) (p : Program) : State := p.foldl step st

/-- initial state: local `i` denotes the caller's `i`-th buffer; `n0` = allocator state -/
def init (kinds : Nat → Kind) (n0 : Nat := 0) : State :=
  { env := fun i => ⟨.caller i, kinds i⟩, next := n0, events := [], written := [], retyped := [] }

def run (p : Program) (kinds : Nat → Kind) : State := runFrom (init kinds) p

/-- caller buffers written by the call (Python level or inside a kernel) -/
def writtenCallers (st : State) : List Nat := st.written.filterMap Buf.callerIdx

/-- dtype of the caller's `i`-th object after the call -/
def callerDType (st : State) (kinds : Nat → Kind) (i : Nat) : DType :=
  match st.retyped.lookup i with
  | some d => d
  | none => (kinds i).dt

/-- the body converts no object in place -/
def noRetype (p : Program) : Bool := p.all fun s => match s with | .retype _ _ => false | _ => true

/-- caller index that stands for the state of numpy's global random generator (`np.random.seed` restores it):
a draw is a Python-level store into it -/
def rngState : Nat := 9

/-! ### the syntactic ownership check

Abstract value of a local: `none` = certainly a private (fresh) buffer; `some r` = the buffer of
caller `r` or a private one (a chain of `view`s starting at caller `r`). -/

abbrev Abs := Nat → Option Nat

def absUpd (a : Abs) (x : Nat) (v : Option Nat) : Abs := fun y => if y = x then v else a y

/-- `allowed` = caller buffers the wrapper is entitled to write (output parameters, receiver state);
empty for a pure computation -/
def safeFrom (allowed : List Nat) (a : Abs) : Program → Bool
  | [] => true
  | .copy d _ _ :: p => safeFrom allowed (absUpd a d none) p
  | .alloc d _ :: p => safeFrom allowed (absUpd a d none) p
  | .view d s _ :: p => safeFrom allowed (absUpd a d (a s)) p
  | .retype _ _ :: p => safeFrom allowed a p
  | .pywrite x :: p =>
      (match a x with | none => true | some r => allowed.contains r) && safeFrom allowed a p
  | .kernel _ args :: p =>
      args.all (fun arg => !arg.2 || (match a arg.1 with | none => true | some r => allowed.contains r))
        && safeFrom allowed a p

def absInit : Abs := fun i => some i

/-- every buffer written by a kernel or in place is private to the call, except caller buffers in `allowed` -/
def SafeExcept (allowed : List Nat) (p : Program) : Prop := safeFrom allowed absInit p = true
/-- every buffer written by a kernel or in place was produced by `copy` / `alloc` inside the call -/
def Safe (p : Program) : Prop := SafeExcept [] p

/-- abstract value of every local after the body -/
def absStep (a : Abs) : Stmt → Abs
  | .copy d _ _ => absUpd a d none
  | .alloc d _ => absUpd a d none
  | .view d s _ => absUpd a d (a s)
  | _ => a

def absRun (a : Abs) (p : Program) : Abs := p.foldl absStep a

/-- the locals in `xs` (what the wrapper returns or stores into its receiver) certainly hold buffers made inside the
call: nothing of the caller's is handed back or kept -/
def ReturnsPrivate (p : Program) (xs : List Nat) : Prop := (xs.all fun x => (absRun absInit p x).isNone) = true

instance (p : Program) (xs : List Nat) : Decidable (ReturnsPrivate p xs) := by unfold ReturnsPrivate; infer_instance

instance (allowed : List Nat) (p : Program) : Decidable (SafeExcept allowed p) := by
  unfold SafeExcept; infer_instance
instance (p : Program) : Decidable (Safe p) := by unfold Safe; infer_instance

/-! ### memory semantics (contents), parametric in the value type and in what kernels compute

`Mem α` gives the contents of every buffer.  A kernel is an arbitrary function of its name and of the
contents of ALL its arguments that returns new contents for each argument; only arguments flagged
as written receive them (that is the meaning of the write-set).  `cast` stands for dtype conversion on
copy, `zero` for the contents of a new allocation, `pyval` for what a Python-level write stores. -/

structure Sem (α : Type) where
  cast : Option DType → α → α
  zero : DType → α
  pyval : α → α
  kernel : String → List α → List α

abbrev Mem (α : Type) := Buf → α

def memSet {α} (m : Mem α) (b : Buf) (v : α) : Mem α := fun b' => if b' = b then v else m b'

/-- store the kernel's outputs into the written arguments, left to right -/
def storeOut {α} (m : Mem α) : List (Buf × Bool) → List α → Mem α
  | [], _ => m
  | _, [] => m
  | (b, w) :: rest, v :: vs => storeOut (if w then memSet m b v else m) rest vs

structure MState (α : Type) where
  st : State
  mem : Mem α

def mstep {α} (sem : Sem α) (ms : MState α) (s : Stmt) : MState α :=
  let st := ms.st
  match s with
  | .copy _ src dt =>
      ⟨step st s, memSet ms.mem (.fresh st.next) (sem.cast dt (ms.mem (st.env src).buf))⟩
  | .view _ src c =>
      let e := st.env src
      if c.sat e.kind then ⟨step st s, ms.mem⟩
      else ⟨step st s, memSet ms.mem (.fresh st.next) (sem.cast c.dt (ms.mem e.buf))⟩
  | .alloc _ dt => ⟨step st s, memSet ms.mem (.fresh st.next) (sem.zero dt)⟩
  | .retype _ _ => ⟨step st s, ms.mem⟩            -- contents = cell values: kept by the conversion
  | .pywrite x =>
      let b := (st.env x).buf
      ⟨step st s, memSet ms.mem b (sem.pyval (ms.mem b))⟩
  | .kernel name args =>
      let bufs := args.map fun a => ((st.env a.1).buf, a.2)
      let outs := sem.kernel name (bufs.map fun b => ms.mem b.1)
      ⟨step st s, storeOut ms.mem bufs outs⟩

def mrunFrom {α} (sem : Sem α) (ms : MState α) (p : Program) : MState α := p.foldl (mstep sem) ms

/-- run a wrapper on caller contents `m0` (the contents of `fresh` buffers in `m0` are whatever the
heap held before: the theorems show they are irrelevant) -/
def mrun {α} (sem : Sem α) (p : Program) (kinds : Nat → Kind) (m0 : Mem α) (n0 : Nat := 0) : MState α :=
  mrunFrom sem ⟨init kinds n0, m0⟩ p

/-- the state after `k+1` consecutive calls of the same wrapper with the same arguments: every call starts from the
memory and the allocator state its predecessor left behind (whatever the earlier calls allocated is still there) -/
def nthCall {α} (sem : Sem α) (p : Program) (kinds : Nat → Kind) (m0 : Mem α) : Nat → MState α
  | 0 => mrun sem p kinds m0 0
  | k + 1 =>
    let r := nthCall sem p kinds m0 k
    mrun sem p kinds r.mem (0 + r.st.next)

/-- the body with every kernel argument made read-only: what is left in `written` are the Python-level stores -/
def pythonOnly (p : Program) : Program :=
  p.map fun s => match s with
    | .kernel n args => .kernel n (args.map fun a => (a.1, false))
    | s => s

/-- caller buffers a body stores into at the Python level (`x[idx] = ..`, `x.fill(..)`, `x += ..`): what fails when
the caller's arrays are made read-only -/
def pythonWrittenCallers (p : Program) (kinds : Nat → Kind) : List Nat :=
  writtenCallers (run (pythonOnly p) kinds)

/-- the kernels named by a body -/
def kernelsOf (p : Program) : List String :=
  p.filterMap fun s => match s with | .kernel n _ => some n | _ => none

/-- "marking" contents semantics run by the driver: contents are naturals, conversions keep them, a kernel or an
in-place write adds one to what it stores: a buffer whose content differs from its initial one has been stored to -/
def markSem : Sem Nat := ⟨fun _ v => v, fun _ => 0, fun v => v + 1, fun _ vs => vs.map (· + 1)⟩

/-- caller buffers (below `n`) whose contents differ after the call under the marking semantics -/
def markedCallers (p : Program) (kinds : Nat → Kind) (n : Nat) : List Nat :=
  let r := mrun markSem p kinds (fun _ => 0)
  (List.range n).filter fun i => r.mem (.caller i) != 0

/-! ### the wrappers, statement by statement (file:line of the kernel call in the comment)

Conventions: local `i` < 10 is the caller's `i`-th buffer until reassigned (`x = f(x)` rebinds local
`x` like Python does); locals ≥ 10 are temporaries.  `R`/`W` = read-only / written by the C code. -/

abbrev R := false
abbrev W := true
open Stmt DType

/-- dutils.aggregate(aggindex, inputs) — dutils.py:195.  0 = aggindex, 1 = inputs -/
def aggregate : Program :=
  [ copy 0 0 none, copy 0 0 (some i32),        -- np.array(aggindex).astype(np.int32)
    copy 1 1 (some f64),                        -- inputs.astype(np.float64)
    copy 10 1 none,                             -- outputs = 0.*inputs
    alloc 11 i32, copy 11 11 (some i32),        -- iend = np.array([0]).astype(np.int32)
    kernel "aggregate" [(0, R), (1, R), (10, W), (11, W)],
    view 10 10 anyLayout ]                      -- outputs[:iend[0]]

/-- dutils.flathomogen(aggindex, inputs) — dutils.py:244 -/
def flathomogen : Program :=
  [ copy 0 0 none, copy 0 0 (some i32),
    copy 1 1 (some f64),
    copy 10 1 none,
    kernel "flathomogen" [(0, R), (1, R), (10, W)] ]

/-- dutils.var2h(se) — dutils.py:497.  0 = se.values, 1 = se.index.values -/
def var2h : Program :=
  [ view 10 0 anyLayout, copy 10 10 (some f64),     -- se.values.astype(np.float64)
    view 11 1 anyLayout,                            -- se.index.tz_localize(None).values
    copy 11 11 (some i64), copy 11 11 none, copy 11 11 (some i64),  -- np.int64(time.astype(np.int64)/1e9)
    alloc 12 f64, copy 12 12 none,                  -- np.nan*np.ones(nvalh)
    kernel "var2h" [(11, R), (10, R), (12, W)] ]

/-- qualitycontrol.islinear(data) — qualitycontrol.py:120: `data` goes to the kernel as it is -/
def islinear : Program :=
  [ alloc 10 i32,
    kernel "islin" [(0, R), (10, W)] ]

/-- signatures.eckhardt(flow) — signatures.py:64 -/
def eckhardt : Program :=
  [ copy 0 0 none, copy 0 0 (some f64),         -- np.array(flow).astype(np.float64)
    alloc 10 f64,
    kernel "eckhardt" [(0, R), (10, W)] ]

/-- metrics.crps(obs, ens) — metrics.py:181 (through __check_ensemble_data, metrics.py:33-53) -/
def crps : Program :=
  [ view 0 0 anyLayout, copy 0 0 (some f64),    -- np.atleast_1d(obs).astype(np.float64)
    view 0 0 anyLayout, view 0 0 anyLayout,     -- np.atleast_1d(obs.squeeze()) when obs.ndim > 1
    view 1 1 anyLayout, copy 1 1 (some f64),    -- np.atleast_2d(ens).astype(np.float64)
    copy 0 0 none, copy 1 1 none,               -- obs[idx], ens[idx, :] (boolean mask)
    alloc 10 f64, alloc 11 f64, alloc 12 f64,   -- weights, table, decompos
    kernel "crps" [(0, R), (1, R), (10, R), (11, W), (12, W)] ]

/-- metrics.anderson_darling_test(unifdata) — metrics.py:226; `c_ad_test` qsorts its first argument -/
def andersonDarling : Program :=
  [ view 0 0 anyLayout, copy 0 0 (some f64),    -- np.atleast_1d(unifdata).astype(np.float64)
    alloc 10 f64,
    kernel "ad_test" [(0, W), (10, W)] ]

/-- metrics.dscore(obs, sim), ensemble branch — metrics.py:571.  0 = obs, 1 = sim -/
def dscore : Program :=
  [ view 0 0 anyLayout, copy 0 0 (some f64),
    view 1 1 anyLayout, copy 1 1 (some f64),
    alloc 10 f64, alloc 11 f64,                 -- fmat, franks
    kernel "ensrank" [(1, R), (10, W), (11, W)] ]

/-- armodels.armodel_sim(params, innov) — armodels.py:70.  0 = params, 1 = innov -/
def armodelSim : Program :=
  [ view 1 1 anyLayout, copy 1 1 (some f64),    -- np.atleast_1d(innov).astype(np.float64)
    view 1 1 cContig,                           -- if not C_CONTIGUOUS: np.ascontiguousarray
    view 0 0 anyLayout, copy 0 0 (some f64),    -- np.atleast_1d(params).astype(np.float64)
    alloc 10 f64,                               -- np.zeros_like(innov)
    kernel "armodel_sim" [(0, R), (1, R), (10, W)],
    view 10 10 anyLayout ]                      -- np.reshape(outputs, shape)

/-- armodels.armodel_residual(params, inputs) — armodels.py:140 -/
def armodelResidual : Program :=
  [ view 1 1 anyLayout, copy 1 1 (some f64),
    view 1 1 cContig,
    view 0 0 anyLayout, copy 0 0 (some f64),
    alloc 10 f64,
    kernel "armodel_residual" [(0, R), (1, R), (10, W)],
    view 10 10 anyLayout ]

/-- sutils.pareto_front(data) — sutils.py:327 -/
def paretoFront : Program :=
  [ copy 0 0 (some f64),                        -- data.astype(np.float64)
    view 0 0 cContig,
    alloc 10 f64, copy 10 10 (some i32),        -- np.zeros(n).astype(np.int32)
    kernel "pareto_front" [(0, R), (10, W)] ]

/-- Grid.coord2cell(xycoords) — grid.py:667: the caller's array itself reaches the kernel when it is
C-contiguous float64 (read-only there) -/
def coord2cell : Program :=
  [ view 0 0 anyLayout, view 0 0 (contigOf f64),   -- np.ascontiguousarray(np.atleast_2d(xy), dtype=np.float64)
    alloc 10 f64, copy 10 10 (some i64),
    kernel "coord2cell" [(0, R), (10, W)] ]

/-- Grid.cell2coord(idxcells) — grid.py:708 -/
def cell2coord : Program :=
  [ view 0 0 anyLayout, view 0 0 (contigOf i64),
    alloc 10 f64, copy 10 10 (some f64),
    kernel "cell2coord" [(0, R), (10, W)] ]

/-- Grid.cell2rowcol(idxcells) — grid.py:749 -/
def cell2rowcol : Program :=
  [ view 0 0 anyLayout, view 0 0 (contigOf i64),
    alloc 10 f64, copy 10 10 (some i64),
    kernel "cell2rowcol" [(0, R), (10, W)] ]

/-- Grid.neighbours(idxcell) — grid.py:782 (scalar argument) -/
def neighbours : Program :=
  [ alloc 10 f64, copy 10 10 (some i64),
    kernel "neighbours" [(10, W)] ]

/-- Grid.slice(xyslice) — grid.py:814.  0 = xyslice, 1 = self._data -/
def gridSlice : Program :=
  [ view 0 0 anyLayout, view 0 0 (contigOf f64),
    alloc 10 f64, copy 10 10 (some f64),
    copy 11 1 (some f64),                       -- self._data.astype(np.float64)
    kernel "slice" [(11, R), (0, R), (10, W)] ]

/-- Catchment.upstream(idxdown) — grid.py:1187.  0 = idxdown, 1 = flowdir data, 2 = FLOWDIRCODE -/
def upstream : Program :=
  [ view 0 0 anyLayout, copy 0 0 (some i64),
    alloc 10 i64,
    kernel "upstream" [(2, R), (1, R), (0, R), (10, W)] ]

/-- Catchment.downstream(idxup) — grid.py:1204 -/
def downstream : Program :=
  [ view 0 0 anyLayout, copy 0 0 (some i64),
    alloc 10 i64,
    kernel "downstream" [(2, R), (1, R), (0, R), (10, W)] ]

/-- Catchment.delineate_area(outlet, idxinlets) — grid.py:1243, then Grid.cell2rowcol on the result.
0 = idxinlets, 1 = flowdir data, 2 = FLOWDIRCODE -/
def delineateArea : Program :=
  [ view 0 0 anyLayout, copy 0 0 (some i64),    -- np.atleast_1d(idxinlets).astype(np.int64)
    alloc 10 i64, copy 10 10 none,              -- -1*np.ones(nval, dtype=np.int64)
    alloc 11 i64, copy 11 11 none,
    alloc 12 i64, copy 12 12 none,
    kernel "delineate_area" [(2, R), (1, R), (0, R), (10, W), (11, W), (12, W)],
    copy 13 10 none,                            -- idxcells[idx]
    view 13 13 anyLayout, view 13 13 (contigOf i64),
    alloc 14 f64, copy 14 14 (some i64),
    kernel "cell2rowcol" [(13, R), (14, W)] ]

/-- the same with `idxinlets=None` -/
def delineateAreaNoInlets : Program :=
  [ alloc 0 i64, copy 0 0 none ] ++ delineateArea.drop 2

/-- Catchment.delineate_boundary(catchment_area_mask) — grid.py:1310, 1331.
0 = catchment_area_mask, 1 = self._idxcells_area_filled (receiver state, qsorted by the kernel) -/
def delineateBoundary : Program :=
  [ alloc 10 i64, copy 10 10 none,              -- idxcells_boundary
    alloc 11 i64, copy 11 11 none,              -- buf
    kernel "delineate_boundary" [(1, W), (11, W), (0, R), (10, W)],
    copy 10 10 none,                            -- idxcells_boundary[idx]
    view 12 10 anyLayout, view 12 12 (contigOf i64),
    alloc 13 f64, copy 13 13 (some f64),
    kernel "cell2coord" [(12, R), (13, W)],
    alloc 14 i64,
    kernel "exclude_zero_area_boundary" [(13, R), (14, W)] ]

/-- the same with `catchment_area_mask=None`: the mask is built inside -/
def delineateBoundaryNoMask : Program :=
  [ alloc 0 i64, pywrite 0 ] ++ delineateBoundary

/-- Catchment.compute_flowpathlengths() — grid.py:1358.  0 = self._idxcells_area, 1 = flowdir data, 2 = FLOWDIRCODE -/
def flowpathlengths : Program :=
  [ alloc 10 f64,
    kernel "delineate_flowpathlengths_in_catchment" [(2, R), (1, R), (0, R), (10, W)] ]

/-- Catchment.intersect(grid) — grid.py:1412 with the three nested Grid calls.  0 = self._idxcells_area(_filled) -/
def intersect : Program :=
  [ view 0 0 anyLayout, view 0 0 (contigOf i64),
    alloc 10 f64, copy 10 10 (some f64),
    kernel "cell2coord" [(0, R), (10, W)],        -- xy_area = self.flowdir.cell2coord(cells)
    alloc 11 i64, alloc 12 i64, alloc 13 f64,     -- npoints, idxcells, weights
    kernel "intersect" [(10, R), (11, W), (12, W), (13, W)],
    view 12 12 anyLayout, view 13 13 anyLayout,   -- [:npoints[0]]
    view 14 12 anyLayout, view 14 14 (contigOf i64),
    alloc 15 f64, copy 15 15 (some f64),
    kernel "cell2coord" [(14, R), (15, W)],
    view 16 12 anyLayout, view 16 16 (contigOf i64),
    alloc 17 f64, copy 17 17 (some i64),
    kernel "cell2rowcol" [(16, R), (17, W)] ]

/-- grid.delineate_river(flowdir, idxupstream) — grid.py:1601.  0 = flowdir data, 1 = FLOWDIRCODE.
`flowdir.dtype = np.int64` converts the caller's grid: the kernel reads the caller's (converted) cells -/
def delineateRiver : Program :=
  [ retype 0 i64,
    alloc 10 i64, copy 10 10 none,
    alloc 11 f64, alloc 12 i64,
    kernel "delineate_river" [(1, R), (0, R), (12, W), (10, W), (11, W)] ]

/-- grid.accumulate(flowdir, to_accumulate) — grid.py:1660.  0 = flowdir data, 1 = to_accumulate data, 2 = FLOWDIRCODE -/
def accumulate : Program :=
  [ retype 0 i64,                               -- flowdir.dtype = np.int64
    retype 1 f64,                               -- to_accumulate.dtype = np.float64
    copy 10 1 none,                             -- accumulation = to_accumulate.clone()
    kernel "accumulate" [(2, R), (0, R), (1, R), (10, W)] ]

/-- the same with `to_accumulate=None`: a clone of flowdir filled with 1 -/
def accumulateDefault : Program :=
  [ retype 0 i64,
    copy 1 0 none, pywrite 1,                   -- flowdir.clone(); .fill(1)
    retype 1 f64,                               -- on the private clone
    copy 10 1 none,
    kernel "accumulate" [(2, R), (0, R), (1, R), (10, W)] ]

/-- grid.voronoi(catchment, xypoints) — grid.py:1701-1707.  0 = xypoints, 1 = catchment._idxcells_area.  Since
"voronoi accepts a points array of any memory layout" the points go through `np.ascontiguousarray(np.atleast_2d(..),
dtype=np.float64)`: a C-contiguous float64 array reaches the kernel itself (read-only there) -/
def voronoi : Program :=
  [ copy 1 1 none, copy 1 1 (some i64),
    view 0 0 anyLayout, view 0 0 (contigOf f64),
    alloc 10 f64, copy 10 10 (some f64),
    kernel "voronoi" [(1, R), (0, R), (10, W)] ]

/-- grid.slope(flowdir, altitude) — grid.py:1793.  0 = flowdir data, 1 = altitude data, 2 = FLOWDIRCODE -/
def slope : Program :=
  [ retype 0 i64, retype 1 f64,                 -- flowdir.dtype = np.int64; altitude.dtype = np.float64
    copy 10 1 none, pywrite 10,                 -- altitude.clone(); .fill(nodata)
    kernel "slope" [(2, R), (0, R), (1, R), (10, W)] ]

/-- gutils.points_inside_polygon(points, polygon) — gutils.py:62 -/
def pointsInsidePolygon : Program :=
  [ copy 0 0 (some f64), copy 1 1 (some f64),
    alloc 2 i32,
    kernel "points_inside_polygon" [(0, R), (1, R), (2, W)] ]

/-- the same with the caller-supplied OUTPUT array `inside` (2): filled with 0, then written by the kernel -/
def pointsInsidePolygonOut : Program :=
  [ copy 0 0 (some f64), copy 1 1 (some f64),
    pywrite 2,
    kernel "points_inside_polygon" [(0, R), (1, R), (2, W)] ]

/-! realistic breaking changes, kept as named terms so that the theorems show the check is not vacuous -/

/-- `np.asarray(unifdata, dtype=np.float64)` instead of `.astype(np.float64)` before `ad_test` -/
def andersonDarlingAsarray : Program :=
  [ view 0 0 anyLayout, view 0 0 ⟨some f64, false⟩,
    alloc 10 f64,
    kernel "ad_test" [(0, W), (10, W)] ]

/-- `accumulate` with a kernel that stores into the flow-direction buffer (e.g. to cut a circular path):
the buffer is the caller's grid (converted in place by `flowdir.dtype = np.int64`), not a private copy -/
def accumulateWritesFlowdir : Program :=
  [ retype 0 i64, retype 1 f64, copy 10 1 none,
    kernel "accumulate" [(2, R), (0, W), (1, R), (10, W)] ]

/-- `putils.kde` as pinned (pure Python, no kernel): `xy = np.asarray(xy)` … `xy += jitter` -/
def kdePinned : Program := [ view 0 0 anyLayout, pywrite 0 ]
/-- … and after the fix (`xy = xy + jitter`: a new array; `xy.T` before it is a view) -/
def kdeFixed : Program := [ view 0 0 anyLayout, copy 0 0 none ]


/-! pure-Python bodies that store in place into something derived from an argument (no kernel: the correspondence is
the read-only run of harness/c18.py — with every caller array made read-only the call must behave the same) -/

/-- metrics.absolute_peak_error(obs, sim) — metrics.py:745-777: `obsc = np.array(obs).squeeze().copy()`,
`obsc[obsc < 0] = nan`, the same for sim, then `obsc[idx] = nan` in the loop -/
def absolutePeakError : Program :=
  [ copy 0 0 none, view 0 0 anyLayout, copy 0 0 none, pywrite 0,
    copy 1 1 none, view 1 1 anyLayout, copy 1 1 none, pywrite 1,
    pywrite 0 ]

/-- dutils.lag(data, lag) — dutils.py:277-287: `np.atleast_1d`, `np.roll` (always a new array), `lagged[:lag] = missing` -/
def lag : Program :=
  [ view 0 0 anyLayout, copy 10 0 none, pywrite 10 ]

/-- dutils.monthly2daily(se) — dutils.py:353-365: `sec = se.copy()`, `sec[isnull] = ..`, `sec[nexti] = nan` -/
def monthly2daily : Program :=
  [ copy 10 0 none, pywrite 10, pywrite 10 ]

/-- grid.gsmooth(grid, mask) — grid.py:1812-1846.  0 = grid data, 1 = mask data: `z0 = grid.data.copy()`,
`z0[mask.data == 0] = nan`, `z0[idx] = -inf`, `z1 = maximum_filter(..)`, `z1[~idx] = ..`, `z2 = gaussian_filter(..)`,
`z2[mask.data == 0] = nan` -/
def gsmooth : Program :=
  [ copy 12 0 (some f64),                       -- smooth = grid.clone(dtype=np.float64)
    copy 10 0 none, pywrite 10, pywrite 10,
    copy 11 10 none, pywrite 11,
    copy 13 11 none, pywrite 13 ]

/-- transform.YeoJohnson._forward(x) — transform.py:513-532: `x = np.atleast_1d(x)`, `y = x*nan`, `y[ipos] = ..` -/
def yeoJohnsonForward : Program :=
  [ view 0 0 anyLayout, copy 10 0 none, copy 11 0 none, pywrite 10, pywrite 10 ]

/-- sutils.lstsq(X, y, add_intercept=True), frame branch — sutils.py:377-385 (after its fix): `X = X.copy()`,
`X.loc[:, "intercept"] = ones` -/
def lstsqIntercept : Program :=
  [ alloc 10 f64, copy 0 0 none, pywrite 0, copy 0 0 none ]
/-- … as pinned: the column was added to the caller's frame -/
def lstsqInterceptPinned : Program :=
  [ alloc 10 f64, pywrite 0, copy 0 0 none ]

/-- sutils.acf(data, maxlag, idx) — sutils.py:65-109.  0 = data, 1 = idx: slices of both (views), `idx1 & idx2` and the
boolean-mask selections are new arrays, `cov[k] = ..` goes into an allocated vector -/
def acf : Program :=
  [ view 0 0 anyLayout, view 1 1 anyLayout, alloc 10 f64,
    view 11 0 anyLayout, view 12 1 anyLayout, copy 13 12 none, copy 14 11 none, pywrite 10 ]

/-- metrics.iqr(ens, ref) — metrics.py:369-391.  0 = ens, 1 = ref: `np.nanpercentile` of row views (it works on a
copy), results stored into two allocated matrices -/
def iqr : Program :=
  [ view 0 0 anyLayout, view 1 1 anyLayout, alloc 10 f64, alloc 11 f64,
    view 12 1 anyLayout, copy 13 12 none, pywrite 11, view 14 0 anyLayout, copy 15 14 none, pywrite 10 ]
/-- … with `overwrite_input=True` on the row view: numpy then partitions the caller's own row -/
def iqrOverwriteInput : Program :=
  [ view 0 0 anyLayout, view 1 1 anyLayout, alloc 10 f64, alloc 11 f64,
    view 12 1 anyLayout, pywrite 12, pywrite 11 ]

/-- putils.kde(xy) after its fix, with the random draw made explicit — putils.py:400-409: `xy = xy.T` (a view),
`xy = xy + np.random.uniform(..)`: the draw advances numpy's global generator (caller `rngState`) -/
def kdeSeeded : Program :=
  [ view 0 0 anyLayout, pywrite rngState, alloc 10 f64, copy 0 0 none ]

/-- sutils.lhs(nsamples, pmin, pmax) — sutils.py:150-170.  0 = pmin, 1 = pmax: `np.random.permutation` per column,
`samples[:, i] = s` into a new matrix -/
def lhs : Program :=
  [ view 0 0 anyLayout, copy 0 0 (some f64), view 1 1 anyLayout, copy 1 1 (some f64),
    alloc 10 f64, pywrite rngState, pywrite 10 ]


/-! constructors and mutators of Grid / Catchment: what they STORE (a later mutator writes through it) -/

/-- Grid.data setter — grid.py:381-402.  0 = value: `np.ascontiguousarray(np.atleast_2d(value))`, `_clipdata` (the
array itself without bounds), `.astype(self.dtype)` (always a copy) -/
def gridDataSetter : Program :=
  [ view 10 0 anyLayout, view 10 10 cContig, view 10 10 anyLayout, copy 11 10 none ]
/-- … with `astype(self.dtype, copy=False)`: the caller's array is kept when it already has dtype and layout -/
def gridDataSetterNoCopy : Program :=
  [ view 10 0 anyLayout, view 10 10 cContig, view 10 10 anyLayout, view 11 10 anyLayout ]

/-- Grid.clip — grid.py:903-932.  0 = self._data: the corners go through coord2cell / cell2rowcol / cell2coord (lists and
scalars: converted, hence new arrays), then a basic slice (view) is handed to the data setter of the new grid -/
def gridClip : Program :=
  [ alloc 20 f64, alloc 21 f64, copy 21 21 (some i64), kernel "coord2cell" [(20, R), (21, W)],
    alloc 22 i64, alloc 23 f64, copy 23 23 (some i64), kernel "cell2rowcol" [(22, R), (23, W)],
    alloc 24 i64, alloc 25 f64, copy 25 25 (some f64), kernel "cell2coord" [(24, R), (25, W)],
    view 10 0 anyLayout ] ++ [ view 10 10 anyLayout, view 10 10 cContig, view 10 10 anyLayout, copy 11 10 none ]

/-- Grid.clone(dtype) — grid.py:884-901: `copy.deepcopy(self)`, then the dtype setter (`astype`) -/
def gridClone : Program := [ copy 10 0 none, copy 10 10 none ]

/-- Grid.apply(fun) — grid.py:934-939: `fun` receives the data of a deep copy (it may return that very array),
`.astype(self.dtype)` -/
def gridApply : Program := [ copy 10 0 none, view 11 10 anyLayout, copy 12 11 none ]

/-- Catchment.__init__(name, flowdir) — grid.py:1023: `flowdir.clone(np.int64)` -/
def catchmentInit : Program := [ copy 10 0 none, copy 10 10 (some i64) ]

def wrappers : List (String × Program) :=
  [ ("aggregate", aggregate), ("flathomogen", flathomogen), ("var2h", var2h), ("islinear", islinear),
    ("eckhardt", eckhardt), ("crps", crps), ("anderson_darling_test", andersonDarling), ("dscore", dscore),
    ("armodel_sim", armodelSim), ("armodel_residual", armodelResidual), ("pareto_front", paretoFront),
    ("coord2cell", coord2cell), ("cell2coord", cell2coord), ("cell2rowcol", cell2rowcol),
    ("neighbours", neighbours), ("slice", gridSlice), ("upstream", upstream), ("downstream", downstream),
    ("delineate_area", delineateArea), ("delineate_area_noinlets", delineateAreaNoInlets),
    ("delineate_boundary", delineateBoundary), ("delineate_boundary_nomask", delineateBoundaryNoMask),
    ("flowpathlengths", flowpathlengths), ("intersect", intersect), ("delineate_river", delineateRiver),
    ("accumulate", accumulate), ("accumulate_default", accumulateDefault), ("voronoi", voronoi),
    ("slope", slope), ("points_inside_polygon", pointsInsidePolygon),
    ("points_inside_polygon_out", pointsInsidePolygonOut),
    ("anderson_darling_test_asarray", andersonDarlingAsarray),
    ("accumulate_writes_flowdir", accumulateWritesFlowdir), ("kde_pinned", kdePinned), ("kde_fixed", kdeFixed),
    ("absolute_peak_error", absolutePeakError), ("lag", lag), ("monthly2daily", monthly2daily), ("gsmooth", gsmooth),
    ("yeojohnson_forward", yeoJohnsonForward), ("lstsq_intercept", lstsqIntercept),
    ("lstsq_intercept_pinned", lstsqInterceptPinned), ("kde", kdeSeeded), ("lhs", lhs), ("acf", acf), ("iqr", iqr),
    ("iqr_overwrite_input", iqrOverwriteInput),
    ("grid_data_setter", gridDataSetter), ("grid_data_setter_nocopy", gridDataSetterNoCopy), ("grid_clip", gridClip),
    ("grid_clone", gridClone), ("grid_apply", gridApply), ("catchment_init", catchmentInit) ]

/-- the locals each wrapper returns, or stores into its receiver -/
def results : List (String × List Nat) :=
  [ ("aggregate", [10]), ("flathomogen", [10]), ("var2h", [12]), ("islinear", [10]), ("eckhardt", [10]),
    ("crps", [11, 12]), ("anderson_darling_test", [10]), ("dscore", [10, 11]), ("armodel_sim", [10]),
    ("armodel_residual", [10]), ("pareto_front", [10]), ("coord2cell", [10]), ("cell2coord", [10]),
    ("cell2rowcol", [10]), ("neighbours", [10]), ("slice", [10]), ("upstream", [10]), ("downstream", [10]),
    ("delineate_area", [0, 13]), ("delineate_area_noinlets", [13]), ("delineate_boundary", [10, 13]),
    ("delineate_boundary_nomask", [10, 13]), ("flowpathlengths", [10]), ("intersect", [12, 13]),
    ("delineate_river", [10, 11, 12]), ("accumulate", [10]), ("accumulate_default", [10]), ("voronoi", [10]),
    ("slope", [10]), ("points_inside_polygon", [2]), ("points_inside_polygon_out", [2]), ("lag", [10]),
    ("gsmooth", [13]), ("yeojohnson_forward", [10]), ("lhs", [10]), ("monthly2daily", [10]),
    ("grid_data_setter", [11]), ("grid_data_setter_nocopy", [11]), ("grid_clip", [11]), ("grid_clone", [10]),
    ("grid_apply", [12]), ("catchment_init", [10]) ]

/-- caller buffers that what the wrapper returns / stores refers to (empty: everything handed back is private) -/
def resultCallers (name : String) (p : Program) (kinds : Nat → Kind) : List Nat :=
  ((results.lookup name).getD []).filterMap fun x => ((run p kinds).env x).buf.callerIdx

/-- the wrappers that convert a Grid argument in place (`flowdir.dtype = np.int64` …) -/
def retypingWrappers : List String :=
  ["delineate_river", "accumulate", "accumulate_default", "slope", "accumulate_writes_flowdir"]

end HydroVerif.C18
