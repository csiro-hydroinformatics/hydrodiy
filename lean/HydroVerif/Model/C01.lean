/-
C01 / C02 — model of `hydrodiy.stat.transform`: the 13 transform classes.

For every class `X` of `transform.py`:
* `X.Params α`            parameters, constants and constructor options (already clipped to their bounds);
* `X.fwd / X.bwd / X.jac`  the closed formulas of `_forward / _backward / _jacobian`, branch for branch and
                          operation for operation (so that the `Float` instance reproduces numpy up to the
                          transcendental functions);
* `X.forward / X.backward / X.jacobian : Params α → α → Option α`
                          the same with `np.where(cond, v, nan)` guards as `none`;
* `X.admissible`, `X.dom`, `X.codom`  declared parameter bounds, domain and image (used by the theorems).
Classes that hold object state besides their parameters (`BoxCox1lam`, `BoxCox1nu`, `BoxCox2sym`: an inner
`BoxCox2` object that is re-synchronised on every call; `LogSinh`, `Manly`, `BoxCox1*`: a constant that is NaN
until set) also have `X.State α` and `X.State.forward/backward/jacobian`: `… → Except Err (State × result)` for
`BoxCox1lam` / `BoxCox1nu` (the call may raise and re-synchronises the inner object), `… → State × result` for
`BoxCox2sym` (never raises), `… → Except Err result` for `LogSinh` / `Manly` (may raise, nothing to re-synchronise).

Everything is written over core notation classes + `Transc`, so that the same text runs at `Float`
(driver), at the error-tracking pair type of the driver, and is proved at `ℝ` (Props/C01.lean).
No Mathlib.

`Manly` is modelled after the repaired branch test `abs(lam) > EPS` and `Reciprocal.backward` after the repaired
guard `y < 0` (fix commits recorded in known_findings.d/C01.json); the pinned code tested `abs(lam-EPS) > 0` and
`y < -mininu`. `Sinh.jac` is NOT after its repair: it is `scale / sqrt(1 + u*u)`, the text before fix 7814906; the code
computes `scale / np.hypot(1., u)`, which is `Sinh.jacH` of Model/C02 (the same real function; at `Float` the two differ
once `u*u` overflows, `|u| > 1.3e154`, where this one returns 0).
-/
import HydroVerif.Num
namespace HydroVerif.C01

/-- errors raised (as `ValueError`) by the real code -/
inductive Err | nuUnset | lamUnset | xmaxUnset | negative | sumGe1 | ndimGt2 | unknownName
  deriving DecidableEq, Repr

/-- `np.isnan` on a value of the carrier (only `backward_censored` tests a computed value for NaN) -/
class NanTest (α : Type) where
  isNaN : α → Bool

instance : NanTest Float := ⟨Float.isNaN⟩

section
variable {α : Type} [Add α] [Sub α] [Mul α] [Div α] [Neg α] [LT α] [DecidableLT α] [LE α] [DecidableLE α]
  [OfNat α 0] [OfNat α 1] [OfNat α 2] [OfScientific α] [Transc α]

/-- `EPS = 1e-10` of transform.py -/
def eps : α := 1e-10

def absv (x : α) : α := if x < 0 then -x else x

/-- `np.sign` -/
def sign (x : α) : α := if 0 < x then 1 else if x < 0 then -1 else 0

/-- `np.maximum(a, b)` for a non-NaN `b` (a NaN `a` is returned as is) -/
def maxv (a b : α) : α := if a < b then b else a

/-- `abs(lam) > EPS` -/
def lamBig (lam : α) : Bool := decide (eps < absv lam)
/-- `np.isclose(lam, 0.0)`: `abs(lam - 0) <= atol + rtol*abs(0)` with `atol = 1e-8` -/
def isclose0 (lam : α) : Bool := decide (absv lam ≤ 1e-8)
/-- `np.isclose(lam, 2.0)`: `abs(lam - 2) <= 1e-8 + 1e-5*2` -/
def isclose2 (lam : α) : Bool := decide (absv (lam - 2) ≤ 1e-8 + 1e-5 * 2)

/-- `np.where(c, v, nan)` -/
def guard (c : Bool) (v : α) : Option α := if c then some v else none

/-! ### Identity -/
namespace Identity
structure Params (α : Type) where
  deriving Repr
def fwd (_ : Params α) (x : α) : α := x
def bwd (_ : Params α) (y : α) : α := y
def jac (_ : Params α) (_ : α) : α := 1
def forward (p : Params α) (x : α) : Option α := some (fwd p x)
def backward (p : Params α) (y : α) : Option α := some (bwd p y)
def jacobian (p : Params α) (x : α) : Option α := some (jac p x)
end Identity

/-! ### Logit -/
namespace Logit
structure Params (α : Type) where
  lower : α
  logdelta : α
/-- declared bounds: `lower` free, `logdelta ∈ [-10, 10]` -/
def admissible (p : Params α) : Prop := -10.0 ≤ p.logdelta ∧ p.logdelta ≤ 10.0
def upper (p : Params α) : α := p.lower + Transc.exp p.logdelta
def dom (p : Params α) (x : α) : Prop := p.lower < x ∧ x < upper p
def fwd (p : Params α) (x : α) : α :=
  let value := (x - p.lower) / (upper p - p.lower)
  Transc.log (1 / (1 - value) - 1)
def bwd (p : Params α) (y : α) : α :=
  let bnd := 1 - 1 / (1 + Transc.exp y)
  bnd * (upper p - p.lower) + p.lower
def jac (p : Params α) (x : α) : α :=
  let value := (x - p.lower) / (upper p - p.lower)
  1 / (upper p - p.lower) / value / (1 - value)
def forward (p : Params α) (x : α) : Option α := some (fwd p x)
def backward (p : Params α) (y : α) : Option α := some (bwd p y)
def jacobian (p : Params α) (x : α) : Option α :=
  guard (decide (p.lower + eps < x) && decide (x < upper p - eps)) (jac p x)
end Logit

/-! ### Log -/
namespace Log
structure Params (α : Type) where
  nu : α
  /-- constructor option `base` (`None` = natural logarithm) -/
  base : Option α
  mininu : α
/-- `basefactor` -/
def bf (p : Params α) : α := match p.base with
  | none => 1
  | some b => Transc.log b
def admissible (p : Params α) : Prop := p.mininu ≤ p.nu
def dom (p : Params α) (x : α) : Prop := 0 < x + p.nu
def fwd (p : Params α) (x : α) : α := Transc.log (x + p.nu) / bf p
def bwd (p : Params α) (y : α) : α := Transc.exp (bf p * y) - p.nu
def jac (p : Params α) (x : α) : α := 1 / (x + p.nu) / bf p
def forward (p : Params α) (x : α) : Option α := some (fwd p x)
def backward (p : Params α) (y : α) : Option α := some (bwd p y)
def jacobian (p : Params α) (x : α) : Option α := guard (decide (p.mininu < x + p.nu)) (jac p x)
end Log

/-! ### BoxCox2 -/
namespace BoxCox2
structure Params (α : Type) where
  nu : α
  lam : α
  mininu : α
def dom (p : Params α) (x : α) : Prop := 0 < x + p.nu
/-- image of the domain: all of ℝ on the log branch, `lam*y + 1 > 0` on the power branch -/
def codom (p : Params α) (y : α) : Prop := lamBig p.lam = true → 0 < p.lam * y + 1
def fwd (p : Params α) (x : α) : α :=
  if lamBig p.lam then (Transc.pow (x + p.nu) p.lam - 1) / p.lam
  else Transc.log (x + p.nu)
def bwd (p : Params α) (y : α) : α :=
  if lamBig p.lam then
    let u := p.lam * y + 1
    Transc.pow u (1 / p.lam) - p.nu
  else Transc.exp y - p.nu
def jac (p : Params α) (x : α) : α :=
  if lamBig p.lam then Transc.pow (x + p.nu) (p.lam - 1)
  else 1 / (x + p.nu)
def forward (p : Params α) (x : α) : Option α := some (fwd p x)
def backward (p : Params α) (y : α) : Option α := some (bwd p y)
def jacobian (p : Params α) (x : α) : Option α := guard (decide (p.mininu < x + p.nu)) (jac p x)
end BoxCox2

/-! ### BoxCox1lam (nu is a constant), BoxCox1nu (lam is a constant): both delegate to an inner BoxCox2 -/
namespace BoxCox1lam
structure Params (α : Type) where
  lam : α
  nu : α
  mininu : α
def toBC (p : Params α) : BoxCox2.Params α := ⟨p.nu, p.lam, p.mininu⟩
def fwd (p : Params α) (x : α) : α := BoxCox2.fwd (toBC p) x
def bwd (p : Params α) (y : α) : α := BoxCox2.bwd (toBC p) y
def jac (p : Params α) (x : α) : α := BoxCox2.jac (toBC p) x
def forward (p : Params α) (x : α) : Option α := BoxCox2.forward (toBC p) x
def backward (p : Params α) (y : α) : Option α := BoxCox2.backward (toBC p) y
def jacobian (p : Params α) (x : α) : Option α := BoxCox2.jacobian (toBC p) x

/-- the object: parameter `lam`, constant `nu` (NaN until set), and the inner `BC` object's current parameters -/
structure State (α : Type) where
  lam : α
  nu : Option α
  bc : BoxCox2.Params α
/-- `self.BC.params.values = [self.get_nu(), self.params.values[0]]` -/
def State.sync (s : State α) : Except Err (State α) := match s.nu with
  | none => .error .nuUnset
  | some nu => .ok { s with bc := { s.bc with nu := nu, lam := s.lam } }
def State.forward (s : State α) (x : α) : Except Err (State α × Option α) :=
  (State.sync s).map fun s' => (s', BoxCox2.forward s'.bc x)
def State.backward (s : State α) (y : α) : Except Err (State α × Option α) :=
  (State.sync s).map fun s' => (s', BoxCox2.backward s'.bc y)
def State.jacobian (s : State α) (x : α) : Except Err (State α × Option α) :=
  (State.sync s).map fun s' => (s', BoxCox2.jacobian s'.bc x)
end BoxCox1lam

namespace BoxCox1nu
structure Params (α : Type) where
  nu : α
  lam : α
  mininu : α
def toBC (p : Params α) : BoxCox2.Params α := ⟨p.nu, p.lam, p.mininu⟩
def fwd (p : Params α) (x : α) : α := BoxCox2.fwd (toBC p) x
def bwd (p : Params α) (y : α) : α := BoxCox2.bwd (toBC p) y
def jac (p : Params α) (x : α) : α := BoxCox2.jac (toBC p) x
def forward (p : Params α) (x : α) : Option α := BoxCox2.forward (toBC p) x
def backward (p : Params α) (y : α) : Option α := BoxCox2.backward (toBC p) y
def jacobian (p : Params α) (x : α) : Option α := BoxCox2.jacobian (toBC p) x

structure State (α : Type) where
  nu : α
  lam : Option α
  bc : BoxCox2.Params α
def State.sync (s : State α) : Except Err (State α) := match s.lam with
  | none => .error .lamUnset
  | some lam => .ok { s with bc := { s.bc with nu := s.nu, lam := lam } }
def State.forward (s : State α) (x : α) : Except Err (State α × Option α) :=
  (State.sync s).map fun s' => (s', BoxCox2.forward s'.bc x)
def State.backward (s : State α) (y : α) : Except Err (State α × Option α) :=
  (State.sync s).map fun s' => (s', BoxCox2.backward s'.bc y)
def State.jacobian (s : State α) (x : α) : Except Err (State α × Option α) :=
  (State.sync s).map fun s' => (s', BoxCox2.jacobian s'.bc x)
end BoxCox1nu

/-! ### BoxCox2sym -/
namespace BoxCox2sym
structure Params (α : Type) where
  nu : α
  lam : α
  mininu : α
def toBC (p : Params α) : BoxCox2.Params α := ⟨p.nu, p.lam, p.mininu⟩
/-- `y0 = self.BC.forward(0.)` -/
def y0 (p : Params α) : α := BoxCox2.fwd (toBC p) 0
def codom (p : Params α) (y : α) : Prop := BoxCox2.codom (toBC p) (absv y + y0 p)
def fwd (p : Params α) (x : α) : α := sign x * (BoxCox2.fwd (toBC p) (absv x) - y0 p)
def bwd (p : Params α) (y : α) : α := sign y * BoxCox2.bwd (toBC p) (absv y + y0 p)
def jac (p : Params α) (x : α) : α := BoxCox2.jac (toBC p) (absv x)
def forward (p : Params α) (x : α) : Option α := some (fwd p x)
def backward (p : Params α) (y : α) : Option α := some (bwd p y)
def jacobian (p : Params α) (x : α) : Option α := BoxCox2.jacobian (toBC p) (absv x)

structure State (α : Type) where
  nu : α
  lam : α
  bc : BoxCox2.Params α
/-- `self.BC.params.values = self.params.values` -/
def State.sync (s : State α) : State α := { s with bc := { s.bc with nu := s.nu, lam := s.lam } }
def State.params (s : State α) : Params α := ⟨s.bc.nu, s.bc.lam, s.bc.mininu⟩
def State.forward (s : State α) (x : α) : State α × Option α :=
  let s' := State.sync s; (s', BoxCox2sym.forward (State.params s') x)
def State.backward (s : State α) (y : α) : State α × Option α :=
  let s' := State.sync s; (s', BoxCox2sym.backward (State.params s') y)
def State.jacobian (s : State α) (x : α) : State α × Option α :=
  let s' := State.sync s; (s', BoxCox2sym.jacobian (State.params s') x)
end BoxCox2sym

/-! ### Yeo-Johnson -/
namespace YeoJohnson
structure Params (α : Type) where
  nu : α
  scale : α
  lam : α
/-- declared bounds: `scale ≥ 1e-5`, `lam ∈ [-1, 3]` -/
def admissible (p : Params α) : Prop := 1e-5 ≤ p.scale ∧ -1.0 ≤ p.lam ∧ p.lam ≤ 3.0
/-- forward on the shifted/scaled argument `w = nu + x*scale` -/
def fwdW (lam w : α) : α :=
  if eps ≤ w then
    (if isclose0 lam then Transc.log (w + 1) else (Transc.pow (w + 1) lam - 1) / lam)
  else
    (if isclose2 lam then -(Transc.log (-w + 1))
     else (-(Transc.pow (-w + 1) (2 - lam) - 1)) / (2 - lam))
/-- backward up to the final `(x - nu)/scale` -/
def bwdW (lam y : α) : α :=
  if eps ≤ y then
    (if isclose0 lam then Transc.exp y - 1 else Transc.pow (lam * y + 1) (1 / lam) - 1)
  else
    (if isclose2 lam then -(Transc.exp (-y)) + 1
     else -(Transc.pow (-(2 - lam) * y + 1) (1 / (2 - lam))) + 1)
def jacW (lam w : α) : α :=
  if eps ≤ w then
    (if isclose0 lam then 1 / (w + 1) else Transc.pow (w + 1) (lam - 1))
  else
    (if isclose2 lam then 1 / (-w + 1) else Transc.pow (-w + 1) (1 - lam))
def fwd (p : Params α) (x : α) : α := fwdW p.lam (p.nu + x * p.scale)
def bwd (p : Params α) (y : α) : α := (bwdW p.lam y - p.nu) / p.scale
def jac (p : Params α) (x : α) : α := jacW p.lam (p.nu + x * p.scale) * p.scale
/-- image: the argument of the power is positive on the branch that `y` selects -/
def codom (p : Params α) (y : α) : Prop :=
  (eps ≤ y → isclose0 p.lam = false → 0 < p.lam * y + 1) ∧
  (¬ eps ≤ y → isclose2 p.lam = false → 0 < -(2 - p.lam) * y + 1)
def forward (p : Params α) (x : α) : Option α := some (fwd p x)
def backward (p : Params α) (y : α) : Option α := some (bwd p y)
def jacobian (p : Params α) (x : α) : Option α := some (jac p x)
end YeoJohnson

/-! ### LogSinh -/
namespace LogSinh
structure Params (α : Type) where
  loga : α
  logb : α
  xmax : α
/-- declared bounds: `loga ∈ [-20, 0]`, `logb ∈ [-5, 5]`, `xmax ≥ EPS` -/
def admissible (p : Params α) : Prop :=
  -20.0 ≤ p.loga ∧ p.loga ≤ 0 ∧ -5.0 ≤ p.logb ∧ p.logb ≤ 5.0 ∧ eps ≤ p.xmax
def a (p : Params α) : α := Transc.exp p.loga
def b (p : Params α) : α := Transc.exp p.logb
/-- `xn > -a/b + EPS` -/
def inDom (p : Params α) (x : α) : Bool := decide (-(a p) / b p + eps < x / p.xmax)
def dom (p : Params α) (x : α) : Prop := inDom p x = true
def fwd (p : Params α) (x : α) : α :=
  let xn := x / p.xmax
  let w := a p + b p * xn
  (w + Transc.log ((1 - Transc.exp (-2 * w)) / 2)) / b p
def bwd (p : Params α) (y : α) : α :=
  let w := b p * y
  p.xmax * (y + (Transc.log (1 + Transc.sqrt (1 + Transc.exp (-2 * w))) - a p) / b p)
def jac (p : Params α) (x : α) : α :=
  let xn := x / p.xmax
  let w := a p + b p * xn
  1 / p.xmax * (1 / Transc.tanh w)
-- the image, as "the backward value is in the domain"; the explicit set is `LogSinh.codom_iff` (Props/C01.lean)
def codom (p : Params α) (y : α) : Prop := dom p (bwd p y)
def forward (p : Params α) (x : α) : Option α := guard (inDom p x) (fwd p x)
def backward (p : Params α) (y : α) : Option α := some (bwd p y)
def jacobian (p : Params α) (x : α) : Option α := guard (inDom p x) (jac p x)

/-- the object: `xmax` is NaN until set (`get_xmax` raises) -/
structure State (α : Type) where
  loga : α
  logb : α
  xmax : Option α
def State.params (s : State α) : Except Err (Params α) := match s.xmax with
  | none => .error .xmaxUnset
  | some xm => .ok ⟨s.loga, s.logb, xm⟩
def State.forward (s : State α) (x : α) : Except Err (Option α) :=
  (State.params s).map fun p => LogSinh.forward p x
def State.backward (s : State α) (y : α) : Except Err (Option α) :=
  (State.params s).map fun p => LogSinh.backward p y
def State.jacobian (s : State α) (x : α) : Except Err (Option α) :=
  (State.params s).map fun p => LogSinh.jacobian p x
end LogSinh

/-! ### Reciprocal -/
namespace Reciprocal
structure Params (α : Type) where
  nu : α
  mininu : α
def admissible (p : Params α) : Prop := p.mininu ≤ p.nu
def dom (p : Params α) (x : α) : Prop := -p.nu < x
def fwd (p : Params α) (x : α) : α := -1 / (p.nu + x)
def bwd (p : Params α) (y : α) : α := -1 / y - p.nu
def jac (p : Params α) (x : α) : α := 1 / ((p.nu + x) * (p.nu + x))
def forward (p : Params α) (x : α) : Option α := guard (decide (-p.nu < x)) (fwd p x)
/-- the guard is `y < 0`, the whole image of `forward` (repaired; the pinned code tested `y < -mininu`) -/
def backward (p : Params α) (y : α) : Option α := guard (decide (y < 0)) (bwd p y)
def jacobian (p : Params α) (x : α) : Option α := guard (decide (-p.nu < x)) (jac p x)
end Reciprocal

/-! ### Softmax (rows) -/
namespace Softmax
/-- `np.sum` of a short row: left to right -/
def sumFrom (acc : α) : List α → α
  | [] => acc
  | x :: xs => sumFrom (acc + x) xs
def sumL (xs : List α) : α := sumFrom 0 xs
def prodFrom (acc : α) : List α → α
  | [] => acc
  | x :: xs => prodFrom (acc * x) xs
def prodL (xs : List α) : α := prodFrom 1 xs
/-- the two input checks of one row -/
def anyNeg (xs : List α) : Bool := xs.any fun x => decide (x < 0)
def sumTooBig (xs : List α) : Bool := decide (1 - eps < sumL xs)
/-- domain of a row: entries positive, sum at most `1 - EPS` -/
def dom (xs : List α) : Prop := (∀ x ∈ xs, 0 < x) ∧ sumL xs ≤ 1 - eps
def fwdRow (xs : List α) : List α :=
  let s := sumL xs
  xs.map fun x => Transc.log (x / (1 - s))
def bwdRow (ys : List α) : List α :=
  let e := ys.map Transc.exp
  let s := sumL e
  e.map fun v => v / (1 + s)
def jacRow (xs : List α) : α :=
  let s := sumL xs
  (1 + s / (1 - s)) / prodL xs
/-- image of the domain -/
def codom (ys : List α) : Prop := dom (bwdRow ys)
/-- one row -/
def forward (xs : List α) : Except Err (List α) :=
  if anyNeg xs then .error .negative
  else if sumTooBig xs then .error .sumGe1
  else .ok (fwdRow xs)
def backward (ys : List α) : Except Err (List α) := .ok (bwdRow ys)
def jacobian (xs : List α) : Except Err α :=
  if anyNeg xs then .error .negative
  else if sumTooBig xs then .error .sumGe1
  else .ok (jacRow xs)
/-- a 2-D array: `np.any(x < 0)` is tested on the whole array before any row sum -/
def forwardM (rows : List (List α)) : Except Err (List (List α)) :=
  if rows.any anyNeg then .error .negative
  else if rows.any sumTooBig then .error .sumGe1
  else .ok (rows.map fwdRow)
def backwardM (rows : List (List α)) : Except Err (List (List α)) := .ok (rows.map bwdRow)
def jacobianM (rows : List (List α)) : Except Err (List α) :=
  if rows.any anyNeg then .error .negative
  else if rows.any sumTooBig then .error .sumGe1
  else .ok (rows.map jacRow)
end Softmax

/-! ### Sinh -/
namespace Sinh
structure Params (α : Type) where
  nu : α
  scale : α
/-- declared bounds: `scale ≥ 1e-10` -/
def admissible (p : Params α) : Prop := 1e-10 ≤ p.scale
def fwd (p : Params α) (x : α) : α := Transc.asinh ((x - p.nu) * p.scale)
def bwd (p : Params α) (y : α) : α := Transc.sinh y / p.scale + p.nu
-- `scale / np.sqrt(1 + u*u)`: `Sinh._jacobian` before fix 7814906. transform.py has `scale / np.hypot(1., u)`, modelled
-- by `C02.Sinh.jacH` (Model/C02.lean), which `C02.callOp` runs; `TObj.evalWith` and Drivers/C01 run this one. Over ℝ they are
-- equal (`C02.Sinh.jacH_eq_jac`); at `Float` this one is 0 where `u*u` overflows and the code is not.
def jac (p : Params α) (x : α) : α :=
  let u := (x - p.nu) * p.scale
  p.scale / Transc.sqrt (1 + u * u)
def forward (p : Params α) (x : α) : Option α := some (fwd p x)
def backward (p : Params α) (y : α) : Option α := some (bwd p y)
def jacobian (p : Params α) (x : α) : Option α := some (jac p x)
end Sinh

/-! ### Manly (after the repair of the branch test) -/
namespace Manly
structure Params (α : Type) where
  lam : α
  xmax : α
/-- declared bounds: `lam ∈ [-5, 5]`, `xmax ≥ EPS` -/
def admissible (p : Params α) : Prop := -5.0 ≤ p.lam ∧ p.lam ≤ 5.0 ∧ eps ≤ p.xmax
def codom (p : Params α) (y : α) : Prop := lamBig p.lam = true → 0 < 1 + p.lam * y
def fwd (p : Params α) (x : α) : α :=
  let u := x / p.xmax
  if lamBig p.lam then (Transc.exp (p.lam * u) - 1) / p.lam else u
def bwd (p : Params α) (y : α) : α :=
  if lamBig p.lam then p.xmax * Transc.log (1 + p.lam * y) / p.lam else p.xmax * y
def jac (p : Params α) (x : α) : α :=
  if lamBig p.lam then Transc.exp (p.lam * (x / p.xmax)) / p.xmax else 1 / p.xmax
def forward (p : Params α) (x : α) : Option α := some (fwd p x)
def backward (p : Params α) (y : α) : Option α := some (bwd p y)
def jacobian (p : Params α) (x : α) : Option α := some (jac p x)

structure State (α : Type) where
  lam : α
  xmax : Option α
def State.params (s : State α) : Except Err (Params α) := match s.xmax with
  | none => .error .xmaxUnset
  | some xm => .ok ⟨s.lam, xm⟩
def State.forward (s : State α) (x : α) : Except Err (Option α) :=
  (State.params s).map fun p => Manly.forward p x
def State.backward (s : State α) (y : α) : Except Err (Option α) :=
  (State.params s).map fun p => Manly.backward p y
def State.jacobian (s : State α) (x : α) : Except Err (Option α) :=
  (State.params s).map fun p => Manly.jacobian p x
end Manly

/-! ### `Transform.backward_censored` (base class, any transform) -/

/-- `backward_censored(y, censor)` for a transform given by its `forward`/`backward`:
`tcensor = forward(censor)`; `yc = y` if `tcensor` is NaN else `maximum(y, tcensor)`;
result `maximum(backward(yc), censor)`. `censor` itself is not NaN. -/
def backwardCensored [NanTest α] (forward backward : α → Option α) (y censor : α) : Option α :=
  let yc := match forward censor with
    | none => y
    | some t => if NanTest.isNaN t then y else maxv y t
  (backward yc).map fun b => maxv b censor


/-! ### public methods on arrays and on objects (what a call of `forward / backward / jacobian /
backward_censored` with a 1-D float64 array does: the object-level glue, then the formula on every element) -/

/-- a method applied to a 1-D array: elementwise (NaN marks stay per element) -/
def onArray (f : α → Option α) (xs : List α) : List (Option α) := xs.map f

/-- `backward(forward(xs))` on arrays: NaN elements stay NaN -/
def bindArray (b : α → Option α) (ys : List (Option α)) : List (Option α) := ys.map fun y => y.bind b

namespace BoxCox1lam
def State.forwardArr (s : State α) (xs : List α) : Except Err (State α × List (Option α)) :=
  (State.sync s).map fun s' => (s', onArray (BoxCox2.forward s'.bc) xs)
def State.backwardArr (s : State α) (ys : List α) : Except Err (State α × List (Option α)) :=
  (State.sync s).map fun s' => (s', onArray (BoxCox2.backward s'.bc) ys)
def State.jacobianArr (s : State α) (xs : List α) : Except Err (State α × List (Option α)) :=
  (State.sync s).map fun s' => (s', onArray (BoxCox2.jacobian s'.bc) xs)
/-- `backward_censored`: `self.forward(censor)` and `self.backward(yc)` both synchronise first -/
def State.censoredArr [NanTest α] (s : State α) (ys : List α) (c : α) : Except Err (State α × List (Option α)) :=
  (State.sync s).map fun s' =>
    (s', onArray (fun y => backwardCensored (BoxCox2.forward s'.bc) (BoxCox2.backward s'.bc) y c) ys)
end BoxCox1lam

namespace BoxCox1nu
def State.forwardArr (s : State α) (xs : List α) : Except Err (State α × List (Option α)) :=
  (State.sync s).map fun s' => (s', onArray (BoxCox2.forward s'.bc) xs)
def State.backwardArr (s : State α) (ys : List α) : Except Err (State α × List (Option α)) :=
  (State.sync s).map fun s' => (s', onArray (BoxCox2.backward s'.bc) ys)
def State.jacobianArr (s : State α) (xs : List α) : Except Err (State α × List (Option α)) :=
  (State.sync s).map fun s' => (s', onArray (BoxCox2.jacobian s'.bc) xs)
def State.censoredArr [NanTest α] (s : State α) (ys : List α) (c : α) : Except Err (State α × List (Option α)) :=
  (State.sync s).map fun s' =>
    (s', onArray (fun y => backwardCensored (BoxCox2.forward s'.bc) (BoxCox2.backward s'.bc) y c) ys)
end BoxCox1nu

namespace BoxCox2sym
def State.forwardArr (s : State α) (xs : List α) : State α × List (Option α) :=
  let s' := State.sync s; (s', onArray (BoxCox2sym.forward (State.params s')) xs)
def State.backwardArr (s : State α) (ys : List α) : State α × List (Option α) :=
  let s' := State.sync s; (s', onArray (BoxCox2sym.backward (State.params s')) ys)
def State.jacobianArr (s : State α) (xs : List α) : State α × List (Option α) :=
  let s' := State.sync s; (s', onArray (BoxCox2sym.jacobian (State.params s')) xs)
def State.censoredArr [NanTest α] (s : State α) (ys : List α) (c : α) : State α × List (Option α) :=
  let s' := State.sync s
  (s', onArray (fun y => backwardCensored (BoxCox2sym.forward (State.params s'))
    (BoxCox2sym.backward (State.params s')) y c) ys)
end BoxCox2sym

namespace LogSinh
def State.forwardArr (s : State α) (xs : List α) : Except Err (List (Option α)) :=
  (State.params s).map fun p => onArray (LogSinh.forward p) xs
def State.backwardArr (s : State α) (ys : List α) : Except Err (List (Option α)) :=
  (State.params s).map fun p => onArray (LogSinh.backward p) ys
def State.jacobianArr (s : State α) (xs : List α) : Except Err (List (Option α)) :=
  (State.params s).map fun p => onArray (LogSinh.jacobian p) xs
def State.censoredArr [NanTest α] (s : State α) (ys : List α) (c : α) : Except Err (List (Option α)) :=
  (State.params s).map fun p => onArray (fun y => backwardCensored (LogSinh.forward p) (LogSinh.backward p) y c) ys
end LogSinh

namespace Manly
def State.forwardArr (s : State α) (xs : List α) : Except Err (List (Option α)) :=
  (State.params s).map fun p => onArray (Manly.forward p) xs
def State.backwardArr (s : State α) (ys : List α) : Except Err (List (Option α)) :=
  (State.params s).map fun p => onArray (Manly.backward p) ys
def State.jacobianArr (s : State α) (xs : List α) : Except Err (List (Option α)) :=
  (State.params s).map fun p => onArray (Manly.jacobian p) xs
def State.censoredArr [NanTest α] (s : State α) (ys : List α) (c : α) : Except Err (List (Option α)) :=
  (State.params s).map fun p => onArray (fun y => backwardCensored (Manly.forward p) (Manly.backward p) y c) ys
end Manly

namespace Softmax
/-- an array of `ndim` dimensions whose rows (after `np.atleast_2d`) are `rows`: more than 2 dimensions are rejected
before any other check -/
def forwardND (ndim : Nat) (rows : List (List α)) : Except Err (List (List α)) :=
  if 2 < ndim then .error .ndimGt2 else forwardM rows
def backwardND (ndim : Nat) (rows : List (List α)) : Except Err (List (List α)) :=
  if 2 < ndim then .error .ndimGt2 else backwardM rows
def jacobianND (ndim : Nat) (rows : List (List α)) : Except Err (List α) :=
  if 2 < ndim then .error .ndimGt2 else jacobianM rows
end Softmax

end

/-! ### `get_transform(name, **kwargs)`: which keyword goes where -/

/-- constructor argument names, parameter names and constant names of one class -/
structure ClassSpec where
  name : String
  ctorArgs : List String
  params : List String
  constants : List String
  deriving Repr, DecidableEq

/-- the catalogue (`__all__`), in its order -/
def catalogue : List ClassSpec := [
  ⟨"Identity", [], [], []⟩,
  ⟨"Logit", [], ["lower", "logdelta"], []⟩,
  ⟨"Log", ["mininu", "base"], ["nu"], []⟩,
  ⟨"BoxCox2", ["mininu", "minilam"], ["nu", "lam"], []⟩,
  ⟨"BoxCox1lam", ["mininu", "minilam"], ["lam"], ["nu"]⟩,
  ⟨"BoxCox1nu", ["mininu", "minilam"], ["nu"], ["lam"]⟩,
  ⟨"BoxCox2sym", ["mininu", "minilam"], ["nu", "lam"], []⟩,
  ⟨"YeoJohnson", [], ["nu", "scale", "lam"], []⟩,
  ⟨"Reciprocal", ["mininu"], ["nu"], []⟩,
  ⟨"Softmax", [], [], []⟩,
  ⟨"Sinh", [], ["nu", "scale"], []⟩,
  ⟨"LogSinh", [], ["loga", "logb"], ["xmax"]⟩,
  ⟨"Manly", [], ["lam"], ["xmax"]⟩]

inductive Route | ctor | param | const | ignored
  deriving DecidableEq, Repr

/-- a keyword that names a constructor argument goes to the constructor (and is removed); the others are assigned to
the parameter / constant of that name, and silently ignored when there is none -/
def route (c : ClassSpec) (key : String) : Route :=
  if c.ctorArgs.contains key then .ctor
  else if c.params.contains key then .param
  else if c.constants.contains key then .const
  else .ignored

/-- an unknown name is rejected -/
def lookupClass (name : String) : Except Err ClassSpec :=
  match catalogue.find? (·.name == name) with
  | some c => .ok c
  | none => .error .unknownName

end HydroVerif.C01
