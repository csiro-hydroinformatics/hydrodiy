import HydroVerif.Model.C09
/-
C09 — the state `write_csv` / `read_csv` act on: a directory (file name → content) and a caller-supplied zip archive
(member name → text), as state machines over operation lists. File contents are opaque texts; zipfile and the file system
themselves are external (a zip file is a list of members, a directory a python-dict-like association list). No Mathlib.
-/
namespace HydroVerif.C09

/-- what a file of the directory holds -/
inductive Stored
  | plain (text : Str)
  | zip (members : List (Str × Str))
  deriving DecidableEq, Repr

abbrev Dir := List (Str × Stored)

def dirHas (d : Dir) (f : Str) : Bool := d.any (·.1 == f)

def dirGet : Dir → Str → Option Stored
  | [], _ => none
  | (g, c) :: d, f => if g == f then some c else dirGet d f

/-- create or replace a file -/
def dirSet (d : Dir) (f : Str) (c : Stored) : Dir :=
  if dirHas d f then d.map (fun e => if e.1 == f then (f, c) else e) else d ++ [(f, c)]

/-- `write_csv(data, name, …, compress=…)` without an archive: a plain file under the name itself, or a zip file
(`ZipFile(mode="w")`: any older file of that name is replaced) holding the single member `<stem>.csv`.
`sourceExists = false`: the ValueError raised before any file is opened - nothing changes -/
def writeStep (d : Dir) (name : Str) (compress : Bool) (sourceExists : Bool) (text : Str) : Dir :=
  if !sourceExists then d else
  match writeTarget name compress with
  | (full, some member) => dirSet d full (.zip [(member, text)])
  | (full, none) => dirSet d full (.plain text)

inductive ReadOutcome
  | text (t : Str)
  /-- `_check_name` finds no candidate: ValueError -/
  | notFound
  /-- the zip file opened does not hold `<stem>.csv`: KeyError -/
  | noMember
  /-- the file opened is not of the kind its extension announces (plain text under `.zip` / `.gz`, zip data under `.gz`) -/
  | wrongKind
  deriving DecidableEq, Repr

def memberGet : List (Str × Str) → Str → Option Str
  | [], _ => none
  | (n, t) :: ms, m => if n == m then some t else memberGet ms m

/-- `read_csv(name)` without an archive: resolve the name against the files present, open by extension -/
def readStep (d : Dir) (name : Str) : ReadOutcome :=
  match readTarget (dirHas d) name with
  | none => .notFound
  | some (.plain f) =>
    match dirGet d f with
    | some (.plain t) => .text t
    | some (.zip _) => .wrongKind     -- never: a zip file is only ever created under a `.zip` name (invariant)
    | none => .notFound
  | some (.zipMember f m) =>
    match dirGet d f with
    | some (.zip ms) => (match memberGet ms m with | some t => .text t | none => .noMember)
    | some (.plain _) => .wrongKind
    | none => .notFound
  | some (.gz _) => .wrongKind          -- the writer never produces gzip data

inductive Op
  | write (name : Str) (compress : Bool) (sourceExists : Bool) (text : Str)
  | read (name : Str)
  deriving Repr

/-- one operation: the new directory and, for a read, its outcome -/
def step (d : Dir) : Op → Dir × Option ReadOutcome
  | .write name compress src text => (writeStep d name compress src text, none)
  | .read name => (d, some (readStep d name))

/-- a whole history from a given directory: final directory and the outcomes of the reads in order -/
def run : Dir → List Op → Dir × List ReadOutcome
  | d, [] => (d, [])
  | d, op :: ops =>
    let (d', o) := step d op
    let (d'', os) := run d' ops
    (d'', match o with | some r => r :: os | none => os)

/-! ### a caller-supplied archive -/

abbrev Archive := List (Str × Str)

inductive AOp
  | write (member : Str) (text : Str)
  | read (member : Str)
  deriving Repr

/-- `write2zip`: a member of that name is refused (ValueError, archive unchanged), else appended -/
def arcWrite (a : Archive) (m t : Str) : Option Archive :=
  if a.any (·.1 == m) then none else some (a ++ [(m, t)])

/-- `archive.read(str(filename))`: the member of exactly that name, else KeyError -/
def arcRead (a : Archive) (m : Str) : Option Str := memberGet a m

/-- one archive operation: new archive, and the outcome (`none` = refused write / KeyError) -/
def astep (a : Archive) : AOp → Archive × Option Str
  | .write m t => match arcWrite a m t with | some a' => (a', some t) | none => (a, none)
  | .read m => (a, arcRead a m)

def arun : Archive → List AOp → Archive × List (Option Str)
  | a, [] => (a, [])
  | a, op :: ops =>
    let (a', o) := astep a op
    let (a'', os) := arun a' ops
    (a'', o :: os)

/-- the text of the first write of member `m` in a history (later writes of the same member are refused) -/
def firstWrite : List AOp → Str → Option Str
  | [], _ => none
  | .write n t :: ops, m => if n == m then some t else firstWrite ops m
  | .read _ :: ops, m => firstWrite ops m

end HydroVerif.C09
