/-
C12 — the transform CLASSES of `hydrodiy.stat.transform`: what each constructor builds (names, defaults, bounds and
flags of the parameter vector, of the constant vector and of the inner `BoxCox2`), which classes re-sync an inner
object, the constructor guards, `get_transform(name, **kwargs)`, and a process holding several instances built by
class. No Mathlib. Mirrors transform.py class by class:

  Identity, Softmax   `super().__init__(name)`                          no parameter, no constant
  Logit               Vector(["lower","logdelta"], [0,0], [-inf,-10], [inf,10])
  Log(mininu)         Vector(["nu"], defaults=[mininu], mins=[mininu])   (maxs omitted)
  Reciprocal(mininu)  Vector(["nu"], [mininu], [mininu])
  BoxCox2(mininu, minilam)      `minilam < -3` -> ValueError; Vector(["nu","lam"], [mininu,1], [mininu,minilam], [inf,3])
  BoxCox2sym(mininu, minilam)   same guard, same vector, `self.BC = BoxCox2(mininu, minilam)`
  BoxCox1lam(mininu, minilam)   Vector(["lam"],[1],[minilam],[3]); constants Vector(["nu"],[nan],[mininu],[inf],accept_nan);
                                `self.BC = BoxCox2(..)` (whose guard and constructor run last; `classSpecs` tests the guard
                                first: the same calls are accepted, only the kind of error of a rejected one can differ)
  BoxCox1nu(mininu, minilam)    Vector(["nu"],[mininu],[mininu],[inf]); constants Vector(["lam"],[nan],[minilam],[3],accept_nan); BC
  YeoJohnson          Vector(["nu","scale","lam"], [0,1,1], [-inf,1e-5,-1], [inf,inf,3])
  LogSinh             Vector(["loga","logb"], [-1,0], [-20,-5], [0,5]); constants Vector(["xmax"],[nan],[EPS],[inf],accept_nan)
  Sinh                Vector(["nu","scale"], [0,1], [-inf,1e-10], [inf,inf])
  Manly               Vector(["lam"],[0.1],[-5],[5]); constants Vector(["xmax"],[nan],[EPS],[inf],accept_nan)

`Transform.__init__` takes `params=Vector([])` / `constants=Vector([])` as DEFAULT ARGUMENTS: the classes that do not
pass one share a single empty vector object. The model gives every instance its own empty vector; an empty vector shows
the same thing whatever is done to it (`noname_inert` in Props), so the difference is not observable.
The numeric literals are a parameter (`TConsts`; the driver passes the Float values): the theorems hold for any values.
-/
import HydroVerif.Model.C12

namespace HydroVerif.C12

section
variable {α : Type} [LT α] [DecidableLT α] [Add α] [Sub α] [OfNat α 0]

inductive TClass
  | identity | logit | log | boxcox2 | boxcox1lam | boxcox1nu | boxcox2sym | yeojohnson | reciprocal | softmax
  | sinh | logsinh | manly
  deriving DecidableEq, Repr

/-- `transform.__all__`, in its order -/
def TClass.all : List TClass :=
  [.identity, .logit, .log, .boxcox2, .boxcox1lam, .boxcox1nu, .boxcox2sym, .yeojohnson, .reciprocal, .softmax,
   .sinh, .logsinh, .manly]

def TClass.name : TClass → String
  | .identity => "Identity" | .logit => "Logit" | .log => "Log" | .boxcox2 => "BoxCox2"
  | .boxcox1lam => "BoxCox1lam" | .boxcox1nu => "BoxCox1nu" | .boxcox2sym => "BoxCox2sym"
  | .yeojohnson => "YeoJohnson" | .reciprocal => "Reciprocal" | .softmax => "Softmax" | .sinh => "Sinh"
  | .logsinh => "LogSinh" | .manly => "Manly"

/-- `name in __all__` / `getattr(module, name)` -/
def TClass.ofName? (s : String) : Option TClass := TClass.all.find? (fun c => c.name == s)

/-- which classes write to an inner `BoxCox2` in forward / backward / jacobian (read off the `_forward` bodies) -/
def TClass.kind : TClass → TKind
  | .boxcox1lam => .bc1lam
  | .boxcox1nu => .bc1nu
  | .boxcox2sym => .bc2sym
  | _ => .plain

/-- the signature of each constructor: the keywords `get_transform` takes out of its own before the assignments (`base`
of `Log` only sets a plain attribute, the others reach a `Vector`) -/
def TClass.ctorKeys : TClass → List String
  | .log => ["mininu", "base"]
  | .reciprocal => ["mininu"]
  | .boxcox2 | .boxcox1lam | .boxcox1nu | .boxcox2sym => ["mininu", "minilam"]
  | _ => []

/-- the numeric literals of transform.py -/
structure TConsts (α : Type) where
  eps : α      -- EPS = 1e-10 (default `mininu`, lower bound of `xmax`, lower bound of Sinh's `scale`)
  em5 : α      -- 1e-5
  tenth : α    -- 0.1
  zero : α
  one : α
  three : α
  five : α
  ten : α
  n1 : α       -- -1
  n3 : α       -- -3
  n5 : α       -- -5
  n10 : α      -- -10
  n20 : α      -- -20

/-- constructor arguments (already defaulted) -/
structure CArgs (α : Type) where
  mininu : XR α
  minilam : XR α

/-- `mininu=EPS, minilam=0.` -/
def CArgs.default (K : TConsts α) : CArgs α := ⟨.fin K.eps, .fin K.zero⟩

/-- `Vector([])`: the default `params` / `constants` -/
def emptySpec : Spec α := ⟨[], none, none, none, true, false, false⟩

/-- the `Vector(...)` call inside `BoxCox2.__init__` / `BoxCox2sym.__init__` -/
def bc2Spec (K : TConsts α) (a : CArgs α) : Spec α :=
  ⟨["nu", "lam"], some [a.mininu, .fin K.one], some [a.mininu, a.minilam], some [.pinf, .fin K.three], true, false, false⟩

/-- `if minilam < -3: raise ValueError` (false on a NaN, like the Python comparison) -/
def bc2Guard (K : TConsts α) (a : CArgs α) : Bool := XR.lt a.minilam (.fin K.n3)

/-- `Vector(["xmax"], [nan], [EPS], [inf], accept_nan=True)` -/
def xmaxSpec (K : TConsts α) : Spec α := ⟨["xmax"], some [.nan], some [.fin K.eps], some [.pinf], true, false, true⟩

/-- the `Vector(...)` calls of `Class(mininu, minilam)` in the order the constructor makes them: parameter vector,
constant vector, and — for the classes that own one — the inner `BoxCox2`'s parameter vector; or the guard's error -/
def classSpecs (K : TConsts α) (cls : TClass) (a : CArgs α) : Except Err (Spec α × Spec α × Option (Spec α)) :=
  match cls with
  | .identity | .softmax => .ok (emptySpec, emptySpec, none)
  | .logit =>
    .ok (⟨["lower", "logdelta"], some [.fin K.zero, .fin K.zero], some [.ninf, .fin K.n10], some [.pinf, .fin K.ten],
          true, false, false⟩, emptySpec, none)
  | .log | .reciprocal =>
    .ok (⟨["nu"], some [a.mininu], some [a.mininu], none, true, false, false⟩, emptySpec, none)
  | .boxcox2 => if bc2Guard K a then .error .ctorGuard else .ok (bc2Spec K a, emptySpec, none)
  | .boxcox2sym => if bc2Guard K a then .error .ctorGuard else .ok (bc2Spec K a, emptySpec, some (bc2Spec K a))
  | .boxcox1lam =>
    if bc2Guard K a then .error .ctorGuard
    else .ok (⟨["lam"], some [.fin K.one], some [a.minilam], some [.fin K.three], true, false, false⟩,
              ⟨["nu"], some [.nan], some [a.mininu], some [.pinf], true, false, true⟩, some (bc2Spec K a))
  | .boxcox1nu =>
    if bc2Guard K a then .error .ctorGuard
    else .ok (⟨["nu"], some [a.mininu], some [a.mininu], some [.pinf], true, false, false⟩,
              ⟨["lam"], some [.nan], some [a.minilam], some [.fin K.three], true, false, true⟩, some (bc2Spec K a))
  | .yeojohnson =>
    .ok (⟨["nu", "scale", "lam"], some [.fin K.zero, .fin K.one, .fin K.one], some [.ninf, .fin K.em5, .fin K.n1],
          some [.pinf, .pinf, .fin K.three], true, false, false⟩, emptySpec, none)
  | .logsinh =>
    .ok (⟨["loga", "logb"], some [.fin K.n1, .fin K.zero], some [.fin K.n20, .fin K.n5],
          some [.fin K.zero, .fin K.five], true, false, false⟩, xmaxSpec K, none)
  | .sinh =>
    .ok (⟨["nu", "scale"], some [.fin K.zero, .fin K.one], some [.ninf, .fin K.eps], some [.pinf, .pinf],
          true, false, false⟩, emptySpec, none)
  | .manly =>
    .ok (⟨["lam"], some [.fin K.tenth], some [.fin K.n5], some [.fin K.five], true, false, false⟩, xmaxSpec K, none)

/-- `Class(mininu=.., minilam=..)`: the world of the new transform (vector 0 = params, 1 = constants, 2 = BC.params) -/
def cinit (eps : α) (K : TConsts α) (cls : TClass) (a : CArgs α) : Except Err (World α) :=
  match classSpecs K cls a with
  | .error e => .error e
  | .ok (p, c, b) => tinit eps p c b

/-- the descriptor of a transform built by `cinit` -/
def TClass.trans (cls : TClass) : Trans := ⟨cls.kind, 0, 1, 2⟩

/-! ### `get_transform(name, **kwargs)` -/

/-- the constructor arguments `get_transform` extracts from the keyword arguments of ITS caller: a key is a
constructor argument only when the class's signature has it -/
def gtArgs (K : TConsts α) (cls : TClass) (kw : List (String × XR α)) : CArgs α :=
  let pick (key : String) (dflt : XR α) : XR α :=
    if cls.ctorKeys.contains key then (kw.lookup key).getD dflt else dflt
  ⟨pick "mininu" (CArgs.default K).mininu, pick "minilam" (CArgs.default K).minilam⟩

/-- one remaining keyword: `trans.params[name] = x` when `name` is a parameter name, `trans.constants[name] = x` when
it is a constant name, skipped otherwise. A rejected assignment (NaN without permission) aborts `get_transform`. -/
def gtAssign (w : World α) (nm : String) (x : XR α) : Except Err (World α) :=
  match w.vecs[0]?, w.vecs[1]? with
  | some p, some c =>
    let r1 : World α × Out := if p.names.contains nm then w.update 0 fun s v => setKey s v nm x else (w, .ok)
    match r1 with
    | (_, .rejected e) => .error e
    | (w1, .ok) =>
      if c.names.contains nm then
        match w1.update 1 fun s v => setKey s v nm x with
        | (_, .rejected e) => .error e
        | (w2, .ok) => .ok w2
      else .ok w1
  | _, _ => .error .index

def gtAssignAll (w : World α) : List (String × XR α) → Except Err (World α)
  | [] => .ok w
  | (nm, x) :: rest => match gtAssign w nm x with
    | .error e => .error e
    | .ok w' => gtAssignAll w' rest

/-- `get_transform(name, **kw)`: unknown name -> ValueError; constructor arguments split off; the remaining keywords
assigned in order -/
def getTransform (eps : α) (K : TConsts α) (name : String) (kw : List (String × XR α)) :
    Except Err (TClass × World α) :=
  match TClass.ofName? name with
  | none => .error .unknownClass
  | some cls =>
    match cinit eps K cls (gtArgs K cls kw) with
    | .error e => .error e
    | .ok w =>
      match gtAssignAll w (kw.filter fun kv => !cls.ctorKeys.contains kv.1) with
      | .error e => .error e
      | .ok w' => .ok (cls, w')

/-! ### a process holding several instances, built by class -/

/-- `Class(**args)` next to the live instances -/
def maddC (eps : α) (K : TConsts α) (m : MWorld α) (cls : TClass) (a : CArgs α) : Except Err (MWorld α) :=
  match classSpecs K cls a with
  | .error e => .error e
  | .ok (p, c, b) => madd eps m cls.kind p c b

/-- one event of a multi-instance history: a construction (accepted or not) or an operation on the `i`-th instance -/
inductive MOp (α : Type) where
  | new (cls : TClass) (a : CArgs α)
  | at (i : Nat) (op : TOp α)

def mstepC (eps : α) (K : TConsts α) (m : MWorld α) : MOp α → MWorld α × Out
  | .new cls a => match maddC eps K m cls a with
    | .error e => (m, .rejected e)
    | .ok m' => (m', .ok)
  | .at i op => mstep eps m i op

def mrun (eps : α) (K : TConsts α) (m : MWorld α) : List (MOp α) → MWorld α
  | [] => m
  | op :: ops => mrun eps K (mstepC eps K m op).1 ops

end
end HydroVerif.C12
