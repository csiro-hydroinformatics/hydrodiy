/-
C18 — object-level model of a `Catchment` receiver: which array each attribute refers to (or `None`), which
attributes refer to the SAME array, and what every public method does to them — including every way a method
can stop half-way (the fault sites of `delineate_area`, `delineate_boundary`, `compute_flowpathlengths`).

`Model/C18.lean` follows buffers INSIDE one wrapper call; this file follows the receiver ACROSS calls: a history is
a list of `Op`s.  Data-dependent choices (does the kernel return an error? is the area empty?) are parameters of
the operation (`AreaOut`; `KernOut` for `delineate_boundary` and `compute_flowpathlengths`): the theorems quantify over
all of them, the driver is given the outcome observed on the real object and predicts everything else (slots that are `None`, aliasing between
attributes, which contents may have changed, whether the call raises).

gis/grid.py (Catchment):
* `delineate_area` 1214-1280: `_idxcell_outlet = np.int64(..)`; `_idxinlets = atleast_1d(..).astype(int64)` when given
  (and `None` otherwise, after fix-C18); work vectors; kernel; `ierr > 0` ⇒ `_idxcells_area = _idxcells_area_filled
  = None`, raise; `_idxcells_area = idxcells[idx]`; `idx.sum() > 0` ⇒ `_idxcells_area_filled = <new array>` else
  `_idxcells_area_filled = _idxcells_area` (the SAME, zero-length, array).
* `delineate_boundary` 1282-1343: guard `_idxcells_area is None`; `c_delineate_boundary` qsorts
  `_idxcells_area_filled` IN PLACE (c_catchment.c:192, after the `nval < 1` test); stores `_idxcells_boundary`,
  `_xycells_boundary` at the very end.
* `compute_flowpathlengths` 1345-1365: reads `idxcells_area`, `idxcell_outlet` (both raise when `None`), stores
  `_flowpathlengths` at the very end.
* every other public method / accessor only reads; accessors hand out the attribute's own array, which the caller
  may then overwrite in place (`callerEdit`).
No Mathlib.  Total and computable; the driver runs `orun` with the marking instance `omarkSem`.
-/
import HydroVerif.Model.C18
namespace HydroVerif.C18

/-- the attributes of a Catchment that hold arrays (the outlet is a numpy scalar object; the flow-direction
grid is a private clone made by the constructor and never re-assigned) -/
inductive Field
  | outlet | inlets | area | filled | boundary | xyboundary | fpl
  deriving DecidableEq, Repr

def Field.all : List Field := [.outlet, .inlets, .area, .filled, .boundary, .xyboundary, .fpl]

def Field.idx : Field → Nat
  | .outlet => 0 | .inlets => 1 | .area => 2 | .filled => 3 | .boundary => 4 | .xyboundary => 5 | .fpl => 6

/-- the receiver: per attribute `none` (Python `None`) or the buffer it refers to; `zero` = buffers with no
element (a store into them changes nothing); `next` = allocator -/
structure Obj where
  slot : Field → Option Buf
  zero : List Buf
  next : Nat

def Obj.set (o : Obj) (f : Field) (v : Option Buf) : Obj :=
  { o with slot := fun g => if g = f then v else o.slot g }

/-- a Catchment as built by the constructor: every attribute `None` -/
def Obj.new : Obj := ⟨fun _ => none, [], 0⟩

/-- what the data decide in `delineate_area` -/
inductive AreaOut
  /-- `np.int64(idxcell_outlet)` raises: nothing has been assigned -/
  | badOutlet
  /-- the conversion of `idxinlets` raises: the outlet has been assigned -/
  | badInlets
  /-- allocating the work vectors raises (`nval` negative / not an integer), or the extension function rejects an
      argument before the kernel runs (an outlet that is not a scalar): outlet and inlets assigned -/
  | badNval
  /-- the kernel returns an error (outlet or inlet outside the grid, `nval` too small): area and filled area set
      to `None`, `ValueError` -/
  | kernelError
  /-- no cell found: `_idxcells_area_filled = _idxcells_area`, one zero-length array -/
  | empty
  /-- the usual case: two new arrays -/
  | cells
  deriving DecidableEq, Repr

/-- what the data decide in `delineate_boundary` / `compute_flowpathlengths` (the `is None` guards are decided by
the state, not by the data) -/
inductive KernOut | ok | kernelError
  deriving DecidableEq, Repr

inductive Op
  /-- `delineate_area(outlet, idxinlets, nval)`; `arg` names the argument values -/
  | delineateArea (withInlets : Bool) (arg : Nat) (o : AreaOut)
  /-- `delineate_boundary(catchment_area_mask)`; `mask` names the caller's mask (`none`: built inside) -/
  | delineateBoundary (mask : Option Nat) (o : KernOut)
  | computeFpl (o : KernOut)
  /-- accessors and read-only methods: `idxcells_area` …, `intersect`, `extent`, `isin`, `to_dict`, `upstream`,
      `downstream`, `compute_area`, `plot_area`, `plot_boundary`, `clone`, `+`, `-` -/
  | read (f : Field)
  /-- the caller overwrites in place the array the accessor of `f` handed out -/
  | callerEdit (f : Field)
  deriving DecidableEq, Repr

/-- contents semantics: what the kernels compute, as arbitrary functions of the contents they read -/
structure OSem (α : Type) where
  outlet : Nat → α
  inlets : Nat → α
  area : Nat → α
  fill : α → α
  emptyArr : α
  sort : α → α
  boundary : α → Option Nat → α
  xy : α → α
  fpl : α → α → α
  edit : α → α

structure OState (α : Type) where
  obj : Obj
  mem : Mem α
  /-- the last operation raised -/
  raised : Bool

/-- `self.f = <new array holding v>` -/
def OState.alloc {α} (s : OState α) (f : Field) (v : α) : OState α :=
  { s with obj := { (s.obj.set f (some (.fresh s.obj.next))) with next := s.obj.next + 1 },
           mem := memSet s.mem (.fresh s.obj.next) v }

def OState.fail {α} (s : OState α) : OState α := { s with raised := true }
def OState.done {α} (s : OState α) : OState α := { s with raised := false }

/-- in-place store into the array of `b` (nothing happens to an array without elements) -/
def OState.store {α} (s : OState α) (b : Buf) (g : α → α) : OState α :=
  if s.obj.zero.contains b then s else { s with mem := memSet s.mem b (g (s.mem b)) }

/-- `delineate_area` up to the kernel call: `self._idxcell_outlet = np.int64(..)`; idxinlets given: a converted copy,
not given: `None` (fix-C18: the attribute used to keep the value of an earlier call) -/
def areaPrologue {α} (sem : OSem α) (s : OState α) (wi : Bool) (arg : Nat) : OState α :=
  let s1 := s.alloc .outlet (sem.outlet arg)
  if wi then s1.alloc .inlets (sem.inlets arg) else { s1 with obj := s1.obj.set .inlets none }

def ostep {α} (sem : OSem α) (s : OState α) : Op → OState α
  | .delineateArea wi arg o =>
    match o with
    | .badOutlet => s.fail
    | .badInlets => (s.alloc .outlet (sem.outlet arg)).fail
    | .badNval => (areaPrologue sem s wi arg).fail
    | .kernelError =>
      let s2 := areaPrologue sem s wi arg
      { s2 with obj := (s2.obj.set .area none).set .filled none, raised := true }
    | .empty =>
      let s2 := areaPrologue sem s wi arg
      let s3 := s2.alloc .area sem.emptyArr
      -- self._idxcells_area_filled = self._idxcells_area : the same zero-length array
      { s3 with obj := { (s3.obj.set .filled (some (.fresh s2.obj.next))) with
                         zero := .fresh s2.obj.next :: s3.obj.zero }, raised := false }
    | .cells =>
      let s3 := (areaPrologue sem s wi arg).alloc .area (sem.area arg)
      (s3.alloc .filled (sem.fill (sem.area arg))).done
  | .delineateBoundary mask o =>
    match s.obj.slot .area, s.obj.slot .filled with
    | some _, some b =>
      if s.obj.zero.contains b then s.fail          -- nval < 1: the kernel returns before the sort
      else
        let s1 := s.store b sem.sort                -- qsort(idxcells_area, …) on the receiver's own array
        match o with
        | .kernelError => s1.fail
        | .ok =>
          let bnd := sem.boundary (s1.mem b) mask
          ((s1.alloc .boundary bnd).alloc .xyboundary (sem.xy bnd)).done
    | _, _ => s.fail
  | .computeFpl o =>
    match s.obj.slot .area, s.obj.slot .outlet with
    | some a, some out =>
      match o with
      | .kernelError => s.fail
      | .ok => (s.alloc .fpl (sem.fpl (s.mem out) (s.mem a))).done
    | _, _ => s.fail
  | .read _ => s.done
  | .callerEdit f =>
    match s.obj.slot f with
    | some b => (s.store b sem.edit).done
    | none => s.done

def orunFrom {α} (sem : OSem α) (s : OState α) (ops : List Op) : OState α := ops.foldl (ostep sem) s

/-- a history on a new Catchment (the contents of the heap before are irrelevant: every buffer read is allocated
by an earlier operation) -/
def orun {α} (sem : OSem α) (ops : List Op) (m0 : Mem α) : OState α := orunFrom sem ⟨Obj.new, m0, false⟩ ops

/-- the contents an accessor hands out -/
def OState.content {α} (s : OState α) (f : Field) : Option α := (s.obj.slot f).map s.mem

/-- attributes an operation may re-assign or whose array it may store into (the documented effect) -/
def Op.writes : Op → List Field
  | .delineateArea _ _ _ => [.outlet, .inlets, .area, .filled]
  | .delineateBoundary _ _ => [.filled, .boundary, .xyboundary]
  | .computeFpl _ => [.fpl]
  | .read _ => []
  | .callerEdit f => [f]

/-- attributes an operation reads -/
def Op.reads : Op → List Field
  | .delineateArea _ _ _ => []
  | .delineateBoundary _ _ => [.area, .filled]
  | .computeFpl _ => [.area, .outlet]
  | .read f => [f]
  | .callerEdit f => [f]

/-- marking instance run by the driver: contents are counters, every new array starts at 0 and every in-place store
(the sort of `delineate_boundary`, a caller's edit) adds one -/
def omarkSem : OSem Nat :=
  { outlet := fun _ => 0, inlets := fun _ => 0, area := fun _ => 0, fill := fun _ => 0, emptyArr := 0,
    sort := (· + 1), boundary := fun _ _ => 0, xy := fun _ => 0, fpl := fun _ _ => 0, edit := (· + 1) }

/-- an instance with an idempotent sort (contents abstracted to a number, sorting sets bit 0), for the examples -/
def idemSem : OSem Nat :=
  { omarkSem with sort := fun x => x ||| 1, area := fun _ => 6, fill := fun a => a + 2, boundary := fun f _ => 10 * f }

/-- the r7-style edit kept as a named term: an area without holes shares ONE array between `_idxcells_area` and
`_idxcells_area_filled` (instead of two) — the state it produces -/
def sharedAreaState {α} (v : α) : OState α :=
  ⟨⟨fun f => match f with | .outlet => some (.fresh 0) | .area => some (.fresh 1) | .filled => some (.fresh 1)
                          | _ => none, [], 2⟩, fun _ => v, false⟩

end HydroVerif.C18
