/-
C07 — model of the grid geometry routines of `hydrodiy/gis/c_grid.c` and their `Grid.*` wrappers:
`getnxy`, `getcoord`, `c_coord2cell`, `c_cell2rowcol`, `c_cell2coord`, `c_neighbours`,
`Grid.xvalues / yvalues / xlim / ylim`.

No Mathlib. Everything is total and computable; the driver runs these definitions at `Float`
(IEEE double, as the kernels) and at `Rat` (exact).

The file has two parts with stable names, imported by the models of C05 (the index guards), C06 (delineation), C11
(accumulation), C13 (clip) and C16 (intersection):

* PART 1 — integer grid core: cell number <-> (row, col), validity guard, neighbour table.
  C `long long` is `Int`; C `%` and `/` are `Int.tmod` / `Int.tdiv` (truncated), as in C99.
* PART 2 — coordinates, generic over the numeric type `α` through the class `Trunc`
  (`(double) n`, the C cast `(long long) x` = truncation toward zero, and `(long long) floor(x)`).

Index lemmas (no Mathlib needed by users beyond what the file imports): `HydroVerif/Lemmas/C07Grid.lean`.
-/
namespace HydroVerif.C07

/-! ## PART 1 — integer grid core (cells, rows, columns, neighbours) -/

inductive Err
  /-- `GRID_ERROR + __LINE__` of `c_neighbours`: the cell number is outside `0 .. nrows*ncols-1` -/
  | badCell
  deriving DecidableEq, Repr

/-- the guard of `c_cell2rowcol`, `c_cell2coord` and `c_neighbours`: `!(icell<0 || icell>=nrows*ncols)` -/
def validCell (nrows ncols idx : Int) : Bool :=
  !(decide (idx < 0) || decide (idx ≥ nrows * ncols))

/-- `nxy[0] = idxcell % ncols` (C remainder: truncated, sign of the dividend) -/
def colOf (ncols idx : Int) : Int := idx.tmod ncols

/-- `nxy[1] = (idxcell - nxy[0]) / ncols` (C division: truncated); rows are counted from the top -/
def rowOf (ncols idx : Int) : Int := (idx - colOf ncols idx).tdiv ncols

/-- `getnxy`: `(nxy[0], nxy[1]) = (column, row)`. The C code divides by `ncols` with no guard:
`ncols = 0` is a SIGFPE there; every caller modelled here reaches `getnxy` only behind `validCell`,
which excludes `ncols = 0` (lemma `validCell_ncols_ne_zero`). -/
def getnxy (ncols idx : Int) : Int × Int := (colOf ncols idx, rowOf ncols idx)

/-- row-major numbering from the top-left corner: `ny*ncols + nx` -/
def cellOf (ncols row col : Int) : Int := row * ncols + col

/-- one entry of `c_cell2rowcol`: `(row, col)`, or `(-1, -1)` for an invalid cell number -/
def cell2rowcol (nrows ncols idx : Int) : Int × Int :=
  if validCell nrows ncols idx then (rowOf ncols idx, colOf ncols idx) else (-1, -1)

/-- body of the double loop of `c_neighbours` for the offsets `(ix, iy)` (column, row offset) -/
def nbCell (nrows ncols idx ix iy : Int) : Int :=
  if ix = 0 ∧ iy = 0 then -1
  else
    let nx := colOf ncols idx + ix
    let ny := rowOf ncols idx + iy
    if nx < 0 ∨ nx > ncols - 1 ∨ ny < 0 ∨ ny > nrows - 1 then -1
    else ny * ncols + nx

/-- column offset of position `k` in the neighbour vector (`k = 1+ix+(1+iy)*3`)
```
0 1 2
3 X 5
6 7 8
``` -/
def nbDx (k : Nat) : Int := ((k % 3 : Nat) : Int) - 1
/-- row offset of position `k` -/
def nbDy (k : Nat) : Int := ((k / 3 : Nat) : Int) - 1

/-- entry `k` (0..8) of the neighbour vector of a *valid* cell; `-1` = centre or off-grid -/
def neighbour (nrows ncols idx : Int) (k : Nat) : Int :=
  nbCell nrows ncols idx (nbDx k) (nbDy k)

/-- `c_neighbours`: error for an invalid cell, else the 9 entries in the order the double loop
(`iy` outer, `ix` inner, both `-1..1`) stores them at `k = 1+ix+(1+iy)*3` -/
def cNeighbours (nrows ncols idx : Int) : Except Err (List Int) :=
  if validCell nrows ncols idx then
    .ok (([-1, 0, 1] : List Int).flatMap fun iy =>
          ([-1, 0, 1] : List Int).map fun ix => nbCell nrows ncols idx ix iy)
  else .error .badCell

/-! ## PART 2 — coordinates (generic numeric type) -/

/-- what the coordinate routines need beyond `+ - * /`: the two C conversions -/
class Trunc (α : Type) where
  /-- `(double) n` -/
  ofInt : Int → α
  /-- the C cast `(long long) x`: truncation toward zero -/
  truncToInt : α → Int
  /-- `(long long) floor(x)` -/
  floorToInt : α → Int

/-- `INT64_MIN`, the x86-64 "integer indefinite" produced by `cvttsd2si` for NaN and out-of-range values -/
def i64min : Int := -9223372036854775808

/-- `(long long) x` for a double as compiled for x86-64 -/
def floatToI64 (x : Float) : Int :=
  if x.isNaN || x ≥ 9223372036854775808.0 || x < -9223372036854775808.0 then i64min
  else x.toInt64.toInt

instance truncFloat : Trunc Float where
  ofInt := Float.ofInt
  truncToInt := floatToI64
  floorToInt x := floatToI64 x.floor

instance truncRat : Trunc Rat where
  ofInt n := (n : Rat)
  truncToInt x := if 0 ≤ x then x.floor else -((-x).floor)
  floorToInt x := x.floor

/-- grid geometry: `Grid._getsize()` -/
structure Geom (α : Type) where
  nrows : Int
  ncols : Int
  xll : α
  yll : α
  csz : α

section Coord
variable {α : Type} [Add α] [Sub α] [Mul α] [Div α] [OfNat α 1] [Trunc α]

/-- the literal `0.5` (exactly representable: `1/(1+1)`) -/
def half : α := 1 / (1 + 1)

/-- `getcoord`: centre of cell `idx` (not guarded):
`x = xll+csz*((double)nxy[0]+0.5)`, `y = yll+csz*((double)(nrows-1-nxy[1])+0.5)` -/
def getcoord (g : Geom α) (idx : Int) : α × α :=
  (g.xll + g.csz * (Trunc.ofInt (colOf g.ncols idx) + half),
   g.yll + g.csz * (Trunc.ofInt (g.nrows - 1 - rowOf g.ncols idx) + half))

/-- one entry of `c_cell2coord`; `none` = `(NaN, NaN)` for an invalid cell number -/
def cell2coord (g : Geom α) (idx : Int) : Option (α × α) :=
  if validCell g.nrows g.ncols idx then some (getcoord g idx) else none

/-- range test and numbering shared by both variants of `c_coord2cell` -/
def cellOfNxNy (nrows ncols nx ny : Int) : Int :=
  if nx < 0 ∨ nx ≥ ncols ∨ ny < 0 ∨ ny ≥ nrows then -1 else ny * ncols + nx

/-- one entry of `c_coord2cell` in its cast-first form (/repo a909179: `floor`, the casts, then the range test on the
integers): `nx = (long long)floor((x-xll)/csz)`, `ny = nrows-1-(long long)floor((y-yll)/csz)`. Since /repo c8d188e the
code tests the extent on the floored doubles before the casts: that text is `coord2cellK` of `Model/C07Kernel.lean`, and
the two forms agree over every ordered field with floor (`Props/C07.lean: coord2cellK_eq_coord2cell`). The models of
C13 and C16 use this form -/
def coord2cell (g : Geom α) (x y : α) : Int :=
  let nx := Trunc.floorToInt ((x - g.xll) / g.csz)
  let ny := g.nrows - 1 - Trunc.floorToInt ((y - g.yll) / g.csz)
  cellOfNxNy g.nrows g.ncols nx ny

/-- `c_coord2cell` as it was at the pinned commit (bare cast, truncation toward zero). Kept so that
the finding is a theorem (`Props/C07.lean: coord2cellTrunc_left_strip`) and for replay diagnostics. -/
def coord2cellTrunc (g : Geom α) (x y : α) : Int :=
  let nx := Trunc.truncToInt ((x - g.xll) / g.csz)
  let ny := g.nrows - 1 - Trunc.truncToInt ((y - g.yll) / g.csz)
  cellOfNxNy g.nrows g.ncols nx ny

/-- `Grid.xvalues`: x of `cell2coord(arange(ncols))` -/
def xvalues (g : Geom α) : List (Option α) :=
  (List.range g.ncols.toNat).map fun (j : Nat) => (cell2coord g (j : Int)).map (·.1)

/-- `Grid.yvalues`: y of `cell2coord(arange(0, nrows*ncols, ncols))` (for `ncols = 0` numpy raises on the zero step; the
model is total there, and the theorems assume `0 < ncols`) -/
def yvalues (g : Geom α) : List (Option α) :=
  (List.range g.nrows.toNat).map fun (i : Nat) => (cell2coord g ((i : Int) * g.ncols)).map (·.2)

/-- `Grid.xlim = (xllcorner, xllcorner + ncols*cellsize)` -/
def xlim (g : Geom α) : α × α := (g.xll, g.xll + Trunc.ofInt g.ncols * g.csz)
/-- `Grid.ylim = (yllcorner, yllcorner + nrows*cellsize)` -/
def ylim (g : Geom α) : α × α := (g.yll, g.yll + Trunc.ofInt g.nrows * g.csz)

end Coord

end HydroVerif.C07
