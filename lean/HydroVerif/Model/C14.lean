/-
C14 — model of `c_var2h` (src/hydrodiy/data/c_var2h.c) and of the origin / size arithmetic of
`dutils.var2h` (src/hydrodiy/data/dutils.py).

Time stamps are `Int` seconds (C `long long`); they are cast to the numeric type `α` (C `double`) at
exactly the places where the kernel casts them.  A value is `Option α`: `none` is NaN (the kernel tests
`isnan`).  The model is generic over `α`: `Float` in the driver (IEEE double like the kernel), core `Rat`
(exact) and any ordered field / ℝ in the theorems.  No Mathlib.

The kernel's pointer walk is written over the *suffix* of the observation list that starts at
`varindex`: `(a, rest)` stands for `varindex` pointing at `a` with `rest` the observations after it,
so `varsec[varindex+1]` is the head of `rest`.  `varindex++` drops the head, the `varindex--` rewind
after the `while` is "return the suffix of the last interval processed".
-/
import HydroVerif.Num
namespace HydroVerif.C14

/-- error returns of the kernel (`VAR2H_ERROR + __LINE__`), by guard; in the state `noInterval` the C
code would read past the end of its arrays; in `emptyWalk` it would store `0.0` for the period and step `varindex` back,
before the head of the arrays if it was 0 (read by a later period).  Both are unreachable (`Props/C14.lean`: `kernel_total`,
and `kernel_total_any_arith` for an arithmetic with exact whole seconds). -/
inductive Err
  | badRainfall      -- rainfall ∉ {0,1}
  | badPeriod        -- nbsec_per_period ∉ {1800, 3600}
  | startBeforeData  -- `varindex < 0` after the start scan (also: fewer than 2 observations)
  | decreasing       -- `t2 < t1` met during the walk
  | emptyWalk        -- `while(t1<end)` would not run once (then `varindex--` would step before the head)
  | noInterval       -- `varsec[varindex+1]` would be read past the end
  | badMaxgap        -- wrapper: maxgapsec < 3600
  | tooShort         -- wrapper: no observation / negative size
  | lengthMismatch   -- Cython entry point: `assert nvalvar == varvalues.shape[0]`
  deriving DecidableEq, Repr

/-- one observation: epoch second and value -/
abbrev Obs (α : Type) := Int × Option α

/-- the scalar arguments of the kernel. `eps` is the literal `1e-8` used in both tolerance tests. -/
structure Cfg (α : Type) where
  P : Int          -- nbsec_per_period
  rain : Int       -- rainfall flag
  maxgap : Int     -- maxgapsec
  eps : α

section numeric
variable {α : Type} [Add α] [Sub α] [Mul α] [Div α] [Neg α] [LT α] [DecidableLT α]
  [OfNat α 0] [OfNat α 2] [IntCast α]

/-- line 118: `val1<-1e-8 || val2<-1e-8 || t2-t1>maxgapsec || isnan(val2) || isnan(val1)` -/
def invalid (c : Cfg α) (a b : Obs α) : Bool :=
  match a.2, b.2 with
  | some v1, some v2 =>
    decide (v1 < -c.eps) || decide (v2 < -c.eps) || decide ((c.maxgap : α) < (b.1 : α) - (a.1 : α))
  | _, _ => true

/-- lines 123-124: the interval clipped to the period, `it1 = t1<start ? start : t1` -/
def clipLo (s : α) (a : Obs α) : α := if (a.1 : α) < s then s else (a.1 : α)
/-- `it2 = t2>end ? end : t2` -/
def clipHi (e : α) (b : Obs α) : α := if e < (b.1 : α) then e else (b.1 : α)

/-- lines 127-143: what is added to `hvalue` for the interval `(a, b)` in the period `[s, e)`;
`none` = nothing is added (`it2-it1 <= 1e-8`), or a value is NaN (the period is then missing anyway). -/
def piece (c : Cfg α) (s e : α) (a b : Obs α) : Option α :=
  let it1 := clipLo s a
  let it2 := clipHi e b
  if c.eps < it2 - it1 then
    match a.2, b.2 with
    | some v1, some v2 =>
      let t1 : α := (a.1 : α)
      let t2 : α := (b.1 : α)
      if c.rain = 1 then
        some (v2 * (it2 - it1) / (t2 - t1) * (c.P : α))
      else
        let sl := (v2 - v1) / (t2 - t1)
        let vi1 := sl * (it1 - t1) + v1
        let vi2 := sl * (it2 - t1) + v1
        some ((vi2 + vi1) * (it2 - it1) / 2)
    | _, _ => none
  else none

/-- `hvalue += ...` -/
def addPiece (h : α) : Option α → α
  | some x => h + x
  | none => h

/-- the `while(t1<end)` loop (lines 100-156) once it has been entered, with `varindex` at `a`.
Returns `((hvalue, miss), suffix after the rewind)`.  The `break` when the observations run out
marks the period missing if they end before the period does. -/
def walk (c : Cfg α) (s e : α) : Obs α → List (Obs α) → α × Bool →
    Except Err ((α × Bool) × (Obs α × List (Obs α)))
  | _, [], _ => .error .noInterval
  | a, b :: rest, (h, m) =>
    if (b.1 : α) < (a.1 : α) then .error .decreasing
    else
      let m' := m || invalid c a b
      let h' := addPiece h (piece c s e a b)
      match rest with
      | [] => .ok ((h', m' || decide ((b.1 : α) < e)), (a, [b]))
      | _ :: _ =>
        if (b.1 : α) < e then walk c s e b rest (h', m')
        else .ok ((h', m'), (a, b :: rest))

/-- start and end of period `i` (lines 83-84): the integer sum is cast, then the period added -/
def pStart (c : Cfg α) (hstart : Int) (i : Nat) : α := ((hstart + (i : Int) * c.P : Int) : α)
def pEnd (c : Cfg α) (hstart : Int) (i : Nat) : α := pStart c hstart i + (c.P : α)

/-- one iteration of the `for` loop: `hvalues[i]` and the new position -/
def period (c : Cfg α) (hstart : Int) (i : Nat) (suf : Obs α × List (Obs α)) :
    Except Err (Option α × (Obs α × List (Obs α))) :=
  let s := pStart c hstart i
  let e := pEnd c hstart i
  if (suf.1.1 : α) < e then
    match walk c s e suf.1 suf.2 (0, false) with
    | .error x => .error x
    | .ok ((h, m), suf') => .ok (if m then none else some (h / (c.P : α)), suf')
  else .error .emptyWalk

/-- the `for(i=0; i<nvalh-1; i++)` loop: `n` periods starting with number `i` -/
def loop (c : Cfg α) (hstart : Int) : Nat → Nat → Obs α × List (Obs α) → Except Err (List (Option α))
  | 0, _, _ => .ok []
  | n + 1, i, suf =>
    match period c hstart i suf with
    | .error x => .error x
    | .ok (h, suf') =>
      match loop c hstart n (i + 1) suf' with
      | .error x => .error x
      | .ok hs => .ok (h :: hs)

end numeric

/-- lines 54-56 (bounded by `nvalvar-1`): with `a.1 ≤ hstart` already known, advance while the next
observation is not the last one and is not later than `hstart`; the result is `varindex` after `varindex--` -/
def scanFrom {α : Type} (hstart : Int) : Obs α → List (Obs α) → Obs α × List (Obs α)
  | a, [] => (a, [])
  | a, b :: rest =>
    match rest with
    | [] => (a, [b])
    | _ :: _ => if b.1 ≤ hstart then scanFrom hstart b rest else (a, b :: rest)

/-- the start scan: `none` = `varindex < 0` -/
def startScan {α : Type} (hstart : Int) : List (Obs α) → Option (Obs α × List (Obs α))
  | a :: b :: rest => if a.1 ≤ hstart then some (scanFrom hstart a (b :: rest)) else none
  | _ => none

section numeric
variable {α : Type} [Add α] [Sub α] [Mul α] [Div α] [Neg α] [LT α] [DecidableLT α]
  [OfNat α 0] [OfNat α 2] [IntCast α]

/-- `c_var2h`: the values written to `hvalues[0 .. nvalh-2]` (`hvalues[nvalh-1]` is never written) -/
def kernel (c : Cfg α) (hstart : Int) (nvalh : Int) (obs : List (Obs α)) : Except Err (List (Option α)) :=
  if c.rain < 0 ∨ 1 < c.rain then .error .badRainfall
  else if c.P ≠ 1800 ∧ c.P ≠ 3600 then .error .badPeriod
  else match startScan hstart obs with
    | none => .error .startBeforeData
    | some suf => loop c hstart (nvalh - 1).toNat 0 suf

/-! ### the control skeleton of the kernel: which periods are missing, in whole-second arithmetic only

Everything that decides whether a period is missing is a comparison between whole seconds or the validity test of
one interval.  `marks` keeps, of every observation, its stamp and "the interval that ends here is invalid" (the
kernel's own test, evaluated in the arithmetic at hand); `kernelMiss` is the pointer walk on these marks with the
numbers erased.  `Props/C14.lean` (`missing_pattern_is_skeleton`) shows that the kernel's missing pattern is
`kernelMiss` of the marks in every arithmetic in which whole seconds are cast, added and subtracted exactly —
no law of multiplication, division or rounding is used. -/

/-- stamp, and whether the interval ending at this observation is invalid -/
abbrev Mark := Int × Bool

def marksFrom (c : Cfg α) : Obs α → List (Obs α) → List Mark
  | _, [] => []
  | a, b :: r => (b.1, invalid c a b) :: marksFrom c b r

def marks (c : Cfg α) : List (Obs α) → List Mark
  | [] => []
  | a :: l => (a.1, false) :: marksFrom c a l

/-- a rational stand-in for an observation: same stamp, same validity class of the value
(missing / below `-eps` / acceptable); `Props/C14.lean` (`missing_pattern_same_as_exact`): the exact-rational kernel
on the stand-ins has the missing pattern of the kernel in the arithmetic at hand -/
def toQ (c : Cfg α) (x : Obs α) : Obs Rat := (x.1, x.2.map fun v => if v < -c.eps then (-1 : Rat) else 0)

/-- the same scalar arguments with the kernel's literal tolerance as an exact rational -/
def cfgQ (c : Cfg α) : Cfg Rat := ⟨c.P, c.rain, c.maxgap, 1 / 100000000⟩

end numeric

/-- the `while(t1<end)` loop on marks: the `miss` flag and the suffix after the rewind -/
def walkM (E : Int) : Mark → List Mark → Bool → Except Err (Bool × (Mark × List Mark))
  | _, [], _ => .error .noInterval
  | a, b :: rest, m =>
    if b.1 < a.1 then .error .decreasing
    else
      let m' := m || b.2
      match rest with
      | [] => .ok (m' || decide (b.1 < E), (a, [b]))
      | _ :: _ => if b.1 < E then walkM E b rest m' else .ok (m', (a, b :: rest))

def periodM (P hstart : Int) (i : Nat) (suf : Mark × List Mark) : Except Err (Bool × (Mark × List Mark)) :=
  let E := hstart + (i : Int) * P + P
  if suf.1.1 < E then walkM E suf.1 suf.2 false else .error .emptyWalk

def loopM (P hstart : Int) : Nat → Nat → Mark × List Mark → Except Err (List Bool)
  | 0, _, _ => .ok []
  | n + 1, i, suf =>
    match periodM P hstart i suf with
    | .error x => .error x
    | .ok (m, suf') =>
      match loopM P hstart n (i + 1) suf' with
      | .error x => .error x
      | .ok ms => .ok (m :: ms)

def scanFromM (hstart : Int) : Mark → List Mark → Mark × List Mark
  | a, [] => (a, [])
  | a, b :: rest =>
    match rest with
    | [] => (a, [b])
    | _ :: _ => if b.1 ≤ hstart then scanFromM hstart b rest else (a, b :: rest)

def startScanM (hstart : Int) : List Mark → Option (Mark × List Mark)
  | a :: b :: rest => if a.1 ≤ hstart then some (scanFromM hstart a (b :: rest)) else none
  | _ => none

/-- the missing pattern of `c_var2h` for periods `0 .. nvalh-2` (`true` = missing) -/
def kernelMiss (P rain hstart nvalh : Int) (ms : List Mark) : Except Err (List Bool) :=
  if rain < 0 ∨ 1 < rain then .error .badRainfall
  else if P ≠ 1800 ∧ P ≠ 3600 then .error .badPeriod
  else match startScanM hstart ms with
    | none => .error .startBeforeData
    | some suf => loopM P hstart (nvalh - 1).toNat 0 suf

section numeric
variable {α : Type} [Add α] [Sub α] [Mul α] [Div α] [Neg α] [LT α] [DecidableLT α]
  [OfNat α 0] [OfNat α 2] [IntCast α]

/-! ### wrapper arithmetic (`dutils.var2h`): the epoch seconds of the stamps are a parameter -/

/-- `datetime(y, m, d, h) + 1 hour` in epoch seconds: the first whole hour after the first stamp -/
def origin (first : Int) : Int := first / 3600 * 3600 + 3600

/-- `np.int32((end - start).total_seconds() / nbsec_per_period)` (truncation) -/
def nvalhOf (first last P : Int) : Int := Int.tdiv (last - first) P

/-- `dutils.var2h`: origin and the `nvalh` values of the returned series (the last one is the NaN
the array was allocated with) -/
def wrapper (c : Cfg α) (obs : List (Obs α)) : Except Err (Int × List (Option α)) :=
  if c.P ≠ 1800 ∧ c.P ≠ 3600 then .error .badPeriod
  else if c.maxgap < 3600 then .error .badMaxgap
  else match obs.head?, obs.getLast? with
    | some f, some l =>
      let hstart := origin f.1
      let nvalh := nvalhOf f.1 l.1 c.P
      if nvalh < 0 then .error .tooShort
      else match kernel c hstart nvalh obs with
        | .error x => .error x
        | .ok hs => .ok (hstart, if nvalh = 0 then [] else hs ++ [none])
    | _, _ => .error .tooShort

/-- `maxgapsec = np.int32(maxgapsec)` for a Python number (int or float) given as an exact rational: truncation
towards zero -/
def maxgapOfArg (q : Rat) : Int := Int.tdiv q.num (q.den : Int)

/-- `dutils.var2h(se, nbsec_per_period, maxgapsec, rainfall)` with `maxgapsec` as passed -/
def wrapperArg (P rain : Int) (maxgapArg : Rat) (eps : α) (obs : List (Obs α)) : Except Err (Int × List (Option α)) :=
  wrapper ⟨P, rain, maxgapOfArg maxgapArg, eps⟩ obs

/-! ### the returned series: values with their time labels (`pd.Series(hvalues, index=date_range(...))`) -/

/-- `freq = "h" if nbsec_per_period == 3600 else "30min"`: the spacing of the returned index in seconds
(the `else` branch is taken for every period other than 3600 — only 1800 gets past the first guard) -/
def freqSec (P : Int) : Int := if P = 3600 then 3600 else 1800

/-- `pd.date_range(hstart, freq=freq, periods=n)` in epoch seconds (wall clock, time-zone naive) -/
def labels (hstart P : Int) (n : Nat) : List Int := (List.range n).map fun (i : Nat) => hstart + (i : Int) * freqSec P

/-- what `dutils.var2h` returns: the series of `(label, value)` pairs, label = epoch second of the time stamp
the value is attached to ("data are mapped to the beginning of the time stamp") -/
def wrapperSeries (c : Cfg α) (obs : List (Obs α)) : Except Err (List (Int × Option α)) :=
  match wrapper c obs with
  | .error x => .error x
  | .ok (hstart, vals) => .ok ((labels hstart c.P vals.length).zip vals)

/-! ### the index as it is stored: unit and time zone

A `DatetimeIndex` stores, for every stamp, an int64 count `raw` of ticks of its unit since the epoch — of
the UTC instant when the index is time-zone aware.  `tz_localize(None)` turns it into the wall-clock
reading (adds the zone's UTC offset at that instant, in ticks), `.astype("datetime64[s]")` floors to whole
seconds.  The UTC offset of stamp i (seconds; 0 for a naive index) is a parameter. -/

inductive TUnit | s | ms | us | ns
  deriving DecidableEq, Repr

/-- ticks per second -/
def TUnit.perSec : TUnit → Int
  | .s => 1
  | .ms => 1000
  | .us => 1000000
  | .ns => 1000000000

/-- `index.tz_localize(None).values.astype("datetime64[s]").astype(np.int64)` for one stamp -/
def wallSec (u : TUnit) (raw off : Int) : Int := (raw + off * u.perSec) / u.perSec

/-- one stored stamp: raw count, UTC offset in seconds, value -/
abbrev Stamp (α : Type) := Int × Int × Option α

/-- the observations the wrapper hands to the kernel -/
def obsOfIndex (u : TUnit) (l : List (Stamp α)) : List (Obs α) :=
  l.map fun st => (wallSec u st.1 st.2.1, st.2.2)

/-- `dutils.var2h` on a series whose index is stored in unit `u` -/
def wrapperIdx (c : Cfg α) (u : TUnit) (l : List (Stamp α)) : Except Err (Int × List (Option α)) :=
  wrapper c (obsOfIndex u l)

/-- the returned labelled series for an index stored in unit `u` -/
def seriesIdx (c : Cfg α) (u : TUnit) (l : List (Stamp α)) : Except Err (List (Int × Option α)) :=
  wrapperSeries c (obsOfIndex u l)

/-! ### the kernel as it is called: results are written into the caller's buffer `hvalues`

`c_var2h` does not return values, it writes `hvalues[i]` (first NaN, then the value) while it goes; whatever the
buffer held before stays in every cell the loop does not reach — in particular in `hvalues[nvalh-1]`, the final
period.  An error return before the loop leaves the buffer as it was; the `decreasing` return in the middle of
period `i` leaves periods `0 .. i-1` written and `hvalues[i] = NaN`. -/

/-- the `for` loop on a buffer: `(buffer afterwards, error return if any)` -/
def loopInto (c : Cfg α) (hstart : Int) : Nat → Nat → Obs α × List (Obs α) → List (Option α) →
    List (Option α) × Option Err
  | 0, _, _, buf => (buf, none)
  | n + 1, i, suf, buf =>
    match period c hstart i suf with
    | .error x => (buf.set i none, some x)
    | .ok (h, suf') => loopInto c hstart n (i + 1) suf' (buf.set i h)

/-- `c_var2h(nvalvar, nvalh, ..., hvalues)` on the buffer `buf` -/
def kernelInto (c : Cfg α) (hstart : Int) (nvalh : Int) (obs : List (Obs α)) (buf : List (Option α)) :
    List (Option α) × Option Err :=
  if c.rain < 0 ∨ 1 < c.rain then (buf, some .badRainfall)
  else if c.P ≠ 1800 ∧ c.P ≠ 3600 then (buf, some .badPeriod)
  else match startScan hstart obs with
    | none => (buf, some .startBeforeData)
    | some suf => loopInto c hstart (nvalh - 1).toNat 0 suf buf

/-- `c_hydrodiy_data.var2h(maxgapsec, hstartsec, nbsec_per_period, rainfall, display, varsec, varvalues, hvalues)`:
`nvalh` is the length of `hvalues`, `nvalvar` the length of `varsec`, which `varvalues` must share -/
def pyxVar2h (c : Cfg α) (hstart : Int) (varsec : List Int) (varvalues : List (Option α)) (hvalues : List (Option α)) :
    List (Option α) × Option Err :=
  if varsec.length ≠ varvalues.length then (hvalues, some .lengthMismatch)
  else kernelInto c hstart (hvalues.length : Int) (varsec.zip varvalues) hvalues

/-! ### call histories on one set of buffers (the caller owns `varsec`, `varvalues`, `hvalues`) -/

/-- the caller's arrays -/
structure Bufs (α : Type) where
  varsec : List Int
  varvalues : List (Option α)
  hvalues : List (Option α)
  deriving DecidableEq

/-- what a caller can do between (and including) calls -/
inductive Op (α : Type)
  | setSec (k : Nat) (t : Int)              -- varsec[k] = t
  | setVal (k : Nat) (v : Option α)         -- varvalues[k] = v
  | scribble (v : Option α)                 -- hvalues[:] = v
  | call (c : Cfg α) (hstart : Int)         -- c_hydrodiy_data.var2h(..., varsec, varvalues, hvalues)

/-- one operation; a call changes `hvalues` only, and returns its error code (`none` = 0) -/
def step (s : Bufs α) : Op α → Bufs α × Option Err
  | .setSec k t => ({ s with varsec := s.varsec.set k t }, none)
  | .setVal k v => ({ s with varvalues := s.varvalues.set k v }, none)
  | .scribble v => ({ s with hvalues := s.hvalues.map fun _ => v }, none)
  | .call c hstart =>
    let r := pyxVar2h c hstart s.varsec s.varvalues s.hvalues
    ({ s with hvalues := r.1 }, r.2)

/-- a history: the state after it and the error codes it returned, in order -/
def run (s : Bufs α) : List (Op α) → Bufs α × List (Option Err)
  | [] => (s, [])
  | op :: ops =>
    let r := step s op
    let rr := run r.1 ops
    (rr.1, r.2 :: rr.2)

end numeric

end HydroVerif.C14
