/-
C16 — histories of calls on live objects.

`Catchment.intersect` and `grid.voronoi` keep no state of their own: what a history of calls can depend on is the
contents of the objects the caller holds — `Catchment` objects (flow-direction grid geometry, the two cell arrays),
`Grid` objects (plain attributes `nrows ncols cellsize xllcorner yllcorner`, assigned without any validation) and
the points array — which the caller may edit in place, re-assign, clone (`clone`, `copy.deepcopy`, `pickle`) or
combine (`Catchment.__add__`, `Catchment.__sub__`) between calls. `hstep` is one operation of such a history: a call
reads the objects as they are at that moment and writes none of them; whatever it returns is a fresh array, so
editing it in place (`editReturned`) changes nothing either; a rejected operation leaves every object as it was.
No Mathlib.
-/
import HydroVerif.Model.C16

namespace HydroVerif.C16
open HydroVerif.C07

/-- the objects a history works on -/
structure World (α : Type) where
  /-- the `Catchment` objects alive, in the order they were created -/
  cats : List (Catchment α)
  /-- the `Grid` objects alive (the grids handed to `intersect`) -/
  grids : List (Geom α)
  /-- the points array handed to `voronoi` (an `(n, 2)` float64 array edited in place) -/
  pts : List (α × α)

/-- why an operation of a history is rejected (the objects stay as they were) -/
inductive HErr
  /-- there is no such object (Python: `IndexError` in the caller's own list) -/
  | noSuchObject
  /-- `Catchment.__add__` / `__sub__` read the property `idxcells_area_filled` of a catchment that is not
  delineated (`ValueError ... please delineate the area`) -/
  | notDelineated
  deriving DecidableEq, Repr

/-- one operation of a history -/
inductive Op (α : Type) where
  /-- assign `nrows, ncols, xllcorner, yllcorner, cellsize` of grid `j` (any values: plain attributes) -/
  | setGrid (j : Nat) (g : Geom α)
  /-- the same on the flow-direction grid of catchment `i` -/
  | setFlowdir (i : Nat) (g : Geom α)
  /-- other contents of the two cell arrays of catchment `i`: edited in place, or set by `delineate_area` again -/
  | setCells (i : Nat) (area filled : Option (List Int))
  /-- `cats[i].clone()` / `copy.deepcopy` / `pickle.loads(pickle.dumps(...))`: a new object, appended -/
  | cloneCat (i : Nat)
  /-- a deep copy of grid `j`, appended -/
  | cloneGrid (j : Nat)
  /-- `cats[i] + cats[k]`, appended -/
  | addCat (i k : Nat)
  /-- `cats[i] - cats[k]`, appended -/
  | subCat (i k : Nat)
  /-- other contents of the points array (moved, reversed, duplicated in place) -/
  | setPts (pts : List (α × α))
  /-- in-place edits of anything earlier calls returned (idxcells, weights, the weight grid, Voronoi weights) -/
  | editReturned
  /-- `cats[i].intersect(grids[j], filled)` -/
  | intersect (i j : Nat) (filled : Bool)
  /-- `voronoi(cats[i], pts)` -/
  | voronoi (i : Nat)

/-- what an operation answers -/
inductive Reply (α : Type) where
  /-- an accepted operation that is not a call -/
  | done
  /-- a rejected operation that is not a call -/
  | rejected (e : HErr)
  /-- what `intersect` returned or raised -/
  | isect (r : Except Err (AreaGrid α))
  /-- what `voronoi` returned or raised -/
  | vor (r : Except Err (List (Option α)))

/-- `l[i] = v` (nothing changes when there is no `l[i]`) -/
def setAt {β : Type} : List β → Nat → β → List β
  | [], _, _ => []
  | _ :: t, 0, v => v :: t
  | h :: t, i + 1, v => h :: setAt t i v

/-- insertion into a strictly increasing list, keeping it strictly increasing (an element already there is kept once) -/
def insertSorted (x : Int) : List Int → List Int
  | [] => [x]
  | y :: t => if x < y then x :: y :: t else if x = y then y :: t else y :: insertSorted x t

/-- `np.unique`: the distinct values in increasing order -/
def sortDedup (l : List Int) : List Int := l.foldr insertSorted []

/-- `np.union1d(a, b)` = `np.unique(np.concatenate((a, b)))` -/
def union1d (a b : List Int) : List Int := sortDedup (a ++ b)

/-- `np.setdiff1d(a, b)`: the distinct values of `a` that are not in `b`, in increasing order -/
def setdiff1d (a b : List Int) : List Int := (sortDedup a).filter fun x => !b.contains x

/-- `Catchment.__add__`: a clone of `self` (its flow-direction grid, its filled area) whose area is the union of
the two *filled* areas when both catchments have an area; the property `idxcells_area_filled` raises on `None` -/
def Catchment.add {α : Type} (a b : Catchment α) : Except HErr (Catchment α) :=
  match a.area, b.area with
  | some _, some _ =>
    match a.filled, b.filled with
    | some fa, some fb => .ok { a with area := some (union1d fa fb) }
    | _, _ => .error .notDelineated
  | _, _ => .ok a

/-- `Catchment.__sub__`: a clone of `self` whose area is the filled area of `self` without the filled area of
`other`; both properties are read unconditionally -/
def Catchment.sub {α : Type} (a b : Catchment α) : Except HErr (Catchment α) :=
  match a.filled, b.filled with
  | some fa, some fb => .ok { a with area := some (setdiff1d fa fb) }
  | _, _ => .error .notDelineated

section
variable {α : Type} [Add α] [Sub α] [Mul α] [Div α] [OfNat α 0] [OfNat α 1] [LT α] [DecidableLT α] [Trunc α]

/-- a new catchment built from two existing ones -/
def combine (w : World α) (i k : Nat) (f : Catchment α → Catchment α → Except HErr (Catchment α)) :
    World α × Reply α :=
  match w.cats[i]?, w.cats[k]? with
  | some a, some b =>
    match f a b with
    | .ok c => ({ w with cats := w.cats ++ [c] }, .done)
    | .error e => (w, .rejected e)
  | _, _ => (w, .rejected .noSuchObject)

/-- one operation: the objects afterwards, and the answer -/
def hstep (dist : α → α → α) (w : World α) : Op α → World α × Reply α
  | .setGrid j g =>
    if j < w.grids.length then ({ w with grids := setAt w.grids j g }, .done) else (w, .rejected .noSuchObject)
  | .setFlowdir i g =>
    match w.cats[i]? with
    | some c => ({ w with cats := setAt w.cats i { c with fine := g } }, .done)
    | none => (w, .rejected .noSuchObject)
  | .setCells i area filled =>
    match w.cats[i]? with
    | some c => ({ w with cats := setAt w.cats i { c with area := area, filled := filled } }, .done)
    | none => (w, .rejected .noSuchObject)
  | .cloneCat i =>
    match w.cats[i]? with
    | some c => ({ w with cats := w.cats ++ [c] }, .done)
    | none => (w, .rejected .noSuchObject)
  | .cloneGrid j =>
    match w.grids[j]? with
    | some g => ({ w with grids := w.grids ++ [g] }, .done)
    | none => (w, .rejected .noSuchObject)
  | .addCat i k => combine w i k Catchment.add
  | .subCat i k => combine w i k Catchment.sub
  | .setPts pts => ({ w with pts := pts }, .done)
  | .editReturned => (w, .done)
  | .intersect i j filled =>
    match w.cats[i]?, w.grids[j]? with
    | some c, some g => (w, .isect (c.intersect g filled))
    | _, _ => (w, .rejected .noSuchObject)
  | .voronoi i =>
    match w.cats[i]? with
    | some c => (w, .vor (voronoiPy dist c.fine c.area (.rows 2 (w.pts.map fun p => [p.1, p.2]))))
    | none => (w, .rejected .noSuchObject)

/-- a whole history: the answers of its operations, in order -/
def hrun (dist : α → α → α) : World α → List (Op α) → List (Reply α)
  | _, [] => []
  | w, op :: ops => (hstep dist w op).2 :: hrun dist (hstep dist w op).1 ops

/-- the objects a history ends with -/
def hfinal (dist : α → α → α) (w : World α) (ops : List (Op α)) : World α :=
  ops.foldl (fun w op => (hstep dist w op).1) w

end

/-- the operations that may change an object (the others are calls, or edits of returned arrays) -/
def Op.isMutator {α : Type} : Op α → Bool
  | .intersect _ _ _ => false
  | .voronoi _ => false
  | .editReturned => false
  | _ => true

end HydroVerif.C16
