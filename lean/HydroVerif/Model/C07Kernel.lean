/-
C07 — `c_coord2cell` as it is written since /repo commit c8d188e ("coord2cell tests the grid extent before
converting to integer"), next to the cast-first form `C07.coord2cell` of `Model/C07.lean` that the models of
C13 and C16 use (C05 has its own test-first `coord2cell1`):

```c
fx = floor((xycoords[2*i]-xll)/csz);
fy = floor((xycoords[2*i+1]-yll)/csz);
if(!(fx>=0 && fx<(double)ncols && fy>=0 && fy<(double)nrows))
    idxcell[i] = -1;
else
{
    nx = (long long)fx;
    ny = nrows-1-(long long)fy;
    idxcell[i] = ny*ncols+nx;
}
```

The comparisons are made in the numeric type (IEEE: every comparison with NaN is false, so NaN, and ±inf,
go to `-1` before any cast). `Props/C07.lean: coord2cellK_eq_coord2cell` proves the two forms equal for every
input over any ordered field with floor; the driver runs both at `Float` and both are compared with the code.

Also here: the request-level shape of the `Grid.*` wrappers (a request is a list; a bare scalar is the
one-element request — `np.atleast_1d` / `np.atleast_2d`), so that the vectorised entry points are modelled
as what they are: the element-wise map of the kernels, independent of the length and order of the request.
No Mathlib.
-/
import HydroVerif.Model.C07
namespace HydroVerif.C07

/-- C `floor` on doubles: the result stays in the numeric type -/
class FloorNum (α : Type) where
  floor : α → α

instance floorFloat : FloorNum Float := ⟨Float.floor⟩
instance floorRat : FloorNum Rat := ⟨fun x => (x.floor : Rat)⟩

section Kernel
variable {α : Type} [Sub α] [Div α] [LE α] [DecidableLE α] [LT α] [DecidableLT α] [OfNat α 0]
  [Trunc α] [FloorNum α]

/-- the two quotients the kernel floors: offsets from the lower-left corner in cell units -/
def quotients (g : Geom α) (x y : α) : α × α := ((x - g.xll) / g.csz, (y - g.yll) / g.csz)

/-- everything the kernel does after the quotients: floor, extent test on the floored values (in the
numeric type), then the casts and the row-major number -/
def cellOfQuot (nrows ncols : Int) (qx qy : α) : Int :=
  let fx := FloorNum.floor qx
  let fy := FloorNum.floor qy
  if decide (fx ≥ 0) && decide (fx < Trunc.ofInt ncols) && decide (fy ≥ 0) && decide (fy < Trunc.ofInt nrows)
  then (nrows - 1 - Trunc.truncToInt fy) * ncols + Trunc.truncToInt fx
  else -1

/-- one entry of `c_coord2cell`, as written -/
def coord2cellK (g : Geom α) (x y : α) : Int :=
  cellOfQuot g.nrows g.ncols (quotients g x y).1 (quotients g x y).2

/-- `Grid.coord2cell(xycoords)`: `atleast_2d`, then one kernel entry per row -/
def gridCoord2cell (g : Geom α) (pts : List (α × α)) : List Int := pts.map fun p => coord2cellK g p.1 p.2

end Kernel

section Wrappers
variable {α : Type} [Add α] [Sub α] [Mul α] [Div α] [OfNat α 1] [Trunc α]

/-- `Grid.cell2rowcol(idxcells)`: `atleast_1d`, then one kernel entry per requested number -/
def gridCell2rowcol (nrows ncols : Int) (cells : List Int) : List (Int × Int) :=
  cells.map (cell2rowcol nrows ncols)

/-- `Grid.cell2coord(idxcells)`: `atleast_1d`, then one kernel entry per requested number (`none` = NaN, NaN) -/
def gridCell2coord (g : Geom α) (cells : List Int) : List (Option (α × α)) := cells.map (cell2coord g)

end Wrappers

end HydroVerif.C07
