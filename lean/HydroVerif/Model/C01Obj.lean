/-
C01 — the transform OBJECT: what `Transform.__init__ / __setattr__ / __setitem__ / params / constants / reset`
(transform.py 83-175), the constructors of the 13 classes and the `Vector` behind them (data/containers.py:
`__init__`, `__setattr__`, `__setitem__`, `__checkvalues__`, `values` setter, `reset`) do to the parameter and constant
values that `forward / backward / jacobian / backward_censored` then read.

* `SlotSpec / VSpec`   names, defaults, bounds and NaN policy of one Vector (fixed at construction);
* `clipv`              `min(max(v, lo), hi)` (= `np.clip`), `none` bound = ∓inf, `none` value = NaN;
* `VSpec.setValues`    `vect.values = [...]`: length check, NaN check, clip — or rejection, the old values kept;
* `VSpec.setName`      `vect[name] = v` / `vect.name = v`;
* `mkObj`              the constructors: defaults, bounds, constructor validation (`minilam < -3`, default outside the
                        bounds, `math.log(base)` of a non-positive base), the inner `BoxCox2` of the delegating classes;
* `TOp / TObj.step`    one public operation on the object: every way of assigning (attribute, item, vector item, whole
                        vector), `reset`, and the four methods on a 1-D array; a REJECTED operation returns the object
                        unchanged (what the code must do as well: compared by the driver on fault histories);
* `TObj.run`           a history (any `List TOp`);
* `TObj.getItem`       `t[k]` (read back);
* `getTransform`       `get_transform(name, **kwargs)`: `Cls.ofName?`, the constructor, then `applyKw` (the names of the
                        object's own Vectors decide where a keyword goes; `route` / `lookupClass` of Model/C01 are the same
                        routing on the keyword catalogue, tied to this one by `Cls.names_eq_catalogue`, `mkObj_names`).

No Mathlib. Generic over the carrier like Model/C01 (driver: `Float` and the error-tracking pairs; proofs: ℝ).
-/
import HydroVerif.Model.C01
namespace HydroVerif.C01

/-- the catalogue as a type -/
inductive Cls | identity | logit | log | boxcox2 | boxcox1lam | boxcox1nu | boxcox2sym | yeojohnson | reciprocal
  | softmax | sinh | logsinh | manly
  deriving DecidableEq, Repr

def Cls.all : List Cls := [.identity, .logit, .log, .boxcox2, .boxcox1lam, .boxcox1nu, .boxcox2sym, .yeojohnson,
  .reciprocal, .softmax, .sinh, .logsinh, .manly]

def Cls.name : Cls → String
  | .identity => "Identity" | .logit => "Logit" | .log => "Log" | .boxcox2 => "BoxCox2"
  | .boxcox1lam => "BoxCox1lam" | .boxcox1nu => "BoxCox1nu" | .boxcox2sym => "BoxCox2sym"
  | .yeojohnson => "YeoJohnson" | .reciprocal => "Reciprocal" | .softmax => "Softmax" | .sinh => "Sinh"
  | .logsinh => "LogSinh" | .manly => "Manly"

def Cls.ofName? (s : String) : Option Cls := Cls.all.find? (·.name == s)

/-- what an assignment / a constructor is rejected for (`ValueError` in the code) -/
inductive SetErr | nanValue | badLength | unknownKey | badCtor
  deriving DecidableEq, Repr

section
variable {α : Type} [Add α] [Sub α] [Mul α] [Div α] [Neg α] [LT α] [DecidableLT α] [LE α] [DecidableLE α]
  [OfNat α 0] [OfNat α 1] [OfNat α 2] [OfScientific α] [Transc α]

/-- one element of a `Vector`: name, default (`none` = NaN), bounds (`none` = -inf / +inf) -/
structure SlotSpec (α : Type) where
  name : String
  dflt : Option α
  lo : Option α
  hi : Option α

/-- a `Vector` without its values -/
structure VSpec (α : Type) where
  slots : List (SlotSpec α)
  acceptNan : Bool

def VSpec.names (sp : VSpec α) : List String := sp.slots.map (·.name)
def VSpec.dflts (sp : VSpec α) : List (Option α) := sp.slots.map (·.dflt)

/-- `min(max(v, lo), hi)` — `Vector.__setattr__`; `np.clip(v, lo, hi)` — `__checkvalues__` -/
def clipv (lo hi : Option α) (v : α) : α :=
  let v1 := match lo with
    | some l => if v < l then l else v
    | none => v
  match hi with
  | some h => if h < v1 then h else v1
  | none => v1

/-- NaN passes through the clipping -/
def clipOpt (s : SlotSpec α) (v : Option α) : Option α := v.map (clipv s.lo s.hi)

def clipAll : List (SlotSpec α) → List (Option α) → List (Option α)
  | s :: ss, v :: vs => clipOpt s v :: clipAll ss vs
  | _, _ => []

/-- `vect.values = vs` -/
def VSpec.setValues (sp : VSpec α) (vs : List (Option α)) : Except SetErr (List (Option α)) :=
  if vs.length ≠ sp.slots.length then .error .badLength
  else if !sp.acceptNan && vs.any Option.isNone then .error .nanValue
  else .ok (clipAll sp.slots vs)

/-- the values with the element called `k` replaced by the clipped `x` (`none` when there is no such name) -/
def setAt : List (SlotSpec α) → List (Option α) → String → Option α → Option (List (Option α))
  | s :: ss, v :: vs, k, x => if s.name = k then some (clipOpt s x :: vs) else (setAt ss vs k x).map (v :: ·)
  | _, _, _, _ => none

/-- `vect[k] = x` (and `vect.k = x` for a name of the vector): key check, NaN check, clipped store -/
def VSpec.setName (sp : VSpec α) (vals : List (Option α)) (k : String) (x : Option α) :
    Except SetErr (List (Option α)) :=
  if !sp.names.contains k then .error .unknownKey
  else if !sp.acceptNan && x.isNone then .error .nanValue
  else match setAt sp.slots vals k x with
    | some l => .ok l
    | none => .error .unknownKey

def getAt : List (SlotSpec α) → List (Option α) → String → Option α
  | s :: ss, v :: vs, k => if s.name = k then v else getAt ss vs k
  | _, _, _ => none

/-! ### constructors -/

/-- the object: class, the two Vectors (spec fixed, values mutable), the inner `BoxCox2`'s parameter Vector of the
delegating classes (`ispec.slots = []` otherwise), and the plain attributes `mininu` / `base` -/
structure TObj (α : Type) where
  cls : Cls
  pspec : VSpec α
  cspec : VSpec α
  pvals : List (Option α)
  cvals : List (Option α)
  ispec : VSpec α
  ivals : List (Option α)
  mininu : α
  base : Option α

def noVec : VSpec α := ⟨[], false⟩

/-- `BoxCox2.__init__`'s Vector(["nu", "lam"], [mininu, 1], [mininu, minilam], [inf, 3]) -/
def bc2Spec (mininu minilam : α) : VSpec α :=
  ⟨[⟨"nu", some mininu, some mininu, none⟩,
    ⟨"lam", some (clipv (some minilam) (some 3.0) 1), some minilam, some 3.0⟩], false⟩

/-- a `[minilam, 3]` element with default 1 is accepted by `Vector.__init__` iff the default is inside the bounds up to
EPS (`1 < minilam - EPS` raises); `BoxCox2` rejects `minilam < -3`, and so do `BoxCox2sym`, `BoxCox1lam`, `BoxCox1nu`, which
build an inner `BoxCox2(mininu, minilam)` -/
def lamBoundsOk (minilam : α) : Bool := !decide (minilam < -3.0) && !decide (1 < minilam - eps)

def mkObj (c : Cls) (mininu minilam : α) (base : Option α) : Except SetErr (TObj α) :=
  let plain (ps : List (SlotSpec α)) : TObj α :=
    ⟨c, ⟨ps, false⟩, noVec, ps.map (·.dflt), [], noVec, [], mininu, none⟩
  match c with
  | .identity | .softmax => .ok (plain [])
  | .logit => .ok (plain [⟨"lower", some 0, none, none⟩, ⟨"logdelta", some 0, some (-10.0), some 10.0⟩])
  | .log =>
    match base with
    | some b => if b ≤ 0 then .error .badCtor
                else .ok { plain [⟨"nu", some mininu, some mininu, none⟩] with base := some b }
    | none => .ok (plain [⟨"nu", some mininu, some mininu, none⟩])
  | .reciprocal => .ok (plain [⟨"nu", some mininu, some mininu, none⟩])
  | .boxcox2 =>
    if lamBoundsOk minilam then .ok (plain (bc2Spec mininu minilam).slots) else .error .badCtor
  | .boxcox2sym =>
    if lamBoundsOk minilam then
      let sp := bc2Spec mininu minilam
      .ok ⟨c, sp, noVec, sp.dflts, [], sp, sp.dflts, mininu, none⟩
    else .error .badCtor
  | .boxcox1lam =>
    if lamBoundsOk minilam then
      let sp := bc2Spec mininu minilam
      let ps : List (SlotSpec α) := [⟨"lam", some (clipv (some minilam) (some 3.0) 1), some minilam, some 3.0⟩]
      let cs : List (SlotSpec α) := [⟨"nu", none, some mininu, none⟩]
      .ok ⟨c, ⟨ps, false⟩, ⟨cs, true⟩, ps.map (·.dflt), cs.map (·.dflt), sp, sp.dflts, mininu, none⟩
    else .error .badCtor
  | .boxcox1nu =>
    if lamBoundsOk minilam then
      let sp := bc2Spec mininu minilam
      let ps : List (SlotSpec α) := [⟨"nu", some mininu, some mininu, none⟩]
      let cs : List (SlotSpec α) := [⟨"lam", none, some minilam, some 3.0⟩]
      .ok ⟨c, ⟨ps, false⟩, ⟨cs, true⟩, ps.map (·.dflt), cs.map (·.dflt), sp, sp.dflts, mininu, none⟩
    else .error .badCtor
  | .yeojohnson =>
    .ok (plain [⟨"nu", some 0, none, none⟩, ⟨"scale", some 1, some 1e-5, none⟩, ⟨"lam", some 1, some (-1.0), some 3.0⟩])
  | .sinh => .ok (plain [⟨"nu", some 0, none, none⟩, ⟨"scale", some 1, some 1e-10, none⟩])
  | .logsinh =>
    let ps : List (SlotSpec α) := [⟨"loga", some (-1.0), some (-20.0), some 0⟩, ⟨"logb", some 0, some (-5.0), some 5.0⟩]
    let cs : List (SlotSpec α) := [⟨"xmax", none, some eps, none⟩]
    .ok ⟨c, ⟨ps, false⟩, ⟨cs, true⟩, ps.map (·.dflt), cs.map (·.dflt), noVec, [], mininu, none⟩
  | .manly =>
    let ps : List (SlotSpec α) := [⟨"lam", some 0.1, some (-5.0), some 5.0⟩]
    let cs : List (SlotSpec α) := [⟨"xmax", none, some eps, none⟩]
    .ok ⟨c, ⟨ps, false⟩, ⟨cs, true⟩, ps.map (·.dflt), cs.map (·.dflt), noVec, [], mininu, none⟩

/-! ### operations -/

inductive Method | fwd | bwd | jac | cens
  deriving DecidableEq, Repr

/-- one public operation on a transform object `t` -/
inductive TOp (α : Type) where
  /-- `t.k = v` (a name that is neither a parameter nor a constant becomes a plain python attribute) -/
  | setAttr (k : String) (v : Option α)
  /-- `t[k] = v` -/
  | setItem (k : String) (v : Option α)
  /-- `t.params[k] = v` -/
  | setPItem (k : String) (v : Option α)
  /-- `t.constants[k] = v` -/
  | setCItem (k : String) (v : Option α)
  /-- `t.params.values = vs` -/
  | setPValues (vs : List (Option α))
  /-- `t.constants.values = vs` -/
  | setCValues (vs : List (Option α))
  /-- `t.reset()` -/
  | reset
  /-- `t.forward(xs)` / `backward` / `jacobian` / `backward_censored(xs, censor)` on a 1-D float64 array -/
  | call (m : Method) (censor : α) (xs : List α)

inductive Reply (α : Type) where
  | done
  | rejected (e : SetErr)
  | values (vs : List (Option α))
  | raised (e : Err)

/-- a method of a class without hidden state, on an array; `cens` is how `backward_censored` combines the two directions
(`backwardCensored` of Model/C01; a parameter so that the driver can also evaluate it over error-tracking pairs) -/
def applyM (cens : (α → Option α) → (α → Option α) → α → α → Option α) (m : Method) (f b j : α → Option α)
    (c : α) (xs : List α) : List (Option α) :=
  match m with
  | .fwd => onArray f xs
  | .bwd => onArray b xs
  | .jac => onArray j xs
  | .cens => onArray (fun y => cens f b y c) xs

/-- a NaN among the parameters makes every element NaN (unreachable: parameters never hold NaN, `TObj.Inv`) -/
def allNaN (xs : List α) : List (Option α) := xs.map fun _ => none

/-- a method call: the class reads `self.params.values` / `self.constants.values` positionally; the delegating classes
first assign the inner `BoxCox2`'s parameter vector (through its own `values` setter: length / NaN check, clip) -/
def TObj.evalWith (cens : (α → Option α) → (α → Option α) → α → α → Option α) (o : TObj α) (m : Method) (c : α)
    (xs : List α) : TObj α × Reply α :=
  let ap := applyM cens m
  match o.cls, o.pvals, o.cvals with
  | .identity, [], [] =>
    let p : Identity.Params α := {}
    (o, .values (ap (Identity.forward p) (Identity.backward p) (Identity.jacobian p) c xs))
  | .logit, [some lower, some logdelta], [] =>
    let p : Logit.Params α := ⟨lower, logdelta⟩
    (o, .values (ap (Logit.forward p) (Logit.backward p) (Logit.jacobian p) c xs))
  | .log, [some nu], [] =>
    let p : Log.Params α := ⟨nu, o.base, o.mininu⟩
    (o, .values (ap (Log.forward p) (Log.backward p) (Log.jacobian p) c xs))
  | .boxcox2, [some nu, some lam], [] =>
    let p : BoxCox2.Params α := ⟨nu, lam, o.mininu⟩
    (o, .values (ap (BoxCox2.forward p) (BoxCox2.backward p) (BoxCox2.jacobian p) c xs))
  | .boxcox1lam, [some lam], [nu] =>
    (match nu with
    | none => (o, .raised .nuUnset)
    | some nu =>
      match o.ispec.setValues [some nu, some lam] with
      | .error e => (o, .rejected e)
      | .ok iv =>
        match iv with
        | [some bnu, some blam] =>
          let p : BoxCox2.Params α := ⟨bnu, blam, o.mininu⟩
          ({ o with ivals := iv }, .values (ap (BoxCox2.forward p) (BoxCox2.backward p) (BoxCox2.jacobian p) c xs))
        | _ => ({ o with ivals := iv }, .values (allNaN xs)))
  | .boxcox1nu, [some nu], [lam] =>
    (match lam with
    | none => (o, .raised .lamUnset)
    | some lam =>
      match o.ispec.setValues [some nu, some lam] with
      | .error e => (o, .rejected e)
      | .ok iv =>
        match iv with
        | [some bnu, some blam] =>
          let p : BoxCox2.Params α := ⟨bnu, blam, o.mininu⟩
          ({ o with ivals := iv }, .values (ap (BoxCox2.forward p) (BoxCox2.backward p) (BoxCox2.jacobian p) c xs))
        | _ => ({ o with ivals := iv }, .values (allNaN xs)))
  | .boxcox2sym, [some nu, some lam], [] =>
    (match o.ispec.setValues [some nu, some lam] with
    | .error e => (o, .rejected e)
    | .ok iv =>
      match iv with
      | [some bnu, some blam] =>
        let p : BoxCox2sym.Params α := ⟨bnu, blam, o.mininu⟩
        ({ o with ivals := iv },
          .values (ap (BoxCox2sym.forward p) (BoxCox2sym.backward p) (BoxCox2sym.jacobian p) c xs))
      | _ => ({ o with ivals := iv }, .values (allNaN xs)))
  | .yeojohnson, [some nu, some scale, some lam], [] =>
    let p : YeoJohnson.Params α := ⟨nu, scale, lam⟩
    (o, .values (ap (YeoJohnson.forward p) (YeoJohnson.backward p) (YeoJohnson.jacobian p) c xs))
  | .logsinh, [some loga, some logb], [xmax] =>
    (match xmax with
    | none => (o, .raised .xmaxUnset)
    | some xm =>
      let p : LogSinh.Params α := ⟨loga, logb, xm⟩
      (o, .values (ap (LogSinh.forward p) (LogSinh.backward p) (LogSinh.jacobian p) c xs)))
  | .reciprocal, [some nu], [] =>
    let p : Reciprocal.Params α := ⟨nu, o.mininu⟩
    (o, .values (ap (Reciprocal.forward p) (Reciprocal.backward p) (Reciprocal.jacobian p) c xs))
  | .sinh, [some nu, some scale], [] =>
    let p : Sinh.Params α := ⟨nu, scale⟩
    (o, .values (ap (Sinh.forward p) (Sinh.backward p) (Sinh.jacobian p) c xs))
  | .manly, [some lam], [xmax] =>
    (match xmax with
    | none => (o, .raised .xmaxUnset)
    | some xm =>
      let p : Manly.Params α := ⟨lam, xm⟩
      (o, .values (ap (Manly.forward p) (Manly.backward p) (Manly.jacobian p) c xs)))
  | .softmax, [], [] =>
    -- a 1-D array is one row (`np.atleast_2d`); `backward_censored` is not modelled for Softmax (never driven)
    let lift (r : Except Err (List α)) : Reply α := match r with
      | .ok l => .values (l.map some)
      | .error e => .raised e
    (match m with
    | .fwd => (o, lift (Softmax.forward xs))
    | .bwd => (o, lift (Softmax.backward xs))
    | .jac => (o, lift ((Softmax.jacobian xs).map fun v => [v]))
    | .cens => (o, .values (allNaN xs)))
  | _, _, _ => (o, .values (allNaN xs))

/-- assignment result: the new values, or the rejection with the old values kept -/
def assign (old : List (Option α)) (r : Except SetErr (List (Option α))) : List (Option α) × Reply α :=
  match r with
  | .ok l => (l, .done)
  | .error e => (old, .rejected e)

def TObj.setP (o : TObj α) (r : Except SetErr (List (Option α))) : TObj α × Reply α :=
  let (l, rep) := assign o.pvals r
  ({ o with pvals := l }, rep)

def TObj.setC (o : TObj α) (r : Except SetErr (List (Option α))) : TObj α × Reply α :=
  let (l, rep) := assign o.cvals r
  ({ o with cvals := l }, rep)

/-- one operation -/
def TObj.stepWith (cens : (α → Option α) → (α → Option α) → α → α → Option α) (o : TObj α) (op : TOp α) :
    TObj α × Reply α :=
  match op with
  | .setAttr k v =>
    -- Transform.__setattr__: a parameter name, else a constant name, else an ordinary attribute of the python object
    if o.pspec.names.contains k then o.setP (o.pspec.setName o.pvals k v)
    else if o.cspec.names.contains k then o.setC (o.cspec.setName o.cvals k v)
    else (o, .done)
  | .setItem k v =>
    -- Transform.__setitem__
    if o.cspec.slots.isEmpty then o.setP (o.pspec.setName o.pvals k v)
    else if o.pspec.names.contains k then o.setP (o.pspec.setName o.pvals k v)
    else o.setC (o.cspec.setName o.cvals k v)
  | .setPItem k v => o.setP (o.pspec.setName o.pvals k v)
  | .setCItem k v => o.setC (o.cspec.setName o.cvals k v)
  | .setPValues vs => o.setP (o.pspec.setValues vs)
  | .setCValues vs => o.setC (o.cspec.setValues vs)
  | .reset => o.setP (o.pspec.setValues o.pspec.dflts)
  | .call m c xs => o.evalWith cens m c xs

/-- a history: the object after it and the reply to every operation -/
def TObj.runWith (cens : (α → Option α) → (α → Option α) → α → α → Option α) :
    TObj α → List (TOp α) → TObj α × List (Reply α)
  | o, [] => (o, [])
  | o, op :: ops =>
    let (o1, r) := o.stepWith cens op
    let (o2, rs) := TObj.runWith cens o1 ops
    (o2, r :: rs)

def TObj.step [NanTest α] (o : TObj α) (op : TOp α) : TObj α × Reply α := o.stepWith backwardCensored op
def TObj.run [NanTest α] (o : TObj α) (ops : List (TOp α)) : TObj α × List (Reply α) := TObj.runWith backwardCensored o ops

/-! ### reading back -/

/-- `vect[k]` -/
def VSpec.getName (sp : VSpec α) (vals : List (Option α)) (k : String) : Except SetErr (Option α) :=
  if !sp.names.contains k then .error .unknownKey else .ok (getAt sp.slots vals k)

/-- `t[k]` (`Transform.__getitem__`): the parameter of that name, else the constant; `ValueError` for an unknown key -/
def TObj.getItem (o : TObj α) (k : String) : Except SetErr (Option α) :=
  if o.cspec.slots.isEmpty then o.pspec.getName o.pvals k
  else if o.pspec.names.contains k then o.pspec.getName o.pvals k
  else o.cspec.getName o.cvals k

/-! ### what every reachable object satisfies (used by the theorems) -/

/-- `x` is inside the declared bounds of the slot -/
def inBounds (s : SlotSpec α) (x : α) : Prop := (∀ l, s.lo = some l → l ≤ x) ∧ (∀ h, s.hi = some h → x ≤ h)

/-- a stored value is admissible: a number inside the bounds, or NaN where the Vector accepts NaN (unset constant) -/
def okSlot (nanOk : Bool) (s : SlotSpec α) : Option α → Prop
  | none => nanOk = true
  | some x => inBounds s x

def okVals (nanOk : Bool) : List (SlotSpec α) → List (Option α) → Prop
  | [], [] => True
  | s :: ss, v :: vs => okSlot nanOk s v ∧ okVals nanOk ss vs
  | _, _ => False

/-- the declared bounds are not empty -/
def VSpec.WF (sp : VSpec α) : Prop := ∀ s ∈ sp.slots, ∀ l h, s.lo = some l → s.hi = some h → l ≤ h

def VSpec.Ok (sp : VSpec α) (vals : List (Option α)) : Prop := okVals sp.acceptNan sp.slots vals

/-- the object invariant: one value per slot, every parameter a number inside its declared bounds, every constant inside
its bounds or unset, the inner BoxCox2 likewise -/
def TObj.Inv (o : TObj α) : Prop :=
  o.pspec.WF ∧ o.cspec.WF ∧ o.ispec.WF ∧ o.pspec.Ok o.pvals ∧ o.cspec.Ok o.cvals ∧ o.ispec.Ok o.ivals

/-- what no operation changes: class, the three Vector specifications, `mininu`, `base` -/
def TObj.sameSpec (o o' : TObj α) : Prop :=
  o'.cls = o.cls ∧ o'.pspec = o.pspec ∧ o'.cspec = o.cspec ∧ o'.ispec = o.ispec ∧ o'.mininu = o.mininu ∧ o'.base = o.base

/-! ### `get_transform(name, **kwargs)` -/

/-- constructor keywords are taken out first; every other keyword that names a parameter is assigned through
`trans.params[k] = v`, one that names a constant through `trans.constants[k] = v`, the rest is ignored. A rejected
assignment propagates (the call raises). -/
def applyKw (o : TObj α) : List (String × Option α) → Except SetErr (TObj α)
  | [] => .ok o
  | (k, v) :: kws =>
    if o.pspec.names.contains k then
      match o.pspec.setName o.pvals k v with
      | .ok l => applyKw { o with pvals := l } kws
      | .error e => .error e
    else if o.cspec.names.contains k then
      match o.cspec.setName o.cvals k v with
      | .ok l => applyKw { o with cvals := l } kws
      | .error e => .error e
    else applyKw o kws

def getTransform (name : String) (mininu minilam : α) (base : Option α) (kws : List (String × Option α)) :
    Except SetErr (TObj α) :=
  match Cls.ofName? name with
  | none => .error .unknownKey
  | some c =>
    match mkObj c mininu minilam base with
    | .error e => .error e
    | .ok o => applyKw o kws

end
end HydroVerif.C01
