/-
C05 — footprint models of the hand-written C kernels of hydrodiy (memory accesses, integer divisors, integer
conversions), after the `fix:` commits of `/repo` (branch `main`).

A footprint model mirrors the loops of a kernel and keeps only what decides WHICH element of WHICH buffer is
touched: loop counters, the integer contents that steer the control flow (aggregation index, flow directions,
cell numbers, time stamps) and, where a floating point test steers it, the outcome of that test as a Boolean
oracle supplied by the caller (`lin i`, `outbox i`, …). Values that are only computed and stored are dropped.

* every array access goes through `acc` / `rdI` with the extent (number of elements) of the buffer the kernel
  was handed: outside `0 .. extent-1` the run ends with `Fault.oob buf idx`;
* an integer `%` or `/` whose divisor is zero ends with `Fault.div0`;
* an integer expression that leaves its C type (`int`: 32 bits, `long long`: 64 bits) or a conversion
  `(int) x`, `(long long) x` of a double that is NaN, infinite or out of range ends with `Fault.ovf`;
* loops the C text bounds only implicitly get a fuel argument; running out of fuel is `Fault.fuel`
  (the safety theorems show it cannot happen).

A run that touches only what it may returns `.ok code` (`0` = the kernel's success, `1` = one of its error
returns; the numeric value of error codes, `BASE + __LINE__`, is not modelled). Exceptions: `daysinmonth`, `dayofyear`
return `-1` (refused) or `0`, `comparedates` the kernel's value `1 / 0 / -1`, `combi` the coefficient or the sentinel
`-1`; `getdate` returns `0` also for a day outside its month, where the kernel returns an error (see there).

No Mathlib. C `int`/`long long` are `Int`; buffers are named by the C parameter (`Buf`), their extents are a
function `Ext = Buf → Nat`; integer contents are functions `Nat → Int` (never consulted outside the extent,
because the access check comes first). Of the integer grid core of `Model/C07.lean` the models use `neighbour`;
`getnxy`, the cell range test `idx < 0 ∨ idx ≥ nrows * ncols` and `coord2cell1` are written out here, with their faults
(`getnxy` computes `C07.colOf` / `rowOf`, the range test is `C07.validCell`: `Lemmas/C05.lean` uses both).
-/
import HydroVerif.Model.C07

namespace HydroVerif.C05
open HydroVerif.C07 (validCell colOf rowOf neighbour cellOfNxNy)

/-- buffers, named after the C parameters (locals of a kernel included) -/
inductive Buf
  | aggindex | inputs | outputs | iend | data | islin | varsec | varvalues | hvalues
  | date | date1 | date2 | daysInMonth | dayOfYear
  | params | innov | prev | residuals | obs | sim | weights | table | decompos | ensemb | work
  | fmat | ranks | unifdata | isdominated | predictors | tXXinv | leverages
  | xycoords | idxcell | rowcols | neighbours | nbloc | zslice | xyslice
  | flowdircode | flowdir | idxdown | idxup | toacc | accumulation
  | xyarea | npoints | idxcells | idxcellsArea | xypoints | altitude | slopeval
  | points | polygon | xlim | ylim | inside
  | idxinlets | buffer1 | buffer2 | buffer | mask | idxboundary | idxok | rivdata | flowpaths
  /-- buffers of the definitions GENERATED from the C text (`Generated/CKernels.lean`): the `k`-th parameter of the
  function (a pointer), the `k`-th local array of the function — positions, not names -/
  | arg (k : Nat) | loc (k : Nat)
  deriving DecidableEq, Repr

inductive Fault
  | oob (b : Buf) (i : Int)
  | div0
  | ovf
  | fuel
  deriving DecidableEq, Repr

abbrev Ext := Buf → Nat
abbrev R := Except Fault

/-- extents of the local arrays of a kernel: every local has `n` elements -/
def constExt (n : Nat) : Ext := fun _ => n

/-- a run is safe when it ends with a return code, not with a fault -/
def Safe {α : Type} (r : R α) : Prop := ∃ x, r = .ok x

/-- the run ended without fault -/
def isOk {α : Type} : R α → Bool
  | .ok _ => true
  | .error _ => false

/-- checked access `b[i]` (read or write) -/
def acc (e : Ext) (b : Buf) (i : Int) : R Unit :=
  if 0 ≤ i ∧ i < (e b : Int) then .ok () else .error (.oob b i)

/-- checked read of an integer buffer whose content `f` steers the control flow -/
def rdI (e : Ext) (b : Buf) (f : Nat → Int) (i : Int) : R Int :=
  if 0 ≤ i ∧ i < (e b : Int) then .ok (f i.toNat) else .error (.oob b i)

def i32min : Int := -2147483648
def i32max : Int := 2147483647
def i64min : Int := -9223372036854775808
def i64max : Int := 9223372036854775807

/-- an `int` expression -/
def i32 (x : Int) : R Int := if i32min ≤ x ∧ x ≤ i32max then .ok x else .error .ovf
/-- a `long long` expression -/
def i64 (x : Int) : R Int := if i64min ≤ x ∧ x ≤ i64max then .ok x else .error .ovf

/-- the integer part of a double about to be converted: `none` = NaN or infinite -/
abbrev XInt := Option Int

/-- `(int) x` -/
def castI32 : XInt → R Int
  | none => .error .ovf
  | some v => i32 v
/-- `(long long) x` -/
def castI64 : XInt → R Int
  | none => .error .ovf
  | some v => i64 v

/-- C `a % b` on `long long`/`int` (truncated), `b = 0` is a fault -/
def cmod (a b : Int) : R Int := if b = 0 then .error .div0 else .ok (a.tmod b)
/-- C `a / b` -/
def cdiv (a b : Int) : R Int := if b = 0 then .error .div0 else .ok (a.tdiv b)

/-- `for (i = i0; i < i0 + k; i++) body`: the body returns the next state (`inl`) or leaves the loop
with a value (`inr`: `break` or `return`) -/
def forLoop {σ ρ : Type} (body : Int → σ → R (σ ⊕ ρ)) : Nat → Int → σ → R (σ ⊕ ρ)
  | 0, _, s => .ok (.inl s)
  | k + 1, i, s =>
    match body i s with
    | .error f => .error f
    | .ok (.inr r) => .ok (.inr r)
    | .ok (.inl s') => forLoop body k (i + 1) s'

/-- a loop without state and without early exit: `for (i = i0; i < i0 + k; i++) body(i)` -/
def forEach (body : Int → R Unit) (k : Nat) (i0 : Int) : R Unit :=
  match forLoop (σ := Unit) (ρ := Empty) (fun i _ => (body i).map fun _ => .inl ()) k i0 () with
  | .error f => .error f
  | .ok _ => .ok ()

/-! ## data package -/

/-- one iteration of the loop of `c_aggregate` (c_dutils.c); state `(iaprev, count)` -/
def aggBody (e : Ext) (nval : Int) (idx : Nat → Int) (i : Int) (s : Int × Int) : R ((Int × Int) ⊕ Int) := do
  let ia ← rdI e .aggindex idx i
  if ia < s.1 then pure (.inr 1)
  else if ia ≠ s.1 then do
    acc e .outputs s.2
    if s.2 + 1 ≥ nval then pure (.inr 1)
    else do
      acc e .inputs i
      pure (.inl (ia, s.2 + 1))
  else do
    acc e .inputs i
    pure (.inl s)

/-- `c_aggregate(nval, operator, maxnan, aggindex, inputs, outputs, iend)`; the operator and `maxnan`
do not steer any access -/
def aggregate (e : Ext) (nval : Int) (idx : Nat → Int) : R Int :=
  if nval < 1 then pure 1
  else do
    let ia0 ← rdI e .aggindex idx 0
    let r ← forLoop (aggBody e nval idx) nval.toNat 0 (ia0, 0)
    match r with
    | .inr c => pure c
    | .inl s => do
      acc e .outputs s.2
      acc e .iend 0
      pure 0

/-- second pass of `c_flathomogen` over a finished group: `for(j=start; j<i; j++)` reads `inputs[j]`,
writes `outputs[j]` -/
def homFlush (e : Ext) (start i : Int) : R Unit :=
  forEach (fun j => do acc e .inputs j; acc e .outputs j) (i - start).toNat start

/-- state `(iaprev, start)` -/
def homBody (e : Ext) (idx : Nat → Int) (i : Int) (s : Int × Int) : R ((Int × Int) ⊕ Int) := do
  let ia ← rdI e .aggindex idx i
  if ia < s.1 then pure (.inr 1)
  else if ia ≠ s.1 then do
    homFlush e s.2 i
    acc e .inputs i
    pure (.inl (ia, i))
  else do
    acc e .inputs i
    pure (.inl s)

/-- `c_flathomogen(nval, maxnan, aggindex, inputs, outputs)` -/
def flathomogen (e : Ext) (nval : Int) (idx : Nat → Int) : R Int :=
  if nval < 1 then pure 1
  else do
    let ia0 ← rdI e .aggindex idx 0
    let r ← forLoop (homBody e idx) nval.toNat 0 (ia0, 0)
    match r with
    | .inr c => pure c
    | .inl s => do
      homFlush e s.2 nval
      pure 0

/-- loop of `c_islin` from `i = 2`; state `(count, start)`; `lin i` = the test
`dist<tol && vcur>thresh && ~isnan(dist)` at iteration `i` -/
def islinBody (e : Ext) (npoints : Int) (lin : Nat → Bool) (i : Int) (s : Int × Int) :
    R ((Int × Int) ⊕ Int) := do
  acc e .data i
  acc e .islin i
  if lin i.toNat then
    pure (.inl (s.1 + 1, if s.1 = 0 then i - 2 else s.2))
  else do
    if s.1 ≥ npoints then forEach (fun k => acc e .islin k) (i - s.2).toNat s.2 else pure ()
    pure (.inl (0, s.2))

/-- `c_islin(nval, thresh, tol, npoints, data, islin)` -/
def islin (e : Ext) (nval npoints : Int) (lin : Nat → Bool) : R Int :=
  if nval < 2 then do
    if nval = 1 then acc e .islin 0 else pure ()
    pure 0
  else do
    acc e .data 0
    acc e .data 1
    acc e .islin 0
    acc e .islin 1
    let r ← forLoop (islinBody e npoints lin) (nval - 2).toNat 2 (0, 0)
    match r with
    | .inr c => pure c
    | .inl _ => pure 0

/-- `c_eckhardt(nval, timestep_type, thresh, tau, BFI_max, inputs, outputs)`; `badparam` = one of the
three parameter range tests fired -/
def eckhardt (e : Ext) (nval : Int) (badparam : Bool) : R Int :=
  if badparam then pure 1
  else if nval < 1 then pure 0
  else do
    acc e .inputs 0
    acc e .outputs 0
    forEach (fun i => do acc e .inputs i; acc e .outputs i) (nval - 1).toNat 1
    pure 0

/-- start scan of `c_var2h`: `while(varindex<nvalvar-1 && varsec[varindex]<=hstartsec) varindex++`;
returns the final `varindex` -/
def var2hScan (e : Ext) (nvalvar hstart : Int) (sec : Nat → Int) : R Int := do
  let r ← forLoop (σ := Unit) (ρ := Int) (fun j _ => do
      let t ← rdI e .varsec sec j
      if t ≤ hstart then pure (.inl ()) else pure (.inr j)) (nvalvar - 1).toNat 0 ()
  match r with
  | .inr j => pure j
  | .inl _ => pure (if nvalvar - 1 < 0 then 0 else nvalvar - 1)

/-- inner `while(t1<end)` of `c_var2h`; state `(varindex, t1)`;
result `inr (inl code)` = `return code`, `inr (inr v)` = loop left with `varindex = v` -/
def var2hInner (e : Ext) (nvalvar endt : Int) (sec : Nat → Int) (_ : Int) (s : Int × Int) :
    R ((Int × Int) ⊕ (Int ⊕ Int)) :=
  if s.2 < endt then do
    let t2 ← rdI e .varsec sec (s.1 + 1)
    acc e .varvalues (s.1 + 1)
    if t2 < s.2 then pure (.inr (.inl 1))
    else if s.1 + 1 + 1 ≥ nvalvar then pure (.inr (.inr (s.1 + 1)))
    else pure (.inl (s.1 + 1, t2))
  else pure (.inr (.inr s.1))

/-- one period of `c_var2h`; state `varindex` -/
def var2hBody (e : Ext) (nvalvar nbsec hstart : Int) (sec : Nat → Int) (i : Int) (v : Int) :
    R (Int ⊕ Int) := do
  let p ← i64 (i * nbsec)
  let start ← i64 (hstart + p)
  let t1 ← rdI e .varsec sec v
  acc e .varvalues v
  acc e .hvalues i
  let r ← forLoop (var2hInner e nvalvar (start + nbsec) sec) nvalvar.toNat 0 (v, t1)
  match r with
  | .inl _ => .error .fuel
  | .inr (.inl c) => pure (.inr c)
  | .inr (.inr v') => do
    acc e .hvalues i
    pure (.inl (v' - 1))

/-- `c_var2h(nvalvar, nvalh, nbsec_per_period, rainfall, display, maxgapsec, varsec, varvalues,
hstartsec, hvalues)`. Time stamps are compared as integers: the C code compares their conversions to
double, which is the same thing below 2^53 seconds. -/
def var2h (e : Ext) (nvalvar nvalh nbsec rainfall hstart : Int) (sec : Nat → Int) : R Int :=
  if rainfall < 0 ∨ rainfall > 1 then pure 1
  else if nbsec ≠ 1800 ∧ nbsec ≠ 3600 then pure 1
  else do
    let v0 ← var2hScan e nvalvar hstart sec
    if v0 - 1 < 0 then pure 1
    else do
      let r ← forLoop (var2hBody e nvalvar nbsec hstart sec) (nvalh - 1).toNat 0 (v0 - 1)
      match r with
      | .inr c => pure c
      | .inl _ => pure 0

/-- `c_dateutils_isleapyear(year)`: `year % 4 == 0 && (year % 100 != 0 || year % 400 == 0)` — three remainders
by constants -/
def isleapyear (year : Int) : R Int := do
  let a ← cmod year 4
  let b ← cmod year 100
  let c ← cmod year 400
  pure (if a = 0 ∧ (b ≠ 0 ∨ c = 0) then 1 else 0)

/-- `c_dateutils_daysinmonth`: the table `days_in_month[13]` is indexed behind the `1..12` guard -/
def daysinmonth (month : Int) : R Int :=
  if month < 1 ∨ month > 12 then pure (-1)
  else do
    acc (constExt 13) .daysInMonth month
    pure 0

/-- `c_dateutils_dayofyear` -/
def dayofyear (month day : Int) : R Int :=
  if month < 1 ∨ month > 12 then pure (-1)
  else if day < 1 ∨ day > 31 then pure (-1)
  else do
    acc (constExt 13) .dayOfYear month
    pure 0

/-- `c_dateutils_add1month(date)`; `d k` = content of `date[k]` -/
def add1month (e : Ext) (d : Nat → Int) : R Int := do
  let m ← rdI e .date d 1
  let ym ← (if m < 12 then do
      acc e .date 1
      let y ← rdI e .date d 0
      pure (some (y, m + 1))
    else do
      let y ← rdI e .date d 0
      if y = i32max then pure none
      else do
        acc e .date 1
        let y1 ← i32 (y + 1)
        acc e .date 0
        pure (some (y1, 1)))
  match ym with
  | none => pure 1
  | some (_, m') => do
    let r ← daysinmonth m'
    if r < 0 then pure 1
    else do
      acc e .date 2
      pure 0

/-- value returned by `c_dateutils_daysinmonth` for a month in `1..12` -/
def nbdayOf (y m : Int) : Int :=
  let leap := y.tmod 4 = 0 ∧ (y.tmod 100 ≠ 0 ∨ y.tmod 400 = 0)
  if m = 2 then (if leap then 29 else 28)
  else if m = 4 ∨ m = 6 ∨ m = 9 ∨ m = 11 then 30 else 31

/-- `c_dateutils_add1day(date)` -/
def add1day (e : Ext) (d : Nat → Int) : R Int := do
  let y ← rdI e .date d 0
  let m ← rdI e .date d 1
  let r ← daysinmonth m
  if r < 0 then pure 1
  else do
    let nbday := nbdayOf y m
    let day ← rdI e .date d 2
    if day < nbday then do
      let _ ← i32 (day + 1)
      acc e .date 2
      pure 0
    else if day = nbday then
      if m ≥ 12 ∧ y = i32max then pure 1
      else do
        acc e .date 2
        if m < 12 then do
          acc e .date 1
          pure 0
        else do
          acc e .date 1
          let _ ← i32 (y + 1)
          acc e .date 0
          pure 0
    else pure 1

/-- `c_dateutils_getdate(day, date)`: `inrange` = the test `day > -2147483648. && day < 2147483648.`;
`d4, d2, d0` = integer parts of `day*1e-4`, `day*1e-2`, `day`.
OVER-APPROXIMATION: the kernel's test `nday < 0 || nday > nbday` (c_dateutils.c:133, error return before the three
writes) is modelled only for month 0 (`nbday = -1`: it always fires). For a month `1..12` the model goes on to write
`date[0..2]` and returns `0` whatever `nday` is, where the kernel returns an error and touches nothing for a day
outside the month (`day = 20240231`). The footprint of the model contains the kernel's, so safety carries over; the
return code of the model is not the kernel's for such a day. -/
def getdate (e : Ext) (inrange : Bool) (d4 d2 d0 : XInt) : R Int :=
  if !inrange then pure 1
  else do
    let year ← castI32 d4
    let c2 ← castI32 d2
    let y100 ← i32 (year * 100)
    let month ← i32 (c2 - y100)
    let c0 ← castI32 d0
    let y10000 ← i32 (year * 10000)
    let t ← i32 (c0 - y10000)
    let m100 ← i32 (month * 100)
    let nday ← i32 (t - m100)
    if month < 0 ∨ month > 12 then pure 1
    else do
      let r ← daysinmonth month
      -- nbday = -1 for month 0: `nday > nbday` or `nday < 0` then always holds
      if r < 0 then pure 1
      else do
        let _ := nday      -- not tested for a month `1..12`: see the docstring
        acc e .date 0
        acc e .date 1
        acc e .date 2
        pure 0

/-- `c_dateutils_comparedates(date1, date2)`: reads as far as the first differing field -/
def comparedates (e : Ext) (a b : Nat → Int) : R Int := do
  let a0 ← rdI e .date1 a 0
  let b0 ← rdI e .date2 b 0
  if a0 < b0 then pure 1 else if a0 > b0 then pure (-1)
  else do
    let a1 ← rdI e .date1 a 1
    let b1 ← rdI e .date2 b 1
    if a1 < b1 then pure 1 else if a1 > b1 then pure (-1)
    else do
      let a2 ← rdI e .date1 a 2
      let b2 ← rdI e .date2 b 2
      if a2 < b2 then pure 1 else if a2 > b2 then pure (-1) else pure 0

/-- loop of `c_combi`; state `(ans, n)`; every product is a `long long` expression -/
def combiBody (j : Int) (s : Int × Int) : R ((Int × Int) ⊕ Int) := do
  let m ← cmod s.2 j
  if m = 0 then do
    let q ← cdiv s.2 j
    let a ← i64 (s.1 * q)
    pure (.inl (a, s.2 - 1))
  else do
    let m2 ← cmod s.1 j
    if m2 = 0 then do
      let q ← cdiv s.1 j
      let a ← i64 (q * s.2)
      pure (.inl (a, s.2 - 1))
    else do
      let p ← i64 (s.1 * s.2)
      let a ← cdiv p j
      pure (.inl (a, s.2 - 1))

/-- `c_combi(n, k)` (after the fix: negative arguments are refused before `n-k` is formed) -/
def combi (n k : Int) : R Int :=
  if n < 0 ∨ k < 0 ∨ k > 30 then pure (-1)
  else do
    let d ← i32 (n - k)
    if d > 30 then pure (-1)
    else do
      let k' := if k > d then d else k
      let r ← forLoop combiBody k'.toNat 1 (1, n)
      match r with
      | .inr c => pure c
      | .inl s => pure s.1

/-! ## stat package -/

/-- `ARMODEL_NPARAMSMAX`: extent of the local array `prev_centered` -/
def arMax : Int := 10

/-- checks shared by `c_armodel_sim` and `c_armodel_residual`; `pnan k` = `isnan(params[k])`;
`badscalar` = `isnan(sim_mean) || isnan(sim_ini)`; `ok (some ())` = go on -/
def arChecks (e : Ext) (le : Ext) (nparams : Int) (pnan : Nat → Bool) (badscalar : Bool) : R (Option Unit) :=
  if nparams > arMax ∨ nparams ≤ 0 then pure none
  else do
    let r ← forLoop (σ := Unit) (ρ := Unit) (fun k _ => do
        acc e .params k
        if pnan k.toNat then pure (.inr ()) else pure (.inl ())) nparams.toNat 0 ()
    match r with
    | .inr _ => pure none
    | .inl _ =>
      if badscalar then pure none
      else do
        forEach (fun k => acc le .prev k) nparams.toNat 0
        pure (some ())

/-- the `for(k=nparams-1; k>=0; k--)` loop: reads `params[k]`, `prev[k]`, and `prev[k-1]` when `k>0` -/
def arShift (e le : Ext) (nparams : Int) : R Unit :=
  forEach (fun j => do
      let k := nparams - 1 - j
      acc le .prev k
      acc e .params k
      if k > 0 then acc le .prev (k - 1) else pure ()
      acc le .prev k) nparams.toNat 0

/-- `c_armodel_sim(nval, nparams, sim_mean, sim_ini, params, innov, outputs)` -/
def armodelSim (e : Ext) (nval nparams : Int) (pnan : Nat → Bool) (badscalar : Bool) : R Int := do
  let le : Ext := constExt 10
  let c ← arChecks e le nparams pnan badscalar
  match c with
  | none => pure 1
  | some _ => do
    forEach (fun i => do
        acc e .innov i
        arShift e le nparams
        acc e .outputs i) nval.toNat 0
    pure 0

/-- `c_armodel_residual(nval, nparams, sim_mean, sim_ini, params, inputs, residuals)`;
`xnan i` = `isnan(inputs[i]-sim_mean)` (then the value is rebuilt from `params[k]*prev[k]`) -/
def armodelResidual (e : Ext) (nval nparams : Int) (pnan : Nat → Bool) (badscalar : Bool)
    (xnan : Nat → Bool) : R Int := do
  let le : Ext := constExt 10
  let c ← arChecks e le nparams pnan badscalar
  match c with
  | none => pure 1
  | some _ => do
    forEach (fun i => do
        acc e .inputs i
        if xnan i.toNat then
          forEach (fun k => do acc e .params k; acc le .prev k) nparams.toNat 0
        else pure ()
        arShift e le nparams
        acc e .residuals i) nval.toNat 0
    pure 0

/-- one forecast of `c_crps`: copy of the ensemble, weight, bins, outliers, uncertainty;
`unsorted j` = `ensemb[j+1]<ensemb[j]` (the `EDOM` return) -/
def crpsRow (e le : Ext) (ncol useW : Int) (unsorted : Nat → Bool) (i : Int) (_ : Unit) : R (Unit ⊕ Int) := do
  forEach (fun j => do
      let _ ← i32 (ncol * i)
      let k ← i32 (ncol * i + j)
      acc e .sim k
      acc le .ensemb j) ncol.toNat 0
  if useW = 1 then acc e .weights i else pure ()
  let r ← forLoop (σ := Unit) (ρ := Unit) (fun j _ => do
      acc le .ensemb (j + 1)
      acc le .ensemb j
      if unsorted j.toNat then pure (.inr ())
      else do
        acc e .obs i
        acc le .work (j + 1)
        pure (.inl ())) (ncol - 1).toNat 0 ()
  match r with
  | .inr _ => pure (.inr 1)
  | .inl _ => do
    acc e .obs i
    acc le .ensemb 0
    acc le .work 0
    acc le .ensemb (ncol - 1)
    acc le .work ncol
    forEach (fun k => do
        acc e .obs k
        acc e .obs i
        if useW = 1 then acc e .weights k else pure ()) i.toNat 0
    pure (.inl ())

/-- `c_crps(nval, ncol, use_weights, is_sorted, obs, sim, weights_vector, reliability_table,
crps_decompos)`; the seven work arrays of `ncol+1` doubles are one local extent (`ensemb`, `work`);
`unsorted i j` = the sorting test of forecast `i` -/
def crps (e : Ext) (nval ncol useW : Int) (unsorted : Nat → Nat → Bool) : R Int := do
  let n1 ← i32 (ncol + 1)
  let le : Ext := constExt n1.toNat
  forEach (fun j => acc le .work j) n1.toNat 0
  let r ← forLoop (fun i s => crpsRow e le ncol useW (unsorted i.toNat) i s) nval.toNat 0 ()
  match r with
  | .inr c => pure c
  | .inl _ => do
    forEach (fun j => do
        acc le .work j
        forEach (fun c => do
            let k ← i32 (j * 7 + c)
            acc e .table k) 7 0
        acc e .decompos 0
        acc e .decompos 1) n1.toNat 0
    acc e .decompos 2
    acc e .decompos 3
    acc e .decompos 4
    pure 0

/-- one pair `(i1, i2)` of `c_ensrank` -/
def ensrankPair (e le : Ext) (nval ncol i1 i2 : Int) : R Unit := do
  forEach (fun j => do
      if j < ncol then do
        let k ← i32 (ncol * i1 + j)
        acc e .sim k
      else do
        let k ← i32 (ncol * (i2 - 1) + j)
        acc e .sim k
      acc le .ensemb j) (2 * ncol).toNat 0
  acc le .ensemb 0
  acc le .ensemb 1
  forEach (fun j => do
      acc le .ensemb j
      if j < 2 * ncol - 1 then acc le .ensemb (j + 1) else pure ()) (2 * ncol).toNat 0
  let k ← i32 (i1 * nval + i2)
  acc e .fmat k
  acc e .ranks i1
  acc e .ranks i2

/-- `c_ensrank(eps, nval, ncol, sim, fmat, ranks)`; `badeps` = `eps<1e-20`. `ensemb` is `2*ncol` pairs. -/
def ensrank (e : Ext) (nval ncol : Int) (badeps : Bool) : R Int :=
  if badeps then pure 1
  else if ncol ≤ 0 ∨ nval ≤ 0 then pure 1
  else do
    let n2 ← i32 (2 * ncol)
    let le : Ext := constExt n2.toNat
    let ninit := if nval < n2 then n2 else nval
    forEach (fun j => do
        if j < n2 then acc le .ensemb j else pure ()
        if j < nval then acc e .ranks j else pure ()) ninit.toNat 0
    forEach (fun i1 =>
        forEach (fun i2 => ensrankPair e le nval ncol i1 i2) (nval - (i1 + 1)).toNat (i1 + 1)) nval.toNat 0
    pure 0

/-- `c_ad_test(nval, unifdata, outputs)`: `qsort` of `unifdata[0..nval)` then `ADtest`;
`bad i` = one of the three input tests of `ADtest` fired at `i` -/
def adTest (e : Ext) (nval : Int) (bad : Nat → Bool) : R Int := do
  forEach (fun i => acc e .unifdata i) nval.toNat 0
  acc e .outputs 0
  acc e .outputs 1
  let r ← forLoop (σ := Unit) (ρ := Unit) (fun i _ => do
      acc e .unifdata i
      if bad i.toNat then pure (.inr ())
      else do
        acc e .unifdata (nval - 1 - i)
        pure (.inl ())) nval.toNat 0 ()
  match r with
  | .inr _ => pure 1
  | .inl _ => do
    acc e .outputs 0
    acc e .outputs 1
    pure 0

/-- `c_paretofront(nval, ncol, orientation, data, isdominated)`; `dom i j` = point `j` dominates point `i`
(the `break`) -/
def paretofront (e : Ext) (nval ncol : Int) (dom : Nat → Nat → Bool) : R Int := do
  forEach (fun i => do
      acc e .isdominated i
      let r ← forLoop (σ := Unit) (ρ := Unit) (fun j _ =>
          if i = j then pure (.inl ())
          else do
            forEach (fun k => do
                let a ← i32 (ncol * j + k)
                acc e .data a
                let b ← i32 (ncol * i + k)
                acc e .data b) ncol.toNat 0
            if dom i.toNat j.toNat then do
              acc e .isdominated i
              pure (.inr ())
            else pure (.inl ())) nval.toNat 0 ()
      match r with
      | _ => pure ()) nval.toNat 0
  pure 0

/-- `c_olsleverage(nval, npreds, predictors, tXXinv, leverage)` -/
def olsleverage (e : Ext) (nval npreds : Int) : R Int := do
  forEach (fun i =>
      forEach (fun j => do
          let a ← i32 (npreds * i + j)
          acc e .predictors a
          forEach (fun k => do
              let b ← i32 (npreds * j + k)
              acc e .tXXinv b
              let c ← i32 (npreds * i + k)
              acc e .predictors c) npreds.toNat 0
          acc e .leverages i) npreds.toNat 0) nval.toNat 0
  pure 0

/-! ## gis package (`long long` arithmetic) -/

/-- `getnxy`: `idxcell % ncols`, `(idxcell - nxy[0]) / ncols` -/
def getnxy (ncols idx : Int) : R (Int × Int) := do
  let c ← cmod idx ncols
  let r ← cdiv (idx - c) ncols
  pure (c, r)

/-- one point of `c_coord2cell` (after the fix): `fx, fy` = `floor((x-xll)/csz)`, `floor((y-yll)/csz)`;
the extent test is made on the doubles, the conversion only for points inside -/
def coord2cell1 (nrows ncols : Int) (fx fy : XInt) : R Int :=
  match fx, fy with
  | some x, some y =>
    if 0 ≤ x ∧ x < ncols ∧ 0 ≤ y ∧ y < nrows then do
      let nx ← castI64 (some x)
      let c ← castI64 (some y)
      let ny ← i64 (nrows - 1 - c)
      let p ← i64 (ny * ncols)
      i64 (p + nx)
    else pure (-1)
  | _, _ => pure (-1)

/-- `c_coord2cell(nrows, ncols, xll, yll, csz, nval, xycoords, idxcell)` -/
def coord2cell (e : Ext) (nrows ncols nval : Int) (fx fy : Nat → XInt) : R Int := do
  forEach (fun i => do
      acc e .xycoords (2 * i)
      acc e .xycoords (2 * i + 1)
      let _ ← coord2cell1 nrows ncols (fx i.toNat) (fy i.toNat)
      acc e .idxcell i) nval.toNat 0
  pure 0

/-- `c_cell2rowcol(nrows, ncols, nval, idxcell, rowcols)`; `cells` = content of `idxcell` -/
def cell2rowcol (e : Ext) (nrows ncols nval : Int) (cells : Nat → Int) : R Int := do
  forEach (fun i => do
      let c ← rdI e .idxcell cells i
      let n ← i64 (nrows * ncols)
      if c < 0 ∨ c ≥ n then do
        acc e .rowcols (2 * i)
        acc e .rowcols (2 * i + 1)
      else do
        let _ ← getnxy ncols c
        acc e .rowcols (2 * i + 1)
        acc e .rowcols (2 * i)) nval.toNat 0
  pure 0

/-- `c_cell2coord(nrows, ncols, xll, yll, csz, nval, idxcell, xycoords)` -/
def cell2coord (e : Ext) (nrows ncols nval : Int) (cells : Nat → Int) : R Int := do
  forEach (fun i => do
      let c ← rdI e .idxcell cells i
      let n ← i64 (nrows * ncols)
      if c < 0 ∨ c ≥ n then do
        acc e .xycoords (2 * i)
        acc e .xycoords (2 * i + 1)
      else do
        let _ ← getnxy ncols c
        acc e .xycoords (2 * i)
        acc e .xycoords (2 * i + 1)) nval.toNat 0
  pure 0

/-- `c_neighbours(nrows, ncols, idxcell, neighbours)` writing into buffer `b` of extents `eb`;
`ok none` = the error return (nothing written) -/
def neighboursInto (eb : Ext) (b : Buf) (nrows ncols idx : Int) : R (Option Unit) := do
  let n ← i64 (nrows * ncols)
  if idx < 0 ∨ idx ≥ n then pure none
  else do
    let _ ← getnxy ncols idx
    forEach (fun iy => forEach (fun ix => acc eb b (1 + ix + (1 + iy) * 3)) 3 (-1)) 3 (-1)
    pure (some ())

/-- `c_neighbours` as called through the wrapper -/
def neighbours (e : Ext) (nrows ncols idx : Int) : R Int := do
  let r ← neighboursInto e .neighbours nrows ncols idx
  match r with
  | none => pure 1
  | some _ => pure 0

/-- the local `long long neighbours[9]` of `c_upstream` / `c_downstream` -/
def nbExt : Ext := constExt 9

/-- one cell of `c_upstream`, writing row `row` of `idxup` (a buffer of extents `eu`); `ok false` = the error
return -/
def upstream1 (e eu : Ext) (nrows ncols : Int) (code fdir : Nat → Int) (row idxcell : Int) : R Bool := do
  let n ← i64 (nrows * ncols)
  if idxcell < 0 ∨ idxcell ≥ n then pure false
  else do
    let _ ← neighboursInto nbExt .nbloc nrows ncols idxcell
    let r ← forLoop (σ := Int) (ρ := Empty) (fun j k => do
        acc nbExt .nbloc j
        let nb := neighbour nrows ncols idxcell j.toNat
        if nb = -1 then pure (.inl k)
        else do
          let fd ← rdI e .flowdir fdir nb
          if fd = 0 then pure (.inl k)
          else do
            let cd ← rdI e .flowdircode code (8 - j)
            if fd = cd then do
              acc eu .idxup (9 * row + k)
              pure (.inl (k + 1))
            else pure (.inl k)) 9 0 0
    match r with
    | .inr x => nomatch x
    | .inl k => do
      forEach (fun j => acc eu .idxup (9 * row + j)) (9 - k).toNat k
      pure true

/-- `c_upstream(nrows, ncols, flowdircode, flowdir, nval, idxdown, idxup)` -/
def upstream (e : Ext) (nrows ncols nval : Int) (code fdir cells : Nat → Int) : R Int := do
  let r ← forLoop (σ := Unit) (ρ := Unit) (fun i _ => do
      let c ← rdI e .idxdown cells i
      let ok ← upstream1 e e nrows ncols code fdir i c
      if ok then pure (.inl ()) else pure (.inr ())) nval.toNat 0 ()
  match r with
  | .inr _ => pure 1
  | .inl _ => pure 0

/-- the downstream cell of `idxcell` as `c_downstream` computes it, without the accesses:
`-2` sink, `-1` off-grid or code not found, else the neighbour in the direction of the LAST matching code -/
def downCell (nrows ncols : Int) (code : Nat → Int) (fd idxcell : Int) : Int :=
  if fd = 0 then -2
  else (List.range 9).foldl (fun d j => if fd = code j then neighbour nrows ncols idxcell j else d) (-1)

/-- one cell of `c_downstream(…, 1, idxup, idxdown)` with `idxup`, `idxdown` in buffers `bu`, `bd` of
extents `eb` at position `pos`; returns `none` for the error return, else the downstream cell -/
def downstream1 (e eb : Ext) (bu bd : Buf) (nrows ncols : Int) (code fdir : Nat → Int) (pos idxcell : Int) :
    R (Option Int) := do
  acc eb bu pos
  let n ← i64 (nrows * ncols)
  if idxcell < 0 ∨ idxcell ≥ n then pure none
  else do
    let _ ← neighboursInto nbExt .nbloc nrows ncols idxcell
    let fd ← rdI e .flowdir fdir idxcell
    acc eb bd pos
    if fd = 0 then do
      acc eb bd pos
      pure (some (-2))
    else do
      forEach (fun j => do
          let cd ← rdI e .flowdircode code j
          if fd = cd then do
            acc nbExt .nbloc j
            acc eb bd pos
          else pure ()) 9 0
      pure (some (downCell nrows ncols code fd idxcell))

/-- `c_downstream(nrows, ncols, flowdircode, flowdir, nval, idxup, idxdown)` -/
def downstream (e : Ext) (nrows ncols nval : Int) (code fdir cells : Nat → Int) : R Int := do
  let r ← forLoop (σ := Unit) (ρ := Unit) (fun i _ => do
      let c ← rdI e .idxup cells i
      let d ← downstream1 e e .idxup .idxdown nrows ncols code fdir i c
      match d with
      | none => pure (.inr ())
      | some _ => pure (.inl ())) nval.toNat 0 ()
  match r with
  | .inr _ => pure 1
  | .inl _ => pure 0

/-- extents of the one-element locals `idxdown[1]`, `idxup[1]`, `idxcell[1]` -/
def oneExt : Ext := constExt 1

/-- the walk of `c_accumulate` from cell `i0`: `while(accumulated_cells <= max_accumulated_cells)`;
state = current `idxup[0]`; `inr (inl code)` = `return code`, `inr (inr ())` = `break`.
The value added along the walk is `to_accumulate[i0]` (the cell the walk started from). -/
def accWalk (e : Ext) (nrows ncols : Int) (code fdir : Nat → Int) (i0 : Int) (_ : Int) (cur : Int) :
    R (Int ⊕ (Int ⊕ Unit)) := do
  let d ← downstream1 e oneExt .idxup .idxdown nrows ncols code fdir 0 cur
  match d with
  | none => pure (.inr (.inl 1))
  | some dn =>
    if dn < 0 then do
      acc e .accumulation cur
      pure (.inr (.inr ()))
    else do
      acc e .toacc i0
      acc e .accumulation dn
      pure (.inl dn)

/-- `c_accumulate(nrows, ncols, nprint, max_accumulated_cells, nodata_to_accumulate, flowdircode,
flowdir, to_accumulate, accumulation)` (with the `nprint > 0` guard of the fix) -/
def accumulate (e : Ext) (nrows ncols nprint maxcells : Int) (code fdir : Nat → Int) : R Int :=
  if maxcells < 1 then pure 1
  else if nrows < 1 then pure 1
  else do
    let ntot ← i64 (nrows * ncols)
    let r ← forLoop (σ := Unit) (ρ := Int) (fun i _ => do
        if nprint > 0 then do let _ ← cmod i nprint; pure () else pure ()
        let w ← forLoop (accWalk e nrows ncols code fdir i) (maxcells + 1).toNat 0 i
        match w with
        | .inr (.inl c) => pure (.inr c)
        | _ => pure (.inl ())) ntot.toNat 0 ()
    match r with
    | .inr c => pure c
    | .inl _ => pure 0

/-- `c_slope(nrows, ncols, nprint, cellsize, flowdircode, flowdir, altitude, slopeval)` -/
def slope (e : Ext) (nrows ncols nprint : Int) (code fdir : Nat → Int) : R Int :=
  if nrows < 1 then pure 1
  else do
    let ntot ← i64 (nrows * ncols)
    let r ← forLoop (σ := Unit) (ρ := Int) (fun i _ => do
        if nprint > 0 then do let _ ← cmod i nprint; pure () else pure ()
        let d ← downstream1 e oneExt .idxup .idxdown nrows ncols code fdir 0 i
        match d with
        | none => pure (.inr 1)
        | some dn =>
          if dn ≥ 0 then do
            acc e .altitude i
            acc e .altitude dn
            let _ ← rdI e .flowdir fdir i
            acc e .flowdircode 0
            acc e .flowdircode 2
            acc e .flowdircode 6
            acc e .flowdircode 8
            acc e .slopeval i
            pure (.inl ())
          else pure (.inl ())) ntot.toNat 0 ()
    match r with
    | .inr c => pure c
    | .inl _ => pure 0

/-- `c_slice(nrows, ncols, xll, yll, csz, data, nval, xyslice, zslice)`: three conversions of a point to a
cell per slice point (`f1`, `f2`, `f3` = their floor pairs), each cell indexes `data` when it is not `-1` -/
def slice (e : Ext) (nrows ncols nval : Int) (f1 f2 f3 : Nat → XInt × XInt) : R Int := do
  forEach (fun i => do
      acc e .zslice i
      acc e .xyslice (2 * i)
      acc e .xyslice (2 * i + 1)
      let c1 ← coord2cell1 nrows ncols (f1 i.toNat).1 (f1 i.toNat).2
      if c1 < 0 then pure ()
      else do
        let _ ← getnxy ncols c1
        acc e .data c1
        acc e .zslice i
        acc e .xyslice (2 * i)
        acc e .xyslice (2 * i + 1)
        let c2 ← coord2cell1 nrows ncols (f2 i.toNat).1 (f2 i.toNat).2
        if c2 < 0 then pure ()
        else do
          let c3 ← coord2cell1 nrows ncols (f3 i.toNat).1 (f3 i.toNat).2
          if c3 < 0 then pure ()
          else do
            acc e .data c2
            acc e .data c3
            acc e .zslice i) nval.toNat 0
  pure 0

/-- search of `c_intersect` among the cells already stored (`stored`, most recent LAST):
reads `idxcells[k]` up to the match, then `weights[k]`; returns whether the cell was found -/
def intersectFind (e : Ext) (stored : List Int) (c : Int) : R Bool := do
  let r ← forLoop (σ := Unit) (ρ := Unit) (fun k _ => do
      acc e .idxcells k
      if stored.getD k.toNat (-1) = c then do
        acc e .weights k
        pure (.inr ())
      else pure (.inl ())) stored.length 0 ()
  match r with
  | .inr _ => pure true
  | .inl _ => pure false

/-- `c_intersect(nrows, ncols, xll, yll, csz, csz_area, nval, xy_area, ncells, npoints, idxcells, weights)`;
`f i` = floor pair of point `i` in the target grid. `ncells` is not used by the kernel. -/
def intersect (e : Ext) (nrows ncols nval : Int) (f : Nat → XInt × XInt) : R Int := do
  let r ← forLoop (σ := List Int) (ρ := Empty) (fun i stored => do
      acc e .xyarea (2 * i)
      acc e .xyarea (2 * i + 1)
      let c ← coord2cell1 nrows ncols (f i.toNat).1 (f i.toNat).2
      if c < 0 then pure (.inl stored)
      else do
        let found ← intersectFind e stored c
        if found then pure (.inl stored)
        else do
          acc e .idxcells stored.length
          acc e .weights stored.length
          pure (.inl (stored ++ [c]))) nval.toNat 0 []
  match r with
  | .inr x => nomatch x
  | .inl _ => do
    acc e .npoints 0
    pure 0

/-- `c_voronoi(nrows, ncols, xll, yll, csz, ncells, idxcells_area, npoints, xypoints, weights)` (after the
fixes: `npoints >= 1`, a grid with rows and columns, no read of `xypoints` at the cell index);
`closer i j` = the test `dist<distmin` for cell `i` and point `j` -/
def voronoi (e : Ext) (nrows ncols ncells npoints : Int) (cells : Nat → Int) (closer : Nat → Nat → Bool) :
    R Int :=
  if npoints < 1 then pure 1
  else if nrows < 1 ∨ ncols < 1 then pure 1
  else do
    forEach (fun j => acc e .weights j) npoints.toNat 0
    forEach (fun i => do
        let c ← rdI e .idxcellsArea cells i
        let _ ← getnxy ncols c
        let r ← forLoop (σ := Int) (ρ := Empty) (fun j jmin => do
            acc e .xypoints (2 * j)
            acc e .xypoints (2 * j + 1)
            pure (.inl (if closer i.toNat j.toNat then j else jmin))) npoints.toNat 0 0
        match r with
        | .inr x => nomatch x
        | .inl jmin => acc e .weights jmin) ncells.toNat 0
    forEach (fun j => acc e .weights j) npoints.toNat 0
    pure 0

/-- `c_inside(nprint, npoints, points, nvertices, polygon, atol, polygon_xlim, polygon_ylim, inside)`;
`outbox i` = the bounding box test sends point `i` to `continue` -/
def inside (e : Ext) (nprint npoints nvertices : Int) (outbox : Nat → Bool) : R Int := do
  forEach (fun ipt => do
      let a ← i32 (2 * ipt)
      acc e .points a
      let b ← i32 (2 * ipt + 1)
      acc e .points b
      -- the four comparisons are joined by `||`: at least `polygon_xlim[0]` is read, at most all four
      acc e .xlim 0
      acc e .xlim 1
      acc e .ylim 0
      acc e .ylim 1
      if outbox ipt.toNat then pure ()
      else do
        if nprint > 0 then do let _ ← cmod ipt nprint; pure () else pure ()
        acc e .polygon 0
        acc e .polygon 1
        acc e .inside ipt
        let nv1 ← i32 (nvertices + 1)
        forEach (fun ivert => do
            let m ← cmod ivert nvertices
            let k ← i32 (2 * m)
            acc e .polygon k
            acc e .polygon (k + 1)
            acc e .inside ipt) (nv1 - 1).toNat 1) npoints.toNat 0
  pure 0

/-- `c_exclude_zero_area_boundary(nval, deteps, xycoords, idxok)` -/
def excludeZeroArea (e : Ext) (nval : Int) : R Int :=
  if nval ≤ 2 then pure 1
  else do
    acc e .idxok 0
    acc e .idxok (nval - 1)
    forEach (fun i => do
        acc e .xycoords ((i - 1) * 2)
        acc e .xycoords ((i - 1) * 2 + 1)
        acc e .xycoords (i * 2)
        acc e .xycoords (i * 2 + 1)
        acc e .xycoords ((i + 1) * 2)
        acc e .xycoords ((i + 1) * 2 + 1)
        acc e .idxok i) (nval - 2).toNat 1
    pure 0

/-- `c_delineate_river(nrows, ncols, xll, yll, csz, flowdircode, flowdir, idxupstream, nval, npoints,
idxcells, data)`; state = current `idxupstream` -/
def delineateRiver (e : Ext) (nrows ncols nval idxupstream : Int) (code fdir : Nat → Int) : R Int := do
  let n ← i64 (nrows * ncols)
  if idxupstream < 0 ∨ idxupstream > n - 1 then pure 1
  else do
    acc e .npoints 0
    let r ← forLoop (σ := Int) (ρ := Int) (fun i cur => do
        acc e .idxcells i
        acc e .npoints 0
        let d ← downstream1 e oneExt .idxup .idxdown nrows ncols code fdir 0 cur
        forEach (fun c => acc e .rivdata (5 * i + c)) 3 0
        let _ ← getnxy ncols cur
        acc e .rivdata (5 * i + 3)
        acc e .rivdata (5 * i + 4)
        let _ ← cmod cur ncols
        match d with
        | none => pure (.inr 0)     -- cannot happen for a valid cell: the stale idxdown[0] would be used
        | some dn => do
          let _ ← cmod dn ncols
          if dn < 0 then pure (.inr 0) else pure (.inl dn)) nval.toNat 0 idxupstream
    match r with
    | .inr c => pure c
    | .inl _ => pure 0

/-- `stepsquaredist(ncols, n1, n2)`: rows and columns of both cells -/
def stepSquareDist (ncols n1 n2 : Int) : R Unit := do
  let _ ← getnxy ncols n1
  let _ ← getnxy ncols n2
  pure ()

/-- one start cell of `c_delineate_flowpathlengths_in_catchment`: the `while(ipath < nval)` walk;
state `(idxcell_up, idxcell_down, ipath)`; `inr` = `break` with the state at that point -/
def flowpathWalk (e : Ext) (nrows ncols outlet : Int) (code fdir : Nat → Int) (_ : Int) (s : Int × Int × Int) :
    R ((Int × Int × Int) ⊕ (Int × Int × Int)) := do
  let d ← downstream1 e oneExt .idxup .idxdown nrows ncols code fdir 0 s.1
  match d with
  | none => pure (.inr s)                 -- error return: `idxcell_down[0]` keeps its value
  | some dn =>
    if dn < 0 then pure (.inr (s.1, dn, s.2.2))
    else if dn = outlet then pure (.inr (s.1, dn, s.2.2))
    else do
      stepSquareDist ncols s.1 dn
      pure (.inl (dn, dn, s.2.2 + 1))

/-- `c_delineate_flowpathlengths_in_catchment(nrows, ncols, flowdircode, flowdir, nval, idxcells_area,
idxcell_outlet, flowpathlengths)` -/
def flowpathlengths (e : Ext) (nrows ncols nval outlet : Int) (code fdir cells : Nat → Int) : R Int := do
  forEach (fun i => do
      let c ← rdI e .idxcellsArea cells i
      let r ← forLoop (flowpathWalk e nrows ncols outlet code fdir) nval.toNat 0 (c, -1, 0)
      let s := match r with
        | .inl s => s
        | .inr s => s
      if s.2.2 + 1 < nval ∧ s.2.1 ≥ 0 then stepSquareDist ncols s.1 s.2.1 else pure ()
      acc e .idxcellsArea i
      forEach (fun k => acc e .flowpaths (3 * i + k)) 3 0) nval.toNat 0
  pure 0

/-! ### `c_delineate_area` -/

/-- the non-negative entries `c_upstream` leaves in `idxup[0..9)` for a cell of the grid, in order: the
neighbours (position `j`) that are not sinks and whose flow direction is the code mirrored at `8 - j` -/
def upList (nrows ncols : Int) (code fdir : Nat → Int) (idxcell : Int) : List Int :=
  (List.range 9).filterMap fun j =>
    let nb := neighbour nrows ncols idxcell j
    if nb = -1 then none
    else if fdir nb.toNat = 0 then none
    else if fdir nb.toNat = code (8 - j) then some nb else none

/-- `for(m=0; m<ninlets; m++) if(idxinlets[m] == idx) break;` → `m < ninlets` -/
def isInlet (e : Ext) (ninlets : Int) (inlets : Nat → Int) (idx : Int) : R Bool := do
  let r ← forLoop (σ := Unit) (ρ := Unit) (fun m _ => do
      let v ← rdI e .idxinlets inlets m
      if v = idx then pure (.inr ()) else pure (.inl ())) ninlets.toNat 0 ()
  match r with
  | .inr _ => pure true
  | .inl _ => pure false

/-- state of the layer loop: `i` (cells stored so far) and the content of `buffer2[0..nbuffer2)` -/
structure DA where
  i : Int
  buf2 : List Int

/-- storing one upstream cell; `inr code` = `return code` -/
def daStore (e : Ext) (nval idx : Int) (s : DA) : R (DA ⊕ Int) :=
  if s.i = nval - 1 then pure (.inr 1)
  else do
    acc e .idxcellsArea s.i
    acc e .buffer2 s.buf2.length
    if (s.buf2.length : Int) = nval - 1 then pure (.inr 1)
    else pure (.inl { i := s.i + 1, buf2 := s.buf2 ++ [idx] })

/-- one cell of `buffer1`: its upstream cells that are not inlets are stored -/
def daCell (e : Ext) (nrows ncols nval ninlets : Int) (code fdir inlets : Nat → Int) (idxcell : Int) (s : DA) :
    R (DA ⊕ Int) := do
  -- `c_upstream(…, 1, idxcell, idxup)` with the locals `idxcell[1]`, `idxup[9]`; its error return (a cell outside
  -- the grid) would leave `idxup` as it was — the cells handed to it are the outlet and cells it produced
  let _ ← upstream1 e (constExt 9) nrows ncols code fdir 0 idxcell
  forEach (fun k => acc (constExt 9) .idxup k) 9 0
  let ups := upList nrows ncols code fdir idxcell
  forLoop (fun k s => do
      let idx := ups.getD k.toNat (-1)
      let isin ← isInlet e ninlets inlets idx
      if isin then pure (.inl s) else daStore e nval idx s) ups.length 0 s

/-- one layer of the breadth-first search (`nlayer = t`) -/
def daLayer (e : Ext) (nrows ncols nval ninlets idxoutlet : Int) (code fdir inlets : Nat → Int)
    (t : Int) (s : DA) : R (DA ⊕ Int) := do
  forEach (fun l => do acc e .buffer2 l; acc e .buffer1 l) s.buf2.length 0
  let buf1 := s.buf2
  let r ← forLoop (fun l s' => do
      acc e .buffer1 l
      daCell e nrows ncols nval ninlets code fdir inlets (buf1.getD l.toNat (-1)) s')
    buf1.length 0 { i := s.i, buf2 := [] }
  match r with
  | .inr c => pure (.inr c)
  | .inl s' =>
    if s'.buf2.length = 0 then pure (.inr 0)
    else if t = 0 then
      if s'.i = nval - 1 then pure (.inr 1)
      else do
        acc e .idxcellsArea s'.i
        let _ := idxoutlet
        pure (.inl { s' with i := s'.i + 1 })
    else pure (.inl s')

/-- `c_delineate_area(nrows, ncols, flowdircode, flowdir, idxoutlet, ninlets, idxinlets, nval, idxcells_area,
buffer1, buffer2)`. The `while(nlayer>=0)` loop has no bound of its own: every layer that does not return stores
at least one cell and `i` stops at `nval-1`, so `nval+1` layers are fuel enough (theorem: never exhausted). -/
def delineateArea (e : Ext) (nrows ncols nval ninlets idxoutlet : Int) (code fdir inlets : Nat → Int) : R Int :=
  if nval < 1 then pure 1
  else do
    let n ← i64 (nrows * ncols)
    if idxoutlet < 0 ∨ idxoutlet > n - 1 then pure 1
    else do
      let r ← forLoop (σ := Unit) (ρ := Unit) (fun m _ => do
          let v ← rdI e .idxinlets inlets m
          if v < 0 ∨ v > n - 1 then pure (.inr ()) else pure (.inl ())) ninlets.toNat 0 ()
      match r with
      | .inr _ => pure 1
      | .inl _ => do
        acc e .buffer2 0
        let w ← forLoop (daLayer e nrows ncols nval ninlets idxoutlet code fdir inlets) (nval.toNat + 1) 0
          { i := 0, buf2 := [idxoutlet] }
        match w with
        | .inr c => pure c
        | .inl _ => .error .fuel

/-! ### `c_delineate_boundary` -/

/-- `shift[k]`: `-1, 1, -ncols, ncols` -/
def bndShift (ncols : Int) (k : Int) : Int :=
  if k = 0 then -1 else if k = 1 then 1 else if k = 2 then -ncols else ncols

/-- the four neighbours test of step 1 for cell `c`: `isout` after the loop (`true` = still 1) -/
def bndIsOut (e : Ext) (ngrid ncols : Int) (mask : Nat → Int) (c : Int) : R Bool := do
  let r ← forLoop (σ := Bool) (ρ := Empty) (fun k isout => do
      let cn ← i64 (c + bndShift ncols k)
      if 0 ≤ cn ∧ cn < ngrid then do
        let m ← rdI e .mask mask cn
        pure (.inl (isout && m == 1))
      else pure (.inl false)) 4 0 true
  match r with
  | .inr x => nomatch x
  | .inl b => pure b

/-- step 1: the cells with a neighbour outside the area go to `buffer`; `cells` = content of
`idxcells_area` AFTER `qsort`. Result: `none` = an error return, `some buf` = `buffer[0..nbuffer)` -/
def bndStep1 (e : Ext) (nval ngrid ncols : Int) (cells mask : Nat → Int) : R (Option (List Int)) := do
  let c0 ← rdI e .idxcellsArea cells 0
  acc e .buffer 0
  let r ← forLoop (σ := List Int) (ρ := Unit) (fun i buf => do
      let c ← rdI e .idxcellsArea cells i
      let m ← rdI e .mask mask c
      if m ≠ 1 then pure (.inr ())
      else do
        let isout ← bndIsOut e ngrid ncols mask c
        if !isout then
          if (buf.length : Int) > nval then pure (.inr ())
          else do
            acc e .buffer buf.length
            pure (.inl (buf ++ [c]))
        else pure (.inl buf)) (nval - 1).toNat 1 [c0]
  match r with
  | .inr _ => pure none
  | .inl buf => pure (some buf)

/-- state of step 2: current cell, `next`, `knext`, content of `buffer`, `ibnd` -/
structure Bnd2 where
  idxcell : Int
  next : Int
  knext : Int
  buf : List Int
  ibnd : Int

/-- the search `for(k=0; k<nbuffer; k++)` for the closest remaining boundary cell;
state `(next, knext, dmin)`; `(cx, cy)` = column and row of the current cell -/
def bndSearch (e : Ext) (ncols cx cy : Int) (buf : List Int) (k : Int) (s : Int × Int × Int) :
    R ((Int × Int × Int) ⊕ (Int × Int × Int)) := do
  acc e .buffer k
  let b := buf.getD k.toNat (-1)
  if b < 0 then pure (.inl s)
  else do
    let bxy ← getnxy ncols b
    let dx ← i64 (cx - bxy.1)
    let dy ← i64 (cy - bxy.2)
    let dx2 ← i64 (dx * dx)
    let dy2 ← i64 (dy * dy)
    let dist ← i64 (dx2 + dy2)
    let s' := if dist < s.2.2 ∧ dist > 0 then (b, k, dist) else s
    if dist = 1 then pure (.inr s') else pure (.inl s')

/-- one iteration of the boundary walk; `inr` = `break` (with `ibnd` where the loop stopped) -/
def bndWalk (e : Ext) (ncols dmax2 sx sy : Int) (j : Int) (s : Bnd2) : R (Bnd2 ⊕ Bnd2) := do
  let cxy ← getnxy ncols s.idxcell
  acc e .idxboundary j
  let r ← forLoop (bndSearch e ncols cxy.1 cxy.2 s.buf) s.buf.length 0 (s.next, s.knext, dmax2)
  let t := match r with
    | .inl t => t
    | .inr t => t
  let s1 : Bnd2 := { s with next := t.1, knext := t.2.1, ibnd := j }
  let thr := (4 * (s.buf.length : Int)).tdiv 5          -- (long long)((double)nbuffer*0.8)
  let dx ← i64 (cxy.1 - sx)
  let dy ← i64 (cxy.2 - sy)
  let stop ← (if j > thr then do
      let dx2 ← i64 (dx * dx)
      let dy2 ← i64 (dy * dy)
      let d ← i64 (dx2 + dy2)
      pure (decide (d < t.2.2))
    else pure false)
  if stop then pure (.inr s1)
  else if s1.knext < 0 then pure (.inr s1)
  else do
    acc e .buffer s1.knext
    pure (.inl { s1 with idxcell := s1.next, buf := s1.buf.set s1.knext.toNat (-1), ibnd := j + 1 })

/-- `c_delineate_boundary(nrows, ncols, nval, idxcells_area, buffer, catchment_area_mask, idxcells_boundary)`
(after the two fixes: cells outside the grid are refused, `buffer[knext]` is written only for `knext >= 0`);
`cells` = content of `idxcells_area` after `qsort` -/
def delineateBoundary (e : Ext) (nrows ncols nval : Int) (cells mask : Nat → Int) : R Int :=
  if nval < 1 then pure 1
  else do
    let ngrid ← i64 (nrows * ncols)
    let dmax := if nrows > ncols then nrows else ncols
    forEach (fun i => acc e .idxcellsArea i) nval.toNat 0       -- qsort
    let first ← rdI e .idxcellsArea cells 0
    if first < 0 then pure 1
    else do
      let last ← rdI e .idxcellsArea cells (nval - 1)
      if last ≥ ngrid then pure 1
      else do
        let b1 ← bndStep1 e nval ngrid ncols cells mask
        match b1 with
        | none => pure 1
        | some buf => do
          acc e .buffer 0
          let start := buf.getD 0 (-1)
          let sxy ← getnxy ncols start
          acc e .buffer 0
          let dmax2 ← i64 (dmax * dmax)
          let r ← forLoop (bndWalk e ncols dmax2 sxy.1 sxy.2) buf.length 0
            { idxcell := start, next := -1, knext := -1, buf := buf.set 0 (-1), ibnd := 0 }
          let ibnd := match r with
            | .inl s => s.ibnd
            | .inr s => s.ibnd
          let last := if ibnd > nval - 1 then nval - 1 else ibnd
          acc e .idxboundary last
          pure 0

/- sub-routines that have their own specification lemma (`Lemmas/C05.lean`): kept opaque to the elaborator so
that proofs about their callers go through the specification (`unfold` still opens them) -/
attribute [irreducible] getnxy coord2cell1 neighboursInto downstream1 upstream1 intersectFind bndIsOut bndStep1
  isInlet daCell

end HydroVerif.C05
