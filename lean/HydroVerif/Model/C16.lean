/-
C16 — model of the catchment / grid intersection and of the Voronoi weights:

* `c_intersect` (`hydrodiy/gis/c_grid.c`): every catchment-cell centre is located in the coarse grid with
  `c_coord2cell` (model: `C07.coord2cell`) and its weight is accumulated in a list of distinct cells by the
  accumulate-or-append inner loop;
* `Catchment.intersect` (`hydrodiy/gis/grid.py`): centres from `flowdir.cell2coord(cells)`, the kernel call,
  lower-left corner / row and column range of the sub-grid, scatter of the weights into the sub-grid array and
  the parent row/column bookkeeping;
* `c_voronoi` / `grid.voronoi`: nearest point per catchment cell (first arg-min, strict `<`), counts, division
  by the number of cells. The distance function is a parameter (`sqrt(dx*dx+dy*dy)` in the driver);
* the glue of the wrappers that decides the answer: `filled` selects the cell list, a catchment that is not
  delineated (`None` lists), `np.atleast_2d` and the two-column assert on the points argument, the kernel's
  guards `npoints < 1`, `nrows < 1 || ncols < 1` — error values by name (`Err`); in `Catchment.intersect` also the
  allocation of the kernel's buffers (`np.zeros(nrows*ncols)`: negative size rejected; the kernel does not check
  the size it is told: writing past it is the error value `bufferOverflow`), the shape guards of the `Grid.data`
  setter the weight array goes through, and the parent attributes `set_parent_attributes` copies;
* `repAdd`: the value the accumulate loop holds for a cell met `n + 1` times (`af`, then `+= af` `n` times, in
  this order — every numeric instance, also `Float`);
* an executable statement of the property (`specWeight`, `specArea`: counts of catchment-cell centres in the
  half-open footprint / extent, with `Bool`-valued tests) which the driver evaluates next to the model.

No Mathlib. Everything is total and computable; the driver runs these definitions at `Float` (IEEE double,
operation order of the C code) and at `Rat` (exact). Grid geometry is imported from `Model/C07.lean`.
-/
import HydroVerif.Model.C07
namespace HydroVerif.C16
open HydroVerif.C07

inductive Err
  /-- `np.min` of an empty array in `Catchment.intersect`: no catchment-cell centre falls inside the grid
  (`ValueError: zero-size array to reduction operation minimum which has no identity`) -/
  | noOverlap
  /-- `GRID_ERROR + __LINE__` of `c_voronoi`: `npoints < 1` -/
  | noPoints
  /-- `GRID_ERROR + __LINE__` of `c_voronoi`: `nrows < 1 || ncols < 1` (cell coordinates use `idxcell % ncols`) -/
  | badGrid
  /-- `grid.voronoi`: `catchment._idxcells_area is None` (`ValueError ... please delineate the area`) -/
  | notDelineated
  /-- `Catchment.intersect` on a catchment whose selected cell list is `None`: `cell2coord(None)` fails in numpy
  with `TypeError: int() argument must be ... not 'NoneType'` (there is no guard in `intersect`) -/
  | cellsNone
  /-- the Cython wrapper's `assert xypoints.shape[1] == 2` (`AssertionError`): after `np.atleast_2d` the points
  array does not have two columns -/
  | badShape
  /-- `np.zeros(nrows*ncols)` in `Catchment.intersect` with `nrows*ncols < 0`
  (`ValueError: negative dimensions are not allowed`) -/
  | badBuffer
  /-- `c_intersect` is told the length of `idxcells` / `weights` (`ncells`) and never compares it with `j`: listing
  more cells than the buffers hold is a write past their end (undefined behaviour in C) -/
  | bufferOverflow
  /-- the `Grid.data` setter: `Wrong number of rows` / `Wrong number of columns` (`ValueError`) -/
  | badData
  deriving DecidableEq, Repr

/-! ## `c_intersect` -/

section Intersect
variable {α : Type} [Add α] [Sub α] [Mul α] [Div α] [OfNat α 1] [Trunc α]

/-- `areafactor = (csz_area/csz)*(csz_area/csz)` -/
def areafactor (csz cszArea : α) : α := (cszArea / csz) * (cszArea / csz)

/-- the inner loop and the append that follows it:
```
for(k=0; k<j; k++) if(idxcells[k] == *idxcell){ weights[k] += areafactor; break; }
if(k==j){ idxcells[j] = *idxcell; weights[j] = areafactor; j++; }
``` -/
def bump (af : α) (c : Int) : List (Int × α) → List (Int × α)
  | [] => [(c, af)]
  | (k, w) :: t => if k = c then (k, w + af) :: t else (k, w) :: bump af c t

/-- what `weights[k]` holds once the cell has been met `n + 1` times: `weights[j] = areafactor` at the append,
then `weights[k] += areafactor` `n` times -/
def repAdd (af : α) : Nat → α
  | 0 => af
  | n + 1 => repAdd af n + af

/-- the cell `c_coord2cell` returns for one row of `xy_area`; `none` is the `(NaN, NaN)` row `c_cell2coord`
writes for an invalid cell number: in `c_coord2cell` the extent test on the floored doubles fails for NaN, so `-1` is
stored before any conversion) -/
def cellOfPt (g : Geom α) : Option (α × α) → Int
  | none => -1
  | some (x, y) => coord2cell g x y

/-- one iteration of the outer loop: `if(ierr>0 || *idxcell<0) continue;` then accumulate or append -/
def step (g : Geom α) (af : α) (acc : List (Int × α)) (p : Option (α × α)) : List (Int × α) :=
  let c := cellOfPt g p
  if c < 0 then acc else bump af c acc

/-- `c_intersect`: `(idxcells[k], weights[k])` for `k < npoints[0]`, in the order the cells were first met -/
def cIntersect (g : Geom α) (cszArea : α) (pts : List (Option (α × α))) : List (Int × α) :=
  pts.foldl (step g (areafactor g.csz cszArea)) []

end Intersect

/-! ## `Catchment.intersect` -/

/-- `np.min` / `np.max` of a non-empty array given as first element and rest (no NaN reaches them here) -/
def listMin {β : Type} [LT β] [DecidableLT β] (x : β) (xs : List β) : β :=
  xs.foldl (fun m y => if y < m then y else m) x
def listMax {β : Type} [LT β] [DecidableLT β] (x : β) (xs : List β) : β :=
  xs.foldl (fun m y => if m < y then y else m) x

/-- what `Catchment.intersect` returns: `(area_grid, idxcells, weights)` with the attributes of `area_grid`
the property speaks about -/
structure AreaGrid (α : Type) where
  /-- `idxcells`: cells of the parent grid, in the order the kernel met them -/
  keys : List Int
  /-- `weights`, same order -/
  weights : List α
  /-- `parentgrid_rows_start / rows_end / cols_start / cols_end` -/
  rowStart : Int
  rowEnd : Int
  colStart : Int
  colEnd : Int
  /-- `area_grid.xllcorner / yllcorner / nrows / ncols` (cell size = the parent's) -/
  xll : α
  yll : α
  nrows : Int
  ncols : Int
  /-- `area_grid.data`, row by row from the top -/
  data : List (List α)
  /-- `area_grid.cellsize` (constructor argument `cellsize=grid.cellsize`) -/
  csz : α
  /-- `parentgrid_nrows / ncols / xllcorner / yllcorner / cellsize`, copied by `set_parent_attributes` -/
  parent : Geom α

/-- the `Grid.data` setter on a grid of shape `(nrows, ncols)`: an array with another number of rows or of columns
is rejected; `_clipdata` is the identity (`mindata = -inf`, `maxdata = +inf` on a fresh grid) and `astype(float64)`
of a float64 array changes nothing -/
def setData {β : Type} (nrows ncols : Int) (value : List (List β)) : Except Err (List (List β)) :=
  if (value.length : Int) ≠ nrows then .error .badData
  else if value.any (fun r => decide ((r.length : Int) ≠ ncols)) then .error .badData
  else .ok value

section PyIntersect
variable {α : Type} [Add α] [Sub α] [Mul α] [Div α] [OfNat α 0] [OfNat α 1] [LT α] [DecidableLT α] [Trunc α]

/-- `weights_array = zeros(...)` followed by the element-wise assignments
`weights_array[row_n - row_start, col_n - col_start] = weights[n]` in the order of `n`, as a function of the
array position (later assignments win) -/
def scatterFn (nrows ncols rowStart colStart : Int) (kws : List (Int × α)) : Int → Int → α :=
  kws.foldl (fun f kw i j =>
      let rc := cell2rowcol nrows ncols kw.1
      if i = rc.1 - rowStart ∧ j = rc.2 - colStart then kw.2 else f i j)
    (fun _ _ => 0)

/-- `Catchment.intersect(grid, filled)`; `cells` is `_idxcells_area_filled` or `_idxcells_area`.
`grid.cell2coord(idxcells)` is modelled by `getcoord`: the guard of `c_cell2coord` passes for every cell the
kernel returns (`Props/C16.lean: cIntersect_keys_valid`, true for every numeric instance). -/
def intersect (coarse fine : Geom α) (cells : List Int) : Except Err (AreaGrid α) :=
  -- `idxcells = np.zeros(nrows*ncols)`, `weights = np.zeros(nrows*ncols)`
  if coarse.nrows * coarse.ncols < 0 then .error .badBuffer else
  let kws := cIntersect coarse fine.csz (cells.map (cell2coord fine))
  -- the kernel fills the buffers without looking at their length
  if (coarse.nrows * coarse.ncols).toNat < kws.length then .error .bufferOverflow else
  match kws with
  | [] => .error .noOverlap
  | kw0 :: rest =>
    let xs := rest.map fun kw => (getcoord coarse kw.1).1
    let ys := rest.map fun kw => (getcoord coarse kw.1).2
    let axll := listMin (getcoord coarse kw0.1).1 xs - coarse.csz / (1 + 1)
    let ayll := listMin (getcoord coarse kw0.1).2 ys - coarse.csz / (1 + 1)
    let rc0 := cell2rowcol coarse.nrows coarse.ncols kw0.1
    let rows := rest.map fun kw => (cell2rowcol coarse.nrows coarse.ncols kw.1).1
    let cols := rest.map fun kw => (cell2rowcol coarse.nrows coarse.ncols kw.1).2
    let rowStart := listMin rc0.1 rows
    let rowEnd := listMax rc0.1 rows
    let colStart := listMin rc0.2 cols
    let colEnd := listMax rc0.2 cols
    let anrows := rowEnd - rowStart + 1
    let ancols := colEnd - colStart + 1
    let f := scatterFn coarse.nrows coarse.ncols rowStart colStart kws
    let arr := (List.range anrows.toNat).map fun (i : Nat) =>
                 (List.range ancols.toNat).map fun (j : Nat) => f (i : Int) (j : Int)
    -- `area_grid = Grid(ncols=ancols, nrows=anrows, cellsize=grid.cellsize, ...)`; `area_grid.data = weights_array`
    match setData anrows ancols arr with
    | .error e => .error e
    | .ok data =>
      .ok { keys := kws.map (·.1), weights := kws.map (·.2),
            rowStart, rowEnd, colStart, colEnd, xll := axll, yll := ayll, nrows := anrows, ncols := ancols,
            data, csz := coarse.csz, parent := coarse }

/-- the state of a `Catchment` object this property reads: the flow-direction grid geometry and the two cell
lists (`None` before `delineate_area`) -/
structure Catchment (α : Type) where
  fine : Geom α
  area : Option (List Int)
  filled : Option (List Int)

/-- `catchment.intersect(grid, filled)`: `cells = self._idxcells_area_filled if filled else self._idxcells_area` -/
def Catchment.intersect (ca : Catchment α) (grid : Geom α) (filled : Bool) : Except Err (AreaGrid α) :=
  match (if filled then ca.filled else ca.area) with
  | none => .error .cellsNone
  | some cells => C16.intersect grid ca.fine cells

/-- `catchment.intersect(grid)`: the default `filled=False` — the delineated (unfilled) area -/
def Catchment.intersectDefault (ca : Catchment α) (grid : Geom α) : Except Err (AreaGrid α) :=
  ca.intersect grid false

end PyIntersect

/-! ## the property, executable: counts of centres in half-open footprints -/

section Spec
variable {α : Type} [Add α] [Sub α] [Mul α] [Div α] [OfNat α 1] [LT α] [DecidableLT α] [LE α] [DecidableLE α] [Trunc α]

/-- `(x, y)` lies in the half-open square of cell `c`: `[left, left + csz) × [bottom, bottom + csz)` -/
def inFootprintB (g : Geom α) (c : Int) (x y : α) : Bool :=
  let col : α := Trunc.ofInt (colOf g.ncols c)
  let up : α := Trunc.ofInt (g.nrows - 1 - rowOf g.ncols c)
  decide (g.xll + g.csz * col ≤ x) && decide (x < g.xll + g.csz * (col + 1)) &&
  decide (g.yll + g.csz * up ≤ y) && decide (y < g.yll + g.csz * (up + 1))

/-- `(x, y)` lies in the half-open extent of the grid, `xlim × ylim` -/
def inExtentB (g : Geom α) (x y : α) : Bool :=
  decide (g.xll ≤ x) && decide (x < g.xll + Trunc.ofInt g.ncols * g.csz) &&
  decide (g.yll ≤ y) && decide (y < g.yll + Trunc.ofInt g.nrows * g.csz)

/-- number of catchment cells (valid cells of the flow-direction grid) whose centre lies in the footprint of
grid cell `k` -/
def specCount (coarse fine : Geom α) (cells : List Int) (k : Int) : Nat :=
  cells.countP fun c => validCell fine.nrows fine.ncols c &&
    inFootprintB coarse k (getcoord fine c).1 (getcoord fine c).2

/-- "the number of such cells times the ratio of cell areas" -/
def specWeight (coarse fine : Geom α) (cells : List Int) (k : Int) : α :=
  (fine.csz / coarse.csz) * (fine.csz / coarse.csz) * Trunc.ofInt (specCount coarse fine cells k : Nat)

/-- number of catchment cells whose centre lies inside the grid -/
def specInside (coarse fine : Geom α) (cells : List Int) : Nat :=
  cells.countP fun c => validCell fine.nrows fine.ncols c &&
    inExtentB coarse (getcoord fine c).1 (getcoord fine c).2

/-- "the catchment area inside the grid" -/
def specArea (coarse fine : Geom α) (cells : List Int) : α :=
  Trunc.ofInt (specInside coarse fine cells : Nat) * (fine.csz * fine.csz)

end Spec

/-! ## `c_voronoi` -/

section Voronoi
variable {α : Type} [Add α] [Sub α] [Mul α] [Div α] [OfNat α 0] [OfNat α 1] [LT α] [DecidableLT α] [Trunc α]

/-- the search loop
```
distmin = INFINITY; jmin = 0;
for(j=0; j<npoints; j++){ ...; if(dist<distmin){ distmin = dist; jmin = j; } }
```
over the list of distances; `best = none` stands for `distmin = +inf` (every distance the exact models can
form is below it). Arguments: remaining distances, current `j`, `distmin`, `jmin`. -/
def nearestLoop : List α → Nat → Option α → Nat → Nat
  | [], _, _, jmin => jmin
  | d :: t, j, none, _ => nearestLoop t (j + 1) (some d) j
  | d :: t, j, some m, jmin =>
    if d < m then nearestLoop t (j + 1) (some d) j else nearestLoop t (j + 1) (some m) jmin

def nearest (ds : List α) : Nat := nearestLoop ds 0 none 0

/-- `weights[jmin] += 1` -/
def incr : List α → Nat → List α
  | [], _ => []
  | w :: t, 0 => (w + 1) :: t
  | w :: t, j + 1 => w :: incr t j

/-- distances from the centre of cell `c` to every point: `dx = xy[0]-xypoints[2*j]`, `dy = xy[1]-xypoints[2*j+1]`,
`dist dx dy`; the centre comes from `getcoord` with no validity guard, as in the C code -/
def dists (dist : α → α → α) (g : Geom α) (pts : List (α × α)) (c : Int) : List α :=
  let xy := getcoord g c
  pts.map fun p => dist (xy.1 - p.1) (xy.2 - p.2)

/-- the counts before normalisation -/
def counts (dist : α → α → α) (g : Geom α) (cells : List Int) (pts : List (α × α)) : List α :=
  cells.foldl (fun ws c => incr ws (nearest (dists dist g pts c))) (pts.map fun _ => 0)

/-- `c_voronoi`: `npoints < 1` is rejected, then `nrows < 1 || ncols < 1`; `weights[j] /= (double)ncells`. With
`ncells = 0` every weight is `0.0/0.0`, a NaN: `none` (the division is not totalised). -/
def cVoronoi (dist : α → α → α) (g : Geom α) (cells : List Int) (pts : List (α × α)) :
    Except Err (List (Option α)) :=
  if pts.length < 1 then .error .noPoints
  else if g.nrows < 1 ∨ g.ncols < 1 then .error .badGrid
  else if cells.length = 0 then .ok (pts.map fun _ => none)
  else .ok ((counts dist g cells pts).map fun w => some (w / Trunc.ofInt (cells.length : Int)))

/-- what `grid.voronoi` may be handed as `xypoints`, as `np.atleast_2d(...)` sees it -/
inductive PtsArg (α : Type) where
  /-- a scalar: `atleast_2d` gives shape `(1, 1)` -/
  | scalar (x : α)
  /-- a flat sequence of `n` numbers: shape `(1, n)` — `[x, y]` is one point -/
  | flat (xs : List α)
  /-- `n` rows of equal width `w` (shape `(n, w)`; `n = 0` only as an explicit `(0, w)` array) -/
  | rows (w : Nat) (rs : List (List α))

/-- `np.atleast_2d(xypoints)`: `(number of columns, rows)` -/
def PtsArg.shape2d : PtsArg α → Nat × List (List α)
  | .scalar x => (1, [[x]])
  | .flat xs => (xs.length, [xs])
  | .rows w rs => (w, rs)

/-- the rows of a two-column array as points -/
def rowsToPts : List (List α) → List (α × α)
  | [] => []
  | (x :: y :: _) :: t => (x, y) :: rowsToPts t
  | _ :: t => rowsToPts t

/-- `grid.voronoi(catchment, xypoints)`: the `None` guard, `atleast_2d`, the wrapper's column assert, the kernel.
Always the unfilled area. -/
def voronoiPy (dist : α → α → α) (g : Geom α) (area : Option (List Int)) (arg : PtsArg α) :
    Except Err (List (Option α)) :=
  match area with
  | none => .error .notDelineated
  | some cells =>
    let sh := arg.shape2d
    if sh.1 ≠ 2 then .error .badShape
    else cVoronoi dist g cells (rowsToPts sh.2)

end Voronoi

end HydroVerif.C16
