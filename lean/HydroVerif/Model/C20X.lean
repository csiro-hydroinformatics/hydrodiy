/-
C20 — second part of the model (round 7): the glue and the routes around the kernels of `Model/C20.lean`.

* `c_paretofront` on the values a C `double` can hold: NaN, ±inf and finite numbers (`XVal`), with the two roundings of
  `orientationd * (data[j,k] - data[i,k])` made explicit (`rnd`), and `sutils.pareto_front`'s wrapper
  (`np.int32(orientation)`, `ndim` guard)
* `sutils.ppos` with every floating-point operation followed by a rounding `rnd`
* `standard_normal` with the two remaining `rank_method`s of pandas, `first` and `dense` (`eqv`, `distinctL`, `rankDense`,
  `ranksFirst`, `RankMethodX`, `ranksOf`, `standardNormalX`)
* `rnd53`: round-to-nearest-even to 53 significant bits on exact rationals (IEEE double without exponent limits) — the
  instance of `rnd` under which the exact-rational model reproduces the real code bit for bit
* `sutils.lhs_norm`'s call of `lhs` (unit ranges for every variable)
* `Boxplot(df).stats` (no `by`): coverage guards, one column of statistics per data column, nothing for a frame without rows
* the life of a `Boxplot` object: `draw`, `show_count`, `set_ylim`, `set_color`, item setters — which calls are accepted in
  which state, and what they leave of the statistics
* `Violin`'s default `npoints_kde`, and the min-max normalisation of a density profile with every operation rounded (`normaliseR`)

Generic over the numeric type as `Model/C20.lean`. No Mathlib.
-/
import HydroVerif.Model.C20
namespace HydroVerif.C20

/-- what a C `double` holds, as `c_paretofront` distinguishes it -/
inductive XVal (α : Type)
  | nan
  | ninf
  | pinf
  | fin (a : α)
  deriving DecidableEq, Repr

def xOfOpt {α : Type} : Option α → XVal α
  | none => .nan
  | some a => .fin a

section numeric
variable {α : Type} [Add α] [Sub α] [Mul α] [Div α] [Neg α] [LT α] [DecidableLT α] [LE α] [DecidableLE α]
  [OfNat α 0] [OfNat α 1] [OfNat α 2] [NatCast α]

/-! ### pareto front on NaN / ±inf / finite values, roundings explicit -/

/-- one coordinate of the `k` loop: `none` when `diff = data[j,k] - data[i,k]` is NaN (the coordinate is skipped:
a NaN on either side, or twice the same infinity), otherwise whether `orientationd * diff > 0`.
`rnd` follows the subtraction and the product of two finite numbers; an infinite difference times the
orientation is `±inf` (or NaN when the orientation is 0, and `NaN > 0` is false). -/
def xdiffPos (rnd : α → α) (o : α) : XVal α → XVal α → Option Bool
  | .nan, _ => none
  | _, .nan => none
  | .pinf, .pinf => none
  | .ninf, .ninf => none
  | .pinf, _ => some (decide (0 < o))
  | .ninf, _ => some (decide (o < 0))
  | .fin _, .pinf => some (decide (o < 0))
  | .fin _, .ninf => some (decide (0 < o))
  | .fin a, .fin b => some (decide (0 < rnd (o * rnd (a - b))))

/-- `dom *= (int)(orientationd*diff>0)`, or `continue` for a NaN difference -/
def coordOK : Option Bool → Bool
  | some p => p
  | none => true

/-- inner `k` loop -/
def domByX (rnd : α → α) (o : α) (rj ri : List (XVal α)) : Bool :=
  (List.zipWith (fun a b => coordOK (xdiffPos rnd o a b)) rj ri).all id

/-- `j` loop with its `i == j` skip and `break` -/
def isDominatedAtX (rnd : α → α) (o : α) (d : List (List (XVal α))) (i : Nat) : Bool :=
  match d[i]? with
  | none => false
  | some ri => (List.range d.length).any fun j =>
      j != i && (match d[j]? with | some rj => domByX rnd o rj ri | none => false)

/-- `c_paretofront` on any array of doubles -/
def paretoFrontX (rnd : α → α) (o : α) (d : List (List (XVal α))) : List Nat :=
  (List.range d.length).map fun i => if isDominatedAtX rnd o d i then 1 else 0

/-! ### ppos, every operation rounded -/

/-- `(np.arange(1, nval+1) - cst) / (nval + 1 - 2*cst)` with a rounding after each operation
(the integers `i+1`, `nval+1` are exact) -/
def pposR (rnd : α → α) (n : Nat) (cst : α) : Except Err (List α) :=
  if cst < 0 ∨ 1 / 2 < cst then .error .cstRange
  else .ok ((List.range n).map fun i =>
    rnd (rnd (((i + 1 : Nat) : α) - cst) / rnd (((n + 1 : Nat) : α) - rnd (2 * cst))))

/-! ### standard_normal: the two remaining `rank_method`s of pandas -/

/-- equal values (neither smaller nor larger) -/
def eqv (x y : α) : Bool := !decide (y < x) && !decide (x < y)

/-- the values of `xs`, each once (the last occurrence is kept) -/
def distinctL : List α → List α
  | [] => []
  | x :: xs => if xs.any (eqv x) then distinctL xs else x :: distinctL xs

/-- `rank(method="dense")` at an entry `x` (1-based): one more than the number of distinct smaller values -/
def rankDense (xs : List α) (x : α) : α := ((cntLt (distinctL xs) x + 1 : Nat) : α)

/-- `rank(method="first")` (1-based): ties are ranked in the order they appear -
entry `i` gets one more than the number of smaller values plus the number of equal values before it -/
def ranksFirst (xs : List α) : List α :=
  (List.range xs.length).map fun i => match xs[i]? with
    | some x => ((cntLt xs x + cntEq (xs.take i) x + 1 : Nat) : α)
    | none => 0

inductive RankMethodX
  | std (m : RankMethod)
  | first
  | dense
  deriving DecidableEq, Repr

/-- `pd.Series(xs).rank(method=m)` (1-based), entry by entry -/
def ranksOf : RankMethodX → List α → List α
  | .std m, xs => xs.map (rank m xs)
  | .first, xs => ranksFirst xs
  | .dense, xs => xs.map (rankDense xs)

/-- `standard_normal(x, cst, sorted=False, rank_method=m)` for every method pandas offers:
(arguments of `norm.ppf`, 0-based ranks) -/
def standardNormalX (m : RankMethodX) (cst : α) (x : List (Option α)) : Except Err (List α × List α) :=
  if x.any Option.isNone then .error .hasNan else
  let xs := x.filterMap id
  let ranks := (ranksOf m xs).map fun r => r - 1
  .ok (ranks.map (scoreArg xs.length cst), ranks)

/-! ### lhs_norm -/

/-- `lhs_norm(nsamples, mean, cov)` calls `lhs(nsamples, [0]*nvars, [1]*nvars)`; the normal quantile function and the
Cholesky factor applied afterwards are external -/
def lhsUnit (n nvars : Nat) (perms : List (List Nat)) (rs : List (List α)) : Except Err (List (List α)) :=
  lhs n (List.replicate nvars (0 : α)) (List.replicate nvars (1 : α)) perms rs

end numeric

section wrapper
variable {α : Type} [Add α] [Sub α] [Mul α] [Div α] [Neg α] [LT α] [DecidableLT α] [LE α] [DecidableLE α]
  [OfNat α 0] [OfNat α 1] [OfNat α 2] [NatCast α] [IntCast α]

/-- `sutils.pareto_front(data, orientation)`: `orientation = np.int32(orientation)` (an integer reaches the kernel, which
converts it to `double`), the `ndim` guard, then the kernel -/
def paretoFrontWrap (ndim : Nat) (o : Int) (d : List (List (Option α))) : Except Err (List Nat) :=
  paretoFrontNd ndim ((o : Int) : α) d

end wrapper

/-! ### IEEE double rounding on exact rationals -/

def pow2 (e : Int) : Rat := if e ≥ 0 then ((2 ^ e.toNat : Nat) : Rat) else 1 / ((2 ^ (-e).toNat : Nat) : Rat)

/-- the exponent `e` with `2^52 ≤ a / 2^e < 2^53` (for `a > 0`): estimated from the bit lengths of numerator and
denominator, then corrected by one. (The theorems use, and prove, only `1 ≤ a / 2^e`: `one_le_scaled` in `Lemmas/C20Round.lean`.) -/
def expo53 (a : Rat) : Int :=
  let e0 : Int := (Nat.log2 a.num.natAbs : Int) - (Nat.log2 a.den : Int) - 52
  let s0 := a / pow2 e0
  if s0 < ((2 ^ 52 : Nat) : Rat) then e0 - 1 else if ((2 ^ 53 : Nat) : Rat) ≤ s0 then e0 + 1 else e0

/-- round to the nearest integer, ties to even -/
def rne (s : Rat) : Int :=
  let m : Int := s.floor
  let fr := s - (m : Rat)
  if fr < 1 / 2 then m else if 1 / 2 < fr then m + 1 else if m % 2 = 0 then m else m + 1

/-- a positive rational rounded to nearest, ties to even, at 53 significant bits -/
def rndMag (a : Rat) : Rat := (rne (a / pow2 (expo53 a)) : Rat) * pow2 (expo53 a)

/-- round to nearest, ties to even, to 53 significant bits (a double without overflow / underflow) -/
def rnd53 (x : Rat) : Rat :=
  if x = 0 then 0 else if x < 0 then -(rndMag (-x)) else rndMag x

section frames
variable {α : Type} [Add α] [Sub α] [Mul α] [Div α] [Neg α] [LT α] [DecidableLT α] [LE α] [DecidableLE α]
  [OfNat α 0] [OfNat α 1] [OfNat α 2] [NatCast α] [FloorNat α]

/-! ### Boxplot(df).stats -/

/-- `data.apply(boxplot_stats, args=(bhc, whc))`, column by column -/
def statsOfColumns (bcov wcov : α) : List (List (Option α)) → Except Err (List (Nat × Option (BoxVals α)))
  | [] => .ok []
  | c :: cs =>
    match boxStats c bcov wcov, statsOfColumns bcov wcov cs with
    | .ok st, .ok rest => .ok (st :: rest)
    | .error e, _ => .error e
    | _, .error e => .error e

/-- `Boxplot(df, box_coverage, whiskers_coverage).stats`: the coverage guards of `__init__`, then one column of
statistics per data column; a frame without rows has no statistics at all (pandas does not call the function) -/
def boxStatsCols (cols : List (List (Option α))) (bcov wcov : α) : Except Err (List (Nat × Option (BoxVals α))) :=
  match boxplotCheck bcov wcov with
  | .error e => .error e
  | .ok _ => if cols.all List.isEmpty then .ok [] else statsOfColumns bcov wcov cols

end frames

/-! ### the life of a Boxplot object -/

inductive BoxOp
  | draw (ok stored : Bool)  -- draw(ax=...), any logscale / xoffset; `ok = false`: an exception escaped while drawing
                            -- (matplotlib / pandas lookups, external); `stored`: the elements of one column at least were stored
  | showCount   -- show_count(...)
  | setYlim     -- set_ylim(...)
  | setColor    -- set_color(pattern, ...)
  | setItems    -- assignments to the public item properties (widths, markers, show_text of box / median / ...)
  | hideCount   -- count.show_text = False
  deriving DecidableEq, Repr

/-- what the methods look at: the statistics (computed once by `__init__`), whether `draw` has run
(`_ax` / `elements` set), whether `elements` holds anything, whether the count item shows its text, whether the
column labels are strings (`set_color` hands the keys of `elements` to `re.search`) -/
structure BoxObj (σ : Type) where
  stats : σ
  drawn : Bool
  elems : Bool
  countText : Bool
  strNames : Bool

/-- one call: the new state and whether the call returned normally. `draw` sets `_ax` and `elements` before
anything can raise, so even a `draw` that raises leaves the object drawn (with the elements stored so far); every
other refused call leaves the object as it was -/
def boxStep {σ : Type} (s : BoxObj σ) : BoxOp → BoxObj σ × Bool
  | .draw ok stored => ({ s with drawn := true, elems := stored }, ok)
  | .showCount => (s, s.drawn && s.countText)
  | .setYlim => (s, s.drawn)
  | .setColor => (s, s.drawn && (!s.elems || s.strNames))
  | .setItems => (s, true)
  | .hideCount => ({ s with countText := false }, true)

/-- a whole history: final state and, call by call, whether it was accepted -/
def boxRun {σ : Type} (s : BoxObj σ) : List BoxOp → BoxObj σ × List Bool
  | [] => (s, [])
  | op :: ops =>
    let r := boxStep s op
    let t := boxRun r.1 ops
    (t.1, r.2 :: t.2)

/-! ### Violin -/

section violin
variable {α : Type} [Add α] [Sub α] [Mul α] [Div α] [Neg α] [LT α] [DecidableLT α] [LE α] [DecidableLE α]
  [OfNat α 0] [OfNat α 1] [OfNat α 2] [NatCast α]

/-- `(y - y.min()) / (y.max() - y.min())` with a rounding after each of the three operations
(`min` / `max` are comparisons: exact) -/
def normaliseR (rnd : α → α) (y : List α) : Option (List α) :=
  match minL y, maxL y with
  | some lo, some hi => some (y.map fun v => rnd (rnd (v - lo) / rnd (hi - lo)))
  | _, _ => none

end violin

/-- `npoints_kde`: the argument, or `max(100, min(500, len(data)))` -/
def violinNpts (given : Option Nat) (nrows : Nat) : Nat :=
  match given with
  | some k => k
  | none => max 100 (min 500 nrows)

end HydroVerif.C20
