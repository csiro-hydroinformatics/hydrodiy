/-
C10 — model of the rank- and PIT-based forecast diagnostics of `hydrodiy.stat`:

* `c_ensrank` (c_dscore.c): pooled sort of every pair of ensembles, the tie-sequence scan
  (`start / end / nties`, mid-rank `1 + (start+end)/2`), the comparison `F`, `u ∈ {0, ½, 1}` and the ranks;
* `metrics.dscore`: observation ranks, forecast ranks (mid-ranks for single-member forecasts), Pearson
  correlation of the ranks mapped to `(r+1)/2`;
* `metrics.pit`: the random branch (jitter given as an input), scipy's `percentileofscore(kind="rank")`
  branch, and the pseudo-PIT flag;
* `metrics.cramer_von_mises_test`: the statistic;
* `ADtest` (AnDarl.c) behind `c_ad_test`: the three rejection guards and the statistic;
* `metrics.__check_ensemble_data`: the length check and the NaN filter in front of `pit` and `alpha`;
* the p-values: `np.interp` into the Cramer-von Mises table (`closestIdx`, `cvmPvalue`), Marsaglia & Marsaglia's `AD(n, z)`
  (`adinf`, `adProb`, `adPvalue`);
* `metrics.alpha` for the types CV and AD (`alphaCV`, `alphaAD`).

Generic over the numeric type: `Float` in the driver, any ordered field / ℝ in the theorems. The sorts
(glibc `qsort`, `np.sort`) are parameters; the theorems state what they assume about them. NaN is `none`
where the code tests `isnan`. No Mathlib.
-/
import HydroVerif.Num
import HydroVerif.Model.C04
import HydroVerif.Generated.CvmTable
namespace HydroVerif.C10
open HydroVerif.C04 (sumL absG mean ssd pearson)

/-! ### c_ensrank -/

section rank
variable {α : Type} [Add α] [Sub α] [Mul α] [Div α] [Neg α] [LT α] [DecidableLT α] [LE α] [DecidableLE α]
  [OfNat α 0] [OfNat α 1] [OfNat α 2] [NatCast α]

/-- the `qsort` comparator of c_dscore.c: `diff < -eps ? -1 : diff > eps ? 1 : 0` (`ceps` is 1e-8 there) -/
def cmpTol (ceps a b : α) : Int :=
  let d := a - b
  if d < -ceps then -1 else if ceps < d then 1 else 0

/-- `a` may stay in front of `b` in a stable sort driven by `cmpTol` -/
def leTol (ceps : α) (a b : α × Nat) : Bool := decide (cmpTol ceps a.1 b.1 ≤ 0)

/-- the two ensembles side by side, each value tagged with its position `j` (`ensemb[j][1] = j`) -/
def pool (e1 e2 : List α) : List (α × Nat) := (e1 ++ e2).zipIdx

/-- state of the scan: `start = -1` is `none` -/
structure Scan (α : Type) where
  sumrank : α
  start : Option Nat
  stop : Nat
  nties : Nat

/-- `fabs(value - neighbour)`; at the two ends of the array the scan uses `eps` itself -/
def gap (eps v : α) : Option α → α
  | none => eps
  | some w => absG (v - w)

/-- one iteration of the loop over the sorted pooled array, on the outcomes of its four tests:
`first` = `index<ncol`, `ge` = `diff>=eps`, `lt` = `diff<eps`, `geNext` = `diffnext>=eps` -/
def scanStepB (first ge lt geNext : Bool) (j : Nat) (st : Scan α) : Scan α :=
  -- start a tie sequence
  let st1 := if first && ge then { st with start := some j, stop := j, nties := 1 } else st
  -- continue it
  let st2 := if st1.start.isSome && lt then
      { st1 with stop := st1.stop + 1, nties := if first then st1.nties + 1 else st1.nties }
    else st1
  -- end it
  match st2.start with
  | some s =>
    if geNext then
      { st2 with sumrank := st2.sumrank + (1 + ((s + st2.stop : Nat) : α) / 2) * (st2.nties : α), start := none }
    else st2
  | none => st2

def scanStep (eps : α) (ncol j : Nat) (prev next : Option α) (v : α) (idx : Nat) (st : Scan α) : Scan α :=
  let diff := gap eps v prev
  let diffnext := gap eps v next
  scanStepB (decide (idx < ncol)) (decide (eps ≤ diff)) (decide (diff < eps)) (decide (eps ≤ diffnext)) j st

def scanAux (eps : α) (ncol : Nat) : Nat → Option α → Scan α → List (α × Nat) → Scan α
  | _, _, st, [] => st
  | j, prev, st, (v, idx) :: rest =>
    let next := match rest with
      | [] => none
      | (w, _) :: _ => some w
    scanAux eps ncol (j + 1) (some v) (scanStep eps ncol j prev next v idx st) rest

/-- sum of the pooled ranks of the members of the first ensemble -/
def scan (eps : α) (ncol : Nat) (sorted : List (α × Nat)) : α :=
  (scanAux eps ncol 0 none ⟨0, none, 0, 0⟩ sorted).sumrank

/-- comparison function `F` of two ensembles (Weigel and Mason 2011, eq. 1) as the kernel computes it -/
def fpair (sort : List (α × Nat) → List (α × Nat)) (eps : α) (e1 e2 : List α) : α :=
  let ncol := e1.length
  let ncold : α := (ncol : α)
  let sumrank := scan eps ncol (sort (pool e1 e2))
  (sumrank - (ncold + 1) * ncold / 2) / ncold / ncold

/-- `u = F<0.5 ? 0 : F>0.5 ? 1 : 0.5` -/
def uOf (F : α) : α := if F < 1 / 2 then 0 else if 1 / 2 < F then 1 else 1 / 2

/-- rows of the upper triangle of `fmat`: entry `(i1, i2)`, `i1 < i2` -/
def upperF (F : List α → List α → α) : List (List α) → List (List α)
  | [] => []
  | e :: rest => rest.map (F e) :: upperF F rest

/-- `ranks[i]`: 1, plus `1-u` for every pair in which `i` is the second ensemble, plus `u` for every
pair in which it is the first -/
def rankAt (F : List α → List α → α) (rows : List (List α)) (i : Nat) (ei : List α) : α :=
  1 + sumL (rows.zipIdx.map fun ek =>
    if ek.2 < i then 1 - uOf (F ek.1 ei) else if i < ek.2 then uOf (F ei ek.1) else 0)

def ranksOf (F : List α → List α → α) (rows : List (List α)) : List α :=
  rows.zipIdx.map fun ei => rankAt F rows ei.2 ei.1

inductive Err | evalue | esize
  deriving DecidableEq, Repr

/-- `c_ensrank(eps, nval, ncol, sim, fmat, ranks)`; `epsmin` is 1e-20 in the code.
Returns the upper triangle of `fmat` (nothing else is written) and `ranks`. -/
def ensrank (sort : List (α × Nat) → List (α × Nat)) (epsmin eps : α) (ncol : Nat)
    (rows : List (List α)) : Except Err (List (List α) × List α) :=
  if eps < epsmin then .error .evalue
  else if ncol = 0 ∨ rows.length = 0 then .error .esize
  else .ok (upperF (fpair sort eps) rows, ranksOf (fpair sort eps) rows)

/-! ### ranks used by `dscore` -/

/-- `np.argsort(np.argsort(x))` for a stable argsort: number of smaller values plus equal values in front -/
def stableRanks (xs : List α) : List Nat :=
  xs.zipIdx.map fun xi => (xs.zipIdx.filter fun yk =>
    decide (yk.1 < xi.1) || (!decide (yk.1 < xi.1) && !decide (xi.1 < yk.1) && decide (yk.2 < xi.2))).length

/-- `scipy.stats.rankdata(x)` (average method): smaller values + (equal values + 1)/2 -/
def midRanks (xs : List α) : List α :=
  xs.map fun a =>
    (((xs.filter fun b => decide (b < a)).length : Nat) : α)
      + ((((xs.filter fun b => !decide (b < a) && !decide (a < b)).length : Nat) : α) + 1) / 2

end rank

/-! ### dscore -/

section dscore
variable {α : Type} [Add α] [Sub α] [Mul α] [Div α] [Neg α] [LT α] [DecidableLT α] [LE α] [DecidableLE α]
  [OfNat α 0] [OfNat α 1] [OfNat α 2] [NatCast α] [Transc α]

/-- `(np.corrcoef(oranks, franks)[0, 1] + 1)/2`; `none` = NaN (one of the rank vectors is constant) -/
def dscoreOf (oranks franks : List α) : Option α :=
  if 0 < ssd (mean oranks) oranks ∧ 0 < ssd (mean franks) franks then
    some ((pearson oranks franks + 1) / 2)
  else none

/-- forecast ranks: mid-ranks of the single column when `nens == 1`, else `c_ensrank`
(whose return code `dscore` ignores: on an error the ranks stay at their initial zeros) -/
def franksOf (sort : List (α × Nat) → List (α × Nat)) (epsmin eps : α) (ncol : Nat)
    (rows : List (List α)) : List α :=
  if ncol = 1 then midRanks rows.flatten
  else match ensrank sort epsmin eps ncol rows with
    | .ok r => r.2
    | .error _ => rows.map fun _ => 0

/-- `dscore` with the observation ranks given (`np.argsort(np.argsort(obs))`) -/
def dscoreWith (sort : List (α × Nat) → List (α × Nat)) (epsmin eps : α) (ncol : Nat)
    (oranks : List Nat) (rows : List (List α)) : Option α :=
  dscoreOf (oranks.map fun (r : Nat) => (Nat.cast r : α)) (franksOf sort epsmin eps ncol rows)

def dscore (sort : List (α × Nat) → List (α × Nat)) (epsmin eps : α) (ncol : Nat)
    (obs : List α) (rows : List (List α)) : Option α :=
  dscoreWith sort epsmin eps ncol (stableRanks obs) rows

end dscore

/-! ### pit -/

section pit
variable {α : Type} [Add α] [Sub α] [Mul α] [Div α] [Neg α] [LT α] [DecidableLT α] [LE α] [DecidableLE α]
  [OfNat α 0] [OfNat α 1] [OfNat α 2] [OfNat α 50] [OfNat α 100] [NatCast α]

/-- `cst = min(0.5, cst)` -/
def clampCst (cst : α) : α := if cst < 1 / 2 then cst else 1 / 2

/-- number of members with `ens + dens - (obs + dobs) < 0` -/
def belowJit (obs dobs : α) : List α → List α → Nat
  | e :: es, d :: ds => (if e + d - (obs + dobs) < 0 then 1 else 0) + belowJit obs dobs es ds
  | _, _ => 0

/-- `(count + 0.5 - cst)/(1 - cst + nens)` -/
def pitFormula (c : α) (cnt nens : Nat) : α := ((cnt : α) + 1 / 2 - c) / (1 - c + (nens : α))

/-- `pit(..., random=True)` for one forecast; `dobs`, `dens` are the jitters drawn by the code -/
def pitRandom (cst obs dobs : α) (ens dens : List α) : α :=
  pitFormula (clampCst cst) (belowJit obs dobs ens dens) ens.length

/-- `pit(..., random=True)` for all forecasts (rows of `ens` / `dens`) -/
def pitRandomAll (cst : α) : List α → List α → List (List α) → List (List α) → List α
  | o :: os, d :: ds, e :: es, de :: des => pitRandom cst o d e de :: pitRandomAll cst os ds es des
  | _, _, _, _ => []

/-- scipy's `percentileofscore(ens, obs, kind="rank")/100` -/
def pitRankFormula (left right nens : Nat) : α :=
  ((left + right + (if left < right then 1 else 0) : Nat) : α) * (50 / (nens : α)) / 100

def pitRank (obs : α) (ens : List α) : α :=
  pitRankFormula (ens.filter fun a => decide (a < obs)).length (ens.filter fun a => decide (a ≤ obs)).length
    ens.length

/-- `(obs - censor < EPS) & (sum(ens - censor < EPS) > 0)` -/
def isSudo (eps censor obs : α) (ens : List α) : Bool :=
  decide (obs - censor < eps) && decide (0 < (ens.filter fun a => decide (a - censor < eps)).length)

end pit

/-! ### `__check_ensemble_data`: the glue in front of `pit` and `alpha` -/

section glue
variable {α : Type}

/-- `obsNotOneD` is raised in front of `checkEnsemble`, by the layout handling of `Model/C10Entry.lean` -/
inductive EnsErr | lengthMismatch | noValidData | obsNotOneD
  deriving DecidableEq, Repr

/-- forecasts kept: the observation is present (`pd.notnull`) and at least one member is -/
def keepRows : List (Option α) → List (List (Option α)) → List (α × List (Option α))
  | some o :: os, e :: es => if e.any Option.isSome then (o, e) :: keepRows os es else keepRows os es
  | none :: os, _ :: es => keepRows os es
  | _, _ => []

/-- first-dimension check, then the NaN filter, then "No valid data" -/
def checkEnsemble (obs : List (Option α)) (ens : List (List (Option α))) :
    Except EnsErr (List (α × List (Option α))) :=
  if ens.length ≠ obs.length then .error .lengthMismatch
  else
    let k := keepRows obs ens
    if k.isEmpty then .error .noValidData else .ok k

end glue

/-! ### Cramer-von Mises and Anderson-Darling statistics -/

section unif
variable {α : Type} [Add α] [Sub α] [Mul α] [Div α] [Neg α] [LT α] [DecidableLT α] [LE α] [DecidableLE α]
  [OfNat α 0] [OfNat α 1] [OfNat α 2] [OfNat α 12] [NatCast α]

/-- `unif[i] = (2(i+1) - 1)/2/n` -/
def plotPos (n i : Nat) : α := ((2 * (i + 1) - 1 : Nat) : α) / 2 / (n : α)

/-- `1/12/n + sum((unif - sort(data))**2)` -/
def cvmStat (sort : List α → List α) (data : List α) : α :=
  let n := data.length
  1 / 12 / (n : α) + sumL ((sort data).zipIdx.map fun xi =>
    (plotPos n xi.2 - xi.1) * (plotPos n xi.2 - xi.1))

inductive ADErr | range | nan | unsorted
  deriving DecidableEq, Repr

/-- the input checks of `ADtest`, in the order of the code, at the first offending position -/
def adGuards : α → List (Option α) → Option ADErr
  | _, [] => none
  | _, none :: _ => some .nan
  | prev, some x :: rest =>
    if x < 0 ∨ 1 < x then some .range
    else if x < prev then some .unsorted
    else adGuards x rest

def allSome : List (Option α) → Option (List α)
  | [] => some []
  | none :: _ => none
  | some a :: t => (allSome t).map (a :: ·)

end unif

section ad
variable {α : Type} [Add α] [Sub α] [Mul α] [Div α] [Neg α] [LT α] [DecidableLT α] [LE α] [DecidableLE α]
  [OfNat α 0] [OfNat α 1] [NatCast α] [Transc α]

/-- `t = x[i]*(1 - x[n-1-i]); z = z - (i+i+1)*log(t)`; `rs` is the array read from its end -/
def adLoop : Nat → α → List α → List α → α
  | i, z, x :: xs, r :: rs => adLoop (i + 1) (z - ((i + i + 1 : Nat) : α) * Transc.log (x * (1 - r))) xs rs
  | _, z, _, _ => z

/-- `-n + z/n` on the sorted sample -/
def adStat (sorted : List α) : α :=
  -(sorted.length : α) + adLoop 0 0 sorted sorted.reverse / (sorted.length : α)

/-- `c_ad_test`: sort, then `ADtest`. `prev0` is the initial `prev` (-1e-300 in the code).
The checks run inside the loop that accumulates the statistic; since any failure discards the
accumulated value, the model runs them first. -/
def adTest (sort : List (Option α) → List (Option α)) (prev0 : α) (data : List (Option α)) : Except ADErr α :=
  let sorted := sort data
  match adGuards prev0 sorted with
  | some e => .error e
  | none =>
    match allSome sorted with
    | some xs => .ok (adStat xs)
    | none => .error .nan

end ad

/-! ### p-values: `np.interp` into the Cramer-von Mises table, Marsaglia & Marsaglia's `AD(n, z)` -/

section interp
variable {α : Type} [Add α] [Sub α] [Mul α] [Div α] [LT α] [DecidableLT α] [LE α] [DecidableLE α]

/-- `np.interp` to the right of the knot `(x0, f0)` (`x0 ≤ x`): linear between consecutive knots,
the last ordinate beyond the last knot -/
def interpAux (x : α) : α → α → List α → List α → α
  | x0, f0, x1 :: xs, f1 :: fs =>
    if x < x1 then (if x ≤ x0 then f0 else (f1 - f0) / (x1 - x0) * (x - x0) + f0)
    else interpAux x x1 f1 xs fs
  | _, f0, _, _ => f0

/-- `np.interp(x, xp, fp)` for increasing `xp`; `none` for empty tables -/
def interp (x : α) : List α → List α → Option α
  | x0 :: xs, f0 :: fs => some (if x < x0 then f0 else interpAux x x0 f0 xs fs)
  | _, _ => none

/-- `np.argmin(np.abs(nsample - CVM_NSAMPLE))`: first position of the closest tabulated sample size -/
def closestIdx (n : Nat) : List Nat → Option Nat
  | [] => none
  | s :: rest =>
    let d (a : Nat) : Nat := if a < n then n - a else a - n
    let rec go (best bestd i : Nat) : List Nat → Nat
      | [] => best
      | t :: ts => if d t < bestd then go i (d t) (i + 1) ts else go best bestd (i + 1) ts
    some (go 0 (d s) 1 rest)

end interp

section cvmp
variable {α : Type} [Add α] [Sub α] [Mul α] [Div α] [LT α] [DecidableLT α] [LE α] [DecidableLE α] [NatCast α]

/-- a number of the shipped table: `mantissa / 10^scale` (Generated/CvmTable.lean, regenerated from the archive) -/
def ofMant (m : Nat) : α := (m : α) / ((10 ^ Gen.scale : Nat) : α)

/-- the p-value of `cramer_von_mises_test`: column of the closest tabulated sample size, `np.interp` of the
statistic over `CVM_QQ` -/
def cvmPvalue (nsample : Nat) (stat : α) : Option α :=
  match closestIdx nsample Gen.sizes with
  | none => none
  | some j =>
    match Gen.columns[j]? with
    | none => none
    | some col => interp stat (Gen.qq.map ofMant) (col.map ofMant)

end cvmp

section adp
variable {α : Type} [Add α] [Sub α] [Mul α] [Div α] [Neg α] [LT α] [DecidableLT α] [LE α] [DecidableLE α]
  [OfNat α 0] [OfNat α 1] [OfNat α 2] [NatCast α] [OfScientific α] [Transc α]

/-- `adinf(z)`: the asymptotic distribution function of the Anderson-Darling statistic (two fits) -/
def adinf (z : α) : α :=
  if z < 2 then
    Transc.exp (-1.2337141 / z) / Transc.sqrt z
      * (2.00012 + (0.247105 - (0.0649821 - (0.0347962 - (0.011672 - 0.00168691 * z) * z) * z) * z) * z)
  else
    Transc.exp (-Transc.exp (1.0776 - (2.30695 - (0.43424 - (0.082433 - (0.008056 - 0.0003146 * z) * z) * z) * z) * z))

/-- `AD(n, z) = adinf(z) + errfix(n, adinf(z))` -/
def adProb (n : Nat) (z : α) : α :=
  let nd : α := (n : α)
  let x := adinf z
  if 0.8 < x then
    x + (-130.2137 + (745.2337 - (1705.091 - (1950.646 - (1116.360 - 255.7844 * x) * x) * x) * x) * x) / nd
  else
    let c := 0.01265 + 0.1757 / nd
    if x < c then
      let v := x / c
      let v := Transc.sqrt v * (1 - v) * (((49 : Nat) : α) * v - ((102 : Nat) : α))
      x + v * (0.0037 / ((n * n : Nat) : α) + 0.00078 / nd + 0.00006) / nd
    else
      let v := (x - c) / (0.8 - c)
      let v := -0.00022633 + (6.54034 - (14.6538 - (14.458 - (8.259 - 1.91864 * v) * v) * v) * v) * v
      x + v * (0.04213 + 0.01365 / nd) / nd

/-- `pval<0 ? 0 : pval>1 ? 1 : pval` -/
def clamp01 (p : α) : α := if p < 0 then 0 else if 1 < p then 1 else p

/-- `outputs[1]`: the p-value returned with the statistic `stat = outputs[0]` -/
def adPvalue (n : Nat) (stat : α) : α := clamp01 (1 - adProb n stat)

end adp

/-! ### alpha: PIT of the random branch (with `pit`'s own default constant), then a uniformity test -/

section alpha
variable {α : Type} [Add α] [Sub α] [Mul α] [Div α] [Neg α] [LT α] [DecidableLT α] [LE α] [DecidableLE α]
  [OfNat α 0] [OfNat α 1] [OfNat α 2] [OfNat α 12] [OfNat α 50] [OfNat α 100] [NatCast α] [OfScientific α] [Transc α]

/-- `alpha(type="CV")`: statistic and p-value. `cst0` is the default `cst` of `pit` (0.3): `alpha` calls
`pit(obs, ens, random=True)` without passing its own `cst` on -/
def alphaCV (sort : List α → List α) (cst0 : α) (obs dobs : List α) (ens dens : List (List α)) : α × Option α :=
  let pits := pitRandomAll cst0 obs dobs ens dens
  let stat := cvmStat sort pits
  (stat, cvmPvalue pits.length stat)

/-- `alpha(type="AD")` -/
def alphaAD (sort : List (Option α) → List (Option α)) (prev0 cst0 : α) (obs dobs : List α)
    (ens dens : List (List α)) : Except ADErr (α × α) :=
  let pits := pitRandomAll cst0 obs dobs ens dens
  match adTest sort prev0 (pits.map some) with
  | .ok s => .ok (s, adPvalue pits.length s)
  | .error e => .error e

end alpha

end HydroVerif.C10
