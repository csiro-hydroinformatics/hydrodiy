/-
C08 — specification vocabulary, executable and Mathlib-free so that the driver can run the SPECIFICATION side of every
theorem on the correspondence stream (requests `aggspec`, `homogspec`, which also evaluate `aggregatePerGroup` /
`flathomogenPerGroup`, and `stampinfo` of Drivers/C08.lean) next to the kernels' loops.

Nothing here looks at the kernels' loop structure: a group is a `filter`, the keys are `eraseDups`, the reductions are
the textbook ones.  `sumL` adds from the left starting at 0 — the order in which a C loop accumulates — so that the
`Float` instance of the specification is comparable bit for bit with the kernels; over an ordered field it is
`List.sum` (`sumL_eq_sum` in Lemmas/C08.lean) and `maxOf` is `List.maximum` (`maxOf_eq_maximum`).
-/
import HydroVerif.Model.C08

namespace HydroVerif.C08

/-- the inputs carrying index value `k`, in order -/
def groupOf {β : Type} (l : List (Int × β)) (k : Int) : List β :=
  (l.filter fun p => p.1 == k).map Prod.snd

/-- the distinct index values, in order of first appearance -/
def keys {β : Type} (l : List (Int × β)) : List Int := (l.map Prod.fst).eraseDups

/-- the non-missing values of a group, in order -/
def vals {α : Type} (g : List (Option α)) : List α := g.filterMap id

/-- the number of missing values of a group -/
def nmiss {α : Type} (g : List (Option α)) : Nat := g.countP Option.isNone

section vocab
variable {α : Type} [Add α] [Div α] [LT α] [DecidableLT α] [OfNat α 0] [NatCast α]

/-- the kernel's running reduction after a whole group (left fold of `accStep`) -/
def accOf (op : Int) (g : List (Option α)) : Acc α := g.foldl (accStep op) Acc.init

/-- the outputs `c_flathomogen` writes for one finished group, in input order -/
def hcells (maxnan : Int) (g : List (Option α)) : List (Option α) := hflush maxnan (accOf 0 g) g

/-- sum from the left, starting at 0 -/
def sumL (v : List α) : α := v.foldl (· + ·) 0

/-- greatest element (the first of equal ones); 0 for the empty list -/
def maxOf : List α → α
  | [] => 0
  | a :: t => t.foldl (fun m x => if m < x then x else m) a

/-- the reduction of the non-missing values of a group that each operator stands for
(a group with no non-missing value reduces to 0, the kernel's initial value) -/
def red (op : Int) (v : List α) : α :=
  if op = 0 then sumL v
  else if op = 1 then (if v.isEmpty then 0 else sumL v / (v.length : α))
  else if op = 2 then maxOf v
  else v.getLast?.getD 0

/-- value of a group: NaN when it holds more than `maxnan` missing values, else the reduction of the others -/
def reduce (op maxnan : Int) (g : List (Option α)) : Option α :=
  if maxnan < (nmiss g : Int) then none else some (red op (vals g))

/-- the value `flathomogen` writes at a position holding `x` inside the group `g` -/
def cell (maxnan : Int) (g : List (Option α)) (x : Option α) : Option α :=
  match x with
  | none => none
  | some _ => if maxnan < (nmiss g : Int) then none else some (sumL (vals g) / ((vals g).length : α))

/-- right-hand side of `aggregate_spec`: one reduced value per distinct index value -/
def aggregateSpec (op maxnan : Int) (l : List (Int × Option α)) : List (Option α) :=
  (keys l).map fun k => reduce op maxnan (groupOf l k)

/-- right-hand side of `aggregate_per_group_any_carrier` -/
def aggregatePerGroup (op maxnan : Int) (l : List (Int × Option α)) : List (Option α) :=
  (keys l).map fun k => flush op maxnan (accOf op (groupOf l k))

/-- right-hand side of `flathomogen_spec` -/
def flathomogenSpec (maxnan : Int) (l : List (Int × Option α)) : List (Option α) :=
  l.map fun p => cell maxnan (groupOf l p.1) p.2

/-- right-hand side of `flathomogen_per_group_any_carrier` -/
def flathomogenPerGroup (maxnan : Int) (l : List (Int × Option α)) : List (Option α) :=
  (keys l).flatMap fun k => hcells maxnan (groupOf l k)

end vocab

/-- non-decreasing, decided by comparing every element with its predecessor (what the kernels do) -/
def nondecreasing : List Int → Bool
  | [] => true
  | [_] => true
  | a :: b :: r => decide (a ≤ b) && nondecreasing (b :: r)

/-! ### time stamps (compute_aggindex) -/

/-- a time stamp pandas can hold: month 1..12, day 1..31, hour 0..23 -/
def Stamp.valid (t : Stamp) : Prop := 1 ≤ t.m ∧ t.m ≤ 12 ∧ 1 ≤ t.d ∧ t.d ≤ 31 ∧ t.h ≤ 23

instance (t : Stamp) : Decidable t.valid := by unfold Stamp.valid; infer_instance

/-- chronological order on (year, month, day, hour), lexicographic -/
def Stamp.le (a b : Stamp) : Prop :=
  a.y < b.y ∨ (a.y = b.y ∧ (a.m < b.m ∨ (a.m = b.m ∧ (a.d < b.d ∨ (a.d = b.d ∧ a.h ≤ b.h)))))

instance (a b : Stamp) : Decidable (Stamp.le a b) := by unfold Stamp.le; infer_instance

/-- every stamp against its successor (chronological order is transitive: `chrono_iff_pairwise`) -/
def chrono : List Stamp → Bool
  | [] => true
  | [_] => true
  | a :: b :: r => decide (Stamp.le a b) && chrono (b :: r)

end HydroVerif.C08
