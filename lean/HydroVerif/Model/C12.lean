/-
C12 — model of `hydrodiy.data.containers.Vector` as a state machine over an explicit array store
(aliasing is part of the state) and of the state-relevant part of `hydrodiy.stat.transform.Transform`.
No Mathlib. Everything is total and computable; the driver runs these definitions at `α = Float`.

What is mirrored (containers.py of /repo, its `fix:` commits included):
* `__checkvalues__`  : length test, NaN test, hit test with the ±EPS margin, `np.clip`          → `reject?`, `hitAll`, `clipAll`
* `__init__`         : flag conflict, unique names, mins / maxs / defaults validation, copies    → `mkArrays`, `mkFrom`, `mk`
* `__setattr__`      : NaN test, hit test WITHOUT margin, python `min(max(..))`, IN-PLACE write   → `setAttr`
* `__setitem__`      : unknown key rejected, else `setattr`                                        → `setKey`
* `values` setter    : `__checkvalues__`, REBINDS `_values` to a fresh array, sets the hit flag    → `setAll`
* `reset`            : `self.values = self.defaults`                                               → `reset`
* `clone`            : constructor on own names/defaults/bounds/flags, values setter, hit flag     → `clone`
* `to_dict/from_dict`: plain record of scalars; constructor, values setter, hit flag               → `toDict`, `fromDict`
* transform.py       : `__setitem__/__setattr__/reset` delegation, the inner `BC.params.values = …`
                       re-sync performed by forward/backward/jacobian of the BoxCox1lam/1nu/2sym
                       classes; sampling / prior / printing touch nothing                          → `tstep`
The getters `values/mins/maxs/defaults` return the internal array itself: an array is a reference (`Ref = Nat`,
written `Nat` in the structures so that `omega` sees through it) into the store.
-/
namespace HydroVerif.C12

/-- float64 seen by the container: NaN, −∞, a finite value, +∞ -/
inductive XR (α : Type) where
  | nan | ninf | fin (a : α) | pinf
  deriving DecidableEq, Repr

section
variable {α : Type} [LT α] [DecidableLT α] [Add α] [Sub α]

namespace XR
/-- IEEE `<` : false as soon as a NaN is involved -/
def lt : XR α → XR α → Bool
  | nan, _ => false
  | _, nan => false
  | ninf, ninf => false
  | ninf, _ => true
  | _, ninf => false
  | pinf, _ => false
  | fin _, pinf => true
  | fin a, fin b => decide (a < b)

def isNaN : XR α → Bool
  | nan => true
  | _ => false

/-- `np.maximum`: a NaN in either argument propagates -/
def maxNp (a b : XR α) : XR α := if a.isNaN then a else if b.isNaN then b else if lt a b then b else a
/-- `np.minimum` -/
def minNp (a b : XR α) : XR α := if a.isNaN then a else if b.isNaN then b else if lt b a then b else a
/-- `np.clip(v, lo, hi)` = `minimum(maximum(v, lo), hi)` -/
def clipNp (v lo hi : XR α) : XR α := minNp (maxNp v lo) hi
/-- python builtins `min(max(v, lo), hi)`: `max(v, lo)` is `lo` iff `lo > v`; `min(m, hi)` is `hi` iff `hi < m` -/
def clipPy (v lo hi : XR α) : XR α :=
  let m := if lt v lo then lo else v
  if lt hi m then hi else m

/-- `x - EPS` / `x + EPS` in IEEE arithmetic (infinities and NaN absorb) -/
def subEps (eps : α) : XR α → XR α
  | fin a => fin (a - eps)
  | x => x
def addEps (eps : α) : XR α → XR α
  | fin a => fin (a + eps)
  | x => x

/-- executable form, at one bound, of the only fact the theorems use about the margin arithmetic (`EpsOk` in
Lemmas): `a - EPS` is not above `a` and `a + EPS` is not below it. The driver evaluates it at Float on every bound of every
live vector of the correspondence stream. -/
def epsOkAt (eps : α) : XR α → Bool
  | fin a => !decide (a < a - eps) && !decide (a + eps < a)
  | _ => true

/-- `val < mins - EPS  |  val > maxs + EPS` (one element of the `__checkvalues__` hit test) -/
def outsideEps (eps : α) (x lo hi : XR α) : Bool := lt x (lo.subEps eps) || lt (hi.addEps eps) x
/-- `value < mins[idx] or value > maxs[idx]` (the `__setattr__` hit test: no margin) -/
def outside (x lo hi : XR α) : Bool := lt x lo || lt hi x
/-- not NaN and inside the closed interval -/
def within (x lo hi : XR α) : Bool := !x.isNaN && !lt x lo && !lt hi x
/-- the property's conditioning of an assigned value: NaN, inside / on the bounds, or outside by more than EPS -/
def inRegion (eps : α) (x lo hi : XR α) : Bool := x.isNaN || within x lo hi || outsideEps eps x lo hi
end XR

/-! ### element-wise helpers (numpy broadcasting is not involved: all arrays have length `nval`) -/
def map3 {β γ : Type} (f : β → β → β → γ) : List β → List β → List β → List γ
  | a :: as, b :: bs, c :: cs => f a b c :: map3 f as bs cs
  | _, _, _ => []
def any3 {β : Type} (p : β → β → β → Bool) : List β → List β → List β → Bool
  | a :: as, b :: bs, c :: cs => p a b c || any3 p as bs cs
  | _, _, _ => false
def all3 {β : Type} (p : β → β → β → Bool) : List β → List β → List β → Bool
  | a :: as, b :: bs, c :: cs => p a b c && all3 p as bs cs
  | _, _, _ => true
def all2 {β : Type} (p : β → β → Bool) : List β → List β → Bool
  | a :: as, b :: bs => p a b && all2 p as bs
  | _, _ => true

def indexOf (nm : String) : List String → Option Nat
  | [] => none
  | a :: t => if a = nm then some 0 else (indexOf nm t).map (· + 1)

def nodupB : List String → Bool
  | [] => true
  | a :: t => !t.contains a && nodupB t

/-! ### the array store -/
/-- an array reference is a natural number (allocation order) -/
abbrev Ref := Nat

/-- every numpy array ever allocated; `next` is the first unused reference -/
structure Store (α : Type) where
  cells : Nat → List (XR α)
  next : Nat

def Store.empty : Store α := ⟨fun _ => [], 0⟩
/-- a fresh array (numpy `copy`, `astype`, `clip`, … all allocate) -/
def Store.alloc (s : Store α) (a : List (XR α)) : Store α × Nat :=
  (⟨fun r => if r = s.next then a else s.cells r, s.next + 1⟩, s.next)
/-- `arr[i] = x` on the array behind `r` — seen through every alias of `r` -/
def Store.write (s : Store α) (r : Nat) (i : Nat) (x : XR α) : Store α :=
  ⟨fun r' => if r' = r then (s.cells r).set i x else s.cells r', s.next⟩

inductive Err
  | flagConflict | dupNames | badLength | nanValue | maxsOutside | defaultsOutside | unknownKey | index
  /-- `getattr(vect, name)` on a non-name (AttributeError), a value `float()` rejects, a failing copy protocol -/
  | noAttr | notNumber | copyProtocol
  /-- a guard of a transform constructor (`minilam < -3`), an unknown transform name in `get_transform` -/
  | ctorGuard | unknownClass
  deriving DecidableEq, Repr

inductive Out
  | ok | rejected (e : Err)
  deriving DecidableEq, Repr

/-- the Python object: names are an immutable tuple of strings here (no operation of the class
writes into `_names`), the four float arrays are references into the store -/
structure Vec where
  names : List String
  values : Nat
  mins : Nat
  maxs : Nat
  defaults : Nat
  hit : Bool
  checkBounds : Bool
  checkHit : Bool
  acceptNan : Bool
  deriving DecidableEq, Repr

def Vec.n (v : Vec) : Nat := v.names.length
def Vec.refs (v : Vec) : List Nat := [v.values, v.mins, v.maxs, v.defaults]

/-! ### `__checkvalues__` -/
/-- the two guards, in the order of the code -/
def reject? (acceptNan : Bool) (n : Nat) (val : List (XR α)) : Option Err :=
  if val.length ≠ n then some .badLength
  else if val.any XR.isNaN && !acceptNan then some .nanValue
  else none
def clipAll (val lo hi : List (XR α)) : List (XR α) := map3 XR.clipNp val lo hi
def hitAll (eps : α) (val lo hi : List (XR α)) : Bool := any3 (XR.outsideEps eps) val lo hi

/-! ### constructor -/
/-- `mins`: default −∞, else `__checkvalues__(mins, False)` (clipping against (−∞, +∞) changes nothing) -/
def ctorMins (an : Bool) (n : Nat) : Option (List (XR α)) → Except Err (List (XR α))
  | none => .ok (List.replicate n .ninf)
  | some m => match reject? an n m with
    | some e => .error e
    | none => .ok (clipAll m (List.replicate n .ninf) (List.replicate n .pinf))

/-- `maxs`: default +∞, else `__checkvalues__(maxs, True)` against `[mins, +∞]`; a hit is an error -/
def ctorMaxs (eps : α) (an : Bool) (n : Nat) (lo : List (XR α)) : Option (List (XR α)) → Except Err (List (XR α))
  | none => .ok (List.replicate n .pinf)
  | some m => match reject? an n m with
    | some e => .error e
    | none =>
      if hitAll eps m lo (List.replicate n .pinf) then .error .maxsOutside
      else .ok (clipAll m lo (List.replicate n .pinf))

/-- `defaults`: default `np.clip(zeros, mins, maxs)`, else `__checkvalues__(defaults, True)`; a hit is an error -/
def ctorDefaults [OfNat α 0] (eps : α) (an : Bool) (n : Nat) (lo hi : List (XR α)) :
    Option (List (XR α)) → Except Err (List (XR α))
  | none => .ok (clipAll (List.replicate n (.fin 0)) lo hi)
  | some d => match reject? an n d with
    | some e => .error e
    | none => if hitAll eps d lo hi then .error .defaultsOutside else .ok (clipAll d lo hi)

/-- validation part of `Vector.__init__`: the (mins, maxs, defaults) arrays it ends up holding -/
def mkArrays [OfNat α 0] (eps : α) (names : List String) (defaults mins maxs : Option (List (XR α)))
    (cb ch an : Bool) : Except Err (List (XR α) × List (XR α) × List (XR α)) :=
  let n := names.length
  if ch && !cb then .error .flagConflict
  else if !nodupB names then .error .dupNames
  else match ctorMins an n mins with
    | .error e => .error e
    | .ok lo => match ctorMaxs eps an n lo maxs with
      | .error e => .error e
      | .ok hi => match ctorDefaults eps an n lo hi defaults with
        | .error e => .error e
        | .ok d => .ok (lo, hi, d)

/-- allocation part: four fresh arrays, `_values = _defaults.copy()`, hit flag off -/
def mkFrom (s : Store α) (names : List String) (lo hi d : List (XR α)) (cb ch an : Bool) : Store α × Vec :=
  let (s1, rlo) := s.alloc lo
  let (s2, rhi) := s1.alloc hi
  let (s3, rd) := s2.alloc d
  let (s4, rv) := s3.alloc d
  (s4, { names, values := rv, mins := rlo, maxs := rhi, defaults := rd, hit := false,
         checkBounds := cb, checkHit := ch, acceptNan := an })

def mk [OfNat α 0] (eps : α) (s : Store α) (names : List String) (defaults mins maxs : Option (List (XR α)))
    (cb ch an : Bool) : Except Err (Store α × Vec) :=
  match mkArrays eps names defaults mins maxs cb ch an with
  | .error e => .error e
  | .ok (lo, hi, d) => .ok (mkFrom s names lo hi d cb ch an)

/-! ### assignments -/
/-- `setattr(vect, name, x)`. An attribute that is not one of the names is an ordinary Python attribute:
the vector's state is not involved. (The properties of the class, `values` … `accept_nan`, are not sent through this
operation: `setAll`, `reset` and `read` stand for them.) -/
def setAttr (s : Store α) (v : Vec) (name : String) (x : XR α) : (Store α × Vec) × Out :=
  match indexOf name v.names with
  | none => ((s, v), .ok)
  | some i =>
    if x.isNaN && !v.acceptNan then ((s, v), .rejected .nanValue)
    else match (s.cells v.mins)[i]?, (s.cells v.maxs)[i]? with
      | some lo, some hi =>
        let hit := if v.checkHit then XR.outside x lo hi else v.hit
        ((s.write v.values i (XR.clipPy x lo hi), { v with hit := hit }), .ok)
      | _, _ => ((s, v), .rejected .index)

/-- `vect[name] = x` -/
def setKey (s : Store α) (v : Vec) (name : String) (x : XR α) : (Store α × Vec) × Out :=
  match indexOf name v.names with
  | none => ((s, v), .rejected .unknownKey)
  | some _ => setAttr s v name x

/-- `vect.values = xs` -/
def setAll (eps : α) (s : Store α) (v : Vec) (xs : List (XR α)) : (Store α × Vec) × Out :=
  match reject? v.acceptNan v.n xs with
  | some e => ((s, v), .rejected e)
  | none =>
    let lo := s.cells v.mins
    let hi := s.cells v.maxs
    let (s', r) := s.alloc (clipAll xs lo hi)
    ((s', { v with values := r, hit := v.checkHit && hitAll eps xs lo hi }), .ok)

/-- `vect.reset()` -/
def reset (eps : α) (s : Store α) (v : Vec) : (Store α × Vec) × Out := setAll eps s v (s.cells v.defaults)

/-- constructor followed by `new.values = values; new._hitbounds = hit` (shared tail of clone / from_dict) -/
def rebuild [OfNat α 0] (eps : α) (s : Store α) (names : List String) (defaults mins maxs values : List (XR α))
    (hit cb ch an : Bool) : Except Err (Store α × Vec) :=
  match mk eps s names (some defaults) (some mins) (some maxs) cb ch an with
  | .error e => .error e
  | .ok (s1, c) =>
    match setAll eps s1 c values with
    | ((s2, c2), .ok) => .ok (s2, { c2 with hit := hit })
    | (_, .rejected e) => .error e

/-- `vect.clone()` -/
def clone [OfNat α 0] (eps : α) (s : Store α) (v : Vec) : Except Err (Store α × Vec) :=
  rebuild eps s v.names (s.cells v.defaults) (s.cells v.mins) (s.cells v.maxs) (s.cells v.values)
    v.hit v.checkBounds v.checkHit v.acceptNan

/-! ### dictionary export / import -/
structure Item (α : Type) where
  name : String
  value : XR α
  min : XR α
  max : XR α
  default : XR α
  deriving DecidableEq, Repr

structure Dict (α : Type) where
  nval : Nat
  hit : Bool
  checkBounds : Bool
  checkHit : Bool
  acceptNan : Bool
  data : List (Item α)
  deriving DecidableEq, Repr

def items : List String → List (XR α) → List (XR α) → List (XR α) → List (XR α) → List (Item α)
  | nm :: ns, v :: vs, lo :: los, hi :: his, d :: ds => ⟨nm, v, lo, hi, d⟩ :: items ns vs los his ds
  | _, _, _, _, _ => []

/-- `vect.to_dict()`: scalars only, nothing aliased -/
def toDict (s : Store α) (v : Vec) : Dict α :=
  { nval := v.n, hit := v.hit, checkBounds := v.checkBounds, checkHit := v.checkHit, acceptNan := v.acceptNan,
    data := items v.names (s.cells v.values) (s.cells v.mins) (s.cells v.maxs) (s.cells v.defaults) }

/-- `Vector.from_dict(dct)`: reads the first `nval` items (IndexError when there are fewer) -/
def fromDict [OfNat α 0] (eps : α) (s : Store α) (d : Dict α) : Except Err (Store α × Vec) :=
  if d.data.length < d.nval then .error .index
  else
    let its := d.data.take d.nval
    rebuild eps s (its.map (·.name)) (its.map (·.default)) (its.map (·.min)) (its.map (·.max))
      (its.map (·.value)) d.hit d.checkBounds d.checkHit d.acceptNan

/-! ### the world: a store and the vectors living in it -/
structure World (α : Type) where
  store : Store α
  vecs : List Vec

inductive Op (α : Type) where
  | setAttr (k : Nat) (name : String) (x : XR α)
  | setKey (k : Nat) (name : String) (x : XR α)
  | setAll (k : Nat) (xs : List (XR α))
  | reset (k : Nat)
  | clone (k : Nat)
  | dictRT (k : Nat)
  /-- `vect[name]` (ValueError on an unknown key) -/
  | getKey (k : Nat) (name : String)
  /-- `vect.name` / `getattr(vect, name)` (AttributeError on a non-name) -/
  | getAttr (k : Nat) (name : String)
  /-- every other pure accessor: `to_dict()`, `to_series()`, `str(vect)`, the property getters `nval`, `names`,
  `values`, `mins`, `maxs`, `defaults`, `hitbounds`, `check_bounds`, `check_hitbounds`, `accept_nan` -/
  | read (k : Nat)
  /-- assignment (by attribute, by key or whole-vector) of something `np.float64()` / `astype(float64)` rejects -/
  | setBad (k : Nat)
  /-- `copy.deepcopy(vect)` / `pickle.loads(pickle.dumps(vect))`. Whether CPython's copy protocol manages to
  rebuild the object is external to the class (`works`, observed by the harness; on the pinned class it does not:
  `__getattribute__` reads `_names` on the blank instance). When it works the result is an independent deep copy. -/
  | pyCopy (k : Nat) (works : Bool)
  deriving Repr

def Op.target : Op α → Nat
  | .setAttr k _ _ | .setKey k _ _ | .setAll k _ | .reset k | .clone k | .dictRT k
  | .getKey k _ | .getAttr k _ | .read k | .setBad k | .pyCopy k _ => k

/-- the value `vect[name]` / `vect.name` returns -/
def readItem (w : World α) (k : Nat) (name : String) : Option (XR α) :=
  match w.vecs[k]? with
  | none => none
  | some v => match indexOf name v.names with
    | none => none
    | some i => (w.store.cells v.values)[i]?

/-- an operation on the `k`-th vector that only looks -/
def World.peek (w : World α) (k : Nat) (f : Store α → Vec → Out) : World α × Out :=
  match w.vecs[k]? with
  | none => (w, .rejected .index)
  | some v => (w, f w.store v)

/-- an operation on the `k`-th vector that mutates that vector -/
def World.update (w : World α) (k : Nat) (f : Store α → Vec → (Store α × Vec) × Out) : World α × Out :=
  match w.vecs[k]? with
  | none => (w, .rejected .index)
  | some v =>
    match f w.store v with
    | ((s', v'), .ok) => (⟨s', w.vecs.set k v'⟩, .ok)
    | (_, .rejected e) => (w, .rejected e)

/-- an operation on the `k`-th vector that creates a new vector (appended to the world) -/
def World.spawn (w : World α) (k : Nat) (f : Store α → Vec → Except Err (Store α × Vec)) : World α × Out :=
  match w.vecs[k]? with
  | none => (w, .rejected .index)
  | some v =>
    match f w.store v with
    | .ok (s', c) => (⟨s', w.vecs ++ [c]⟩, .ok)
    | .error e => (w, .rejected e)

/-- one step of the state machine; a rejected operation returns the world it was given -/
def step [OfNat α 0] (eps : α) (w : World α) : Op α → World α × Out
  | .setAttr k nm x => w.update k fun s v => setAttr s v nm x
  | .setKey k nm x => w.update k fun s v => setKey s v nm x
  | .setAll k xs => w.update k fun s v => setAll eps s v xs
  | .reset k => w.update k fun s v => reset eps s v
  | .clone k => w.spawn k fun s v => clone eps s v
  | .dictRT k => w.spawn k fun s v => fromDict eps s (toDict s v)
  | .getKey k nm => w.peek k fun _ v => match indexOf nm v.names with
      | none => .rejected .unknownKey
      | some _ => .ok
  | .getAttr k nm => w.peek k fun _ v => match indexOf nm v.names with
      | none => .rejected .noAttr
      | some _ => .ok
  | .read k => w.peek k fun _ _ => .ok
  | .setBad k => w.peek k fun _ _ => .rejected .notNumber
  | .pyCopy k works =>
    if works then w.spawn k fun s v => clone eps s v
    else w.peek k fun _ _ => .rejected .copyProtocol

def run [OfNat α 0] (eps : α) (w : World α) : List (Op α) → World α
  | [] => w
  | op :: ops => run eps (step eps w op).1 ops

/-- the world right after `Vector(names, defaults, mins, maxs, check_bounds, check_hitbounds, accept_nan)` -/
def init [OfNat α 0] (eps : α) (names : List String) (defaults mins maxs : Option (List (XR α)))
    (cb ch an : Bool) : Except Err (World α) :=
  match mk eps Store.empty names defaults mins maxs cb ch an with
  | .error e => .error e
  | .ok (s, v) => .ok ⟨s, [v]⟩

/-! ### observables -/
/-- everything the public getters show of one vector (array CONTENTS, not references) -/
structure View (α : Type) where
  names : List String
  values : List (XR α)
  mins : List (XR α)
  maxs : List (XR α)
  defaults : List (XR α)
  hit : Bool
  checkBounds : Bool
  checkHit : Bool
  acceptNan : Bool
  deriving DecidableEq, Repr

def view (s : Store α) (v : Vec) : View α :=
  { names := v.names, values := s.cells v.values, mins := s.cells v.mins, maxs := s.cells v.maxs,
    defaults := s.cells v.defaults, hit := v.hit, checkBounds := v.checkBounds, checkHit := v.checkHit,
    acceptNan := v.acceptNan }

def World.view (w : World α) (k : Nat) : Option (View α) := (w.vecs[k]?).map (C12.view w.store)

/-- what construction fixes for good: names, bounds, defaults (and the three option flags) -/
structure Frozen (α : Type) where
  names : List String
  mins : List (XR α)
  maxs : List (XR α)
  defaults : List (XR α)
  checkBounds : Bool
  checkHit : Bool
  acceptNan : Bool
  deriving DecidableEq, Repr

def View.frozen (v : View α) : Frozen α :=
  ⟨v.names, v.mins, v.maxs, v.defaults, v.checkBounds, v.checkHit, v.acceptNan⟩

def World.frozen (w : World α) (k : Nat) : Option (Frozen α) := (w.view k).map View.frozen

/-- the invariant, executable: values inside the bounds or NaN-when-allowed -/
def okElem (an : Bool) (x l h : XR α) : Bool := (x.isNaN && an) || XR.within x l h
def valuesOk (an : Bool) (vals lo hi : List (XR α)) : Bool := all3 (okElem an) vals lo hi
/-- bounds are real intervals: no NaN, `min ≤ max` -/
def boundElem (l h : XR α) : Bool := !l.isNaN && !h.isNaN && !XR.lt h l
def boundsOk (lo hi : List (XR α)) : Bool := all2 boundElem lo hi

/-- `EpsOk` evaluated on the bounds of one vector -/
def View.epsOk (eps : α) (v : View α) : Bool := v.mins.all (XR.epsOkAt eps) && v.maxs.all (XR.epsOkAt eps)

def View.ok (v : View α) : Bool :=
  valuesOk v.acceptNan v.values v.mins v.maxs && valuesOk v.acceptNan v.defaults v.mins v.maxs
    && boundsOk v.mins v.maxs

/-! ### transforms -/
/-- how forward / backward / jacobian of a class touch state -/
inductive TKind
  /-- Identity, Logit, Log, BoxCox2, YeoJohnson, LogSinh, Reciprocal, Softmax, Sinh, Manly: nothing written -/
  | plain
  /-- BoxCox1lam: `BC.params.values = [get_nu(), params.values[0]]` (raises before writing when nu is NaN) -/
  | bc1lam
  /-- BoxCox1nu: `BC.params.values = [params.values[0], get_lam()]` -/
  | bc1nu
  /-- BoxCox2sym: `BC.params.values = params.values` -/
  | bc2sym
  deriving DecidableEq, Repr

/-- a transform: indices (into the world) of its parameter vector, constant vector and, for the
classes that own one, the parameter vector of the inner `BoxCox2` -/
structure Trans where
  kind : TKind
  params : Nat
  constants : Nat
  bc : Nat
  deriving DecidableEq, Repr

/-- constructor arguments of one `Vector(...)` call -/
structure Spec (α : Type) where
  names : List String
  defaults : Option (List (XR α))
  mins : Option (List (XR α))
  maxs : Option (List (XR α))
  checkBounds : Bool
  checkHit : Bool
  acceptNan : Bool

/-- one more `Vector(...)` constructed next to the live ones -/
def World.add [OfNat α 0] (eps : α) (w : World α) (sp : Spec α) : Except Err (World α) :=
  match C12.mk eps w.store sp.names sp.defaults sp.mins sp.maxs sp.checkBounds sp.checkHit sp.acceptNan with
  | .error e => .error e
  | .ok (s, v) => .ok ⟨s, w.vecs ++ [v]⟩

/-- the world of a freshly constructed transform: parameter vector (0), constant vector (1) and, for the
classes that own an inner `BoxCox2`, its parameter vector (2) -/
def tinit [OfNat α 0] (eps : α) (params constants : Spec α) (bc : Option (Spec α)) : Except Err (World α) :=
  match World.add eps ⟨Store.empty, []⟩ params with
  | .error e => .error e
  | .ok w1 => match World.add eps w1 constants with
    | .error e => .error e
    | .ok w2 => match bc with
      | none => .ok w2
      | some b => World.add eps w2 b

inductive TOp (α : Type) where
  /-- read-only uses -/
  | forward | backward | jacobian | sample | logprior | print
  /-- `trans[name]` (routed like `__setitem__`; ValueError on an unknown key) and `trans.name` / `getattr(trans, name)`
  (params first, then constants; a non-name is an ordinary Python attribute lookup: AttributeError) -/
  | getItem (name : String) | getAttr (name : String)
  /-- `trans[name] = x` -/
  | setItem (name : String) (x : XR α)
  /-- `setattr(trans, name, x)` -/
  | setAttr (name : String) (x : XR α)
  /-- `trans.reset()` -/
  | reset
  /-- `trans.params.values = xs`, `trans.constants.values = xs` -/
  | setParams (xs : List (XR α))
  | setConstants (xs : List (XR α))
  deriving Repr

def TOp.readOnly : TOp α → Bool
  | .forward | .backward | .jacobian | .sample | .logprior | .print | .getItem _ | .getAttr _ => true
  | _ => false

/-- the vector `trans[name]` / `trans[name] = x` is routed to: the parameter vector when there is no constant or when
`name` is a parameter name, else the constant vector -/
def Trans.route (t : Trans) (p c : Vec) (nm : String) : Nat :=
  if c.n = 0 then t.params else if p.names.contains nm then t.params else t.constants

/-- the value `trans[name]` / `trans.name` returns -/
def treadItem (w : World α) (t : Trans) (nm : String) : Option (XR α) :=
  match w.vecs[t.params]?, w.vecs[t.constants]? with
  | some p, some c =>
    if p.names.contains nm then readItem w t.params nm
    else if c.names.contains nm then readItem w t.constants nm else none
  | _, _ => none

/-- the values the class hands to `BC.params.values` (`none`: the getter raised on a NaN constant) -/
def syncValues (w : World α) (t : Trans) : Option (List (XR α)) :=
  match w.vecs[t.params]?, w.vecs[t.constants]? with
  | some p, some c =>
    let pv := w.store.cells p.values
    let cv := w.store.cells c.values
    match t.kind with
    | .plain => none
    | .bc2sym => some pv
    | .bc1lam => match cv[0]?, pv[0]? with
      | some nu, some lam => if nu.isNaN then none else some [nu, lam]
      | _, _ => none
    | .bc1nu => match pv[0]?, cv[0]? with
      | some nu, some lam => if lam.isNaN then none else some [nu, lam]
      | _, _ => none
  | _, _ => none

/-- forward / backward / jacobian: at most a whole-vector assignment on the inner BoxCox2 parameters -/
def sync (eps : α) (w : World α) (t : Trans) : World α :=
  match syncValues w t with
  | none => w
  | some xs => (w.update t.bc fun s v => setAll eps s v xs).1

def tstep (eps : α) (w : World α) (t : Trans) : TOp α → World α × Out
  | .forward | .backward | .jacobian => (sync eps w t, .ok)
  | .sample | .logprior | .print => (w, .ok)
  | .getItem nm =>
    match w.vecs[t.params]?, w.vecs[t.constants]? with
    | some p, some c => w.peek (t.route p c nm) fun _ v => match indexOf nm v.names with
        | none => .rejected .unknownKey
        | some _ => .ok
    | _, _ => (w, .rejected .index)
  | .getAttr nm =>
    match w.vecs[t.params]?, w.vecs[t.constants]? with
    | some p, some c => (w, if p.names.contains nm || c.names.contains nm then .ok else .rejected .noAttr)
    | _, _ => (w, .rejected .index)
  | .setItem nm x =>
    match w.vecs[t.params]?, w.vecs[t.constants]? with
    | some p, some c =>
      if c.n = 0 then w.update t.params fun s v => setKey s v nm x
      else if p.names.contains nm then w.update t.params fun s v => setKey s v nm x
      else w.update t.constants fun s v => setKey s v nm x
    | _, _ => (w, .rejected .index)
  | .setAttr nm x =>
    match w.vecs[t.params]?, w.vecs[t.constants]? with
    | some p, some c =>
      if p.names.contains nm then w.update t.params fun s v => setAttr s v nm x
      else if c.names.contains nm then w.update t.constants fun s v => setAttr s v nm x
      else (w, .ok)
    | _, _ => (w, .rejected .index)
  | .reset => w.update t.params fun s v => reset eps s v
  | .setParams xs => w.update t.params fun s v => setAll eps s v xs
  | .setConstants xs => w.update t.constants fun s v => setAll eps s v xs

/-! ### several live transforms in one process -/

/-- the vectors a transform object owns (a `plain` class has no inner BoxCox2: its `bc` field is unused) -/
def Trans.idx (t : Trans) : List Nat :=
  match t.kind with
  | .plain => [t.params, t.constants]
  | _ => [t.params, t.constants, t.bc]

/-- a process holding several transform instances: every `Class()` call builds its OWN parameter vector, constant
vector and inner BoxCox2. The one object the code does share, the default `Vector([])` of `Transform.__init__`
(transform.py:84-86), is an own empty vector per instance here: see the head of `Model/C12T.lean` and `noname_inert` -/
structure MWorld (α : Type) where
  world : World α
  insts : List Trans

def MWorld.empty : MWorld α := ⟨⟨Store.empty, []⟩, []⟩

/-- `Class(**kwargs)`: two or three fresh `Vector(...)` objects appended to the world -/
def madd [OfNat α 0] (eps : α) (m : MWorld α) (kind : TKind) (p c : Spec α) (b : Option (Spec α)) :
    Except Err (MWorld α) :=
  let n := m.world.vecs.length
  match World.add eps m.world p with
  | .error e => .error e
  | .ok w1 => match World.add eps w1 c with
    | .error e => .error e
    | .ok w2 =>
      if kind = .plain then .ok ⟨w2, m.insts ++ [⟨.plain, n, n + 1, n + 2⟩]⟩
      else match b with
        | none => .error .index
        | some sb => match World.add eps w2 sb with
          | .error e => .error e
          | .ok w3 => .ok ⟨w3, m.insts ++ [⟨kind, n, n + 1, n + 2⟩]⟩

/-- an operation on the `i`-th instance -/
def mstep (eps : α) (m : MWorld α) (i : Nat) (op : TOp α) : MWorld α × Out :=
  match m.insts[i]? with
  | none => (m, .rejected .index)
  | some t => ({ m with world := (tstep eps m.world t op).1 }, (tstep eps m.world t op).2)

end
end HydroVerif.C12
