/-
C13 — model of the persistence paths of `hydrodiy.gis.grid` (as of `/repo` HEAD, i.e. after its `fix:` commits to grid.py):

* `Grid.save`            : header text (`KEY value` lines, `{0:<14} {1}\n`, parent attributes `{0:<22}`) and the
                           raw row-major data written by `ndarray.tofile`                     → `writeHeader`, `saveData`
* `Grid.from_stream`     : `readlines`, the per-line key dispatch (text / int / int-or-float / float), the
  (`from_header/from_zip`) `ulxmap/xdim` variants, byte order, the pixel-type regex, `np.dtype(str)`,
                           `Grid(**config)`, `Grid.load`, parent attributes                    → `fromStream`
* `Grid.load`            : `np.fromfile` with the byte order of the header, count check, reshape,
                           `_clipdata`, `astype`                                               → `load`
* `Grid.data` setter     : shape check, `_clipdata`, `astype` (same dtype)                     → `setData`
* `Grid.to_dict/from_dict`, `Grid.clone(dtype)`, `Grid.clip`                                   → `toDict`, `fromDict`, `clone`, `cloneAs`, `clip`
* `Catchment.to_dict/from_dict`                                                                → `catchToDict`, `catchFromDict`
* clone independence: grids as handles into an explicit array store                            → `Store`, `SOp`, `Store.clone`, `Store.cloneMap`
* `_clipdata` for the float types (`np.isfinite`, `np.isnan`, `np.maximum / np.minimum` on bit patterns),
  the `mindata / maxdata` setters                                                              → `clipWord`, `maxWord`, `minWord`, `setMin`, `setMax`
* the grid object as a state machine: every public mutator, accepted or rejected
  (`__setitem__` with any index, `fill`, the `data` / `nodata` / `mindata` / `maxdata` setters with any
  value, `load`), the accessor `__getitem__`                                                   → `Op`, `step`, `run`, `getItem`
* `Catchment.delineate_area` as far as it updates outlet, inlets and areas (fault path included)→ `COp`, `cstep`, `crun`
* `Grid.from_dict` with optional keys missing                                                  → `fromDictP`
* file names: `save(filename)`, `from_header(path)`, `from_zip(archive, member)`               → `saveFS`, `fromHeaderFS`, `fromZipFS`

Strings are `List Char`; cell values and the no-data value are *words* (the bit pattern of the numpy
scalar, `< 256^itemsize`), so that "bit-identical" is equality. Georeferencing numbers are an abstract
type `ν` (Float in the driver, any type in the theorems): their printing and reading (`str(np.float64)`,
`float()`), the conversions between float formats and the two pieces of arithmetic of the `ulxmap/xdim`
header variants are *external* and collected in `NumIO ν`.  Integers are printed and parsed concretely
(`Nat.toDigits`).  No Mathlib.
-/
import HydroVerif.Model.C07
namespace HydroVerif.C13

abbrev Str := List Char

/-! ## 0. python string helpers -/

/-- the six ASCII white-space characters blank, `\t \n \r \x0b \x0c`. Python's `str.strip()` also removes U+001C–U+001F and the
Unicode white space: those are outside the model (never generated), so `NoSpace` below means "none of these six" -/
def isSpace (c : Char) : Bool :=
  c == ' ' || c == '\t' || c == '\n' || c == '\r' || c == '\x0b' || c == '\x0c'

def lstrip (s : Str) : Str := s.dropWhile isSpace
def rstrip (s : Str) : Str := (s.reverse.dropWhile isSpace).reverse
def strip (s : Str) : Str := rstrip (lstrip s)
def lower (s : Str) : Str := s.map Char.toLower
def upper (s : Str) : Str := s.map Char.toUpper

def startsWith : Str → Str → Bool
  | _, [] => true
  | [], _ :: _ => false
  | c :: s, d :: p => c == d && startsWith s p

/-- `" ".join(l)` -/
def joinSp : List Str → Str
  | [] => []
  | [a] => a
  | a :: b :: t => a ++ ' ' :: joinSp (b :: t)

/-- `str(n)` for a non-negative python int -/
def natStr (n : Nat) : Str := Nat.toDigits 10 n
/-- `str(i)` for a python int / `np.int64` -/
def intStr (i : Int) : Str := if i < 0 then '-' :: natStr i.natAbs else natStr i.natAbs

/-- decimal digits only, at least one -/
def parseNat? (s : Str) : Option Nat :=
  if s ≠ [] ∧ s.all Char.isDigit then some (Nat.ofDigitChars 10 s 0) else none

/-- `int(token)` for an already stripped ASCII token: optional sign, digits (python also accepts `_`
between digits and non-ASCII digits; not modelled, never generated) -/
def parseInt? (s : Str) : Option Int :=
  match s with
  | '-' :: r => (parseNat? r).map fun n => -(n : Int)
  | '+' :: r => (parseNat? r).map fun n => (n : Int)
  | r => (parseNat? r).map fun n => (n : Int)

/-- python dict assignment on an association list: overwrite in place or append -/
def dictSet {β : Type} (d : List (Str × β)) (k : Str) (v : β) : List (Str × β) :=
  if d.any (·.1 == k) then d.map (fun e => if e.1 == k then (k, v) else e) else d ++ [(k, v)]

/-! ## 1. data types -/

inductive Kind | int | uint | float
  deriving DecidableEq, Repr

/-- a numpy scalar type of the supported families: kind and item size in bytes -/
structure DType where
  kind : Kind
  bytes : Nat
  deriving DecidableEq, Repr

/-- int8..int64, uint8..uint64, float16/32/64 -/
def DType.supported (t : DType) : Bool :=
  match t.kind with
  | .float => t.bytes == 2 || t.bytes == 4 || t.bytes == 8
  | _ => t.bytes == 1 || t.bytes == 2 || t.bytes == 4 || t.bytes == 8

def allDTypes : List DType :=
  [⟨.int, 1⟩, ⟨.int, 2⟩, ⟨.int, 4⟩, ⟨.int, 8⟩, ⟨.uint, 1⟩, ⟨.uint, 2⟩, ⟨.uint, 4⟩, ⟨.uint, 8⟩,
   ⟨.float, 2⟩, ⟨.float, 4⟩, ⟨.float, 8⟩]

def int64 : DType := ⟨.int, 8⟩

/-- byte order of a raster file: `I` (Intel, little endian) or `M` (Motorola, big endian) -/
inductive ByteOrder | little | big
  deriving DecidableEq, Repr

def kindChar : Kind → Char
  | .int => 'i' | .uint => 'u' | .float => 'f'

def kindName : Kind → Str
  | .int => "int".toList | .uint => "uint".toList | .float => "float".toList

/-- `np.dtype(t).name`, e.g. `int64` -/
def dtypeName (t : DType) : Str := kindName t.kind ++ natStr (8 * t.bytes)

/-- `re.sub("[0-9]+$", "", name)` -/
def stripTrailingDigits (s : Str) : Str := (s.reverse.dropWhile Char.isDigit).reverse

/-- the `if name == "int" … elif … else raise` chain of `save` -/
def pixelTypeOfName (name : Str) : Option Str :=
  if name = "int".toList then some "signedint".toList
  else if name = "uint".toList then some "unsignedint".toList
  else if name = "float".toList then some "float".toList
  else none

/-- `np.dtype(t).str` on a little-endian machine: `|` for one-byte items, `<` otherwise -/
def dtypeStr (t : DType) : Str :=
  (if t.bytes = 1 then '|' else '<') :: kindChar t.kind :: natStr t.bytes

/-- `np.dtype(s)` for the array-protocol strings `[<>|=]?[iuf]<bytes>` of the supported types; `none` is
the `TypeError` numpy raises (other valid numpy type strings — `b1`, `c8`, `f16`, … — are outside
the supported families and are not generated). Returns the byte order the string asked for. -/
def dtypeOfStr (s : Str) : Option (ByteOrder × DType) :=
  let (bo, rest) := match s with
    | '>' :: r => (ByteOrder.big, r)
    | '<' :: r => (ByteOrder.little, r)
    | '|' :: r => (ByteOrder.little, r)
    | '=' :: r => (ByteOrder.little, r)
    | r => (ByteOrder.little, r)
  match rest with
  | k :: digits =>
    let kind? : Option Kind := if k == 'i' then some .int else if k == 'u' then some .uint
      else if k == 'f' then some .float else none
    match kind?, parseNat? digits with
    | some kind, some b => if (DType.mk kind b).supported then some (bo, ⟨kind, b⟩) else none
    | _, _ => none
  | [] => none

/-- `re.sub("nsignedint$|^signed|nt|loat", "", s)` on a single-line string: at every position the
alternatives are tried in order; `skip` counts characters of a match still to be dropped -/
def pixelSubAux : Nat → Bool → Str → Str
  | _, _, [] => []
  | skip + 1, _, _ :: s => pixelSubAux skip false s
  | 0, atStart, c :: s =>
    if c :: s = "nsignedint".toList then []
    else if atStart && startsWith (c :: s) "signed".toList then pixelSubAux 5 false s
    else if startsWith (c :: s) "nt".toList then pixelSubAux 1 false s
    else if startsWith (c :: s) "loat".toList then pixelSubAux 3 false s
    else c :: pixelSubAux 0 false s
def pixelSub (s : Str) : Str := pixelSubAux 0 true s

/-! ## 2. words and bytes -/

def wordBound (t : DType) : Nat := 256 ^ t.bytes

/-- the integer a word stands for (two's complement for signed types) -/
def toInt (t : DType) (w : Nat) : Int :=
  match t.kind with
  | .int => if 2 * w < wordBound t then (w : Int) else (w : Int) - (wordBound t : Int)
  | _ => (w : Int)

/-- range of the integer type -/
def intInRange (t : DType) (i : Int) : Bool :=
  match t.kind with
  | .int => decide (-(wordBound t : Int) ≤ 2 * i) && decide (2 * i < (wordBound t : Int))
  | _ => decide (0 ≤ i) && decide (i < (wordBound t : Int))

/-- word of an in-range integer -/
def ofInt (t : DType) (i : Int) : Nat := (i % (wordBound t : Int)).toNat

def encodeLE : Nat → Nat → List UInt8
  | 0, _ => []
  | n + 1, w => UInt8.ofNat (w % 256) :: encodeLE n (w / 256)

def decodeLE : List UInt8 → Nat
  | [] => 0
  | b :: bs => b.toNat + 256 * decodeLE bs

/-- the `n` bytes of word `w` in the given byte order -/
def encode (bo : ByteOrder) (n w : Nat) : List UInt8 :=
  match bo with
  | .little => encodeLE n w
  | .big => (encodeLE n w).reverse

def decode (bo : ByteOrder) (bs : List UInt8) : Nat :=
  match bo with
  | .little => decodeLE bs
  | .big => decodeLE bs.reverse

/-- complete items of `n` bytes (a trailing partial item is dropped, as `np.fromfile` does) -/
def chunksAux {β : Type} (n : Nat) : Nat → List β → List (List β)
  | 0, _ => []
  | fuel + 1, l => if n = 0 ∨ l.length < n then [] else l.take n :: chunksAux n fuel (l.drop n)
def chunks {β : Type} (n : Nat) (l : List β) : List (List β) := chunksAux n l.length l

/-- `ndarray.tofile` of a C-contiguous native (little-endian) array -/
def saveData (t : DType) (rows : List (List Nat)) : List UInt8 :=
  rows.flatten.flatMap (encodeLE t.bytes)

/-- `np.fromfile(stream, dtype.newbyteorder(bo))` -/
def fromfile (bo : ByteOrder) (t : DType) (bytes : List UInt8) : List Nat :=
  (chunks t.bytes bytes).map (decode bo)

/-- `data.reshape((nrows, ncols))` for `len(data) = nrows*ncols` -/
def reshape {β : Type} : Nat → Nat → List β → List (List β)
  | 0, _, _ => []
  | nrows + 1, ncols, data => data.take ncols :: reshape nrows ncols (data.drop ncols)

/-! ### floating point words as far as `_clipdata` looks at them

`np.isfinite`, `np.isnan` and the order of two non-NaN floats are decided on the bit pattern (sign, exponent,
fraction): no rounding is involved, `np.maximum / np.minimum` return one of their two operands. -/

/-- number of fraction bits of float16 / float32 / float64 -/
def mantBits (t : DType) : Nat := if t.bytes = 2 then 10 else if t.bytes = 4 then 23 else 52

/-- biased exponent field -/
def expField (t : DType) (w : Nat) : Nat := w / 2 ^ mantBits t % 2 ^ (8 * t.bytes - 1 - mantBits t)

/-- all-ones exponent: inf or NaN -/
def expAll (t : DType) : Nat := 2 ^ (8 * t.bytes - 1 - mantBits t) - 1

/-- `np.isnan` of a float word -/
def isNaNW (t : DType) (w : Nat) : Bool := expField t w == expAll t && w % 2 ^ mantBits t != 0

/-- `np.isfinite` of a float word -/
def isFiniteW (t : DType) (w : Nat) : Bool := expField t w != expAll t

/-- an integer that orders non-NaN float words as their values are ordered (sign and magnitude; `-0.0` and `0.0`
both map to 0, `±inf` to the extremes) -/
def floatKey (t : DType) (w : Nat) : Int :=
  let m := w % 2 ^ (8 * t.bytes - 1)
  if w / 2 ^ (8 * t.bytes - 1) % 2 = 1 then -(m : Int) else (m : Int)

/-- a bound as it is stored in `lo / hi`: the integer for the integer types, the bit pattern for the float types -/
def boundOfWord (t : DType) (w : Nat) : Int :=
  match t.kind with
  | .float => (w : Int)
  | _ => toInt t w

/-- `np.isfinite(bound)`: always true for an integer scalar -/
def boundFinite (t : DType) (b : Int) : Bool :=
  match t.kind with
  | .float => isFiniteW t b.toNat
  | _ => true

/-- `np.maximum(x, bound)` on one word (`bound` as stored, see `boundOfWord`): `x` when it is NaN or not below the
bound, else the bound (a NaN bound is returned for every non-NaN `x`: the comparison is false). When `x` and the
bound are the two zeros of a float type numpy returns either (platform dependent): never generated. -/
def maxWord (t : DType) (b : Int) (w : Nat) : Nat :=
  match t.kind with
  | .float =>
    if isNaNW t w then w
    else if isNaNW t b.toNat then b.toNat
    else if floatKey t w < floatKey t b.toNat then b.toNat else w
  | _ => if toInt t w < b then ofInt t b else w

/-- `np.minimum(x, bound)` on one word -/
def minWord (t : DType) (b : Int) (w : Nat) : Nat :=
  match t.kind with
  | .float =>
    if isNaNW t w then w
    else if isNaNW t b.toNat then b.toNat
    else if floatKey t b.toNat < floatKey t w then b.toNat else w
  | _ => if b < toInt t w then ofInt t b else w

/-- `if np.isfinite(self._mindata): value = np.maximum(value, self._mindata)` on a float word -/
def clipLoF (t : DType) (lo : Option Int) (w : Nat) : Nat :=
  match lo with
  | some l => if boundFinite t l then maxWord t l w else w
  | none => w

/-- `if np.isfinite(self._maxdata): value = np.minimum(value, self._maxdata)` on a float word -/
def clipHiF (t : DType) (hi : Option Int) (w : Nat) : Nat :=
  match hi with
  | some h => if boundFinite t h then minWord t h w else w
  | none => w

/-- `_clipdata` followed by `astype(self.dtype)` on one value of the grid's own dtype: `mindata/maxdata`
are `None`-like when they are the python floats `∓inf` of `__init__` (the default); a bound that was set is a scalar of
the grid dtype and is applied with `np.maximum / np.minimum` in that dtype when `np.isfinite` holds for it (always,
for an integer type; a float bound set to `±inf` or NaN is no bound). -/
def clipWord (t : DType) (lo hi : Option Int) (w : Nat) : Nat :=
  match t.kind with
  | .float => clipHiF t hi (clipLoF t lo w)
  | _ =>
    let v := toInt t w
    let v := match lo with | some l => if v < l then l else v | none => v
    let v := match hi with | some h => if h < v then h else v | none => v
    if lo.isNone && hi.isNone then w else ofInt t v

def clipData (t : DType) (lo hi : Option Int) (rows : List (List Nat)) : List (List Nat) :=
  rows.map fun r => r.map (clipWord t lo hi)

/-- `int64 → float64 → int64`: what `np.clip(x, -inf, inf).astype(int64)` did to a 64-bit integer at the pinned
commit (round to nearest-even on 53 significant bits; the final cast of an out-of-range value is not modelled).
Not used by the model of the repaired code; kept so that the finding is a theorem (`roundF64_small`). -/
def roundF64 (n : Int) : Int :=
  let a := n.natAbs
  let e := (Nat.log2 a + 1) - 53
  let q := a / 2 ^ e
  let r := a % 2 ^ e
  let q' := if 2 * r > 2 ^ e ∨ (2 * r = 2 ^ e ∧ q % 2 = 1) then q + 1 else q
  if n < 0 then -((q' * 2 ^ e : Nat) : Int) else ((q' * 2 ^ e : Nat) : Int)

/-! ## 3. external number text and conversions -/

/-- what the code delegates to python / numpy for floating point numbers -/
structure NumIO (ν : Type) where
  /-- `str(np.float64(x))` = `"{}".format(x)` -/
  showF : ν → Str
  /-- `float(token)`; `none` = `ValueError` -/
  readF : Str → Option ν
  /-- `str(s)` of the float16/32/64 scalar with bit pattern `w` -/
  showW : DType → Nat → Str
  /-- bit pattern of `dtype(x)` for a python float `x`; `none` = numpy raises -/
  castW : DType → ν → Option Nat
  /-- bit pattern of `floatN(i)` for a python int -/
  ofIntW : DType → Int → Option Nat
  /-- `ndarray.astype` on one word between two different dtypes of which at least one is a float type -/
  convW : DType → DType → Nat → Nat
  /-- `float(i)` / the literals `0.`, `1.` -/
  ofInt : Int → ν
  sub : ν → ν → ν
  mul : ν → ν → ν
  /-- `abs(ydim - xdim) > 1e-10` -/
  dimsDiffer : ν → ν → Bool

/-- a value offered as no-data: python int, python float, text (`from_dict`), or a scalar that already
has the grid's dtype -/
inductive NVal (ν : Type) where
  | int (n : Int) | num (x : ν) | text (s : Str) | word (w : Nat)

inductive Err
  /-- `IndexError`: a non-text header line without a second token (also blank lines) -/
  | malformedLine
  /-- byte order other than `I`/`M` -/
  | badByteorder
  /-- `np.dtype(...)` raises `TypeError` -/
  | badDtype
  /-- `xdim` and `ydim` differ -/
  | xdimYdim
  /-- `KeyError`: `ulxmap` without `ulymap` or `nrows` -/
  | missingKey
  /-- `TypeError`: no `ncols` -/
  | missingDims
  /-- python int out of the bounds of the integer dtype (`OverflowError`), unparsable text -/
  | badNodata
  /-- negative dimension (`np.zeros` raises) -/
  | badShape
  /-- number of items in the data file ≠ `nrows*ncols`, or array of the wrong shape given to the setter -/
  | wrongCount
  /-- dtype name not int/uint/float in `save` -/
  | pixelUnrecognised
  /-- `Catchment.to_dict` before delineation -/
  | notDelineated
  /-- clip corner outside the extent: `cell2rowcol` refuses the cell number -1 (`ValueError`); outside the property's quantifier -/
  | cornerOutside
  /-- `IndexError`: flat index outside `[-size, size)` in `grid[idx] = …` -/
  | badIndex
  /-- `mindata > maxdata` after a bound was assigned -/
  | badBounds
  /-- `save` with a file name that does not end with `bil` -/
  | badFilename
  /-- `delineate_area`: the kernel returns an error code -/
  | delineationFailed
  /-- `from_header`: the header file does not exist (`ValueError`) -/
  | missingFile
  deriving DecidableEq, Repr

/-- `self.dtype(value)`: the no-data setter -/
def nodataWord {ν : Type} (io : NumIO ν) (t : DType) : NVal ν → Except Err Nat
  | .word w => .ok w
  | .int n =>
    match t.kind with
    | .float => match io.ofIntW t n with | some w => .ok w | none => .error .badNodata
    | _ => if intInRange t n then .ok (ofInt t n) else .error .badNodata
  | .num x => match io.castW t x with | some w => .ok w | none => .error .badNodata
  | .text s =>
    match t.kind with
    | .float =>
      match io.readF (strip s) with
      | some x => (match io.castW t x with | some w => .ok w | none => .error .badNodata)
      | none => .error .badNodata
    | _ =>
      match parseInt? (strip s) with
      | some n => if intInRange t n then .ok (ofInt t n) else .error .badNodata
      | none => .error .badNodata

/-- `str(self.nodata)` -/
def nodataStr {ν : Type} (io : NumIO ν) (t : DType) (w : Nat) : Str :=
  match t.kind with
  | .float => io.showW t w
  | _ => intStr (toInt t w)

/-! ## 4. the grid object -/

/-- value of a header field / attribute -/
inductive PVal (ν : Type) where
  | int (n : Int) | num (x : ν) | text (s : Str)

def PVal.str {ν : Type} (io : NumIO ν) : PVal ν → Str
  | .int n => intStr n
  | .num x => io.showF x
  | .text s => s

structure Grid (ν : Type) where
  name : Str
  comment : Str
  nrows : Int
  ncols : Int
  xll : ν
  yll : ν
  csz : ν
  dtype : DType
  /-- `_nodata`, a scalar of `dtype` -/
  nodata : Nat
  /-- `mindata` / `maxdata`: `none` is the python float `∓inf` of `__init__`; a bound that was set is a scalar of the
  grid dtype, stored as its integer value (integer types) or as its bit pattern (float types), see `boundOfWord` -/
  lo : Option Int := none
  hi : Option Int := none
  data : List (List Nat)
  /-- `parentgrid_*` attributes in the order they were set -/
  parent : List (Str × PVal ν) := []

def zeros (nrows ncols : Nat) : List (List Nat) := List.replicate nrows (List.replicate ncols 0)

/-- `Grid.__init__` -/
def mkGrid {ν : Type} (io : NumIO ν) (name : Str) (ncols nrows : Int) (csz xll yll : ν) (t : DType)
    (nodata : NVal ν) (comment : Str) : Except Err (Grid ν) :=
  match nodataWord io t nodata with
  | .error e => .error e
  | .ok w =>
    if nrows < 0 ∨ ncols < 0 then .error .badShape
    else .ok { name, comment, nrows, ncols, xll, yll, csz, dtype := t, nodata := w,
               data := zeros nrows.toNat ncols.toNat }

/-- the `data` setter for an array of the grid's own dtype -/
def setData {ν : Type} (g : Grid ν) (rows : List (List Nat)) : Except Err (Grid ν) :=
  if (rows.length : Int) ≠ g.nrows ∨ rows.any (fun r => (r.length : Int) ≠ g.ncols) then .error .wrongCount
  else .ok { g with data := clipData g.dtype g.lo g.hi rows }

/-- `Grid.load` -/
def load {ν : Type} (g : Grid ν) (bo : ByteOrder) (bytes : List UInt8) : Except Err (Grid ν) :=
  let data := fromfile bo g.dtype bytes
  if (data.length : Int) ≠ g.nrows * g.ncols then .error .wrongCount
  else .ok { g with data := clipData g.dtype g.lo g.hi (reshape g.nrows.toNat g.ncols.toNat data) }

/-! ## 5. header writer -/

/-- `"{0:<w}".format(s)` -/
def ljust (w : Nat) (s : Str) : Str := s ++ List.replicate (w - s.length) ' '

/-- `"{0:<w} {1}\n".format(key, val)` -/
def fmtLine (w : Nat) (key val : Str) : Str := ljust w key ++ ' ' :: (val ++ ['\n'])

/-- the attributes `save` and `to_dict` look for, in that order -/
def parentAttrs : List Str :=
  ["nrows", "ncols", "xllcorner", "yllcorner", "rows_start", "rows_end", "cols_start", "cols_end"].map
    fun a => "parentgrid_".toList ++ a.toList

def lookup {β : Type} (d : List (Str × β)) (k : Str) : Option β := (d.find? (·.1 == k)).map (·.2)

/-- `re.sub("[\r\n]+", " ", s)`: every run of line breaks becomes one blank -/
def oneLineAux : Bool → Str → Str
  | _, [] => []
  | inRun, c :: s =>
    if c == '\n' || c == '\r' then (if inRun then oneLineAux true s else ' ' :: oneLineAux true s)
    else c :: oneLineAux false s
def oneLine (s : Str) : Str := oneLineAux false s

/-- the BYTEORDER letter -/
def boLetter : ByteOrder → Str
  | .big => "M".toList
  | .little => "I".toList

/-- the header file written by `Grid.save`. `bo` is `np.dtype(self.dtype).byteorder == ">"`: a grid built by
this module always holds native data, so `save` itself only ever takes the `I` branch (`writeHeader`); the
`M` branch is what a big-endian raster produced elsewhere carries. -/
def writeHeaderBO {ν : Type} (io : NumIO ν) (bo : ByteOrder) (g : Grid ν) : Except Err Str :=
  match pixelTypeOfName (stripTrailingDigits (dtypeName g.dtype)) with
  | none => .error .pixelUnrecognised
  | some pixeltype =>
    let comment := if oneLine g.comment = [] then "No comment".toList else oneLine g.comment
    .ok (
      fmtLine 14 "NROWS".toList (intStr g.nrows) ++
      fmtLine 14 "NCOLS".toList (intStr g.ncols) ++
      fmtLine 14 "XLLCORNER".toList (io.showF g.xll) ++
      fmtLine 14 "YLLCORNER".toList (io.showF g.yll) ++
      fmtLine 14 "CELLSIZE".toList (io.showF g.csz) ++
      fmtLine 14 "NBITS".toList (natStr (g.dtype.bytes * 8)) ++
      fmtLine 14 "PIXELTYPE".toList (upper pixeltype) ++
      fmtLine 14 "BYTEORDER".toList (boLetter bo) ++
      fmtLine 14 "NODATA_VALUE".toList (nodataStr io g.dtype g.nodata) ++
      fmtLine 14 "NAME".toList (oneLine g.name) ++
      fmtLine 14 "COMMENT".toList comment ++
      (parentAttrs.flatMap fun a =>
        match lookup g.parent a with
        | some v => fmtLine 22 (upper a) (v.str io)
        | none => []))

def writeHeader {ν : Type} (io : NumIO ν) (g : Grid ν) : Except Err Str := writeHeaderBO io .little g

/-- `Grid.save`: header text and data bytes -/
def save {ν : Type} (io : NumIO ν) (g : Grid ν) : Except Err (Str × List UInt8) :=
  match writeHeader io g with
  | .error e => .error e
  | .ok h => .ok (h, saveData g.dtype g.data)

/-! ## 6. header reader -/

/-- `readlines()` of a text stream opened with universal newlines: lines keep their `\n`; `\r\n` and a
lone `\r` are line ends too -/
def readlinesAux : Str → Str → List Str
  | cur, [] => if cur = [] then [] else [cur.reverse]
  | cur, '\n' :: s => ('\n' :: cur).reverse :: readlinesAux [] s
  | cur, '\r' :: '\n' :: s => ('\n' :: cur).reverse :: readlinesAux [] s
  | cur, '\r' :: s => ('\n' :: cur).reverse :: readlinesAux [] s
  | cur, c :: s => readlinesAux (c :: cur) s
def readlines (s : Str) : List Str := readlinesAux [] s

/-- `re.split(" ", re.sub(" +", " ", line))`: split at every maximal run of blanks (a leading or
trailing run yields an empty first / last token). The result is never empty. -/
def splitRunsAux : Bool → Str → List Str
  | _, [] => [[]]
  | inRun, c :: s =>
    if c == ' ' then (if inRun then splitRunsAux true s else [] :: splitRunsAux true s)
    else match splitRunsAux false s with
      | t :: ts => (c :: t) :: ts
      | [] => [[c]]
def splitRuns (line : Str) : List Str := splitRunsAux false line

/-- the `config` dictionary of `from_stream`, restricted to the keys that are read afterwards -/
structure Config (ν : Type) where
  name : Str
  comment : Str
  pixeltype : Str
  byteorder : Str
  nbits : Int
  nrows : Option Int
  ncols : Option Int
  xll : ν
  yll : ν
  csz : ν
  nodata : NVal ν
  nodataValue : Option (NVal ν)
  xdim : Option ν
  ydim : Option ν
  ulxmap : Option ν
  ulymap : Option ν
  parent : List (Str × PVal ν)

def Config.init {ν : Type} (io : NumIO ν) (defaultName : Str) : Config ν :=
  { name := defaultName, comment := "No comment".toList, pixeltype := "float".toList,
    byteorder := "i".toList, nbits := 64, nrows := none, ncols := none,
    xll := io.ofInt 0, yll := io.ofInt 0, csz := io.ofInt 1, nodata := .int 0, nodataValue := none,
    xdim := none, ydim := none, ulxmap := none, ulymap := none, parent := [] }

def textKeys : List Str := ["pixeltype", "byteorder", "layout", "comment", "name"].map String.toList

def Config.setText {ν : Type} (c : Config ν) (k v : Str) : Config ν :=
  if k = "pixeltype".toList then { c with pixeltype := v }
  else if k = "byteorder".toList then { c with byteorder := v }
  else if k = "comment".toList then { c with comment := v }
  else if k = "name".toList then { c with name := v }
  else c

def Config.setInt {ν : Type} (c : Config ν) (k : Str) (n : Int) : Config ν :=
  if startsWith k "parent".toList then { c with parent := dictSet c.parent k (.int n) }
  else if k = "nrows".toList then { c with nrows := some n }
  else if k = "ncols".toList then { c with ncols := some n }
  else if k = "nbits".toList then { c with nbits := n }
  else c

def Config.setNodata {ν : Type} (c : Config ν) (k : Str) (v : NVal ν) : Config ν :=
  if k = "nodata".toList then { c with nodata := v }
  else if k = "nodata_value".toList then { c with nodataValue := some v }
  else c

def Config.setNum {ν : Type} (c : Config ν) (k : Str) (x : ν) : Config ν :=
  if startsWith k "parent".toList then { c with parent := dictSet c.parent k (.num x) }
  else if k = "xllcorner".toList then { c with xll := x }
  else if k = "yllcorner".toList then { c with yll := x }
  else if k = "cellsize".toList then { c with csz := x }
  else if k = "xdim".toList then { c with xdim := some x }
  else if k = "ydim".toList then { c with ydim := some x }
  else if k = "ulxmap".toList then { c with ulxmap := some x }
  else if k = "ulymap".toList then { c with ulymap := some x }
  else c

/-- `pname.startswith("n") and not pname.startswith("nodata")`, or `pname.startswith("parentgrid_n")` -/
def isIntKey (k : Str) : Bool :=
  (startsWith k "n".toList && !startsWith k "nodata".toList) || startsWith k "parentgrid_n".toList

/-- one iteration of the `for line in stream_header.readlines()` loop; a `ValueError` in `int()` /
`float()` is a warning and the field is skipped -/
def parseLine {ν : Type} (io : NumIO ν) (c : Config ν) (line : Str) : Except Err (Config ν) :=
  let toks := splitRuns line
  let pname := lower (toks.headD [])
  if textKeys.contains pname then
    .ok (c.setText pname (lower (strip (joinSp toks.tail))))
  else
    match toks.tail with
    | [] => .error .malformedLine
    | t1 :: _ =>
      let tok := strip t1
      if isIntKey pname then
        match parseInt? tok with
        | some n => .ok (c.setInt pname n)
        | none => .ok c
      else if startsWith pname "nodata".toList then
        match parseInt? tok with
        | some n => .ok (c.setNodata pname (.int n))
        | none => match io.readF tok with
          | some x => .ok (c.setNodata pname (.num x))
          | none => .ok c
      else
        match io.readF tok with
        | some x => .ok (c.setNum pname x)
        | none => .ok c

def parseLines {ν : Type} (io : NumIO ν) : Config ν → List Str → Except Err (Config ν)
  | c, [] => .ok c
  | c, l :: ls => match parseLine io c l with
    | .error e => .error e
    | .ok c' => parseLines io c' ls

/-- what the header says about the raster: the grid `Grid(**config)` builds (no parent attributes yet: they stay in
`Config.parent` and are attached by `fromStream` at the end) and the byte order -/
structure HeaderInfo (ν : Type) where
  grid : Grid ν
  byteorder : ByteOrder

/-- everything `from_stream` does after the line loop, up to `Grid(**config)` -/
def finishConfig {ν : Type} (io : NumIO ν) (c : Config ν) : Except Err (HeaderInfo ν) :=
  if c.byteorder ≠ "m".toList ∧ c.byteorder ≠ "i".toList then .error .badByteorder else
  let bo : ByteOrder := if c.byteorder = "m".toList then .big else .little
  let bch : Char := if c.byteorder = "m".toList then '>' else '<'
  match dtypeOfStr (bch :: (pixelSub c.pixeltype ++ intStr (Int.fdiv c.nbits 8))) with
  | none => .error .badDtype
  | some (_, t) =>
    let cszE : Except Err ν := match c.xdim with
      | none => .ok c.csz
      | some xd => match c.ydim with
        | none => .ok xd
        | some yd => if io.dimsDiffer yd xd then .error .xdimYdim else .ok xd
    match cszE with
    | .error e => .error e
    | .ok csz =>
      let cornerE : Except Err (ν × ν) := match c.ulxmap with
        | none => .ok (c.xll, c.yll)
        | some ux => match c.ulymap, c.nrows with
          | some uy, some nr => .ok (ux, io.sub uy (io.mul csz (io.ofInt nr)))
          | _, _ => .error .missingKey
      match cornerE with
      | .error e => .error e
      | .ok (xll, yll) =>
        let nodata := match c.nodataValue with | some v => v | none => c.nodata
        match c.ncols with
        | none => .error .missingDims
        | some ncols =>
          let nrows := match c.nrows with | some n => n | none => ncols
          match mkGrid io c.name ncols nrows csz xll yll t nodata c.comment with
          | .error e => .error e
          | .ok g => .ok { grid := g, byteorder := bo }

def parseHeader {ν : Type} (io : NumIO ν) (defaultName : Str) (header : Str) : Except Err (HeaderInfo ν) :=
  match parseLines io (Config.init io defaultName) (readlines header) with
  | .error e => .error e
  | .ok c => finishConfig io c

/-- `Grid.from_stream(header, data)` (`from_header`, `from_zip` resolve file names and call it) -/
def fromStream {ν : Type} (io : NumIO ν) (defaultName : Str) (header : Str) (data : Option (List UInt8)) :
    Except Err (Grid ν) :=
  match parseLines io (Config.init io defaultName) (readlines header) with
  | .error e => .error e
  | .ok c =>
    match finishConfig io c with
    | .error e => .error e
    | .ok hi =>
      let loaded : Except Err (Grid ν) := match data with
        | none => .ok hi.grid
        | some bytes => load hi.grid hi.byteorder bytes
      match loaded with
      | .error e => .error e
      | .ok g => .ok { g with parent := c.parent }

/-! ## 7. dictionaries, clone -/

/-- `Grid.to_dict()` -/
structure GridDict (ν : Type) where
  name : Str
  ncols : Int
  nrows : Int
  csz : ν
  xll : ν
  yll : ν
  /-- `np.dtype(self.dtype).str` -/
  dtype : Str
  /-- `str(self.nodata)` -/
  nodata : Str
  comment : Str
  parent : List (Str × PVal ν)

def toDict {ν : Type} (io : NumIO ν) (g : Grid ν) : GridDict ν :=
  { name := g.name, ncols := g.ncols, nrows := g.nrows, csz := g.csz, xll := g.xll, yll := g.yll,
    dtype := dtypeStr g.dtype, nodata := nodataStr io g.dtype g.nodata, comment := g.comment,
    parent := parentAttrs.filterMap fun a => (lookup g.parent a).map fun v => (a, v) }

/-- `Grid.from_dict(dic)` for a dictionary holding every optional key (as `to_dict` produces) -/
def fromDict {ν : Type} (io : NumIO ν) (d : GridDict ν) : Except Err (Grid ν) :=
  match dtypeOfStr d.dtype with
  | none => .error .badDtype
  | some (_, t) => mkGrid io d.name d.ncols d.nrows d.csz d.xll d.yll t (.text d.nodata) d.comment

/-- `Grid.clone()` (`copy.deepcopy`) -/
def clone {ν : Type} (g : Grid ν) : Grid ν := g

/-- `ndarray.astype(dst)` on one word of dtype `src`: nothing to convert for the same dtype, two's-complement
wrap between integer types (the C cast), external as soon as a float type is involved -/
def astypeWord {ν : Type} (io : NumIO ν) (src dst : DType) (w : Nat) : Nat :=
  if src = dst then w else
  match src.kind, dst.kind with
  | .float, _ => io.convW src dst w
  | _, .float => io.convW src dst w
  | _, _ => ofInt dst (toInt src w)

/-- `Grid.clone(dtype)`: deep copy, then the `dtype` setter (`_dtype = dtype; _data = _data.astype(dtype)`);
the no-data scalar is not converted -/
def cloneAs {ν : Type} (io : NumIO ν) (g : Grid ν) (t : DType) : Grid ν :=
  { g with dtype := t, data := g.data.map fun r => r.map (astypeWord io g.dtype t) }

/-! ## 8. clip -/

section Clip
open HydroVerif.C07
variable {α : Type} [Add α] [Sub α] [Mul α] [Div α] [OfNat α 1] [Trunc α]

def geom (g : Grid α) : Geom α := { nrows := g.nrows, ncols := g.ncols, xll := g.xll, yll := g.yll, csz := g.csz }

/-- python slice `l[a:b]` for `0 ≤ a`, `0 ≤ b` -/
def slice {β : Type} (l : List β) (a b : Int) : List β := (l.drop a.toNat).take (b.toNat - a.toNat)

/-- `Grid.clip(xll, yll, xur, yur)` for corners inside the extent -/
def clip (io : NumIO α) (g : Grid α) (xll yll xur yur : α) : Except Err (Grid α) :=
  let gm := geom g
  let c0 := coord2cell gm xll yll
  let c1 := coord2cell gm xur yur
  if !(validCell g.nrows g.ncols c0 && validCell g.nrows g.ncols c1) then .error .cornerOutside else
  let rc0 := cell2rowcol g.nrows g.ncols c0
  let rc1 := cell2rowcol g.nrows g.ncols c1
  let nrows := rc0.1 - rc1.1 + 1
  let ncols := rc1.2 - rc0.2 + 1
  let xy := getcoord gm c0
  let xllg := xy.1 - g.csz / (1 + 1)
  let yllg := xy.2 - g.csz / (1 + 1)
  match mkGrid io (g.name ++ "_clip".toList) ncols nrows g.csz xllg yllg g.dtype (.word g.nodata) [] with
  | .error e => .error e
  | .ok ng =>
    let comment := "Clip of grid ".toList ++ g.name ++ " on the box [".toList ++ io.showF xll ++ ", ".toList
      ++ io.showF yll ++ ", ".toList ++ io.showF xur ++ ", ".toList ++ io.showF yur ++ "].".toList
    let row0 := rc1.1
    let row1 := rc0.1
    let col0 := rc0.2
    let col1 := rc1.2
    match setData { ng with comment := comment }
        ((slice g.data row0 (row1 + 1)).map fun r => slice r col0 (col1 + 1)) with
    | .error e => .error e
    | .ok ng =>
      .ok { ng with parent :=
        [("parentgrid_name".toList, .text g.name), ("parentgrid_ncols".toList, .int g.ncols),
         ("parentgrid_nrows".toList, .int g.nrows), ("parentgrid_cellsize".toList, .num g.csz),
         ("parentgrid_xllcorner".toList, .num g.xll), ("parentgrid_yllcorner".toList, .num g.yll),
         ("parentgrid_rows_start".toList, .int row0), ("parentgrid_rows_end".toList, .int row1),
         ("parentgrid_cols_start".toList, .int col0), ("parentgrid_cols_end".toList, .int col1)] }

end Clip

/-! ## 9. catchments -/

structure Catchment (ν : Type) where
  name : Str
  flowdir : Grid ν
  outlet : Option Int
  inlets : Option (List Int)
  area : Option (List Int)
  filled : Option (List Int)

structure CatchDict (ν : Type) where
  name : Str
  outlet : Option Int
  inlets : Option (List Int)
  area : List Int
  filled : List Int
  flowdir : GridDict ν

/-- `Catchment.to_dict()` -/
def catchToDict {ν : Type} (io : NumIO ν) (c : Catchment ν) : Except Err (CatchDict ν) :=
  match c.area, c.filled with
  | some a, some f =>
    .ok { name := c.name, outlet := c.outlet, inlets := c.inlets, area := a, filled := f,
          flowdir := toDict io c.flowdir }
  | _, _ => .error .notDelineated

/-- `Catchment.from_dict(dic)`: the flow direction grid is rebuilt from its metadata (zero data) and
cloned as int64 by the constructor (its no-data scalar keeps the dtype of the dictionary) -/
def catchFromDict {ν : Type} (io : NumIO ν) (d : CatchDict ν) : Except Err (Catchment ν) :=
  match fromDict io d.flowdir with
  | .error e => .error e
  | .ok fd =>
    .ok { name := d.name, flowdir := { fd with dtype := int64 }, outlet := d.outlet, inlets := d.inlets,
          area := some d.area, filled := some d.filled }

/-! ## 10. clone independence: grids as handles into an array store -/

/-- the arrays that exist; `_data` of a grid is an index into it -/
abbrev Store := List (List (List Nat))

/-- a grid object as far as its data are concerned: which array it holds -/
structure Handle where
  arr : Nat
  deriving DecidableEq, Repr

/-- operations that change the data seen through a handle -/
inductive SOp where
  /-- `grid[idx] = w` : in-place write into the grid's array (`_data.flat[idx] = …`) -/
  | setItem (idx : Nat) (w : Nat)
  /-- `grid.fill(w)` : in-place -/
  | fill (w : Nat)
  /-- `grid.data = rows` : rebinds `_data` to a fresh array when `rows` has the shape of the grid (= the shape of the
  array it holds); an array of another shape is rejected and nothing is rebound -/
  | setData (rows : List (List Nat))

def setFlat (rows : List (List Nat)) (idx w : Nat) : List (List Nat) :=
  match rows with
  | [] => []
  | r :: rs => if idx < r.length then r.set idx w :: rs else r :: setFlat rs (idx - r.length) w

def Store.read (s : Store) (h : Handle) : List (List Nat) := s.getD h.arr []

def SOp.apply (s : Store) (h : Handle) : SOp → Store × Handle
  | .setItem idx w => (s.set h.arr (setFlat (s.read h) idx w), h)
  | .fill w => (s.set h.arr ((s.read h).map fun r => r.map fun _ => w), h)
  | .setData rows =>
    if rows.map List.length = (s.read h).map List.length then (s ++ [rows], ⟨s.length⟩) else (s, h)

/-- `clone()`: `deepcopy` allocates a new array with the same content -/
def Store.clone (s : Store) (h : Handle) : Store × Handle := (s ++ [s.read h], ⟨s.length⟩)

/-- `clone(dtype)`: the deep copy's array is replaced by `astype(dtype)`, always a new array — also when
`dtype` is the dtype the grid already has (`f` is then the identity) -/
def Store.cloneMap (s : Store) (h : Handle) (f : Nat → Nat) : Store × Handle :=
  (s ++ [(s.read h).map fun r => r.map f], ⟨s.length⟩)

def applyAll (s : Store) (h : Handle) : List SOp → Store × Handle
  | [] => (s, h)
  | op :: ops => let (s', h') := op.apply s h; applyAll s' h' ops

/-! ## 11. histories: in-place edits and attribute re-assignments between two exports -/

/-- what a caller can do to a grid object between `save` / `to_dict` / `clone` / `clip` calls -/
inductive Edit (ν : Type) where
  /-- `grid[idx] = scalar` (`_data.flat[idx] = …`, in place; `mindata/maxdata` are not applied) -/
  | item (idx w : Nat)
  /-- `grid.fill(scalar)` (in place) -/
  | fill (w : Nat)
  /-- `grid.data = rows` (the setter: shape check, `_clipdata`, fresh array) -/
  | data (rows : List (List Nat))
  /-- `grid.name = s` -/
  | name (s : Str)
  /-- `grid.comment = s` -/
  | comment (s : Str)
  /-- `grid.xllcorner, grid.yllcorner, grid.cellsize = …` -/
  | georef (xll yll csz : ν)
  /-- `grid.nodata = scalar of the grid's dtype` -/
  | nodata (w : Nat)

def applyEdit {ν : Type} (g : Grid ν) : Edit ν → Except Err (Grid ν)
  | .item idx w => .ok { g with data := setFlat g.data idx w }
  | .fill w => .ok { g with data := g.data.map fun r => r.map fun _ => w }
  | .data rows => setData g rows
  | .name s => .ok { g with name := s }
  | .comment s => .ok { g with comment := s }
  | .georef x y c => .ok { g with xll := x, yll := y, csz := c }
  | .nodata w => .ok { g with nodata := w }

def applyEdits {ν : Type} : Grid ν → List (Edit ν) → Except Err (Grid ν)
  | g, [] => .ok g
  | g, e :: es => match applyEdit g e with
    | .error err => .error err
    | .ok g' => applyEdits g' es

/-! ## 12. the grid object as a state machine: every public mutator, accepted or REJECTED

`step` returns the state after the call and the error the call raised, if any. A rejected call leaves the object
as it was — except `mindata / maxdata`, which store the new bound before they compare the two bounds (the state
after the `ValueError` holds the new bound; the data are not clipped). The accessors (`save`, `to_dict`, `clone`,
`clip`, `__getitem__`) are functions of the state and are not operations of the machine. -/

/-- `self._data.flat[np.int64(index)]`: a negative index counts from the end; outside `[-size, size)` numpy raises
`IndexError` -/
def flatIndex (size : Nat) (idx : Int) : Option Nat :=
  if 0 ≤ idx ∧ idx < (size : Int) then some idx.toNat
  else if idx < 0 ∧ -(size : Int) ≤ idx then some (idx + (size : Int)).toNat
  else none

/-- `grid[idx]` (`__getitem__`): the word at the flat index, `IndexError` outside `[-size, size)` -/
def getItem {ν : Type} (g : Grid ν) (idx : Int) : Except Err Nat :=
  match flatIndex g.data.flatten.length idx with
  | some i => match g.data.flatten[i]? with
    | some w => .ok w
    | none => .error .badIndex
  | none => .error .badIndex

/-- `a > b` for `a = _mindata`, `b = _maxdata` (`none` = the python floats `-inf` / `+inf` of `__init__`; a
comparison with a NaN is false) -/
def boundGt (t : DType) (lo hi : Option Int) : Bool :=
  match lo, hi with
  | some l, some h =>
    (match t.kind with
     | .float => !isNaNW t l.toNat && !isNaNW t h.toNat && decide (floatKey t h.toNat < floatKey t l.toNat)
     | _ => decide (h < l))
  | _, _ => false

/-- the `mindata` setter: `_mindata = dtype(value)`; `ValueError` if `_mindata > _maxdata` (the new bound stays);
else `_data = np.maximum(_data, _mindata)` (no `isfinite` test here) -/
def setMin {ν : Type} (io : NumIO ν) (g : Grid ν) (v : NVal ν) : Grid ν × Option Err :=
  match nodataWord io g.dtype v with
  | .error e => (g, some e)
  | .ok w =>
    let b := boundOfWord g.dtype w
    let g1 := { g with lo := some b }
    if boundGt g.dtype g1.lo g1.hi then (g1, some .badBounds)
    else ({ g1 with data := g.data.map fun r => r.map (maxWord g.dtype b) }, none)

/-- the `maxdata` setter -/
def setMax {ν : Type} (io : NumIO ν) (g : Grid ν) (v : NVal ν) : Grid ν × Option Err :=
  match nodataWord io g.dtype v with
  | .error e => (g, some e)
  | .ok w =>
    let b := boundOfWord g.dtype w
    let g1 := { g with hi := some b }
    if boundGt g.dtype g1.lo g1.hi then (g1, some .badBounds)
    else ({ g1 with data := g.data.map fun r => r.map (minWord g.dtype b) }, none)

/-- a call that changes (or tries to change) a grid object -/
inductive Op (ν : Type) where
  /-- one of the edits of §11; `data rows` with `rows` of ANY shape (the setter rejects a wrong one) -/
  | edit (e : Edit ν)
  /-- `grid[idx] = scalar` for any python index (`IndexError` outside `[-size, size)`) -/
  | itemAt (idx : Int) (w : Nat)
  /-- `grid.fill(value)`: `self.dtype(value)` may raise -/
  | fillVal (v : NVal ν)
  /-- `grid.data = array` with more than two dimensions (`ValueError` before anything is looked at) -/
  | dataND
  /-- `grid.nodata = value`: `self.dtype(value)` may raise -/
  | nodataVal (v : NVal ν)
  /-- `grid.mindata = value` -/
  | mindata (v : NVal ν)
  /-- `grid.maxdata = value` -/
  | maxdata (v : NVal ν)
  /-- `grid.load(stream, byteorder)` -/
  | load (bo : ByteOrder) (bytes : List UInt8)

def step {ν : Type} (io : NumIO ν) (g : Grid ν) : Op ν → Grid ν × Option Err
  | .edit e =>
    match applyEdit g e with
    | .ok g' => (g', none)
    | .error err => (g, some err)
  | .itemAt idx w =>
    match flatIndex g.data.flatten.length idx with
    | some i => ({ g with data := setFlat g.data i w }, none)
    | none => (g, some .badIndex)
  | .fillVal v =>
    match nodataWord io g.dtype v with
    | .ok w => ({ g with data := g.data.map fun r => r.map fun _ => w }, none)
    | .error e => (g, some e)
  | .dataND => (g, some .wrongCount)
  | .nodataVal v =>
    match nodataWord io g.dtype v with
    | .ok w => ({ g with nodata := w }, none)
    | .error e => (g, some e)
  | .mindata v => setMin io g v
  | .maxdata v => setMax io g v
  | .load bo bytes =>
    match load g bo bytes with
    | .ok g' => (g', none)
    | .error e => (g, some e)

/-- a history: the state after all calls and, call by call, whether it was rejected -/
def run {ν : Type} (io : NumIO ν) : Grid ν → List (Op ν) → Grid ν × List (Option Err)
  | g, [] => (g, [])
  | g, op :: ops =>
    let (g1, r) := step io g op
    let (g2, rs) := run io g1 ops
    (g2, r :: rs)

/-! ### catchments as a state machine -/

/-- `delineate_area(outlet, inlets)`: `res` is what the C kernel and the hole filling return (property C06), `none`
when the kernel reports an error -/
inductive COp where
  | delineate (outlet : Int) (inlets : Option (List Int)) (res : Option (List Int × List Int))

/-- the outlet and the inlets (`None` when none are given: the inlets of an earlier call do not stay) are stored first;
on an error the areas are reset to `None` and `ValueError` is raised -/
def cstep {ν : Type} (c : Catchment ν) : COp → Catchment ν × Option Err
  | .delineate o inl res =>
    let c1 := { c with outlet := some o, inlets := inl }
    match res with
    | none => ({ c1 with area := none, filled := none }, some .delineationFailed)
    | some (a, f) => ({ c1 with area := some a, filled := some f }, none)

def crun {ν : Type} : Catchment ν → List COp → Catchment ν
  | c, [] => c
  | c, op :: ops => crun (cstep c op).1 ops

/-! ### `Grid.from_dict` on a dictionary with optional keys missing -/

/-- a dictionary given to `from_dict`: `name` and `ncols` are looked up unconditionally (`KeyError`), every other key
is optional and falls back on the default of `Grid.__init__` -/
structure GridDictP (ν : Type) where
  name : Option Str
  ncols : Option Int
  nrows : Option Int
  csz : Option ν
  xll : Option ν
  yll : Option ν
  dtype : Option Str
  nodata : Option (NVal ν)
  comment : Option Str

def fromDictP {ν : Type} (io : NumIO ν) (d : GridDictP ν) : Except Err (Grid ν) :=
  match d.name, d.ncols with
  | some name, some ncols =>
    let tE : Except Err DType := match d.dtype with
      | none => .ok ⟨.float, 8⟩
      | some s => match dtypeOfStr s with
        | some (_, t) => .ok t
        | none => .error .badDtype
    match tE with
    | .error e => .error e
    | .ok t =>
      mkGrid io name ncols (d.nrows.getD ncols) (d.csz.getD (io.ofInt 1)) (d.xll.getD (io.ofInt 0))
        (d.yll.getD (io.ofInt 0)) t (d.nodata.getD (.int 0)) (d.comment.getD [])
  | _, _ => .error .missingKey

/-- the dictionary `to_dict` returns, seen as an argument of `from_dict`: every key is there -/
def GridDict.full {ν : Type} (d : GridDict ν) : GridDictP ν :=
  { name := some d.name, ncols := some d.ncols, nrows := some d.nrows, csz := some d.csz, xll := some d.xll,
    yll := some d.yll, dtype := some d.dtype, nodata := some (.text d.nodata), comment := some d.comment }

/-! ## 13. file names: `save(filename)`, `from_header(path)`, `from_zip(archive, member)`

A path is a directory and a final component `name` (no `/` in it); a file system maps paths to files. -/

inductive File where
  | text (s : Str)
  | bin (b : List UInt8)

abbrev FS := List (Str × File)

def pathJoin (dir name : Str) : Str := dir ++ '/' :: name

/-- `str.endswith` -/
def endsWith (s suf : Str) : Bool := startsWith s.reverse suf.reverse

/-- `PurePath(name).stem` (python 3.12): the part before the last dot, provided that dot is neither the first nor the
last character -/
def stemOf (name : Str) : Str :=
  let r := name.reverse
  let suf := r.takeWhile (fun c => c != '.')
  match r.dropWhile (fun c => c != '.') with
  | [] => name
  | _ :: pre => if pre ≠ [] ∧ suf ≠ [] then pre.reverse else name

/-- `os.path.splitext(name)[0]`: the last dot starts the extension unless only dots precede it -/
def splitextRoot (name : Str) : Str :=
  match name.reverse.dropWhile (fun c => c != '.') with
  | [] => name
  | _ :: pre => if pre.all (fun c => c == '.') then name else pre.reverse

/-- `Grid.save(dir/name)`: the name must end with `bil` (no dot required); the header goes to the same name with the
last three characters replaced by `hdr` (`re.sub("bil$", "hdr", filename)`), the data to the name itself -/
def saveFS {ν : Type} (io : NumIO ν) (fs : FS) (dir name : Str) (g : Grid ν) : Except Err FS :=
  if !endsWith name "bil".toList then .error .badFilename else
  match save io g with
  | .error e => .error e
  | .ok (h, bytes) =>
    .ok (dictSet (dictSet fs (pathJoin dir (name.take (name.length - 3) ++ "hdr".toList)) (.text h))
          (pathJoin dir name) (.bin bytes))

/-- `Grid.from_header(dir/name)` for the header OR the data file: both names are rebuilt from `Path.stem`; a missing
header is a `ValueError`, a missing data file gives the grid of the header alone; the default grid name is the base
name of the header file without its extension -/
def fromHeaderFS {ν : Type} (io : NumIO ν) (fs : FS) (dir name : Str) : Except Err (Grid ν) :=
  let stem := stemOf name
  match lookup fs (pathJoin dir (stem ++ ".hdr".toList)) with
  | some (.text h) =>
    let data : Option (List UInt8) := match lookup fs (pathJoin dir (stem ++ ".bil".toList)) with
      | some (.bin b) => some b
      | _ => none
    fromStream io (splitextRoot (stem ++ ".hdr".toList)) h data
  | _ => .error .missingFile

/-- `Grid.from_zip(archive, dir/name)`: member names from `os.path.splitext`; a missing header member is a `KeyError`;
the stream has no name (`no_name`) -/
def fromZipFS {ν : Type} (io : NumIO ν) (archive : FS) (dir name : Str) : Except Err (Grid ν) :=
  let base := splitextRoot name
  match lookup archive (pathJoin dir (base ++ ".hdr".toList)) with
  | some (.text h) =>
    let data : Option (List UInt8) := match lookup archive (pathJoin dir (base ++ ".bil".toList)) with
      | some (.bin b) => some b
      | _ => none
    fromStream io "no_name".toList h data
  | _ => .error .missingKey

end HydroVerif.C13
