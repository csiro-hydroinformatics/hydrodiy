/-
C17 — model of `hydrodiy/stat/c_armodels.c` (`c_armodel_sim`, `c_armodel_residual`) and of the two
wrappers in `hydrodiy/stat/armodels.py`.  No Mathlib.  Everything is total and computable; the
driver runs these definitions at `Float`, the theorems instantiate them at a commutative ring.

Conventions
* `α` is the numeric type; the kernels, guards and wrappers use only `+ - * 0` (core notation classes), the data mean
  (`dataMean`, last section) also `/` and the cast of a count.
* a value the caller hands over that may be NaN is an `Option α` (`none` = NaN): coefficients,
  mean, initial value, innovations, inputs.
* `nan : α → Bool` is the C `isnan` applied to *computed* values (lag buffer entries in the
  simulation kernel, `inputs[i]-sim_mean` in the residual kernel).  At `Float` it is `Float.isNaN`
  (reachable through `inf-inf`, `0*inf` after overflow); in exact arithmetic no computed value is
  NaN and the theorems take `nan = fun _ => false`.
* the lag buffer `prev_centered[0..nparams-1]` is a `Vector α p` (`p = nparams`); the two inner loops
  `for(k=nparams-1; k>=0; k--)` are written index by index, exactly as in the C text: read
  `buf[k]`, update the accumulator, then overwrite `buf[k]` with `buf[k-1]` (`k>0`) or with the new
  centred value (`k=0`).
-/
namespace HydroVerif.C17

/-- which guard of the kernel fired (`ARMODEL_ERROR + __LINE__` in C, `ValueError` in Python) -/
inductive Err | badOrder | nanParam | nanMean | nanIni
  deriving DecidableEq, Repr

/-- `#define ARMODEL_NPARAMSMAX 10` -/
def nparamsMax : Nat := 10

/-- all coefficients present, or `none` when one of them is NaN -/
def allSome {α} : List (Option α) → Option (List α)
  | [] => some []
  | none :: _ => none
  | some a :: t => match allSome t with
    | none => none
    | some l => some (a :: l)

/-- the coefficient array `params[0..nparams-1]` -/
def toVec {α} (ps : List α) : Vector α ps.length := Vector.mk ps.toArray List.size_toArray

section
variable {α : Type} [Add α] [Sub α] [Mul α] [OfNat α 0]

/-- the four guards at the top of both kernels, in the order of the C text:
order outside `1..10`, NaN coefficient, NaN mean, NaN initial value -/
def validate (params : List (Option α)) (mean ini : Option α) : Except Err (List α × α × α) :=
  if nparamsMax < params.length || params.length == 0 then .error .badOrder
  else match allSome params with
    | none => .error .nanParam
    | some ps => match mean with
      | none => .error .nanMean
      | some m => match ini with
        | none => .error .nanIni
        | some i => .ok (ps, m, i)

/-! ### simulation kernel -/

/-- inner loop of `c_armodel_sim`, `k+1` iterations left (current index `k`):
```
if(!isnan(prev_centered[k])) tmp += params[k]*prev_centered[k];
prev_centered[k] = k>0 ? prev_centered[k-1] : tmp;
``` -/
def simLoop (nan : α → Bool) {p : Nat} (ps : Vector α p) :
    (k : Nat) → k ≤ p → α → Vector α p → α × Vector α p
  | 0, _, tmp, buf => (tmp, buf)
  | k+1, h, tmp, buf =>
    let tmp' := if nan buf[k] then tmp else tmp + ps[k] * buf[k]
    let buf' := buf.set k (if 0 < k then buf[k-1] else tmp')
    simLoop nan ps k (Nat.le_of_succ_le h) tmp' buf'

/-- outer loop of `c_armodel_sim`: NaN innovation ↦ 0, one pass of the inner loop,
`outputs[i] = tmp + sim_mean` -/
def simRun (nan : α → Bool) {p : Nat} (ps : Vector α p) (m : α) :
    Vector α p → List (Option α) → List α
  | _, [] => []
  | buf, e :: es =>
    let value : α := match e with
      | none => 0
      | some x => x
    let r := simLoop nan ps p (Nat.le_refl p) value buf
    (r.1 + m) :: simRun nan ps m r.2 es

/-- the lag buffer `prev_centered` as the simulation kernel leaves it after the whole series
(same loop as `simRun`, keeping the buffer instead of the outputs) -/
def simBuf (nan : α → Bool) {p : Nat} (ps : Vector α p) :
    Vector α p → List (Option α) → Vector α p
  | buf, [] => buf
  | buf, e :: es =>
    let value : α := match e with
      | none => 0
      | some x => x
    simBuf nan ps (simLoop nan ps p (Nat.le_refl p) value buf).2 es

/-- `c_armodel_sim`: guards, buffer initialised to `sim_ini - sim_mean`, then the series loop -/
def sim (nan : α → Bool) (params : List (Option α)) (mean ini : Option α)
    (innov : List (Option α)) : Except Err (List α) :=
  match validate params mean ini with
  | .error e => .error e
  | .ok (ps, m, i) =>
    .ok (simRun nan (toVec ps) m (Vector.replicate ps.length (i - m)) innov)

/-! ### residual kernel -/

/-- prediction used for a missing input, ascending loop
`value = 0; for(k=0; k<nparams; k++) value += params[k]*prev_centered[k];`
(`n` iterations left, current index `p - n`) -/
def predLoop {p : Nat} (ps buf : Vector α p) : (n : Nat) → n ≤ p → α → α
  | 0, _, value => value
  | n+1, h, value =>
    predLoop ps buf n (Nat.le_of_succ_le h)
      (value + ps[p - (n+1)]'(by omega) * buf[p - (n+1)]'(by omega))

/-- inner loop of `c_armodel_residual`, `k+1` iterations left (current index `k`):
```
tmp -= params[k]*prev_centered[k];
prev_centered[k] = k>0 ? prev_centered[k-1] : value;
``` -/
def resLoop {p : Nat} (ps : Vector α p) (value : α) :
    (k : Nat) → k ≤ p → α → Vector α p → α × Vector α p
  | 0, _, tmp, buf => (tmp, buf)
  | k+1, h, tmp, buf =>
    let tmp' := tmp - ps[k] * buf[k]
    let buf' := buf.set k (if 0 < k then buf[k-1] else value)
    resLoop ps value k (Nat.le_of_succ_le h) tmp' buf'

/-- `value = inputs[i]-sim_mean; if(isnan(value)) value = <prediction>` -/
def centred (nan : α → Bool) {p : Nat} (ps buf : Vector α p) (m : α) (x : Option α) : α :=
  match x with
  | none => predLoop ps buf p (Nat.le_refl p) 0
  | some x =>
    let v := x - m
    if nan v then predLoop ps buf p (Nat.le_refl p) 0 else v

/-- outer loop of `c_armodel_residual` -/
def resRun (nan : α → Bool) {p : Nat} (ps : Vector α p) (m : α) :
    Vector α p → List (Option α) → List α
  | _, [] => []
  | buf, x :: xs =>
    let value := centred nan ps buf m x
    let r := resLoop ps value p (Nat.le_refl p) value buf
    r.1 :: resRun nan ps m r.2 xs

/-- the lag buffer `prev_centered` as the residual kernel leaves it after the whole series -/
def resBuf (nan : α → Bool) {p : Nat} (ps : Vector α p) (m : α) :
    Vector α p → List (Option α) → Vector α p
  | buf, [] => buf
  | buf, x :: xs =>
    let value := centred nan ps buf m x
    resBuf nan ps m (resLoop ps value p (Nat.le_refl p) value buf).2 xs

/-- `c_armodel_residual` -/
def residual (nan : α → Bool) (params : List (Option α)) (mean ini : Option α)
    (inputs : List (Option α)) : Except Err (List α) :=
  match validate params mean ini with
  | .error e => .error e
  | .ok (ps, m, i) =>
    .ok (resRun nan (toVec ps) m (Vector.replicate ps.length (i - m)) inputs)

/-! ### the Python wrappers (`armodels.py`): defaults of `sim_mean` / `sim_ini`

An argument left at its Python default `None` is the outer `none`; an explicit NaN is `some none`. -/

/-- the mean a call stands for: the argument when given, else the wrapper's fallback
(`0.` in `armodel_sim`, `numpy.nanmean(inputs)` in `armodel_residual`) -/
def resolveMean (fallback : Option α) (meanArg : Option (Option α)) : Option α :=
  match meanArg with
  | none => fallback
  | some m => m

/-- `if sim_ini is None: sim_ini = sim_mean` -/
def resolveIni (mean : Option α) (iniArg : Option (Option α)) : Option α :=
  match iniArg with
  | none => mean
  | some i => i

/-- the `params` argument: "float or np.ndarray" — `np.atleast_1d(params)` turns a scalar into order 1 -/
inductive ParamArg (α : Type) where
  | scalar (x : Option α)
  | array (xs : List (Option α))

/-- `np.atleast_1d(params).astype(np.float64)` -/
def paramsOf : ParamArg α → List (Option α)
  | .scalar x => [x]
  | .array xs => xs

/-- `armodel_sim(params, innov, sim_mean=0., sim_ini=None)`: `sim_ini` defaults to `sim_mean` -/
def pySim (nan : α → Bool) (params : List (Option α)) (innov : List (Option α))
    (meanArg : Option (Option α)) (iniArg : Option (Option α)) : Except Err (List α) :=
  let mean := resolveMean (some 0) meanArg
  sim nan params mean (resolveIni mean iniArg) innov

/-- `armodel_residual(params, inputs, sim_mean=None, sim_ini=None)`: `sim_mean` defaults to
`numpy.nanmean(inputs)` (its value `nanmean` is a parameter here, see `pyResidualD`),
`sim_ini` defaults to the mean actually used -/
def pyResidual (nan : α → Bool) (params : List (Option α)) (inputs : List (Option α))
    (nanmean : Option α) (meanArg : Option (Option α)) (iniArg : Option (Option α)) :
    Except Err (List α) :=
  let mean := resolveMean nanmean meanArg
  residual nan params mean (resolveIni mean iniArg) inputs

end

section
variable {α : Type} [Add α] [Sub α] [Mul α] [Div α] [OfNat α 0] [NatCast α]

/-- sum of the present values, in order, from 0 -/
def dataSum (xs : List (Option α)) : α :=
  xs.foldl (fun acc x => match x with
    | none => acc
    | some v => acc + v) 0

/-- number of present values -/
def dataCount (xs : List (Option α)) : Nat := (xs.filter Option.isSome).length

/-- `numpy.nanmean(inputs)`: mean of the present values; NaN (`none`) when there is none (empty or
all-missing series), or when the quotient itself is NaN (`inf-inf` at `Float`).  numpy sums pairwise,
this sums in order: same value in exact arithmetic, a few ulp apart at `Float`. -/
def dataMean (nan : α → Bool) (xs : List (Option α)) : Option α :=
  if dataCount xs = 0 then none
  else
    let v := dataSum xs / (dataCount xs : α)
    if nan v then none else some v

/-- `armodel_residual` with the data mean computed by the model -/
def pyResidualD (nan : α → Bool) (params : List (Option α)) (inputs : List (Option α))
    (meanArg : Option (Option α)) (iniArg : Option (Option α)) : Except Err (List α) :=
  pyResidual nan params inputs (dataMean nan inputs) meanArg iniArg

end

end HydroVerif.C17
