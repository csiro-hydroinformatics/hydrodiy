/-
C07 — the coordinate kernels with the rounding of every arithmetic result made explicit.

`c_coord2cell` evaluates `floor((x-xll)/csz)` and `getcoord` evaluates `xll+csz*((double)col+0.5)` in IEEE double
arithmetic: every `+ - * /` returns the exact result rounded to the nearest double. Here the same text is written over
an arbitrary numeric type with a rounding operator `rnd` applied to every arithmetic result:

* at `Float`, with `rnd = id`, this *is* the kernel (the operations round themselves): `coord2cellR id = coord2cellK`;
* at `Rat`, with `rnd = round53` (round to nearest, ties to even, 53 significant bits, unbounded exponent), it is the
  exact description of what the doubles do away from underflow / overflow: the driver executes it and the harness
  compares it with the code **exactly** on every finite point (edges included) and every cell;
* over any ordered field, with any `rnd` of relative error at most `u` (the standard model of floating point
  arithmetic; `round53` has `u = 2^-53`, proved), `Props/C07.lean` proves that the inside / outside clauses hold for
  points a margin away from the edges and that the round trip `coord2cell(cell2coord c) = c` holds.

No Mathlib.
-/
import HydroVerif.Model.C07Kernel
namespace HydroVerif.C07

/-! ### round to nearest even, 53 bits, on exact rationals -/

/-- `2^e` for an integer exponent -/
def pow2 (e : Int) : Rat :=
  if 0 ≤ e then ((2 ^ e.toNat : Nat) : Rat) else 1 / ((2 ^ (-e).toNat : Nat) : Rat)

/-- nearest integer, ties to the even one -/
def roundHalfEven (m : Rat) : Int :=
  let f := m.floor
  let r := m - (f : Rat)
  if r < 1 / 2 then f
  else if 1 / 2 < r then f + 1
  else if f % 2 = 0 then f else f + 1

/-- absolute value (core `Rat` has no `abs` without Mathlib) -/
def ratAbs (t : Rat) : Rat := if t < 0 then -t else t

/-- the binary exponent `e` with `2^e ≤ |t| < 2^(e+1)`, from the bit lengths of numerator and denominator
(`log2 num - log2 den` is `e` or `e + 1`) -/
def binExp (t : Rat) : Int :=
  let a := ratAbs t
  let e0 : Int := (a.num.natAbs.log2 : Int) - (a.den.log2 : Int)
  if pow2 e0 ≤ a then e0 else e0 - 1

/-- the exact result `t` rounded to the nearest number with 53 significant bits (ties to even); exponent unbounded.
The test `pow2 e ≤ |t|` is the lower half of what `binExp` is documented to satisfy; neither half is proved: the test is
kept in the text so that the error bound `|round53 t - t| ≤ 2^-53 |t|` follows from the definition alone, and that the
result has 53 bits (the upper half) is checked by the harness against the machine's doubles -/
def round53 (t : Rat) : Rat :=
  if t = 0 then 0
  else
    let e := binExp t
    if pow2 e ≤ ratAbs t then
      let s := pow2 e / ((2 ^ 52 : Nat) : Rat)
      (roundHalfEven (t / s) : Rat) * s
    else t

/-! ### the kernels with explicit rounding -/

section Rounded
variable {α : Type} [Add α] [Sub α] [Mul α] [Div α] [OfNat α 0] [OfNat α 1] [LE α] [DecidableLE α] [LT α]
  [DecidableLT α] [Trunc α] [FloorNum α]

/-- the two quotients of `c_coord2cell`, each arithmetic result rounded: `rnd(rnd(x-xll)/csz)` -/
def quotientsR (rnd : α → α) (g : Geom α) (x y : α) : α × α :=
  (rnd (rnd (x - g.xll) / g.csz), rnd (rnd (y - g.yll) / g.csz))

/-- one entry of `c_coord2cell` with rounded arithmetic (floor, comparisons and casts are exact operations) -/
def coord2cellR (rnd : α → α) (g : Geom α) (x y : α) : Int :=
  cellOfQuot g.nrows g.ncols (quotientsR rnd g x y).1 (quotientsR rnd g x y).2

/-- one coordinate of `getcoord` with rounded arithmetic: `rnd(ll + rnd(csz * rnd((double)k + 0.5)))` -/
def centreR (rnd : α → α) (ll csz : α) (k : Int) : α :=
  rnd (ll + rnd (csz * rnd (Trunc.ofInt k + half)))

/-- `getcoord` with rounded arithmetic -/
def getcoordR (rnd : α → α) (g : Geom α) (idx : Int) : α × α :=
  (centreR rnd g.xll g.csz (colOf g.ncols idx), centreR rnd g.yll g.csz (g.nrows - 1 - rowOf g.ncols idx))

/-- one entry of `c_cell2coord` with rounded arithmetic -/
def cell2coordR (rnd : α → α) (g : Geom α) (idx : Int) : Option (α × α) :=
  if validCell g.nrows g.ncols idx then some (getcoordR rnd g idx) else none

end Rounded

end HydroVerif.C07
