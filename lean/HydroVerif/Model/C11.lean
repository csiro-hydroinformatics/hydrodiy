/-
C11 — model of flow accumulation: `c_accumulate` (`hydrodiy/gis/c_grid.c`, with the one-entry call of
`c_downstream` it makes at every step) and the wrapper `hydrodiy.gis.grid.accumulate` (`grid.py`).

No Mathlib. Total and computable; the driver runs these definitions at `Float` (IEEE double, the kernel's
type). The integer grid core (cell <-> (row, col), `validCell`, `neighbour k`) is imported from the C07 model.

The code modelled is the one AFTER the `fix:` commit "flow accumulation adds the value of the source cell":
the walk that starts from cell `i` adds `to_accumulate[i]` to every cell it visits (the pinned kernel added
`to_accumulate[visited cell]`; that variant is kept as `walkPinned` for replay diagnostics).

Buffers are `Array`s with checked access (`Err.oob` instead of a default value): the kernel receives
`nrows`, `ncols` from `flowdir.shape` and the wrapper asserts the other two shapes, so `oob` is unreachable
under `flowdir.size = field.size = acc.size = nrows*ncols` — that is a theorem (`Props/C11.lean`), not a
convention. `nprint` only drives `fprintf`: the kernel functions below leave it out, and `accLoopP` / `cAccumulateP` at the
end of the kernel part put it back to show that it decides nothing but the number of progress lines.

The flow-direction code table (`FLOWDIRCODE.ravel()`, 9 entries) is a parameter `codes`; the harness reads it
from `grid.py` at run time and passes it with every request.
-/
import HydroVerif.Model.C07

namespace HydroVerif.C11
open HydroVerif.C07

inductive Err
  /-- `max_accumulated_cells < 1` -/
  | badMaxCells
  /-- `nrows < 1 || nrows < 1` (the code tests `nrows` twice; `ncols` is not tested) -/
  | badDims
  /-- `c_downstream` returned an error code (cell number outside the grid) -/
  | downstream
  /-- a buffer index outside its buffer (undefined behaviour in C) -/
  | oob
  /-- the Cython wrapper's `assert`s: `to_accumulate` / `accumulation` do not have the shape of `flowdir` -/
  | shape
  deriving DecidableEq, Repr

/-- flow-direction grid as the kernel sees it: dimensions, the 3x3 code table flattened, row-major data -/
structure FlowGrid where
  nrows : Int
  ncols : Int
  codes : List Int
  flowdir : Array Int

/-- `ntot = nrows*ncols` -/
def FlowGrid.ntot (g : FlowGrid) : Int := g.nrows * g.ncols

/-- the scan `for(j=0;j<9;j++) if(fd == flowdircode[j]) idxdown = neighbours[j];` — there is no `break`
(the `continue` is the last statement of the body), so the LAST matching code wins. `j` is the current
position, `d` the value of `idxdown` so far. -/
def downScan (nrows ncols idx fd : Int) : List Int → Nat → Int → Int
  | [], _, d => d
  | code :: rest, j, d =>
    downScan nrows ncols idx fd rest (j + 1) (if fd = code then neighbour nrows ncols idx j else d)

/-- one entry of `c_downstream` (`nval = 1`): error for a cell outside the grid, else
`-2` for a sink (`fd = 0`), `-1` for a code not in the table or pointing off the grid, else the neighbour -/
def downstream (g : FlowGrid) (idx : Int) : Except Err Int :=
  if validCell g.nrows g.ncols idx then
    match g.flowdir[idx.toNat]? with
    | none => .error .oob
    | some fd => .ok (if fd = 0 then -2 else downScan g.nrows g.ncols idx fd g.codes 0 (-1))
  else .error .downstream

/-- downstream cell as a plain number (negative = the cell drains nowhere / is not a cell) -/
def dn (g : FlowGrid) (idx : Int) : Int :=
  match downstream g idx with
  | .ok d => d
  | .error _ => -1

section Walk
variable {α : Type} [Add α]

/-- `buf[i] = x` -/
def writeAt (a : Array α) (i : Int) (x : α) : Except Err (Array α) :=
  if h : 0 ≤ i ∧ i.toNat < a.size then .ok (a.set i.toNat x h.2) else .error .oob

/-- `buf[i] += v` -/
def addAt (a : Array α) (i : Int) (v : α) : Except Err (Array α) :=
  if h : 0 ≤ i ∧ i.toNat < a.size then .ok (a.set i.toNat (a[i.toNat]'h.2 + v) h.2) else .error .oob

/-- the `while(accumulated_cells <= max_accumulated_cells)` loop for the source cell `src`:
`fuel` = iterations left, `cur` = `idxup[0]`. Each iteration: find the downstream cell `d` of `cur`;
`d < 0` → `accumulation[cur] = nodata`, stop; else `accumulation[d] += to_accumulate[src]`, go on from `d`. -/
def walk (g : FlowGrid) (field : Array α) (nodata : α) (src : Nat) : Nat → Int → Array α → Except Err (Array α)
  | 0, _, acc => .ok acc
  | fuel + 1, cur, acc =>
    match downstream g cur with
    | .error _ => .error .downstream
    | .ok d =>
      if d < 0 then writeAt acc cur nodata
      else
        match field[src]? with
        | none => .error .oob
        | some v =>
          match addAt acc d v with
          | .error e => .error e
          | .ok acc' => walk g field nodata src fuel d acc'

/-- the kernel as it was at the pinned commit: adds `to_accumulate[d]` (the value of the cell being
incremented). Equal to `walk` exactly when the field is uniform along the walk. Diagnostics only. -/
def walkPinned (g : FlowGrid) (field : Array α) (nodata : α) : Nat → Int → Array α → Except Err (Array α)
  | 0, _, acc => .ok acc
  | fuel + 1, cur, acc =>
    match downstream g cur with
    | .error _ => .error .downstream
    | .ok d =>
      if d < 0 then writeAt acc cur nodata
      else
        match field[d.toNat]? with
        | none => .error .oob
        | some v =>
          match addAt acc d v with
          | .error e => .error e
          | .ok acc' => walkPinned g field nodata fuel d acc'

/-- the outer `for(i=0;i<ntot;i++)` loop over the source cells still to do -/
def accLoop (g : FlowGrid) (field : Array α) (nodata : α) (fuel : Nat) :
    List Nat → Array α → Except Err (Array α)
  | [], acc => .ok acc
  | i :: rest, acc =>
    match walk g field nodata i fuel (i : Int) acc with
    | .error e => .error e
    | .ok acc' => accLoop g field nodata fuel rest acc'

def accLoopPinned (g : FlowGrid) (field : Array α) (nodata : α) (fuel : Nat) :
    List Nat → Array α → Except Err (Array α)
  | [], acc => .ok acc
  | i :: rest, acc =>
    match walkPinned g field nodata fuel (i : Int) acc with
    | .error e => .error e
    | .ok acc' => accLoopPinned g field nodata fuel rest acc'

/-- number of iterations the `while` loop can make: `accumulated_cells` runs from 0 while `<= max` -/
def fuelOf (maxCells : Int) : Nat := (maxCells + 1).toNat

/-- `c_accumulate`: the two guards, then the double loop; `acc0` is the `accumulation` buffer on entry -/
def cAccumulate (g : FlowGrid) (maxCells : Int) (nodata : α) (field acc0 : Array α) :
    Except Err (Array α) :=
  if maxCells < 1 then .error .badMaxCells
  else if g.nrows < 1 ∨ g.nrows < 1 then .error .badDims
  else accLoop g field nodata (fuelOf maxCells) (List.range g.ntot.toNat) acc0

def cAccumulatePinned (g : FlowGrid) (maxCells : Int) (nodata : α) (field acc0 : Array α) :
    Except Err (Array α) :=
  if maxCells < 1 then .error .badMaxCells
  else if g.nrows < 1 ∨ g.nrows < 1 then .error .badDims
  else accLoopPinned g field nodata (fuelOf maxCells) (List.range g.ntot.toNat) acc0

/-- `max_accumulated_cells == -1` → `nrows*ncols` -/
def capOf (g : FlowGrid) (maxCells : Int) : Int := if maxCells = -1 then g.nrows * g.ncols else maxCells

/-- `grid.accumulate(flowdir, to_accumulate, nprint, max_accumulated_cells)` with a given field:
default cap, accumulation buffer initialised as a copy of the field (`to_accumulate.clone()`),
no-data value of the field grid -/
def accumulate (g : FlowGrid) (maxCells : Int) (nodata : α) (field : Array α) : Except Err (Array α) :=
  cAccumulate g (capOf g maxCells) nodata field field

/-- `to_accumulate=None`: the field is `flowdir.clone()` filled with 1 -/
def accumulateUnit [OfNat α 1] (g : FlowGrid) (maxCells : Int) (nodata : α) : Except Err (Array α) :=
  accumulate g maxCells nodata (Array.replicate g.flowdir.size (1 : α))

/-! ### the two float buffers as memory: `to_accumulate` and `accumulation` may be the SAME array

`c_accumulate` receives two `double*`. The pure functions above thread only the accumulation buffer; here
both buffers live in a store so that "the kernel writes only through the `accumulation` pointer" and "the
wrapper hands it a copy" are statements with content: with `aliased = true` (one array passed twice) every
write is also seen by the reads of `to_accumulate[i]`. -/

structure Store (α : Type) where
  field : Array α
  acc : Array α
  /-- the two pointers designate the same memory (`acc` is then ignored) -/
  aliased : Bool
  deriving DecidableEq

/-- the memory behind the `accumulation` pointer -/
def Store.accArr (s : Store α) : Array α := if s.aliased then s.field else s.acc
/-- store through the `accumulation` pointer -/
def Store.setAcc (s : Store α) (a : Array α) : Store α :=
  if s.aliased then { s with field := a } else { s with acc := a }

/-- `walk` on the store: `to_accumulate[src]` is read from memory at every step -/
def walkS (g : FlowGrid) (nodata : α) (src : Nat) : Nat → Int → Store α → Except Err (Store α)
  | 0, _, s => .ok s
  | fuel + 1, cur, s =>
    match downstream g cur with
    | .error _ => .error .downstream
    | .ok d =>
      if d < 0 then (writeAt s.accArr cur nodata).map s.setAcc
      else
        match s.field[src]? with
        | none => .error .oob
        | some v =>
          match addAt s.accArr d v with
          | .error e => .error e
          | .ok a => walkS g nodata src fuel d (s.setAcc a)

def accLoopS (g : FlowGrid) (nodata : α) (fuel : Nat) : List Nat → Store α → Except Err (Store α)
  | [], s => .ok s
  | i :: rest, s =>
    match walkS g nodata i fuel (i : Int) s with
    | .error e => .error e
    | .ok s' => accLoopS g nodata fuel rest s'

/-- `c_accumulate` on memory -/
def cAccumulateS (g : FlowGrid) (maxCells : Int) (nodata : α) (s : Store α) : Except Err (Store α) :=
  if maxCells < 1 then .error .badMaxCells
  else if g.nrows < 1 ∨ g.nrows < 1 then .error .badDims
  else accLoopS g nodata (fuelOf maxCells) (List.range g.ntot.toNat) s

/-! ### the wrapper on grid objects: shapes, default field, no-data value of the result -/

/-- a float grid as the wrapper sees it (`to_accumulate`, and the returned `accumulation`) -/
structure FieldGrid (α : Type) where
  nrows : Int
  ncols : Int
  data : Array α
  nodata : α
  deriving DecidableEq

/-- `grid.accumulate(flowdir, to_accumulate, nprint, max_accumulated_cells)` on grid objects.
`fdNodata` is `flowdir.nodata` as a double (used only when the default unit field is built from a clone of
`flowdir`). Order of the code: default cap; default field; `accumulation = to_accumulate.clone()` — a deep copy,
i.e. NOT aliased; the Cython `assert`s on the shapes; the kernel; the result is the clone (same no-data value
as the field, dimensions of the field = dimensions of `flowdir`). Returns the final memory and the result grid. -/
def gridAccumulate [OfNat α 1] (g : FlowGrid) (fdNodata : α) (field : Option (FieldGrid α)) (maxCells : Int) :
    Except Err (Store α × FieldGrid α) :=
  let f : FieldGrid α := match field with
    | some f => f
    | none => ⟨g.nrows, g.ncols, Array.replicate g.flowdir.size (1 : α), fdNodata⟩
  if f.nrows ≠ g.nrows ∨ f.ncols ≠ g.ncols then .error .shape
  else
    match cAccumulateS g (capOf g maxCells) f.nodata ⟨f.data, f.data, false⟩ with
    | .error e => .error e
    | .ok s => .ok (s, ⟨f.nrows, f.ncols, s.acc, f.nodata⟩)

/-! ### `nprint`: the progress lines of the outer loop

`if(nprint > 0 && i%nprint == 0) fprintf(...)` — the only use of `nprint`. The guard `nprint > 0` (a `fix:` commit)
keeps `i % 0` from being evaluated. The loop below is `accLoop` with that branch in place and a count of the lines
printed; the result does not depend on `nprint` (`Props`: `cAccumulateP_result`), for any integer, 0 and negatives
included. -/

/-- the branch `nprint > 0 && i % nprint == 0` of the source cell `i` -/
def progressAt (nprint : Int) (i : Nat) : Bool := decide (0 < nprint) && decide ((i : Int).tmod nprint = 0)

def accLoopP (g : FlowGrid) (field : Array α) (nodata : α) (fuel : Nat) (nprint : Int) :
    List Nat → Array α × Nat → Except Err (Array α × Nat)
  | [], st => .ok st
  | i :: rest, (acc, lines) =>
    let lines' := if progressAt nprint i then lines + 1 else lines
    match walk g field nodata i fuel (i : Int) acc with
    | .error e => .error e
    | .ok acc' => accLoopP g field nodata fuel nprint rest (acc', lines')

/-- `c_accumulate` with its `nprint` argument: the result and the number of progress lines printed -/
def cAccumulateP (g : FlowGrid) (nprint maxCells : Int) (nodata : α) (field acc0 : Array α) :
    Except Err (Array α × Nat) :=
  if maxCells < 1 then .error .badMaxCells
  else if g.nrows < 1 ∨ g.nrows < 1 then .error .badDims
  else accLoopP g field nodata (fuelOf maxCells) nprint (List.range g.ntot.toNat) (acc0, 0)

end Walk

/-! ### histories: what a caller holds between calls

`grid.accumulate` keeps nothing between calls, but the grid objects it is given and the one it returns are mutable and
can be the same object (the result of one call fed back as the field of the next). `Sess` is that picture: float grid
objects live on a heap and are designated by reference; the flow-direction grid is held by value (the wrapper never
returns it nor keeps a reference to it). `step` is one operation of the caller — a call, or an edit of one of the
objects through the public `Grid` interface (`data` setter with its shape guard, `data.flat[i] = v` / `grid[i] = v`,
`nodata` setter, `clone`) — and answers `rejected` exactly when the real operation raises. Values written are the
values the object holds afterwards (the dtype cast of numpy is external). -/

structure Sess (α : Type) where
  fd : FlowGrid
  /-- `flowdir.nodata` as a double (no-data value of the default unit field, a clone of `flowdir`) -/
  fdNodata : α
  heap : Array (FieldGrid α)
  /-- reference of the grid passed as `to_accumulate` (`none`: the default) -/
  field : Option Nat
  /-- reference of the grid returned by the last successful call -/
  res : Option Nat
  /-- `max_accumulated_cells` passed with every call -/
  cap : Int

inductive Op (α : Type) where
  /-- `res = accumulate(flowdir, field, max_accumulated_cells=cap)` -/
  | call
  | setCap (m : Int)
  /-- `flowdir.data.flat[i] = code` (IndexError outside `0 .. n-1`; numpy's negative indices are not used) -/
  | fdSetCell (i : Int) (code : Int)
  /-- `flowdir.data = array` (ValueError unless the array has the shape of the grid) -/
  | fdAssign (nrows ncols : Int) (data : Array Int)
  | fdSetNodata (v : α)
  /-- `flowdir = flowdir.clone()` / deepcopy / pickle round trip: an equal object (held by value here) -/
  | fdClone
  /-- `field.data.flat[i] = v` / `field[i] = v` -/
  | fSetCell (i : Int) (v : α)
  /-- `field.data = array` -/
  | fAssign (nrows ncols : Int) (data : Array α)
  | fSetNodata (v : α)
  /-- a new grid object becomes the field -/
  | fNew (f : FieldGrid α)
  /-- `to_accumulate=None` from now on -/
  | fDrop
  /-- `field = field.clone()`: a fresh object with equal contents -/
  | fClone
  /-- the caller edits the grid returned by the last call -/
  | rSetCell (i : Int) (v : α)
  | rFill (v : α)
  | rSetNodata (v : α)
  /-- the grid returned by the last call becomes the field (the same object) -/
  | feedBack

inductive Reply (α : Type) where
  | done
  /-- the operation raised; nothing has changed -/
  | rejected
  | result (r : FieldGrid α)
  deriving DecidableEq

section Hist
variable {α : Type}

/-- a `Grid` object is well-formed: `_data` has `nrows x ncols` entries (constructor, `data` setter) -/
def FieldGrid.wellShaped (f : FieldGrid α) : Bool := decide (f.data.size = (f.nrows * f.ncols).toNat)

/-- `grid.data.flat[i] = v` -/
def FieldGrid.setCell (f : FieldGrid α) (i : Int) (v : α) : Option (FieldGrid α) :=
  if 0 ≤ i ∧ i.toNat < f.data.size then some { f with data := f.data.setIfInBounds i.toNat v } else none

/-- `grid.data = array`: the shape guard of the `data` setter -/
def FieldGrid.assign (f : FieldGrid α) (nrows ncols : Int) (data : Array α) : Option (FieldGrid α) :=
  if nrows = f.nrows ∧ ncols = f.ncols ∧ data.size = (nrows * ncols).toNat then some { f with data := data } else none

/-- the grid object the reference `field` designates -/
def Sess.fieldGrid (s : Sess α) : Option (FieldGrid α) := s.field.bind fun q => s.heap[q]?
def Sess.resGrid (s : Sess α) : Option (FieldGrid α) := s.res.bind fun q => s.heap[q]?

/-- apply an edit to the object behind a reference -/
def Sess.editAt (s : Sess α) (ref : Option Nat) (e : FieldGrid α → Option (FieldGrid α)) : Sess α × Reply α :=
  match ref with
  | none => (s, .rejected)
  | some q =>
    match s.heap[q]? with
    | none => (s, .rejected)
    | some f =>
      match e f with
      | none => (s, .rejected)
      | some f' => ({ s with heap := s.heap.setIfInBounds q f' }, .done)

section Step
variable [Add α] [OfNat α 1]

def step (s : Sess α) : Op α → Sess α × Reply α
  | .call =>
    match gridAccumulate s.fd s.fdNodata s.fieldGrid s.cap with
    | .error _ => (s, .rejected)
    | .ok (st, r) =>
      -- the memory of the field after the kernel has run is written back to the field object
      -- (`Props`: it is what it was), the clone becomes a new object
      let heap := match s.field, s.fieldGrid with
        | some q, some f => s.heap.setIfInBounds q { f with data := st.field }
        | _, _ => s.heap
      ({ s with heap := heap.push r, res := some heap.size }, .result r)
  | .setCap m => ({ s with cap := m }, .done)
  | .fdSetCell i code =>
    if 0 ≤ i ∧ i.toNat < s.fd.flowdir.size then
      ({ s with fd := { s.fd with flowdir := s.fd.flowdir.setIfInBounds i.toNat code } }, .done)
    else (s, .rejected)
  | .fdAssign nrows ncols data =>
    if nrows = s.fd.nrows ∧ ncols = s.fd.ncols ∧ data.size = (nrows * ncols).toNat then
      ({ s with fd := { s.fd with flowdir := data } }, .done)
    else (s, .rejected)
  | .fdSetNodata v => ({ s with fdNodata := v }, .done)
  | .fdClone => (s, .done)
  | .fSetCell i v => s.editAt s.field fun f => f.setCell i v
  | .fAssign nrows ncols data => s.editAt s.field fun f => f.assign nrows ncols data
  | .fSetNodata v => s.editAt s.field fun f => some { f with nodata := v }
  | .fNew f =>
    if f.wellShaped then ({ s with heap := s.heap.push f, field := some s.heap.size }, .done) else (s, .rejected)
  | .fDrop => ({ s with field := none }, .done)
  | .fClone =>
    match s.fieldGrid with
    | none => (s, .rejected)
    | some f => ({ s with heap := s.heap.push f, field := some s.heap.size }, .done)
  | .rSetCell i v => s.editAt s.res fun f => f.setCell i v
  | .rFill v => s.editAt s.res fun f => some { f with data := Array.replicate f.data.size v }
  | .rSetNodata v => s.editAt s.res fun f => some { f with nodata := v }
  | .feedBack =>
    match s.res with
    | none => (s, .rejected)
    | some q => ({ s with field := some q }, .done)

/-- a whole history: the state reached and the answers, in order -/
def run (s : Sess α) : List (Op α) → Sess α × List (Reply α)
  | [] => (s, [])
  | op :: rest =>
    let (s1, r) := step s op
    let (s2, rs) := run s1 rest
    (s2, r :: rs)

/-- what the kernel receives as `to_accumulate` and `nodata_to_accumulate` in the state `s` -/
def Sess.input (s : Sess α) : Array α × α :=
  match s.fieldGrid with
  | some f => (f.data, f.nodata)
  | none => (Array.replicate s.fd.flowdir.size (1 : α), s.fdNodata)

end Step

end Hist

/-- a value type whose addition is followed by a rounding: `a + b := rnd (a.val + b.val)`. With `rnd` the rounding
to the nearest double this is IEEE addition; the generic kernel instantiated at `Rounded α rnd` is the kernel
computing in rounded arithmetic, and the `[Add α]` theorems (`accumulate_eq_fold` …) apply to it verbatim. -/
structure Rounded (α : Type) (rnd : α → α) where
  val : α
  deriving DecidableEq

instance {α : Type} [Add α] {rnd : α → α} : Add (Rounded α rnd) := ⟨fun a b => ⟨rnd (a.val + b.val)⟩⟩
instance {α : Type} [OfNat α 1] {rnd : α → α} : OfNat (Rounded α rnd) 1 := ⟨⟨1⟩⟩

/-! ### binary floating point as a rounding of exact rationals

`rndBits p` rounds a rational to `p` significant bits (nearest, ties to even, unbounded exponent range); the kernel at
`Rounded Rat (rndBits 53)` is the kernel in IEEE binary64 arithmetic away from overflow and subnormal numbers. The driver
runs it next to the `Float` instance (`accr` request: the two must agree bit for bit), and `Props` proves the hypotheses
of the rounded-arithmetic theorems for it (`rndBits_err`, `rndBits_int` in `Lemmas/C11Round.lean`). -/

/-- `2^k` for an integer exponent -/
def pow2 (k : Int) : Rat :=
  if 0 ≤ k then ((2 ^ k.toNat : Nat) : Rat) else 1 / ((2 ^ (-k).toNat : Nat) : Rat)

def absR (x : Rat) : Rat := if x < 0 then -x else x

/-- an exponent `k` with `2^k ≤ |x|`, looked for next to `log2 |num| - log2 den` (`none` is never met for `x ≠ 0`:
observed by the driver, not needed by the proofs — `rndBits` then returns `x` itself) -/
def expOf? (x : Rat) : Option Int :=
  let k0 : Int := (Nat.log2 x.num.natAbs : Int) - (Nat.log2 x.den : Int)
  if pow2 k0 ≤ absR x then some k0 else if pow2 (k0 - 1) ≤ absR x then some (k0 - 1) else none

/-- nearest integer, ties to even -/
def roundHalfEven (y : Rat) : Int :=
  let f := (y + 1 / 2).floor
  if ((f : Int) : Rat) = y + 1 / 2 ∧ f % 2 = 1 then f - 1 else f

/-- rounding to `p` significant bits, nearest, ties to even, unbounded exponent range: IEEE binary64 is `p = 53`
(away from overflow and subnormal numbers) -/
def rndBits (p : Nat) (x : Rat) : Rat :=
  if x = 0 then 0
  else match expOf? x with
    | none => x
    | some k =>
      let s := pow2 (k - (p : Int) + 1)
      ((roundHalfEven (x / s) : Int) : Rat) * s

/-- the exact value of a finite double -/
def ratOfFloat? (x : Float) : Option Rat :=
  let bits : Nat := x.toBits.toNat
  let neg : Bool := bits >>> 63 == 1
  let e : Nat := (bits >>> 52) &&& 0x7ff
  let m : Nat := bits &&& (2 ^ 52 - 1)
  if e == 0x7ff then none
  else
    let mag : Rat :=
      if e == 0 then ((m : Nat) : Rat) * pow2 (-1074) else (((m + 2 ^ 52 : Nat)) : Rat) * pow2 ((e : Int) - 1075)
    some (if neg then -mag else mag)

/-! ### specification vocabulary (computable, used by the theorems and by `example`s) -/

/-- the cell where the walk from `cur` stops within `fuel` iterations (`none`: the cap came first) -/
def endsAt (g : FlowGrid) : Nat → Int → Option Int
  | 0, _ => none
  | fuel + 1, cur => if dn g cur < 0 then some cur else endsAt g fuel (dn g cur)

/-- how many times the walk from `cur` adds to cell `j` within `fuel` iterations -/
def hitCount (g : FlowGrid) : Nat → Int → Int → Nat
  | 0, _, _ => 0
  | fuel + 1, cur, j =>
    if dn g cur < 0 then 0
    else (if dn g cur = j then 1 else 0) + hitCount g fuel (dn g cur) j

/-- `j` is strictly downstream of `cur` (reached by the walk from `cur` within `fuel` iterations) -/
def onPath (g : FlowGrid) : Nat → Int → Int → Bool
  | 0, _, _ => false
  | fuel + 1, cur, j =>
    if dn g cur < 0 then false
    else decide (dn g cur = j) || onPath g fuel (dn g cur) j

/-- `k` downstream steps from `c` (negative once the chain has left the grid / stopped) -/
def iterDn (g : FlowGrid) : Nat → Int → Int
  | 0, c => c
  | k + 1, c => iterDn g k (dn g c)

/-- `x + v + v + ... + v` (`k` additions, in the order the kernel performs them) -/
def addN {α : Type} [Add α] : Nat → α → α → α
  | 0, _, x => x
  | k + 1, v, x => addN k v (x + v)

/-- cells whose final value depends on the order in which the outer loop visits the source cells:
terminal cells incremented by a walk that the cap stopped before it could reset them. Empty when every
walk terminates (`AllTerminate`). Used by the harness to leave those cells out of the comparison on
capped / cyclic inputs (the property does not constrain them). -/
def orderSensitive (g : FlowGrid) (fuel : Nat) : List Int :=
  (List.range g.ntot.toNat).filterMap fun (u : Nat) =>
    if (endsAt g fuel (u : Int)).isNone then
      let t := iterDn g fuel (u : Int)
      if 0 ≤ t ∧ dn g t < 0 then some t else none
    else none

/-- computable upstream closure of `c`: `c` and the cells whose walk passes through `c` -/
def upClosure (g : FlowGrid) (fuel : Nat) (c : Int) : List Nat :=
  (List.range g.ntot.toNat).filter fun (u : Nat) => decide ((u : Int) = c) || onPath g fuel (u : Int) c

/-- computable list of the direct upstream cells of `c` -/
def directUpList (g : FlowGrid) (c : Int) : List Nat :=
  (List.range g.ntot.toNat).filter fun (u : Nat) => decide (dn g (u : Int) = c)

/-- every walk reaches a cell that drains nowhere before the cap -/
def AllTerminate (g : FlowGrid) (fuel : Nat) : Prop :=
  ∀ c : Int, validCell g.nrows g.ncols c = true → (endsAt g fuel c).isSome = true

/-- decidable form of `AllTerminate` for concrete grids -/
def allTerminateB (g : FlowGrid) (fuel : Nat) : Bool :=
  (List.range g.ntot.toNat).all fun i => (endsAt g fuel (i : Int)).isSome

end HydroVerif.C11
