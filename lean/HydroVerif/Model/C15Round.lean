/-
C15 — the point-in-polygon model under ROUNDED arithmetic.

`Model/C15.lean` is written over notation classes only, so it can be run at any number type. `Rd K rnd` is the type
of numbers of `K` whose every `+ - * /` result is passed through a rounding function `rnd : K → K` (comparisons,
negation, `fmin`, `fmax`, `fabs` are exact, as in IEEE arithmetic): the generic model instantiated at `Rd K rnd` IS
the C kernel executed in a floating-point arithmetic whose rounding is `rnd`. `Props/C15.lean` proves that for EVERY
`rnd` with relative error at most `u ≤ 1/100` this rounded kernel still answers the exact even-odd rule off a
margin `u (|p1x| + 8 |p2x - p1x|)` around the edges (`rounded_inside_eq_evenOdd`).

`rnd53` is an executable instance on core `Rat`: round to nearest, ties to even, 53 significant bits, unbounded
exponent (binary64 without overflow / underflow). `Drivers/C15.lean` runs the model at `Rd Rat rnd53` (request `pipr`)
and the harness compares its answers with the real kernel point by point.

No Mathlib.
-/
import HydroVerif.Model.C15
namespace HydroVerif.C15

/-- a number of `K` in an arithmetic that rounds every result of `+ - * /` with `rnd` -/
structure Rd (K : Type) (rnd : K → K) where
  val : K

namespace Rd
variable {K : Type} {rnd : K → K}

instance [Add K] : Add (Rd K rnd) := ⟨fun a b => ⟨rnd (a.val + b.val)⟩⟩
instance [Sub K] : Sub (Rd K rnd) := ⟨fun a b => ⟨rnd (a.val - b.val)⟩⟩
instance [Mul K] : Mul (Rd K rnd) := ⟨fun a b => ⟨rnd (a.val * b.val)⟩⟩
instance [Div K] : Div (Rd K rnd) := ⟨fun a b => ⟨rnd (a.val / b.val)⟩⟩
instance [Neg K] : Neg (Rd K rnd) := ⟨fun a => ⟨-a.val⟩⟩
instance [LT K] : LT (Rd K rnd) := ⟨fun a b => a.val < b.val⟩
instance [LE K] : LE (Rd K rnd) := ⟨fun a b => a.val ≤ b.val⟩
instance [LT K] [DecidableLT K] : DecidableLT (Rd K rnd) := fun a b => inferInstanceAs (Decidable (a.val < b.val))
instance [LE K] [DecidableLE K] : DecidableLE (Rd K rnd) := fun a b => inferInstanceAs (Decidable (a.val ≤ b.val))
instance [OfNat K 0] : OfNat (Rd K rnd) 0 := ⟨⟨0⟩⟩

/-- an input value (a coordinate, the tolerance) enters the rounded arithmetic unchanged -/
def lift (p : K × K) : Rd K rnd × Rd K rnd := (⟨p.1⟩, ⟨p.2⟩)

end Rd

/-- `points_inside_polygon` for one point, every arithmetic result rounded by `rnd` -/
def pointInsideRounded {K : Type} [Add K] [Sub K] [Mul K] [Div K] [Neg K] [LT K] [DecidableLT K] [LE K]
    [DecidableLE K] [OfNat K 0] (rnd : K → K) (atol : K) (poly : List (K × K)) (pt : K × K) : Bool :=
  pointInside (α := Rd K rnd) ⟨atol⟩ (poly.map Rd.lift) (Rd.lift pt)

/-- `xinters` as the kernel computes it when its first guard is open, written out: six roundings -/
def xintersR {K : Type} [Add K] [Sub K] [Mul K] [Div K] (rnd : K → K) (y : K) (p1 p2 : K × K) : K :=
  rnd (p1.1 + rnd (rnd (rnd (y - p1.2) * rnd (p2.1 - p1.1)) / rnd (p2.2 - p1.2)))

/-! ### an executable rounding: nearest, ties to even, 53 significant bits, unbounded exponent -/

/-- nearest integer, ties to even -/
def roundHalfEven (z : Rat) : Int :=
  let f := z.floor
  let r := z - (f : Rat)
  if r < 1 / 2 then f else if 1 / 2 < r then f + 1 else if f % 2 = 0 then f else f + 1

/-- `2 ^ e` -/
def pow2 (e : Int) : Rat := if 0 ≤ e then ((2 ^ e.toNat : Nat) : Rat) else 1 / ((2 ^ (-e).toNat : Nat) : Rat)

/-- round `x` to a multiple of `2 ^ e` -/
def rndAt (e : Int) (x : Rat) : Rat := ((roundHalfEven (x / pow2 e) : Int) : Rat) * pow2 e

/-- `⌊log2 |x|⌋` for `x ≠ 0` -/
def ilog2 (x : Rat) : Int :=
  let l : Int := (Nat.log2 x.num.natAbs : Int) - (Nat.log2 x.den : Int)
  if pow2 l ≤ fabs x then l else l - 1

/-- round to 53 significant bits: the spacing is `2 ^ (⌊log2 |x|⌋ - 52)`. The guard restates what makes the relative
error at most `2 ^ -53` (it holds whenever `ilog2` is right, i.e. always; the proof does not need to know that) -/
def rnd53 (x : Rat) : Rat :=
  let e := ilog2 x - 52
  if 0 < pow2 e ∧ pow2 e * 4503599627370496 ≤ fabs x then rndAt e x else x

/-! ### the hypotheses of `rounded_inside_eq_evenOdd`, decided (exact `Rat`), so that the driver can tell for every
generated point whether the theorem speaks about it -/

/-- each coordinate step of the edge is zero or exceeds the tolerance by the factor `1 / (1 - u)`: strictly for the
ordinates (the kernel's guard is `fabs(p1y-p2y) > atol`), weakly for the abscissae (the negation of its guard
`fabs(p1x-p2x) < atol`) -/
def sepEdgeRb (u atol : Rat) (p1 p2 : Rat × Rat) : Bool :=
  (decide (p1.2 = p2.2) || decide (atol < (1 - u) * fabs (p1.2 - p2.2))) &&
    (decide (p1.1 = p2.1) || decide (atol ≤ (1 - u) * fabs (p1.1 - p2.1)))

/-- the point is off the edge, at its own height, by more than the rounding margin `u (|p1x| + 8 |p2x - p1x|)` -/
def gapEdgeRb (u x y : Rat) (p1 p2 : Rat × Rat) : Bool :=
  !straddle y p1 p2 || decide (u * (fabs p1.1 + 8 * fabs (p2.1 - p1.1)) < fabs (x - xint y p1 p2))

def sepRb (u atol : Rat) (poly : List (Rat × Rat)) : Bool := (edges poly).all fun e => sepEdgeRb u atol e.1 e.2
def gapRb (u : Rat) (poly : List (Rat × Rat)) (pt : Rat × Rat) : Bool :=
  (edges poly).all fun e => gapEdgeRb u pt.1 pt.2 e.1 e.2

/-- every edge vertical or horizontal / every vertex abscissa kept by `rnd53` (it is a binary64 number): the hypotheses of
`rounded_rectilinear_exact`, decided -/
def rectb (poly : List (Rat × Rat)) : Bool :=
  (edges poly).all fun e => decide (e.1.1 = e.2.1) || decide (e.1.2 = e.2.2)
def repb (poly : List (Rat × Rat)) : Bool := poly.all fun v => decide (rnd53 v.1 = v.1)

/-- unit roundoff of binary64: `2 ^ -53` -/
def u53 : Rat := 1 / 9007199254740992

/-- the statement of `rounded_abscissa_error` for `rnd53`, decided: on every edge straddling the point's height the
abscissa computed with six roundings is within `u53 (|p1x| + 8 |p2x - p1x|)` of the exact one -/
def abscissaOkb (poly : List (Rat × Rat)) (pt : Rat × Rat) : Bool :=
  (edges poly).all fun e => !straddle pt.2 e.1 e.2 ||
    decide (fabs (xintersR rnd53 pt.2 e.1 e.2 - xint pt.2 e.1 e.2) ≤ u53 * (fabs e.1.1 + 8 * fabs (e.2.1 - e.1.1)))

end HydroVerif.C15
