/-
Two facts about an ordered field that several models need in their own spelling: `fabs` written with `if` is the absolute
value (C01, C03, C04, C07, C11, C15), and a point `a + t (b - a)`, `0 ≤ t ≤ 1`, of the segment from `a` to `b` stays in every
interval that holds `a` and `b` (`np.interp` in C10, the chords of `np.quantile` and the grid points of `linspace` in C20, the edges of a polygon in C15).
-/
import Mathlib.Algebra.Order.Field.Basic
import Mathlib.Tactic.Ring

namespace HydroVerif.Ordered

variable {α : Type} [Field α] [LinearOrder α] [IsStrictOrderedRing α]

/-- `fabs` as the models of C01, C04, C07, C11 and C15 write it (C03 writes `0 - d`, brought to this form by `zero_sub`) -/
theorem ite_neg_eq_abs (x : α) : (if x < 0 then -x else x) = |x| := by
  split
  · rename_i h; exact (abs_of_neg h).symm
  · rename_i h; exact (abs_of_nonneg (not_lt.mp h)).symm

/-- `a + t (b - a)`, `0 ≤ t ≤ 1`, is the convex combination `(1 - t) a + t b` -/
theorem lerp_mem {lo hi a b t : α} (ha : lo ≤ a ∧ a ≤ hi) (hb : lo ≤ b ∧ b ≤ hi) (h0 : 0 ≤ t) (h1 : t ≤ 1) :
    lo ≤ a + t * (b - a) ∧ a + t * (b - a) ≤ hi := by
  have e : a + t * (b - a) = (1 - t) * a + t * b := by ring
  have hs := sub_nonneg.mpr h1
  rw [e]
  exact ⟨(add_le_add (mul_le_mul_of_nonneg_left ha.1 hs) (mul_le_mul_of_nonneg_left hb.1 h0)).trans_eq' (by ring),
    (add_le_add (mul_le_mul_of_nonneg_left ha.2 hs) (mul_le_mul_of_nonneg_left hb.2 h0)).trans_eq (by ring)⟩

end HydroVerif.Ordered
