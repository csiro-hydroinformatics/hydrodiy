/-
C15 — the even-odd rule does not depend on the direction of the ray: invariance of the crossing parity under every
invertible linear map of the plane (upper triangular maps with positive diagonal, which keep the ray, and the exchange of
the two axes, which is the one genuinely two-dimensional step; reflections are products of these). Looking along a line
that has all vertices on one side shows that a point on the other side is exterior (`evenOdd_false_of_side`).
-/
import HydroVerif.Lemmas.C15
import Mathlib.Tactic.Ring
import Mathlib.Tactic.FieldSimp
import Mathlib.Tactic.Linarith.Frontend

namespace HydroVerif.C15

section identities
variable {α : Type} [Field α]

/-- the linear map with matrix `[[a, b], [c, d]]` -/
def lin (a b c d : α) (p : α × α) : α × α := (a * p.1 + b * p.2, c * p.1 + d * p.2)

/-- the exchange of the two axes -/
def sw (p : α × α) : α × α := (p.2, p.1)

theorem lin_segPt (a b c d : α) (p q : α × α) (t : α) :
    lin a b c d (segPt p q t) = segPt (lin a b c d p) (lin a b c d q) t := by
  simp only [lin, segPt]; exact Prod.ext (by ring) (by ring)

theorem cross_lin (a b c d : α) (p1 p2 q : α × α) :
    cross (lin a b c d p1) (lin a b c d p2) (lin a b c d q) = (a * d - b * c) * cross p1 p2 q := by
  unfold cross lin; ring

theorem cross_sw (p1 p2 : α × α) (x y : α) : cross (sw p1) (sw p2) (y, x) = -cross p1 p2 (x, y) := by
  unfold cross sw; ring

theorem rot_eq (d P V : α × α) : rot d P V = lin d.1 d.2 (-d.2) d.1 (shift (-P.1, -P.2) V) := by
  simp only [rot, lin, shift]; apply Prod.ext <;> simp only <;> ring

theorem rot_self (d P : α × α) : rot d P P = (0, 0) := by simp [rot]

/-- in the frame along `g1 → g2` the height of a vertex over the ray is its signed area with `g1 g2`, less that of the
origin of the frame -/
theorem rot_snd (g1 g2 q v : α × α) :
    (rot (g2.1 - g1.1, g2.2 - g1.2) q v).2 = cross g1 g2 v - cross g1 g2 q := by
  unfold rot cross; ring

end identities

variable {α : Type} [Field α] [LinearOrder α]

/-- `f` keeps the answer of the even-odd rule at every point off the boundary AND keeps such points off the boundary: with the
second half in the definition the maps compose (`comp`), so the invariance under every invertible linear map is obtained
by multiplying generators (`preserves_upper_pos`, `preserves_sw`) -/
def PreservesEvenOdd (f : α × α → α × α) : Prop :=
  ∀ (poly : List (α × α)) (pt : α × α), Far 0 poly pt →
    evenOdd (poly.map f) (f pt) = evenOdd poly pt ∧ Far 0 (poly.map f) (f pt)

theorem PreservesEvenOdd.comp {f g : α × α → α × α} (hf : PreservesEvenOdd f) (hg : PreservesEvenOdd g) : PreservesEvenOdd (f ∘ g) := by
  intro poly pt h
  obtain ⟨e1, f1⟩ := hg poly pt h
  obtain ⟨e2, f2⟩ := hf _ _ f1
  rw [List.map_map] at e2 f2
  exact ⟨e2.trans e1, f2⟩

theorem farEdge0_sw {x y : α} {p1 p2 : α × α} (h : FarEdge 0 x y p1 p2) : FarEdge 0 y x (sw p1) (sw p2) := by
  intro t h0 h1
  exact (h t h0 h1).symm

variable [IsStrictOrderedRing α]

theorem far0_edge_iff {x y : α} {p1 p2 : α × α} :
    FarEdge 0 x y p1 p2 ↔ ∀ t : α, 0 ≤ t → t ≤ 1 → ((x, y) : α × α) ≠ segPt p1 p2 t := by
  unfold FarEdge segPt
  refine forall₃_congr fun t _ _ => ?_
  rw [abs_pos, abs_pos, sub_ne_zero, sub_ne_zero]
  simp only [ne_eq, Prod.mk.injEq, not_and_or]

theorem lin_injective {a b c d : α} (hdet : a * d - b * c ≠ 0) : Function.Injective (lin a b c d) := by
  intro p q h
  have h1 : a * p.1 + b * p.2 = a * q.1 + b * q.2 := congrArg Prod.fst h
  have h2 : c * p.1 + d * p.2 = c * q.1 + d * q.2 := congrArg Prod.snd h
  -- Cramer's rule: `d · first − b · second` and `a · second − c · first` isolate the two coordinates
  refine Prod.ext (mul_left_cancel₀ hdet ?_) (mul_left_cancel₀ hdet ?_)
  · calc (a * d - b * c) * p.1 = d * (a * p.1 + b * p.2) - b * (c * p.1 + d * p.2) := by ring
      _ = (a * d - b * c) * q.1 := by rw [h1, h2]; ring
  · calc (a * d - b * c) * p.2 = a * (c * p.1 + d * p.2) - c * (a * p.1 + b * p.2) := by ring
      _ = (a * d - b * c) * q.2 := by rw [h1, h2]; ring

theorem far0_map {f : α × α → α × α} (hinj : Function.Injective f)
    (haff : ∀ (p q : α × α) (t : α), f (segPt p q t) = segPt (f p) (f q) t)
    {poly : List (α × α)} {pt : α × α} (h : Far 0 poly pt) : Far 0 (poly.map f) (f pt) := by
  intro e he
  rw [edges_map] at he
  obtain ⟨e', he', rfl⟩ := List.mem_map.mp he
  rw [far0_edge_iff]
  intro t h0 h1 heq
  refine far0_edge_iff.mp (h e' he') t h0 h1 (hinj ?_)
  rw [haff]
  exact heq

theorem crossR_iff_cross {q p1 p2 : α × α} : crossR q.1 q.2 p1 p2 = true ↔
    (isUp q.2 p1 p2 = true ∧ 0 < cross p1 p2 q) ∨ (isDown q.2 p1 p2 = true ∧ 0 < cross p2 p1 q) := by
  rw [crossR_iff, straddle_eq_up_or_down, Bool.or_eq_true, or_and_right, cross_swap p1 p2 q]
  exact or_congr (and_congr_right fun h => (cross_pos_up h).symm)
    (and_congr_right fun h => (cross_neg_down h).symm.trans neg_pos.symm)

/-- reversing an edge exchanges "up" and "down" and the two sides -/
theorem crossR_swap (x y : α) (p1 p2 : α × α) : crossR x y p2 p1 = crossR x y p1 p2 := by
  rw [Bool.eq_iff_iff]
  refine (crossR_iff_cross (q := (x, y))).trans (Iff.trans ?_ (crossR_iff_cross (q := (x, y))).symm)
  rw [or_comm]
  simp only [isUp, isDown, Bool.and_comm]

theorem below_lin_upper {a b d : α} (hd : 0 < d) (q p : α × α) :
    below (lin a b 0 d q).2 (lin a b 0 d p).2 = below q.2 p.2 := by
  simp [below, lin, mul_lt_mul_iff_right₀ hd]

theorem crossR_lin_upper_pos {a b d : α} (ha : 0 < a) (hd : 0 < d) (q p1 p2 : α × α) :
    crossR (lin a b 0 d q).1 (lin a b 0 d q).2 (lin a b 0 d p1) (lin a b 0 d p2) = crossR q.1 q.2 p1 p2 := by
  rw [Bool.eq_iff_iff, crossR_iff_cross, crossR_iff_cross, isUp, isDown, below_lin_upper hd, below_lin_upper hd,
    cross_lin, cross_lin, mul_zero, sub_zero, mul_pos_iff_of_pos_left (mul_pos ha hd),
    mul_pos_iff_of_pos_left (mul_pos ha hd)]
  rfl

theorem crossR_scale {c : α} (hc : 0 < c) (x y : α) (p1 p2 : α × α) :
    crossR (c * x) (c * y) (scale c p1) (scale c p2) = crossR x y p1 p2 := by
  simpa [lin, scale] using crossR_lin_upper_pos (b := 0) hc hc (x, y) p1 p2

theorem preserves_upper_pos {a b d : α} (ha : 0 < a) (hd : 0 < d) : PreservesEvenOdd (lin a b 0 d) :=
  fun poly pt h => ⟨evenOdd_map (crossR_lin_upper_pos ha hd) poly pt,
    far0_map (lin_injective (by rw [mul_zero, sub_zero]; exact (mul_pos ha hd).ne')) (lin_segPt a b 0 d) h⟩

theorem cross_ne_zero_of_straddle {x y : α} {p1 p2 : α × α} (hfar : FarEdge 0 x y p1 p2)
    (hs : straddle y p1 p2 = true) : cross p1 p2 (x, y) ≠ 0 := by
  rw [cross_eq_mul (straddle_ne hs)]
  refine mul_ne_zero (straddle_ne hs) (sub_ne_zero.mpr fun heq => ?_)
  have := far_level (le_refl 0) hfar hs
  rw [heq, sub_self, abs_zero] at this
  exact lt_irrefl 0 this

/-- the four comparisons have names so that the statement can be used in the frame with the axes exchanged -/
theorem crossR_form {x y : α} {p1 p2 : α × α} (hfar : FarEdge 0 x y p1 p2) {a1 a2 b1 b2 : Bool}
    (ha1 : a1 = decide (p1.1 < x)) (ha2 : a2 = decide (p2.1 < x)) (hb1 : b1 = decide (p1.2 < y))
    (hb2 : b2 = decide (p2.2 < y)) :
    crossR x y p1 p2 = (xor b1 b2 &&
      (if xor a1 a2 = true then xor (!b1) (decide (0 < cross p1 p2 (x, y))) else !a1)) := by
  subst ha1 ha2 hb1 hb2
  show (straddle y p1 p2 && decide (x < xint y p1 p2)) = (straddle y p1 p2 && _)
  cases hsy : straddle y p1 p2
  · rfl
  rw [Bool.true_and, Bool.true_and]
  have hc := cross_ne_zero_of_straddle hfar hsy
  split_ifs with hsx
  · -- the edge also straddles the vertical: the side of the edge decides
    rw [straddle_eq_up_or_down, Bool.or_eq_true] at hsy
    rcases hsy with hu | hd
    · rw [decide_eq_true (isUp_iff.mp hu).1, Bool.not_true, Bool.false_xor, decide_eq_decide]
      exact (cross_pos_up hu).symm
    · rw [decide_eq_false (not_lt.mpr (isDown_iff.mp hd).2), Bool.not_false, Bool.true_xor, ← decide_not,
        decide_eq_decide, ← cross_neg_down hd]
      exact ⟨fun h => h.not_gt, fun h => lt_of_le_of_ne (not_lt.mp h) hc⟩
  · -- both end points on the same side of the vertical: the crossing abscissa lies between them
    have hsame : decide (p1.1 < x) = decide (p2.1 < x) := bne_eq_false_iff_eq.1 (by simpa using hsx)
    obtain ⟨hlo, hhi⟩ := xint_mem hsy
    by_cases h1 : p1.1 < x
    · have h2 : p2.1 < x := of_decide_eq_true (hsame ▸ decide_eq_true h1)
      rw [decide_eq_true h1, decide_eq_false (not_lt.mpr (hhi.trans (max_le h1.le h2.le)))]
      rfl
    · have h2 : ¬p2.1 < x := of_decide_eq_false (hsame ▸ decide_eq_false h1)
      have hne : x ≠ xint y p1 p2 := fun heq =>
        hc (by rw [cross_eq_mul (straddle_ne hsy), heq, sub_self, mul_zero])
      rw [decide_eq_false h1, decide_eq_true (lt_of_le_of_ne ((le_min (not_lt.mp h1) (not_lt.mp h2)).trans hlo) hne)]
      rfl

/-- an edge that does not contain the point crosses the ray going right or the ray going up,
but not both, exactly when one of its end points lies in the closed quadrant right of and above the point -/
theorem crossR_xor_crossUp {x y : α} {p1 p2 : α × α} (hfar : FarEdge 0 x y p1 p2) :
    xor (crossR x y p1 p2) (crossR y x (sw p1) (sw p2)) =
      xor (!decide (p1.1 < x) && !decide (p1.2 < y)) (!decide (p2.1 < x) && !decide (p2.2 < y)) := by
  -- off the line of the edge, `0 < -c` is the negation of `0 < c`
  have hs : xor (decide (p1.2 < y)) (decide (p2.2 < y)) = true →
      decide (0 < -cross p1 p2 (x, y)) = !decide (0 < cross p1 p2 (x, y)) := fun h => by
    rcases lt_or_gt_of_ne (cross_ne_zero_of_straddle hfar h) with h | h <;> simp [h, not_lt.mpr h.le]
  rw [crossR_form hfar rfl rfl rfl rfl,
    crossR_form (farEdge0_sw hfar) (a1 := decide (p1.2 < y)) (a2 := decide (p2.2 < y))
      (b1 := decide (p1.1 < x)) (b2 := decide (p2.1 < x)) rfl rfl rfl rfl, cross_sw]
  -- what is left is a statement about six truth values. Both lines straddled: each ray is decided by the side of the
  -- edge, with opposite signs, so exactly one is crossed iff `a1 = b1`, i.e. iff one end point is in the closed quadrant
  -- (the other is diagonally opposite). One line straddled: its ray is crossed iff both end points are on the ray's side
  -- of the other line, i.e. iff one of them is in the quadrant. None: the end points share a quadrant, nothing is crossed.
  revert hs
  generalize decide (p1.1 < x) = a1; generalize decide (p2.1 < x) = a2
  generalize decide (p1.2 < y) = b1; generalize decide (p2.2 < y) = b2
  generalize decide (0 < cross p1 p2 (x, y)) = s; generalize decide (0 < -cross p1 p2 (x, y)) = s'
  revert a1 a2 b1 b2 s s'
  decide

theorem preserves_sw : PreservesEvenOdd (sw : α × α → α × α) := fun poly pt h => by
  refine ⟨?_, fun e he => ?_⟩
  · unfold evenOdd
    rw [edges_map, List.map_map]
    exact (parity_eq_of_switch (fun v : α × α => !decide (v.1 < pt.1) && !decide (v.2 < pt.2))
      fun e he => crossR_xor_crossUp (h e he)).symm
  · rw [edges_map] at he
    obtain ⟨e', he', rfl⟩ := List.mem_map.mp he
    exact farEdge0_sw (h e' he')

-- stated over the ordered field of the file, although it is an identity of any field
set_option linter.unusedSectionVars false in
theorem lin_eq_sw : (lin (0 : α) 1 1 0) = sw := by
  funext p; simp [lin, sw]

theorem preserves_shear_y (m : α) : PreservesEvenOdd (lin 1 0 m 1) := by
  refine Eq.mp (congrArg PreservesEvenOdd ?_) ((preserves_sw.comp (preserves_upper_pos (b := m) one_pos one_pos)).comp preserves_sw)
  funext p; simp [lin, sw, Function.comp]; ring

/-- reflection `x ↦ -x`: the quarter turn `(x, y) ↦ (y, -x)` is a product of three shears, and the exchange of the axes
turns it into the reflection -/
theorem preserves_reflect_x : PreservesEvenOdd (lin (-1 : α) 0 0 1) := by
  refine Eq.mp (congrArg PreservesEvenOdd ?_) (((preserves_sw.comp (preserves_upper_pos (b := 1) one_pos one_pos)).comp
    (preserves_shear_y (-1))).comp (preserves_upper_pos (b := 1) one_pos one_pos))
  funext p; simp [lin, sw, Function.comp]

theorem preserves_reflect_y : PreservesEvenOdd (lin (1 : α) 0 0 (-1)) := by
  refine Eq.mp (congrArg PreservesEvenOdd ?_) ((preserves_sw.comp preserves_reflect_x).comp preserves_sw)
  funext p; simp [lin, sw, Function.comp]

theorem preserves_upper {a b d : α} (ha : a ≠ 0) (hd : d ≠ 0) : PreservesEvenOdd (lin a b 0 d) := by
  have key : ∀ {d' : α}, 0 < d' → PreservesEvenOdd (lin a b 0 d') := fun hd' => by
    rcases lt_or_gt_of_ne ha with h | h
    · refine Eq.mp (congrArg PreservesEvenOdd ?_) (preserves_reflect_x.comp (preserves_upper_pos (b := -b) (neg_pos.mpr h) hd'))
      funext v; simp [lin, Function.comp]; ring
    · exact preserves_upper_pos h hd'
  rcases lt_or_gt_of_ne hd with h | h
  · refine Eq.mp (congrArg PreservesEvenOdd ?_) (preserves_reflect_y.comp (key (neg_pos.mpr h)))
    funext v; simp [lin, Function.comp]
  · exact key h

theorem preserves_lin_of_ne {a b c d : α} (ha : a ≠ 0) (hdet : a * d - b * c ≠ 0) : PreservesEvenOdd (lin a b c d) := by
  refine Eq.mp (congrArg PreservesEvenOdd ?_) ((preserves_shear_y (c / a)).comp (preserves_upper (b := b) ha (div_ne_zero hdet ha)))
  funext v
  simp only [lin, Function.comp]
  apply Prod.ext
  · simp only; ring
  · simp only; field_simp; ring

theorem preserves_lin {a b c d : α} (hdet : a * d - b * c ≠ 0) : PreservesEvenOdd (lin a b c d) := by
  by_cases ha : a = 0
  · subst ha
    have hb : b ≠ 0 := by intro h; apply hdet; rw [h]; ring
    have hdet' : b * c - 0 * d ≠ 0 := by intro h; apply hdet; linarith
    refine Eq.mp (congrArg PreservesEvenOdd ?_) ((preserves_lin_of_ne hb hdet').comp preserves_sw)
    funext v; simp [lin, sw, Function.comp]; ring
  · exact preserves_lin_of_ne ha hdet

theorem normSq_pos {d : α × α} (hd : d ≠ (0, 0)) : 0 < d.1 * d.1 + d.2 * d.2 :=
  lt_of_le_of_ne (add_nonneg (mul_self_nonneg _) (mul_self_nonneg _)) fun h =>
    hd (Prod.ext (mul_self_add_mul_self_eq_zero.mp h.symm).1 (mul_self_add_mul_self_eq_zero.mp h.symm).2)

theorem det_rot_ne {d : α × α} (hd : d ≠ (0, 0)) : d.1 * d.1 - d.2 * -d.2 ≠ 0 := by
  rw [mul_neg, sub_neg_eq_add]; exact (normSq_pos hd).ne'

theorem preserves_rot {d : α × α} (hd : d ≠ (0, 0)) (P : α × α) : PreservesEvenOdd (rot d P) :=
  Eq.mp (congrArg PreservesEvenOdd (funext fun V => (rot_eq d P V).symm))
    ((preserves_lin (det_rot_ne hd)).comp fun poly pt h =>
      ⟨evenOdd_map (fun q p1 p2 => crossR_shift _ q.1 q.2 p1 p2) poly pt, far_shift _ h⟩)

/-- a point that a line separates from the vertices (they may lie on the line) is exterior: looking along the line, no
vertex is below the ray -/
theorem evenOdd_false_of_side {poly : List (α × α)} {q g1 g2 : α × α} (hne : g1 ≠ g2) (hfar : Far 0 poly q)
    (hside : ∀ v ∈ poly, cross g1 g2 q ≤ cross g1 g2 v) : evenOdd poly q = false := by
  have hd : (g2.1 - g1.1, g2.2 - g1.2) ≠ ((0, 0) : α × α) := fun h0 =>
    hne (Prod.ext (sub_eq_zero.mp (congrArg Prod.fst h0)).symm (sub_eq_zero.mp (congrArg Prod.snd h0)).symm)
  rw [← (preserves_rot hd q poly q hfar).1, rot_self]
  unfold evenOdd
  rw [edges_map, List.map_map]
  have hb : ∀ v ∈ poly, below 0 (rot (g2.1 - g1.1, g2.2 - g1.2) q v).2 = false := fun v hv =>
    decide_eq_false (not_lt.mpr (by rw [rot_snd]; exact sub_nonneg.mpr (hside v hv)))
  refine parity_map_false fun e he => ?_
  show crossR 0 0 (rot _ q e.1) (rot _ q e.2) = false
  rw [crossR, straddle, hb _ (mem_edges he).1, hb _ (mem_edges he).2]
  rfl

end HydroVerif.C15
