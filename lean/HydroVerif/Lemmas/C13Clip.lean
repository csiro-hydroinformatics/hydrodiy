/-
`Grid.clip` over an ordered field with a floor function (the exact-arithmetic instance of the C07 geometry model):
a box with both corners in the extent is clipped, and the cell centres of the clipped grid are cell centres of the parent.
-/
import HydroVerif.Lemmas.C13ClipAny


namespace HydroVerif.C13
open HydroVerif.C07

variable {α : Type} [Field α] [LinearOrder α] [FloorRing α]

/-- every cell `(i, j)` of the clipped grid has the centre of the parent's cell `(row c1 + i, col c0 + j)`: the new
lower-left corner (`ClipOf.xll`, `.yll`) is the centre of `c0` minus half a cell, so the clipped geometry is a block of the parent's -/
theorem ClipOf.centre {g ng : Grid α} {c0 c1 : Int} (k : ClipOf g c0 c1 ng) (hnc : 0 < g.ncols) (i j : Nat)
    (hi : (i : Int) < ng.nrows) (hj : (j : Int) < ng.ncols) :
    ∃ xy, cell2coord (geom ng) (cellOf ng.ncols i j) = some xy ∧
      cell2coord (geom g) (cellOf g.ncols (rowOf g.ncols c1 + i) (colOf g.ncols c0 + j)) = some xy := by
  obtain ⟨_, a1, a2, _, _⟩ := valid_rowcol hnc k.valid0
  obtain ⟨b0, _, _, b3, _⟩ := valid_rowcol hnc k.valid1
  have hnr := k.nrows
  have hncl := k.ncols
  have hi0 : (0 : Int) ≤ i := Int.natCast_nonneg i
  have hj0 : (0 : Int) ≤ j := Int.natCast_nonneg j
  have r0 : 0 ≤ rowOf g.ncols c1 + i := Int.add_nonneg b0 hi0
  have r1 : rowOf g.ncols c1 + i < g.nrows := by omega
  have q0 : 0 ≤ colOf g.ncols c0 + j := Int.add_nonneg a2 hj0
  have q1 : colOf g.ncols c0 + j < g.ncols := by omega
  refine ⟨getcoord (geom ng) (cellOf ng.ncols i j), if_pos (validCell_cellOf hi0 hi hj0 hj),
    (if_pos (validCell_cellOf r0 r1 q0 q1)).trans (congrArg some ?_)⟩
  -- the clipped grid is the block of the parent's geometry at (row of `c1`, column of `c0`): its corner is the centre of
  -- `c0` minus half a cell, and the row of `c0` is the last row of the block
  refine (getcoord_block (g := geom g) (nr := ng.nrows) (nc := ng.ncols) hi0 hj0 hj r0 q0 q1).symm.trans ?_
  simp only [geom, k.xll, k.yll, k.csz, getcoord_eq, centre_sub_half]
  rw [show g.nrows - 1 - rowOf g.ncols c0 = g.nrows - (rowOf g.ncols c1 + ng.nrows) by omega]

variable [IsStrictOrderedRing α]

/-- exact arithmetic: a box with both corners in the extent is clipped, and the clipped grid is the block of the parent at
(row of the upper-right cell, column of the lower-left cell), centres and words. The three exact clip theorems of `Props/C13.lean`
are read off this. Corners in order fall in cells in order because `x ↦ ⌊(x - o) / csz⌋` is monotone. -/
theorem clip_isBlockOf (io : NumIO α) (g : Grid α) (hcsz : 0 < g.csz) (hnc : 0 < g.ncols)
    (hr : (g.data.length : Int) = g.nrows) (hc : ∀ r ∈ g.data, (r.length : Int) = g.ncols)
    {x0 y0 x1 y1 : α} (h0 : InExtent (geom g) x0 y0) (h1 : InExtent (geom g) x1 y1) (hx : x0 ≤ x1) (hy : y0 ≤ y1) :
    ∃ ng, clip io g x0 y0 x1 y1 = .ok ng ∧
      ClipOf g (coord2cell (geom g) x0 y0) (coord2cell (geom g) x1 y1) ng ∧
      IsBlockOf g ng (rowOf g.ncols (coord2cell (geom g) x1 y1)) (colOf g.ncols (coord2cell (geom g) x0 y0)) := by
  obtain ⟨ng, hclip, pr, pc⟩ := clip_ok_of_monotone io g hnc hr hc (fun a b o h => floor_offset_mono hcsz o h) x0 y0 x1 y1 hx hy
    (coord2cell_of_inExtent (g := geom g) hcsz h0).1 (coord2cell_of_inExtent (g := geom g) hcsz h1).1
  have k := clip_ok_inv io g x0 y0 x1 y1 ng hclip
  obtain ⟨t0, t1, l0, l1, hv⟩ := k.block_of_parent hnc hr hc
  exact ⟨ng, hclip, k, pr, pc, t0, t1, l0, l1, fun i j hi hj => ⟨k.centre hnc i j hi hj, hv i j hi hj⟩⟩

end HydroVerif.C13
