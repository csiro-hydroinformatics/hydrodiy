/-
C10 — the real numbers as the arithmetic of the transcendental operations of the model.
-/
import HydroVerif.Num
import Mathlib.Analysis.SpecialFunctions.Pow.Real
import Mathlib.Analysis.SpecialFunctions.Log.Basic

namespace HydroVerif.C10

noncomputable instance : Transc ℝ where
  exp := Real.exp
  log := Real.log
  sqrt := Real.sqrt
  sinh := Real.sinh
  cosh := Real.cosh
  tanh := Real.tanh
  asinh := Real.log ∘ fun x => x + Real.sqrt (x * x + 1)
  pow := fun x y => x ^ y

theorem sqrt_def (x : ℝ) : Transc.sqrt x = Real.sqrt x := rfl
theorem log_def (x : ℝ) : Transc.log x = Real.log x := rfl

end HydroVerif.C10
