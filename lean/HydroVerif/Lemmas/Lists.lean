/-
List functions that several models write out for themselves, each with its own name: insertion into a sorted list (with
the test `x < y`, keeping or dropping an equal element) and the sort that folds it over a list (C04, C16, C20). A lemma here
is about ANY function `ins` that satisfies the two defining equations; a model's function satisfies them by `rfl`, so its
lemma is the instance `… insertLE (fun _ => rfl) (fun _ _ _ => rfl)`. (`ins` is an explicit argument: left to unification,
`ins x [] = [x]` is solved by `List.cons`.)
-/
import Mathlib.Order.Basic

namespace HydroVerif.Lists

section insert
variable {β : Type} [LinearOrder β] (ins : β → List β → List β)

/-! ### `ins x (y :: ys) = if x < y then x :: y :: ys else y :: ins x ys`: insertion sort (`C04.insertLE`, `C20.insertSorted`) -/

section keep
variable (hnil : ∀ x, ins x [] = [x])
  (hcons : ∀ x y ys, ins x (y :: ys) = if x < y then x :: y :: ys else y :: ins x ys)
include hnil hcons

theorem ins_perm (x : β) :
    ∀ l, (ins x l).Perm (x :: l)
  | [] => hnil x ▸ .refl _
  | y :: ys => by
    rw [hcons]
    split
    · exact .refl _
    · exact ((ins_perm x ys).cons y).trans (.swap x y ys)

theorem ins_sorted (x : β) :
    ∀ l, l.Pairwise (· ≤ ·) → (ins x l).Pairwise (· ≤ ·)
  | [], _ => hnil x ▸ List.pairwise_singleton _ _
  | y :: ys, h => by
    obtain ⟨hy, hys⟩ := List.pairwise_cons.1 h
    rw [hcons]
    split
    · rename_i hxy
      exact List.pairwise_cons.2 ⟨fun z hz => (List.mem_cons.1 hz).elim (fun e => e ▸ hxy.le) fun hz => hxy.le.trans (hy z hz), h⟩
    · rename_i hxy
      refine List.pairwise_cons.2 ⟨fun z hz => ?_, ins_sorted x ys hys⟩
      exact (List.mem_cons.1 ((ins_perm ins hnil hcons x ys).mem_iff.1 hz)).elim (fun e => e ▸ not_lt.1 hxy) (hy z)

theorem foldr_ins_perm :
    ∀ l : List β, (l.foldr ins []).Perm l
  | [] => .refl _
  | x :: xs => (ins_perm ins hnil hcons x _).trans ((foldr_ins_perm xs).cons x)

theorem foldr_ins_sorted :
    ∀ l : List β, (l.foldr ins []).Pairwise (· ≤ ·)
  | [] => List.Pairwise.nil
  | x :: xs => ins_sorted ins hnil hcons x _ (foldr_ins_sorted xs)

end keep

/-! ### the same with `else if x = y then y :: ys`: sorted without repetition, `np.unique` (`C04.insertSorted`, `C16.insertSorted`) -/

section drop
variable (hnil : ∀ x, ins x [] = [x])
  (hcons : ∀ x y ys, ins x (y :: ys) = if x < y then x :: y :: ys else if x = y then y :: ys else y :: ins x ys)
include hnil hcons

theorem mem_insU (x z : β) : ∀ l, z ∈ ins x l ↔ z = x ∨ z ∈ l
  | [] => by rw [hnil, List.mem_singleton, or_iff_left List.not_mem_nil]
  | y :: ys => by
    rw [hcons]
    split
    · exact List.mem_cons
    · split
      · rename_i e; rw [e, List.mem_cons, or_self_left]
      · rw [List.mem_cons, mem_insU x z ys, List.mem_cons, or_left_comm]

theorem insU_sorted (x : β) : ∀ l, l.Pairwise (· < ·) → (ins x l).Pairwise (· < ·)
  | [], _ => hnil x ▸ List.pairwise_singleton _ _
  | y :: ys, h => by
    obtain ⟨hy, hys⟩ := List.pairwise_cons.1 h
    rw [hcons]
    split
    · rename_i hxy
      exact List.pairwise_cons.2 ⟨fun z hz => (List.mem_cons.1 hz).elim (fun e => e ▸ hxy) fun hz => hxy.trans (hy z hz), h⟩
    · split
      · exact h
      · rename_i hxy hne
        refine List.pairwise_cons.2 ⟨fun z hz => ?_, insU_sorted x ys hys⟩
        exact ((mem_insU ins hnil hcons x z ys).1 hz).elim (fun e => e ▸ lt_of_le_of_ne (not_lt.1 hxy) (Ne.symm hne)) (hy z)

theorem mem_foldr_insU (z : β) : ∀ l : List β, z ∈ l.foldr ins [] ↔ z ∈ l
  | [] => Iff.rfl
  | x :: xs => by rw [List.foldr_cons, mem_insU ins hnil hcons, mem_foldr_insU z xs, List.mem_cons]

theorem foldr_insU_sorted :
    ∀ l : List β, (l.foldr ins []).Pairwise (· < ·)
  | [] => List.Pairwise.nil
  | x :: xs => insU_sorted ins hnil hcons x _ (foldr_insU_sorted xs)

end drop

end insert

end HydroVerif.Lists
