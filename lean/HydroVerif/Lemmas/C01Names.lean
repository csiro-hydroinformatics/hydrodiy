/-
C01 — the two lists of classes, the keyword catalogue of Model/C01 (`catalogue`, `lookupClass`, `route`) and `Cls.all` /
`Cls.ofName?` of Model/C01Obj, as tables of strings: a lookup by name in a table with distinct names returns the row
(`find?_name_of_nodup`, with `catalogue_nodup`), and `route` sends each name of a class to its own list because the three
lists of a class are disjoint (`route_of_ctor/param/const`, `catalogue_disjoint`). No reals, no Mathlib.
-/
import HydroVerif.Model.C01Obj

namespace HydroVerif.C01

/-! Looking a record up by its name in a table whose names are pairwise different returns that record: the lookups of
`lookupClass` and `Cls.ofName?` need no comparison of equal strings, only the 13 names to be distinct. -/

theorem find?_name_of_nodup {α : Type} (f : α → String) : ∀ l : List α, (l.map f).Nodup → ∀ c ∈ l,
    l.find? (fun a => f a == f c) = some c
  | [], _, _, hc => nomatch hc
  | a :: t, hn, c, hc => by
    obtain ⟨ha, ht⟩ := List.nodup_cons.mp hn
    rcases List.mem_cons.mp hc with rfl | hm
    · exact List.find?_cons_of_pos (beq_self_eq_true _)
    · rw [List.find?_cons_of_neg (by
        rw [beq_iff_eq]
        exact fun h => ha (h ▸ List.mem_map_of_mem hm))]
      exact find?_name_of_nodup f t ht c hm

theorem catalogue_nodup : (catalogue.map (·.name)).Nodup := by decide +kernel

/-- the catalogue row of a class, by position -/
theorem Cls.row_name (c : Cls) : ∃ h : Cls.all.idxOf c < catalogue.length, (catalogue[Cls.all.idxOf c]).name = c.name := by
  cases c <;> exact ⟨by decide, rfl⟩

/-! `route` sends a keyword to the first of the three name lists that holds it; in the catalogue the three lists of a class
are disjoint, so each of its names is routed to its own list. -/

theorem route_of_ctor {c : ClassSpec} {k : String} (h : k ∈ c.ctorArgs) : route c k = .ctor := by
  simp [route, h]

theorem route_of_param {c : ClassSpec} {k : String} (h1 : k ∉ c.ctorArgs) (h : k ∈ c.params) : route c k = .param := by
  simp [route, h1, h]

theorem route_of_const {c : ClassSpec} {k : String} (h1 : k ∉ c.ctorArgs) (h2 : k ∉ c.params) (h : k ∈ c.constants) :
    route c k = .const := by
  simp [route, h1, h2, h]

theorem catalogue_disjoint : ∀ c ∈ catalogue,
    (∀ k ∈ c.params, k ∉ c.ctorArgs) ∧ ∀ k ∈ c.constants, k ∉ c.ctorArgs ∧ k ∉ c.params := by decide +kernel

end HydroVerif.C01
