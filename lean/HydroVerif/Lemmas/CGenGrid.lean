/-
C05 — the definitions GENERATED from `gis/c_grid.c` (`Generated/CKernels.lean`): values and safety of `getnxy`,
`c_cell2rowcol`, `c_neighbours`, `c_upstream`, `c_downstream` against the integer grid core of `Model/C07.lean`.
Restated as property theorems in `Props/C05.lean` (a primed lemma `cgen_f_…'` is what the property theorem `cgen_f_…`
restates). The return codes of `c_upstream` / `c_downstream` (`cgen_*_code'`) come from the rule for a scan that stops
at the first cell outside the grid (`wp_scan`, `AllInGrid`), as those of their footprint models do (`upstream_code`,
`downstream_code` in `Lemmas/C05.lean`), so that the two agree (`cgen_downstream_refines'`).
-/
import HydroVerif.Lemmas.CGen

namespace HydroVerif.C05
open HydroVerif.CSem HydroVerif.CGen HydroVerif.C07

theorem getD_set_same (l : List Int) (i : Nat) (v d : Int) (h : i < l.length) : (l.set i v).getD i d = v := by
  simp [h]

theorem getD_set_other (l : List Int) (i j : Nat) (v d : Int) (h : i ≠ j) :
    (l.set i v).getD j d = l.getD j d := by
  simp [h]

theorem cgen_getnxy_eq' {ncols idx : Int} (nxy : List Int) (h2 : 2 ≤ nxy.length) (hc : 0 < ncols) (h0 : 0 ≤ idx)
    (hI : idx ≤ 9223372036854775807) :
    CGen.getnxy ncols idx nxy = .ok (0, (nxy.set 0 (colOf ncols idx)).set 1 (rowOf ncols idx)) := by
  have c0 := colOf_nonneg hc h0
  have c1 := colOf_le hc h0
  have r0 := rowOf_nonneg hc h0
  have r1 := rowOf_le hc h0
  unfold CGen.getnxy
  rw [mod64_ok (by omega) (by omega), ok_bind, wr_ok (by omega) (by omega), ok_bind,
    rd_ok (by omega) (by simp; omega), ok_bind]
  simp only [Int.toNat_zero]
  rw [getD_set_same _ _ _ _ (by omega)]
  change ci64 (idx - colOf ncols idx) >>= _ = _
  rw [ci64_ok (by omega) (by omega), ok_bind]
  have e : (idx - colOf ncols idx).tdiv ncols = rowOf ncols idx := rfl
  rw [div64_ok (by omega) (by omega) (by omega), ok_bind, e, wr_ok (by omega) (by simp; omega)]
  rfl

theorem wp_cgen_getnxy {ncols idx : Int} {nxy : List Int} {Q : Int × List Int → Prop} (h2 : 2 ≤ nxy.length) (hc : 0 < ncols)
    (h0 : 0 ≤ idx) (hI : idx ≤ 9223372036854775807)
    (hq : Q (0, (nxy.set 0 (colOf ncols idx)).set 1 (rowOf ncols idx))) : wp (CGen.getnxy ncols idx nxy) Q :=
  wp_of_eq_ok (cgen_getnxy_eq' nxy h2 hc h0 hI) hq

theorem getD_set_int (l : List Int) (i : Int) (p : Nat) (v : Int) (hi : 0 ≤ i) (hl : i < l.length) :
    (l.set i.toNat v).getD p 0 = if (p : Int) = i then v else l.getD p 0 := by
  by_cases h : (p : Int) = i
  · have : i.toNat = p := by omega
    rw [if_pos h, this, getD_set_same _ _ _ _ (by omega)]
  · rw [if_neg h, getD_set_other _ _ _ _ _ (by omega)]

/-- entries `2k`, `2k+1` of `l` are the pair `f k`, for `k < n` -/
def Pairs (f : Nat → Int × Int) (n : Int) (l : List Int) : Prop :=
  ∀ k : Nat, (k : Int) < n → l.getD (2 * k) 0 = (f k).1 ∧ l.getD (2 * k + 1) 0 = (f k).2

theorem pairs_step {l l' : List Int} {f : Nat → Int × Int} {j : Nat} (hlen : 2 * (j : Int) + 1 < l.length)
    (hprev : Pairs f j l)
    (hl' : l' = (l.set (2 * (j : Int)).toNat (f j).1).set (2 * (j : Int) + 1).toNat (f j).2) : Pairs f (j + 1) l' := by
  intro k hk
  subst hl'
  rw [getD_set_int _ _ _ _ (by omega) (by simp; omega), getD_set_int _ _ _ _ (by omega) (by omega),
    getD_set_int _ _ _ _ (by omega) (by simp; omega), getD_set_int _ _ _ _ (by omega) (by omega)]
  by_cases hkj : k = j
  · subst hkj
    rw [if_neg (by omega), if_pos (by omega), if_pos (by omega)]
    exact ⟨rfl, rfl⟩
  · rw [if_neg (by omega), if_neg (by omega), if_neg (by omega), if_neg (by omega)]
    exact hprev k (by omega)

theorem cell_guard {nrows ncols c : Int}
    (hN : -9223372036854775808 ≤ nrows * ncols ∧ nrows * ncols ≤ 9223372036854775807) :
    (if c < 0 then pure true else do let t ← ci64 (nrows * ncols); pure (decide (c ≥ t)) : R Bool) =
      pure (decide (c < 0 ∨ c ≥ nrows * ncols)) := by
  rw [ci64_ok hN.1 hN.2, ok_bind]; exact or_pure

theorem cgen_cell2rowcol_spec' (junk : Nat → Int) (nrows ncols nval : Int) (idxcell rowcols : List Int)
    (hr : 0 ≤ nrows) (hc : 0 ≤ ncols) (hN : nrows * ncols ≤ 9223372036854775807)
    (h1 : nval ≤ idxcell.length) (h2 : 2 * nval ≤ rowcols.length)
    (hL : (rowcols.length : Int) ≤ 9223372036854775807) :
    wp (c_cell2rowcol junk nrows ncols nval idxcell rowcols) (fun r => r.1 = 0 ∧ r.2.length = rowcols.length ∧
      ∀ i : Nat, (i : Int) < nval →
        r.2.getD (2 * i) 0 = (C07.cell2rowcol nrows ncols (idxcell.getD i 0)).1 ∧
        r.2.getD (2 * i + 1) 0 = (C07.cell2rowcol nrows ncols (idxcell.getD i 0)).2) := by
  have hpos : 0 < nrows * ncols → 0 < ncols := fun h => pos_of_mul_pos_right h hr
  have h0 : 0 ≤ nrows * ncols := Int.mul_nonneg hr hc
  unfold c_cell2rowcol
  simp only []
  refine wp_bind (wp_forLoopE (fun i (s : List Int × List Int) => s.1.length = rowcols.length ∧ s.2.length = 2 ∧
      Pairs (fun k => C07.cell2rowcol nrows ncols (idxcell.getD k 0)) i s.1) _ _ _
    ⟨rfl, by simp [uninit], by intro k hk; omega⟩ ?_
    fun s hI => wp_pure ⟨rfl, hI.1, fun i hi => hI.2.2 i (by omega)⟩)
  intro j s hj0 hj1 ⟨hl1, hl2, hprev⟩
  obtain ⟨jn, rfl⟩ : ∃ jn : Nat, j = jn := ⟨j.toNat, by omega⟩
  have hlen : 2 * (jn : Int) + 1 < (s.1.length : Int) := by omega
  simp only [vc, decide_eq_true_eq, List.length_set, Int.toNat_natCast, ← and_assoc]
  refine ⟨⟨by omega, fun hg => ⟨⟨⟨by omega, hl1⟩, hl2⟩, ?_⟩⟩, fun hg =>
    wp_cgen_getnxy (by omega) (hpos (by omega)) (by omega) (by omega) ?_⟩
  · have hv : C07.cell2rowcol nrows ncols (idxcell.getD jn 0) = (-1, -1) := by
      rw [C07.cell2rowcol, validCell_eq_false_iff.2 (by omega)]; rfl
    exact pairs_step hlen hprev (by rw [hv])
  · have hv : C07.cell2rowcol nrows ncols (idxcell.getD jn 0) =
        (rowOf ncols (idxcell.getD jn 0), colOf ncols (idxcell.getD jn 0)) := by
      rw [C07.cell2rowcol, validCell_iff.2 (by omega), if_pos rfl]
    simp only [List.length_set, Int.toNat_zero, Int.toNat_one]
    rw [getD_set_other _ _ _ _ _ (by omega), getD_set_same _ _ _ _ (by omega), getD_set_same _ _ _ _ (by simp; omega)]
    refine ⟨⟨⟨by omega, hl1⟩, hl2⟩, pairs_step hlen hprev ?_⟩
    rw [hv, List.set_comm _ _ (by omega)]

theorem uninit_2 (junk : Nat → Int) (off : Nat) : uninit junk off 2 = [junk (off + 0), junk (off + 1)] := rfl
theorem uninit_9 (junk : Nat → Int) (off : Nat) : uninit junk off 9 =
    [junk (off + 0), junk (off + 1), junk (off + 2), junk (off + 3), junk (off + 4), junk (off + 5), junk (off + 6),
     junk (off + 7), junk (off + 8)] := rfl

theorem neighbour_at (nrows ncols idx ix iy : Int) (hx : -1 ≤ ix ∧ ix ≤ 1) (k : Nat)
    (hk : (k : Int) = 1 + ix + (1 + iy) * 3) : neighbour nrows ncols idx k = nbCell nrows ncols idx ix iy := by
  unfold neighbour
  have e1 : nbDx k = ix := by unfold nbDx; omega
  have e2 : nbDy k = iy := by unfold nbDy; omega
  rw [e1, e2]

theorem cgen_neighbours_invalid' (junk : Nat → Int) (nrows ncols idx : Int) (nb : List Int)
    (hN : -9223372036854775808 ≤ nrows * ncols ∧ nrows * ncols ≤ 9223372036854775807)
    (h : idx < 0 ∨ idx ≥ nrows * ncols) : c_neighbours junk nrows ncols idx nb = .ok (1, nb) := by
  unfold c_neighbours
  simp only []
  rw [cell_guard hN, pure_bind, if_pos (by rw [decide_eq_true_eq]; exact h)]
  rfl

/-- the first `n` positions of the neighbour vector are filled in, the length and the entries from 9 on are those of `nb` -/
def NbInv (nrows ncols idx : Int) (nb : List Int) (n : Int) (l : List Int) : Prop :=
  l.length = nb.length ∧ (∀ k : Nat, (k : Int) < n → l.getD k 0 = neighbour nrows ncols idx k) ∧
    ∀ p : Nat, 9 ≤ p → l.getD p 0 = nb.getD p 0

theorem cgen_neighbours_spec' (junk : Nat → Int) (nrows ncols idx : Int) (nb : List Int)
    (hr : 0 ≤ nrows) (hc : 0 ≤ ncols) (hN : nrows * ncols ≤ 9223372036854775807)
    (hg : 0 ≤ idx ∧ idx < nrows * ncols) (h9 : 9 ≤ nb.length) :
    wp (c_neighbours junk nrows ncols idx nb) (fun r => r.1 = 0 ∧ r.2.length = nb.length ∧
      (∀ k : Nat, k < 9 → r.2.getD k 0 = neighbour nrows ncols idx k) ∧
      ∀ p : Nat, 9 ≤ p → r.2.getD p 0 = nb.getD p 0) := by
  have hpos : 0 < ncols := pos_of_mul_pos_right (by omega : 0 < nrows * ncols) hr
  obtain ⟨r0, r1, c0, c1, -⟩ := valid_rowcol hpos (validCell_iff.2 hg)
  have hcN := mul_idx_bound' (m := ncols) (n := nrows) (i := 0) hc le_rfl (by omega)
  have hrN := mul_idx_bound (m := nrows) (n := ncols) (i := 0) hr le_rfl hpos
  unfold c_neighbours
  simp only [uninit_2]
  rw [cell_guard ⟨by omega, hN⟩, pure_bind, if_neg (by rw [decide_eq_true_eq]; omega),
    cgen_getnxy_eq' _ (by simp) hpos hg.1 (by omega), ok_bind]
  simp only [List.set_cons_zero, List.set_cons_succ, rd_cons_zero, rd_cons_one, ok_bind]
  refine wp_bind (wp_forLoopE (fun iy l => NbInv nrows ncols idx nb (3 * (iy + 1)) l) _ _ _
    ⟨rfl, by intro k hk; omega, by intro p _; rfl⟩ ?_
    fun l hI => wp_pure ⟨rfl, hI.1, fun k hk => hI.2.1 k (by omega), hI.2.2⟩)
  intro iy l hy0 hy1 ⟨hl, hdone, hrest⟩
  refine wp_bind (wp_forLoopE (fun ix l' => NbInv nrows ncols idx nb (3 * (iy + 1) + (ix + 1)) l') _ _ _
    ⟨hl, fun k hk => hdone k (by omega), hrest⟩ ?_
    fun l' hI' => wp_inl ⟨hI'.1, fun k hk => hI'.2.1 k (by omega), hI'.2.2⟩)
  intro ix l' hx0 hx1 ⟨hl', hdone', hrest'⟩
  have hb := @mul_idx_bound' ncols nrows (rowOf ncols idx + iy) hc
  have hp : 0 ≤ 1 + ix + (1 + iy) * 3 ∧ 1 + ix + (1 + iy) * 3 < l'.length := by omega
  -- whatever is stored at position `1 + ix + (1 + iy) * 3`: if it is `nbCell … ix iy`, the invariant goes on
  have hstep : ∀ v, v = nbCell nrows ncols idx ix iy →
      NbInv nrows ncols idx nb (3 * (iy + 1) + (ix + 1 + 1)) (l'.set (1 + ix + (1 + iy) * 3).toNat v) := by
    rintro v rfl
    refine ⟨by rw [List.length_set]; exact hl', fun k hk => ?_, fun p hp' => ?_⟩
    · rw [getD_set_int _ _ _ _ hp.1 hp.2]
      split
      · rename_i hkeq
        rw [neighbour_at nrows ncols idx ix iy ⟨hx0, by omega⟩ k hkeq]
      · exact hdone' k (by omega)
    · rw [getD_set_int _ _ _ _ hp.1 hp.2, if_neg (by omega)]
      exact hrest' p hp'
  simp only [vc, decide_eq_true_eq, or_assoc]
  refine ⟨by omega, by omega, by omega, by omega,
    fun h0 => ⟨hp, hstep _ (by unfold nbCell; simp only [if_pos h0])⟩,
    fun h0 => ⟨by omega, by omega, fun _ => by omega, fun _ => by omega,
      fun hout => ⟨hp, hstep _ (by unfold nbCell; simp only [if_neg h0, if_pos hout])⟩, fun hout => ?_⟩⟩
  have := hb (by omega) (by omega)
  exact ⟨by omega, by omega, hp, hstep _ (by unfold nbCell; simp only [if_neg h0, if_neg hout])⟩

theorem cgen_clipi_eq' (x a b : Int) : clipi x a b = .ok (if x < a then a else if x > b then b else x) := by
  unfold clipi
  rfl

theorem cgen_downstream_code' (junk : Nat → Int) (nrows ncols nval : Int) (code fdir cells out : List Int)
    (hr : 0 ≤ nrows) (hc : 0 ≤ ncols) (hN : nrows * ncols ≤ 9223372036854775807)
    (hfd : nrows * ncols ≤ fdir.length) (hcode : 9 ≤ code.length)
    (h1 : nval ≤ cells.length) (h2 : nval ≤ out.length) :
    wp (c_downstream junk nrows ncols code fdir nval cells out) (fun r => r.2.length = out.length ∧
      ((r.1 = 0 ∧ AllInGrid nrows ncols nval (fun k => cells.getD k 0)) ∨
       (r.1 = 1 ∧ ¬ AllInGrid nrows ncols nval (fun k => cells.getD k 0)))) := by
  have h0 : 0 ≤ nrows * ncols := Int.mul_nonneg hr hc
  unfold c_downstream
  simp only [uninit_9]
  refine wp_bind (wp_scan (fun (s : List Int × List Int) => s.1.length = out.length ∧ s.2.length = 9)
    (fun k => InGrid nrows ncols (cells.getD k 0)) (fun (r : Int × List Int) => r.2.length = out.length ∧ r.1 = 1)
    _ _ ⟨rfl, by simp⟩ ?_ (fun s hs hall => wp_pure ⟨hs.1, .inl ⟨rfl, hall⟩⟩)
    fun r hr hnot => wp_pure ⟨hr.1, .inr ⟨hr.2, hnot⟩⟩)
  intro i s hi ⟨hl1, hl2⟩
  simp only [vc, decide_eq_true_eq, List.length_set, Int.toNat_natCast]
  refine ⟨by omega, fun _ => ⟨by omega, hN⟩, fun hg => ⟨hl1, fun hin => by unfold InGrid at hin; omega⟩, fun hg => ?_⟩
  have hg' : InGrid nrows ncols (cells.getD i 0) := by unfold InGrid; omega
  refine wp_mono (cgen_neighbours_spec' junk nrows ncols _ _ hr hc hN hg' (by omega)) fun r hr9 => ?_
  have hlen : r.2.length = 9 := by omega
  unfold InGrid at hg'
  refine ⟨by omega, by omega, fun _ => ⟨by omega, ⟨hl1, hlen⟩, hg'⟩, fun _ =>
    wp_forLoopE (fun _ (l : List Int) => l.length = out.length) _ _ _ (by rw [List.length_set]; exact hl1) ?_ fun l hl => ?_⟩
  · intro j l hj0 hj1 hl
    simp only [vc, List.length_set]
    omega
  · simp only [vc]
    exact ⟨⟨hl, hlen⟩, hg'⟩

theorem cgen_downstream_safe' (junk : Nat → Int) (nrows ncols nval : Int) (code fdir cells out : List Int)
    (hr : 0 ≤ nrows) (hc : 0 ≤ ncols) (hN : nrows * ncols ≤ 9223372036854775807)
    (hfd : nrows * ncols ≤ fdir.length) (hcode : 9 ≤ code.length)
    (h1 : nval ≤ cells.length) (h2 : nval ≤ out.length) :
    wp (c_downstream junk nrows ncols code fdir nval cells out) (fun r => r.2.length = out.length) :=
  wp_mono (cgen_downstream_code' junk nrows ncols nval code fdir cells out hr hc hN hfd hcode h1 h2) fun _ h => h.1

theorem cgen_downstream_refines' (junk : Nat → Int) (nrows ncols nval : Int) (code fdir cells out : List Int) (e : Ext)
    (hr : 0 ≤ nrows) (hc : 0 ≤ ncols) (hN : nrows * ncols ≤ 9223372036854775807)
    (hfd : nrows * ncols ≤ fdir.length) (hcode : 9 ≤ code.length)
    (h1 : nval ≤ cells.length) (h2 : nval ≤ out.length)
    (he1 : e .flowdir = fdir.length) (he2 : e .flowdircode = code.length) (he3 : e .idxup = cells.length)
    (he4 : e .idxdown = out.length) :
    ∃ x c, c_downstream junk nrows ncols code fdir nval cells out = .ok x ∧
      downstream e nrows ncols nval (fun k => code.getD k 0) (fun k => fdir.getD k 0) (fun k => cells.getD k 0) = .ok c ∧
      c = x.1 := by
  obtain ⟨x, hx, _, hxc⟩ := cgen_downstream_code' junk nrows ncols nval code fdir cells out hr hc hN hfd hcode h1 h2
  obtain ⟨c, hc', hcc⟩ := downstream_code e nrows ncols nval (fun k => code.getD k 0) (fun k => fdir.getD k 0)
    (fun k => cells.getD k 0) ⟨hr, hc, hN, by omega, by omega⟩ (by omega) (by omega)
  exact ⟨x, c, hx, hc', code_class_eq hxc hcc⟩

theorem cgen_upstream_code' (junk : Nat → Int) (nrows ncols nval : Int) (code fdir cells out : List Int)
    (hr : 0 ≤ nrows) (hc : 0 ≤ ncols) (hN : nrows * ncols ≤ 9223372036854775807)
    (hfd : nrows * ncols ≤ fdir.length) (hcode : 9 ≤ code.length)
    (h1 : nval ≤ cells.length) (h2 : 9 * nval ≤ out.length) (hL : (out.length : Int) ≤ 9223372036854775807) :
    wp (c_upstream junk nrows ncols code fdir nval cells out) (fun r => r.2.length = out.length ∧
      ((r.1 = 0 ∧ AllInGrid nrows ncols nval (fun k => cells.getD k 0)) ∨
       (r.1 = 1 ∧ ¬ AllInGrid nrows ncols nval (fun k => cells.getD k 0)))) := by
  have h0 : 0 ≤ nrows * ncols := Int.mul_nonneg hr hc
  unfold c_upstream
  simp only [uninit_9]
  refine wp_bind (wp_scan (fun (s : List Int × List Int) => s.1.length = out.length ∧ s.2.length = 9)
    (fun k => InGrid nrows ncols (cells.getD k 0)) (fun (r : Int × List Int) => r.2.length = out.length ∧ r.1 = 1)
    _ _ ⟨rfl, by simp⟩ ?_ (fun s hs hall => wp_pure ⟨hs.1, .inl ⟨rfl, hall⟩⟩)
    fun r hr hnot => wp_pure ⟨hr.1, .inr ⟨hr.2, hnot⟩⟩)
  intro i s hi ⟨hl1, hl2⟩
  simp only [vc, decide_eq_true_eq, Int.toNat_natCast]
  refine ⟨by omega, fun _ => ⟨by omega, hN⟩, fun hg => ⟨hl1, fun hin => by unfold InGrid at hin; omega⟩, fun hg => ?_⟩
  have hg' : InGrid nrows ncols (cells.getD i 0) := by unfold InGrid; omega
  refine wp_mono (cgen_neighbours_spec' junk nrows ncols _ _ hr hc hN hg' (by omega)) fun r hr9 => ?_
  obtain ⟨_, hlen, hnb, _⟩ := hr9
  have hlen9 : r.2.length = 9 := by omega
  -- `k` counts the upstream cells found among the first `j` neighbours
  refine wp_forLoopE (fun j (t : List Int × Int) => t.1.length = out.length ∧ 0 ≤ t.2 ∧ t.2 ≤ j) _ _ _
    ⟨hl1, by omega, by omega⟩ ?_ fun t ht => ?_
  · intro j t hj0 hj1 ⟨ht1, ht2, ht3⟩
    have hnbj := hnb j.toNat (by omega)
    have hin := neighbour_inGrid nrows ncols (cells.getD i 0) j.toNat
    unfold InGrid at hin
    simp only [vc, List.length_set]
    omega
  · obtain ⟨ht1, ht2, ht3⟩ := ht
    simp only [vc]
    refine wp_forLoopE (fun _ (l : List Int) => l.length = out.length) _ _ _ ht1 ?_ fun l hl => ?_
    · intro j l hj0 hj1 hl
      simp only [vc, List.length_set]
      omega
    · simp only [vc]
      exact ⟨⟨hl, hlen9⟩, hg'⟩

theorem cgen_upstream_safe' (junk : Nat → Int) (nrows ncols nval : Int) (code fdir cells out : List Int)
    (hr : 0 ≤ nrows) (hc : 0 ≤ ncols) (hN : nrows * ncols ≤ 9223372036854775807)
    (hfd : nrows * ncols ≤ fdir.length) (hcode : 9 ≤ code.length)
    (h1 : nval ≤ cells.length) (h2 : 9 * nval ≤ out.length) (hL : (out.length : Int) ≤ 9223372036854775807) :
    wp (c_upstream junk nrows ncols code fdir nval cells out) (fun r => r.2.length = out.length) :=
  wp_mono (cgen_upstream_code' junk nrows ncols nval code fdir cells out hr hc hN hfd hcode h1 h2 hL) fun _ h => h.1

end HydroVerif.C05
