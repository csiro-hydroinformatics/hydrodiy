/-
Iterating a function `f` on a set `V` with at most `N` elements (the downstream cell on the cells of a grid: C06, C11).
One fact carries the rest: a chain `x, f x, f (f x), …` whose first `N + 1` members lie in `V` repeats itself with a
period `p ≥ 1` from a member `i` on, `i + p ≤ N` (`exists_period`). Hence: what holds of its first `N` members holds
of all of them (`forall_iterate_of_period`); without cycles in `V` the members in `V` are distinct (`Acyclic.iterate_ne`) and
the chain leaves `V` within `N` steps (`Acyclic.exists_not`). "At most `N` elements" is `CardLE V N`: a list of distinct
members of `V` has at most `N` entries; for the cells of a grid of `nrows * ncols` cells that is
`C07.length_le_of_nodup_validCell`, which both users pass.
-/
import Mathlib.Logic.Function.Iterate
import Mathlib.Data.List.Nodup
import Mathlib.Data.List.Range

namespace HydroVerif.Chain

variable {α : Type} {f : α → α} {V : α → Prop} {N : Nat} {x : α}

theorem iterate_add_period {i p : Nat} (h : f^[i + p] x = f^[i] x) {k : Nat} (hk : i ≤ k) :
    f^[k + p] x = f^[k] x := by
  obtain ⟨t, rfl⟩ := Nat.exists_eq_add_of_le' hk
  rw [Nat.add_assoc, Function.iterate_add_apply, h, ← Function.iterate_add_apply]

/-- what holds of the members before the first repetition holds of every member -/
theorem forall_iterate_of_period {P : α → Prop} {i p : Nat} (hp : 1 ≤ p) (h : f^[i + p] x = f^[i] x)
    (hP : ∀ k, k < i + p → P (f^[k] x)) (k : Nat) : P (f^[k] x) := by
  induction k using Nat.strong_induction_on with
  | _ k ih =>
    by_cases hk : k < i + p
    · exact hP k hk
    · rw [← Nat.sub_add_cancel (Nat.le_of_add_left_le (Nat.le_of_not_lt hk)),
        iterate_add_period h (Nat.le_sub_of_add_le (Nat.le_of_not_lt hk))]
      exact ih (k - p) (Nat.sub_lt (by omega) hp)

/-- `V` has at most `N` elements -/
def CardLE (V : α → Prop) (N : Nat) : Prop := ∀ l : List α, l.Nodup → (∀ a ∈ l, V a) → l.length ≤ N

/-- pigeonhole: `N + 1` members in a set of `N` elements -/
theorem exists_period (hN : CardLE V N) (hv : ∀ k, k ≤ N → V (f^[k] x)) :
    ∃ i p, 1 ≤ p ∧ i + p ≤ N ∧ f^[i + p] x = f^[i] x := by
  by_contra hno
  have hinj : ((List.range (N + 1)).map fun k => f^[k] x).Nodup :=
    List.pairwise_map.2 (List.pairwise_lt_range.imp_of_mem fun {a b} _ hb hab e =>
      hno ⟨a, b - a, by omega, by have := List.mem_range.1 hb; omega,
        by rw [Nat.add_sub_cancel' hab.le]; exact e.symm⟩)
  have h := hN _ hinj fun a ha => by
    obtain ⟨k, hk, rfl⟩ := List.mem_map.1 ha
    exact hv k (Nat.le_of_lt_succ (List.mem_range.1 hk))
  rw [List.length_map, List.length_range] at h
  exact Nat.not_succ_le_self _ h

/-- no member of `V` comes back to itself -/
def Acyclic (f : α → α) (V : α → Prop) : Prop := ∀ c, V c → ∀ m, 1 ≤ m → f^[m] c ≠ c

theorem Acyclic.iterate_ne (h : Acyclic f V) {a b : Nat} (hab : a < b) (hv : V (f^[a] x)) :
    f^[a] x ≠ f^[b] x := fun e =>
  h _ hv (b - a) (Nat.sub_pos_of_lt hab) (by rw [← Function.iterate_add_apply, Nat.sub_add_cancel hab.le, e])

/-- without cycles a chain leaves `V` within `N` steps -/
theorem Acyclic.exists_not (h : Acyclic f V) (hN : CardLE V N) (x : α) : ∃ k, k ≤ N ∧ ¬ V (f^[k] x) := by
  by_contra hall
  have hv : ∀ k, k ≤ N → V (f^[k] x) := fun k hk => by_contra fun hk' => hall ⟨k, hk, hk'⟩
  obtain ⟨i, p, hp, hip, e⟩ := exists_period hN hv
  exact h _ (hv i (by omega)) p hp (by rw [← Function.iterate_add_apply, Nat.add_comm, e])

end HydroVerif.Chain
