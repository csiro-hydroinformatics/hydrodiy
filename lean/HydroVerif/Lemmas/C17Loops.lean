/-
C17 — the loops of the two kernels in ANY arithmetic: no algebraic law is used, and no library beyond the model is
imported.  The index-by-index inner loops are "an accumulator that reads the lags it has not yet overwritten, and the lag
buffer shifted by one place" (`simLoop_eq`, `resLoop_eq`, `*_cons_acc`).  On the simulation side this shape is that of
the loop whose `isnan` test never fires (`nan = nf`; `simLoop_nan_dead` says when another `nan` gives the same loop); the
residual loop has no such test and its lemmas hold for any `nan`.  The series loops are histories of one step
(`simStep`, `resStep`) in the sense of `Lemmas/History.lean`: lag buffer = final state, outputs = outputs (`simTrace`,
`resTrace`), whence cutting a series, its length, output number `t`.
-/
import HydroVerif.Model.C17
import HydroVerif.Model.C17Spec
import HydroVerif.Lemmas.History

namespace HydroVerif.C17

variable {α : Type} {p : Nat}

/-- the `isnan` that never fires on a computed value.  In exact arithmetic this is the truth; in the rounded theorems
(`Lemmas/C17Rounded.lean`) it stands for "no overflow": a rounding without range limits produces no NaN either -/
abbrev nf : α → Bool := fun _ => false

/-- the lag buffer after one pass of either inner loop: the new centred value `x` at lag 0, `buf[j-1]` at lag `j`, the
last lag dropped (`prev_centered[k] = k>0 ? prev_centered[k-1] : x`, `k` descending) -/
def shift (x : α) (buf : Vector α p) : Vector α p :=
  Vector.ofFn fun j : Fin p => if j.val = 0 then x else buf[j.val - 1]


section loops
variable {β : Type}

theorem shift_getElem (x : β) (buf : Vector β p) (k : Nat) (hk : k < p) :
    (shift x buf)[k] = if k = 0 then x else buf[k - 1]'(Nat.lt_of_le_of_lt (Nat.sub_le _ _) hk) := by
  rw [shift, Vector.getElem_ofFn]

/-- the lag buffer while the inner loop runs down from the highest lag: the lags at and above `k` are still
to be moved -/
def shiftBelow (k : Nat) (x : β) (buf : Vector β p) : Vector β p :=
  Vector.ofFn fun j : Fin p =>
    if j.val < k then (if j.val = 0 then x else buf[j.val - 1]'(Nat.lt_of_le_of_lt (Nat.sub_le _ _) j.isLt))
    else buf[j.val]'j.isLt

theorem shiftBelow_zero (x : β) (buf : Vector β p) : shiftBelow 0 x buf = buf := by
  ext j hj
  rw [shiftBelow, Vector.getElem_ofFn, if_neg (Nat.not_lt_zero j)]

theorem shiftBelow_full (x : β) (buf : Vector β p) : shiftBelow p x buf = shift x buf := by
  ext j hj
  rw [shiftBelow, shift, Vector.getElem_ofFn, Vector.getElem_ofFn, if_pos hj]

/-- one iteration `prev[k] = k>0 ? prev[k-1] : y`; what is stored at `k = 0` has to be the new front value -/
theorem shiftBelow_set (k : Nat) (hk : k < p) (x y : β) (buf : Vector β p) (h0 : k = 0 → y = x) :
    shiftBelow k x (buf.set k (if 0 < k then buf[k - 1] else y)) = shiftBelow (k + 1) x buf := by
  ext j hj
  rw [shiftBelow, shiftBelow, Vector.getElem_ofFn, Vector.getElem_ofFn]
  dsimp only
  rcases Nat.lt_trichotomy j k with h | rfl | h
  · rw [if_pos h, if_pos (Nat.lt_succ_of_lt h), Vector.getElem_set_ne _ _ (by omega)]
  · rw [if_neg (Nat.lt_irrefl j), if_pos (Nat.lt_succ_self j), Vector.getElem_set_self]
    rcases Nat.eq_zero_or_pos j with rfl | hpos
    · rw [if_neg (Nat.lt_irrefl 0), if_pos rfl, h0 rfl]
    · rw [if_pos hpos, if_neg (Nat.ne_of_gt hpos)]
  · rw [if_neg (Nat.lt_asymm h), if_neg (by omega : ¬ j < k + 1), Vector.getElem_set_ne _ _ (Nat.ne_of_lt h)]

theorem shift_forall₂ {γ : Type} (R : β → γ → Prop) {x : β} {y : γ} {c : Vector β p} {b : Vector γ p}
    (hx : R x y) (h : ∀ k (hk : k < p), R c[k] b[k]) : ∀ k (hk : k < p), R (shift x c)[k] (shift y b)[k] := by
  intro k hk
  rw [shift_getElem, shift_getElem]
  split
  · exact hx
  · exact h _ _

variable [Mul β]

/-- the accumulator of an inner loop: `tmp = op tmp (params[k]*prev[k])` for `k` from `k-1` down to 0
(`op` is `+` in the simulation, `-` in the residual kernel) -/
def acc (op : β → β → β) (ps buf : Vector β p) : (k : Nat) → k ≤ p → β → β
  | 0, _, t => t
  | k+1, h, t => acc op ps buf k (Nat.le_of_succ_le h) (op t (ps[k] * buf[k]))

theorem acc_set (op : β → β → β) (ps buf : Vector β p) (i : Nat) (hi : i < p) (x : β) :
    ∀ (k : Nat) (hk : k ≤ p) (t : β), k ≤ i → acc op ps (buf.set i x) k hk t = acc op ps buf k hk t := by
  intro k; induction k with
  | zero => intro hk t _; rfl
  | succ k ih =>
    intro hk t hki
    simp only [acc]
    rw [Vector.getElem_set_ne _ _ (by omega), ih _ _ (by omega)]

theorem resLoop_eq [Sub β] (ps : Vector β p) (value : β) : ∀ (k : Nat) (hk : k ≤ p) (tmp : β) (buf : Vector β p),
    resLoop ps value k hk tmp buf = (acc (· - ·) ps buf k hk tmp, shiftBelow k value buf) := by
  intro k; induction k with
  | zero => intro hk tmp buf; rw [shiftBelow_zero]; rfl
  | succ k ih =>
    intro hk tmp buf
    simp only [resLoop]
    rw [ih, acc_set _ _ _ k hk _ k _ _ (Nat.le_refl k), shiftBelow_set k hk _ _ _ (fun _ => rfl)]
    rfl

variable [Add β]

theorem simLoop_eq (ps : Vector β p) : ∀ (k : Nat) (hk : k ≤ p) (tmp : β) (buf : Vector β p),
    simLoop nf ps k hk tmp buf =
      (acc (· + ·) ps buf k hk tmp, shiftBelow k (acc (· + ·) ps buf k hk tmp) buf) := by
  intro k; induction k with
  | zero => intro hk tmp buf; rw [shiftBelow_zero]; rfl
  | succ k ih =>
    intro hk tmp buf
    simp only [simLoop, nf, Bool.false_eq_true, if_false]
    rw [ih, acc_set _ _ _ k hk _ k _ _ (Nat.le_refl k), shiftBelow_set k hk _ _ _ (fun h => by subst h; rfl)]
    rfl

/-- an `isnan` that is false on the lags the loop still has to read never fires: the loop is the one for `nf` -/
theorem simLoop_nan_dead (nan : β → Bool) (ps : Vector β p) : ∀ (k : Nat) (hk : k ≤ p) (tmp : β) (buf : Vector β p),
    (∀ j (hj : j < p), j < k → nan buf[j] = false) → simLoop nan ps k hk tmp buf = simLoop nf ps k hk tmp buf := by
  intro k; induction k with
  | zero => intro hk tmp buf _; rfl
  | succ k ih =>
    intro hk tmp buf h
    have hkp : k < p := hk
    simp only [simLoop, h k hkp (Nat.lt_succ_self k), nf, Bool.false_eq_true, if_false]
    apply ih
    intro j hj hjk
    rw [Vector.getElem_set_ne _ _ (Nat.ne_of_gt hjk)]
    exact h j hj (Nat.lt_succ_of_lt hjk)

variable [OfNat β 0]

theorem simRun_cons_acc (ps : Vector β p) (m : β) (b : Vector β p) (e : Option β) (es : List (Option β)) :
    simRun nf ps m b (e :: es) =
      (acc (· + ·) ps b p (Nat.le_refl p) (zeroNaN e) + m) ::
        simRun nf ps m (shift (acc (· + ·) ps b p (Nat.le_refl p) (zeroNaN e)) b) es := by
  cases e <;> simp only [simRun, simLoop_eq, shiftBelow_full, zeroNaN]

theorem simBuf_cons_acc (ps : Vector β p) (b : Vector β p) (e : Option β) (es : List (Option β)) :
    simBuf nf ps b (e :: es) = simBuf nf ps (shift (acc (· + ·) ps b p (Nat.le_refl p) (zeroNaN e)) b) es := by
  cases e <;> simp only [simBuf, simLoop_eq, shiftBelow_full, zeroNaN]

/-- A predicate `P` that holds of every lag entry after every prefix of `e0 :: es` holds of the starting buffer, of the
value the first step computes, and of every lag entry after every prefix of `es` run from the shifted buffer: the form in
which an induction over the series consumes a bound on the lag buffer (`coupled_run`, `recursion_run`).
The front value is read off lag 0 after one step; at order 0 there is no lag and it is the innovation itself,
hence `h0`. -/
theorem simBuf_forall_cons (P : β → Prop) (ps b : Vector β p) (e0 : Option β) (es : List (Option β))
    (h0 : P (zeroNaN e0)) (hbuf : ∀ n k (hk : k < p), P (simBuf nf ps b ((e0 :: es).take n))[k]) :
    (∀ k (hk : k < p), P b[k]) ∧ P (acc (· + ·) ps b p (Nat.le_refl p) (zeroNaN e0)) ∧
    ∀ n k (hk : k < p),
      P (simBuf nf ps (shift (acc (· + ·) ps b p (Nat.le_refl p) (zeroNaN e0)) b) (es.take n))[k] := by
  refine ⟨fun k hk => hbuf 0 k hk, ?_, fun n k hk => ?_⟩
  · rcases Nat.eq_zero_or_pos p with rfl | hp
    · exact h0
    · have := hbuf 1 0 hp
      rwa [List.take_succ_cons, List.take_zero, simBuf_cons_acc, simBuf, shift_getElem, if_pos rfl] at this
  · have := hbuf (n + 1) k hk
    rwa [List.take_succ_cons, simBuf_cons_acc] at this

/-- one pass of the series loop of `c_armodel_sim`: the lag buffer it leaves and the output -/
def simStep (nan : β → Bool) (ps : Vector β p) (m : β) (buf : Vector β p) (e : Option β) : Vector β p × β :=
  ((simLoop nan ps p (Nat.le_refl p) (zeroNaN e) buf).2, (simLoop nan ps p (Nat.le_refl p) (zeroNaN e) buf).1 + m)

/-- `simBuf` and `simRun` are the final state and the outputs of a history of `simStep`s (`Lemmas/History.lean`):
cutting a series anywhere, its length, output number `t` -/
theorem simTrace (nan : β → Bool) (ps : Vector β p) (m : β) :
    History.Trace (simStep nan ps m) (simBuf nan ps) (simRun nan ps m) :=
  ⟨⟨fun _ => rfl, fun _ _ _ => rfl⟩, fun _ => rfl, fun _ _ _ => rfl⟩

variable [Sub β]

/-- for any `nan`: `resLoop` has no `isnan` test, only `centred` has one -/
theorem resRun_cons_acc (nan : β → Bool) (ps : Vector β p) (m : β) (c : Vector β p) (x : Option β)
    (xs : List (Option β)) :
    resRun nan ps m c (x :: xs) =
      acc (· - ·) ps c p (Nat.le_refl p) (centred nan ps c m x) ::
        resRun nan ps m (shift (centred nan ps c m x) c) xs := by
  simp only [resRun, resLoop_eq, shiftBelow_full]

/-- one pass of the series loop of `c_armodel_residual` -/
def resStep (nan : β → Bool) (ps : Vector β p) (m : β) (buf : Vector β p) (x : Option β) : Vector β p × β :=
  ((resLoop ps (centred nan ps buf m x) p (Nat.le_refl p) (centred nan ps buf m x) buf).2,
    (resLoop ps (centred nan ps buf m x) p (Nat.le_refl p) (centred nan ps buf m x) buf).1)

theorem resTrace (nan : β → Bool) (ps : Vector β p) (m : β) :
    History.Trace (resStep nan ps m) (resBuf nan ps m) (resRun nan ps m) :=
  ⟨⟨fun _ => rfl, fun _ _ _ => rfl⟩, fun _ => rfl, fun _ _ _ => rfl⟩

end loops

end HydroVerif.C17
