/-
C15 — helper lemmas for the state histories of `Model/C15Hist.lean` (no arithmetic: generic over the number type).
The runs of C15 give an OPTIONAL output per operation (only calls answer) and list the outputs first: not the shape
`Lemmas/History.lean` treats (one output per operation, state first), hence the two `…Run_append` inductions here.
-/
import HydroVerif.Lemmas.C15
import HydroVerif.Model.C15Hist

namespace HydroVerif.C15

theorem insideOf_abs {β : Type} (w : PipWorld β) (arg : InsideArg) : insideOf w arg = absInsideOf w.abs arg := by
  cases arg with
  | none => rfl
  | buffer => cases hb : w.buf <;> simp [insideOf, absInsideOf, PipWorld.abs, hb]
  | foreign i n => rfl

section
variable {β : Type} [Add β] [Sub β] [Mul β] [Div β] [Neg β] [LT β] [DecidableLT β] [LE β] [DecidableLE β] [OfNat β 0]

theorem call_ok_length {atol : β} {pts poly : List (β × β)} {inside : Option (Bool × Nat)} {l : List Bool}
    (h : pointsInsidePolygonCall atol 2 pts 2 poly inside = .ok l) :
    l.length = pts.length ∧ ∀ b n, inside = some (b, n) → b = true ∧ n = pts.length := by
  unfold pointsInsidePolygonCall at h
  split_ifs at h with h1 h2 h3
  unfold pointsInsidePolygon at h
  split_ifs at h with h4
  cases poly with
  | nil => simp at h
  | cons v0 t =>
    simp only [Except.ok.injEq] at h
    refine ⟨by rw [← h]; simp [cInside], ?_⟩
    intro b n hin
    subst hin
    simp only [Bool.not_eq_true', Bool.not_eq_false] at h1
    simp only [bne_iff_ne, ne_eq, Decidable.not_not] at h2
    exact ⟨by simpa using h1, h2⟩

theorem bufAfter_length (w : PipWorld β) (arg : InsideArg) :
    (bufAfter w.buf arg (pointsInsidePolygonCall w.atol 2 w.pts 2 w.poly (insideOf w arg))).map List.length =
      w.buf.map List.length := by
  cases arg with
  | none => rfl
  | foreign i n => rfl
  | buffer =>
    cases hb : w.buf with
    | none => cases h : pointsInsidePolygonCall w.atol 2 w.pts 2 w.poly (insideOf w .buffer) with
      | ok l => simp [bufAfter]
      | error e => cases e <;> simp [bufAfter]
    | some b =>
      cases h : pointsInsidePolygonCall w.atol 2 w.pts 2 w.poly (insideOf w .buffer) with
      | ok l =>
        obtain ⟨hl, hin⟩ := call_ok_length h
        have := (hin true b.length (by simp [insideOf, hb])).2
        simp [bufAfter, answersToInt, hl, this]
      | error e => cases e <;> simp [bufAfter]

theorem pipStep_abs (w : PipWorld β) (op : PipOp β) :
    ((pipStep w op).1.abs, (pipStep w op).2) = pipAbsStep w.abs op := by
  cases op with
  | setPoints l => rfl
  | setPolygon l => rfl
  | setAtol a => rfl
  | newBuffer c => rfl
  | dropBuffer => rfl
  | scribble v =>
    simp only [pipStep, pipAbsStep, PipWorld.abs, Prod.mk.injEq, and_true]
    cases w.buf <;> simp
  | call arg =>
    simp only [pipStep, pipAbsStep, Prod.mk.injEq]
    refine ⟨?_, by rw [insideOf_abs]; rfl⟩
    have := bufAfter_length w arg
    simp only [PipWorld.abs, this]

theorem pipRun_append (ops1 ops2 : List (PipOp β)) : ∀ w : PipWorld β,
    pipRun w (ops1 ++ ops2) =
      ((pipRun w ops1).1 ++ (pipRun (pipRun w ops1).2 ops2).1, (pipRun (pipRun w ops1).2 ops2).2) := by
  induction ops1 with
  | nil => intro w; rfl
  | cons op rest ih =>
    intro w
    simp only [List.cons_append, pipRun, ih]
    cases (pipStep w op).2 <;> rfl

variable [NatCast β]

theorem gridRun_append (atol : β) (ops1 ops2 : List (GridOp β)) : ∀ objs : List (Geom β),
    gridRun atol objs (ops1 ++ ops2) =
      ((gridRun atol objs ops1).1 ++ (gridRun atol (gridRun atol objs ops1).2 ops2).1,
        (gridRun atol (gridRun atol objs ops1).2 ops2).2) := by
  induction ops1 with
  | nil => intro objs; rfl
  | cons op rest ih =>
    intro objs
    simp only [List.cons_append, gridRun, ih]
    cases (gridStep atol objs op).2 <;> rfl

theorem gridStep_query_state (atol : β) (objs : List (Geom β)) (op : GridOp β) (h : op.isQuery = true) :
    (gridStep atol objs op).1 = objs := by
  cases op <;> simp [GridOp.isQuery] at h
  rfl

/-- `modifyAt` is the library's `List.modify` -/
theorem modifyAt_eq_modify {γ : Type} (f : γ → γ) : ∀ (i : Nat) (l : List γ), modifyAt f i l = l.modify i f
  | 0, [] => rfl
  | _ + 1, [] => rfl
  | 0, _ :: _ => rfl
  | i + 1, g :: t => congrArg (g :: ·) (modifyAt_eq_modify f i t)

theorem modifyAt_getElem?_ne {γ : Type} (f : γ → γ) (l : List γ) (i j : Nat) (h : i ≠ j) :
    (modifyAt f j l)[i]? = l[i]? := by
  rw [modifyAt_eq_modify, List.getElem?_modify_ne f l (Ne.symm h)]

theorem modifyAt_getElem?_eq {γ : Type} (f : γ → γ) : ∀ (l : List γ) (i : Nat),
    (modifyAt f i l)[i]? = l[i]?.map f := by
  intro l i
  rw [modifyAt_eq_modify, List.getElem?_modify_eq]
  rfl

end

end HydroVerif.C15
