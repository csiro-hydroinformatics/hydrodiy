/-
C02 — a ROUNDED instance of the transform model (helper definitions and lemmas; the property statements that use
them are in `Props/C02.lean`).

The model text of `Model/C01.lean` is generic over its carrier. Besides `Float` (driver), the error-tracking pairs
(driver) and `ℝ` (exact theorems) it is instantiated here at `Rd M`: real numbers on which EVERY arithmetic
operation is followed by a rounding `M.rnd` and every library function is an arbitrary function `M.fexp, M.flog, …`
of which only order properties are assumed. `M : FP` collects what is assumed:

* `rnd` is monotone, fixes 0, 1/2 and 1 and is idempotent — true of every IEEE-754 binary format and rounding mode,
  overflow to ±∞ and gradual underflow included as far as order goes (negation is exact and is not rounded);
* the library functions are monotone where the exact functions are (`exp`, `asinh` everywhere; `log` on the positive
  numbers; `pow` in its base, increasing for a non-negative and decreasing for a non-positive exponent) and keep the
  sign of their exact counterparts (`exp, sqrt, pow ≥ 0`, `tanh ≥ 0` on non-negative arguments). This is an
  assumption about libm / numpy's loops (it holds for any implementation that is accurate to less than half the gap
  between neighbouring results, and is what "faithful and monotone" means in libm documentation); it is NOT verified.

Division by zero and NaN are outside this abstraction (`x / 0 = 0` in ℝ): the statements carry the hypotheses that keep
the computed denominators non-zero wherever the sign of a quotient matters.

`Lemmas/C01Rnd.lean` has another `FP` / `Rd M`, for the exact statements of C01 (oddness, ranges); the two do not serve each
other: that one assumes `rnd (-x) = -rnd x`, rounds the library results and knows only `exp ≥ 0`; the order statements here
need monotone library functions and `rnd (1/2) = 1/2` instead, and never use oddness.

What is proved over this instance (Props/C02.lean): `X.fwd` is (weakly) increasing in exactly the arithmetic the code
performs — the property's `x1 < x2 ⇒ forward(x1) ≤ forward(x2)` without any rounding allowance — and `X.jac ≥ 0`.
-/
import HydroVerif.Lemmas.C02

namespace HydroVerif.C02
open HydroVerif.C01

structure FP where
  rnd : ℝ → ℝ
  rnd_mono : Monotone rnd
  rnd_zero : rnd 0 = 0
  rnd_one : rnd 1 = 1
  /-- binary formats: one half is a floating-point number -/
  rnd_half : rnd (1 / 2) = 1 / 2
  rnd_idem : ∀ x, rnd (rnd x) = rnd x
  fexp : ℝ → ℝ
  flog : ℝ → ℝ
  fsqrt : ℝ → ℝ
  fsinh : ℝ → ℝ
  fcosh : ℝ → ℝ
  ftanh : ℝ → ℝ
  fasinh : ℝ → ℝ
  fpow : ℝ → ℝ → ℝ
  exp_mono : Monotone fexp
  exp_nonneg : ∀ x, 0 ≤ fexp x
  log_mono : ∀ x y, 0 < x → x ≤ y → flog x ≤ flog y
  sqrt_nonneg : ∀ x, 0 ≤ fsqrt x
  tanh_nonneg : ∀ x, 0 ≤ x → 0 ≤ ftanh x
  asinh_mono : Monotone fasinh
  pow_mono : ∀ k x y, 0 ≤ k → 0 < x → x ≤ y → fpow x k ≤ fpow y k
  pow_anti : ∀ k x y, k ≤ 0 → 0 < x → x ≤ y → fpow y k ≤ fpow x k
  pow_nonneg : ∀ x k, 0 < x → 0 ≤ fpow x k

/-- the exact real arithmetic is one such model (so the assumptions are consistent, and every statement over `Rd M`
specialises to a statement about the exact formulas); any IEEE-754 format with a monotone library is another -/
noncomputable def FP.exact : FP where
  rnd := id
  rnd_mono := monotone_id
  rnd_zero := rfl
  rnd_one := rfl
  rnd_half := rfl
  rnd_idem := fun _ => rfl
  fexp := Real.exp
  flog := Real.log
  fsqrt := Real.sqrt
  fsinh := Real.sinh
  fcosh := Real.cosh
  ftanh := Real.tanh
  fasinh := Real.arsinh
  fpow := fun x y => x ^ y
  exp_mono := Real.exp_monotone
  exp_nonneg := fun x => (Real.exp_pos x).le
  log_mono := fun _ _ hx h => Real.log_le_log hx h
  sqrt_nonneg := Real.sqrt_nonneg
  tanh_nonneg := fun x hx => by
    rcases hx.eq_or_lt with h | h
    · rw [← h]; simp
    · exact (tanh_pos h).le
  asinh_mono := fun _ _ h => Real.arsinh_le_arsinh.mpr h
  pow_mono := fun _ _ _ hk hx h => Real.rpow_le_rpow hx.le h hk
  pow_anti := fun _ _ _ hk hx h => Real.rpow_le_rpow_of_nonpos hx h hk
  pow_nonneg := fun _ _ hx => Real.rpow_nonneg hx.le _

structure Rd (M : FP) where
  val : ℝ

namespace Rd
variable {M : FP}

@[ext] theorem ext' {a b : Rd M} (h : a.val = b.val) : a = b := by cases a; cases b; exact congrArg _ h

noncomputable instance : LinearOrder (Rd M) := LinearOrder.lift' Rd.val (fun _ _ h => ext' h)

instance : Add (Rd M) := ⟨fun a b => ⟨M.rnd (a.val + b.val)⟩⟩
instance : Sub (Rd M) := ⟨fun a b => ⟨M.rnd (a.val - b.val)⟩⟩
instance : Mul (Rd M) := ⟨fun a b => ⟨M.rnd (a.val * b.val)⟩⟩
noncomputable instance : Div (Rd M) := ⟨fun a b => ⟨M.rnd (a.val / b.val)⟩⟩
instance : Neg (Rd M) := ⟨fun a => ⟨-a.val⟩⟩
instance (n : ℕ) : OfNat (Rd M) n := ⟨⟨M.rnd n⟩⟩
noncomputable instance : OfScientific (Rd M) := ⟨fun m s e => ⟨M.rnd (OfScientific.ofScientific m s e)⟩⟩
instance : Transc (Rd M) where
  exp a := ⟨M.fexp a.val⟩
  log a := ⟨M.flog a.val⟩
  sqrt a := ⟨M.fsqrt a.val⟩
  sinh a := ⟨M.fsinh a.val⟩
  cosh a := ⟨M.fcosh a.val⟩
  tanh a := ⟨M.ftanh a.val⟩
  asinh a := ⟨M.fasinh a.val⟩
  pow a b := ⟨M.fpow a.val b.val⟩

theorem le_def {a b : Rd M} : a ≤ b ↔ a.val ≤ b.val := Iff.rfl
theorem lt_def {a b : Rd M} : a < b ↔ a.val < b.val := Iff.rfl
@[simp] theorem add_val (a b : Rd M) : (a + b).val = M.rnd (a.val + b.val) := rfl
@[simp] theorem sub_val (a b : Rd M) : (a - b).val = M.rnd (a.val - b.val) := rfl
@[simp] theorem mul_val (a b : Rd M) : (a * b).val = M.rnd (a.val * b.val) := rfl
@[simp] theorem div_val (a b : Rd M) : (a / b).val = M.rnd (a.val / b.val) := rfl
@[simp] theorem neg_val (a : Rd M) : (-a).val = -a.val := rfl
@[simp] theorem zero_val : (0 : Rd M).val = 0 := (congrArg M.rnd Nat.cast_zero).trans M.rnd_zero
@[simp] theorem one_val : (1 : Rd M).val = 1 := (congrArg M.rnd Nat.cast_one).trans M.rnd_one
theorem two_val : (2 : Rd M).val = M.rnd 2 := congrArg M.rnd Nat.cast_ofNat
@[simp] theorem exp_val (a : Rd M) : (Transc.exp a).val = M.fexp a.val := rfl
@[simp] theorem log_val (a : Rd M) : (Transc.log a).val = M.flog a.val := rfl
@[simp] theorem sqrt_val (a : Rd M) : (Transc.sqrt a).val = M.fsqrt a.val := rfl
@[simp] theorem tanh_val (a : Rd M) : (Transc.tanh a).val = M.ftanh a.val := rfl
@[simp] theorem asinh_val (a : Rd M) : (Transc.asinh a).val = M.fasinh a.val := rfl
@[simp] theorem pow_val (a b : Rd M) : (Transc.pow a b).val = M.fpow a.val b.val := rfl

theorem nonneg_iff {a : Rd M} : 0 ≤ a ↔ 0 ≤ a.val := by rw [le_def, zero_val]
theorem nonpos_iff {a : Rd M} : a ≤ 0 ↔ a.val ≤ 0 := by rw [le_def, zero_val]
theorem pos_iff {a : Rd M} : 0 < a ↔ 0 < a.val := by rw [lt_def, zero_val]
theorem neg_iff {a : Rd M} : a < 0 ↔ a.val < 0 := by rw [lt_def, zero_val]

theorem rnd_nonneg {x : ℝ} (h : 0 ≤ x) : 0 ≤ M.rnd x := M.rnd_zero ▸ M.rnd_mono h
theorem rnd_nonpos {x : ℝ} (h : x ≤ 0) : M.rnd x ≤ 0 := M.rnd_zero ▸ M.rnd_mono h
theorem rnd_le_one {x : ℝ} (h : x ≤ 1) : M.rnd x ≤ 1 := M.rnd_one ▸ M.rnd_mono h
theorem one_le_rnd {x : ℝ} (h : 1 ≤ x) : 1 ≤ M.rnd x := M.rnd_one ▸ M.rnd_mono h
theorem pos_of_rnd_pos {x : ℝ} (h : 0 < M.rnd x) : 0 < x :=
  lt_of_not_ge fun hx => absurd (rnd_nonpos (M := M) hx) (not_le.mpr h)
theorem neg_of_rnd_neg {x : ℝ} (h : M.rnd x < 0) : x < 0 :=
  lt_of_not_ge fun hx => absurd (rnd_nonneg (M := M) hx) (not_le.mpr h)

theorem one_pos' : (0 : Rd M) < 1 := pos_iff.mpr (one_val (M := M) ▸ one_pos)
theorem two_pos : (0 : Rd M) < 2 :=
  pos_iff.mpr (two_val (M := M) ▸ lt_of_lt_of_le one_pos (one_le_rnd one_le_two))
theorem neg_one_nonpos : (-1 : Rd M) ≤ 0 := nonpos_iff.mpr (neg_nonpos.mpr (nonneg_iff.mp one_pos'.le))
theorem neg_two_nonpos : (-2 : Rd M) ≤ 0 := nonpos_iff.mpr (neg_nonpos.mpr (nonneg_iff.mp two_pos.le))

theorem add_le_add' {a b c d : Rd M} (h1 : a ≤ c) (h2 : b ≤ d) : a + b ≤ c + d :=
  M.rnd_mono (add_le_add h1 h2)
theorem sub_le_sub' {a b c d : Rd M} (h1 : a ≤ c) (h2 : d ≤ b) : a - b ≤ c - d :=
  M.rnd_mono (sub_le_sub h1 h2)
theorem neg_le_neg' {a b : Rd M} (h : a ≤ b) : -b ≤ -a := neg_le_neg (le_def.mp h)
theorem mul_le_mul_right' {a b c : Rd M} (h : a ≤ b) (hc : 0 ≤ c) : a * c ≤ b * c :=
  M.rnd_mono (mul_le_mul_of_nonneg_right h (nonneg_iff.mp hc))
theorem mul_le_mul_left' {a b c : Rd M} (h : a ≤ b) (hc : 0 ≤ c) : c * a ≤ c * b :=
  M.rnd_mono (mul_le_mul_of_nonneg_left h (nonneg_iff.mp hc))
theorem mul_le_mul_left_of_nonpos {a b c : Rd M} (h : a ≤ b) (hc : c ≤ 0) : c * b ≤ c * a :=
  M.rnd_mono (mul_le_mul_of_nonpos_left h (nonpos_iff.mp hc))
theorem div_le_div_right' {a b c : Rd M} (h : a ≤ b) (hc : 0 ≤ c) : a / c ≤ b / c :=
  M.rnd_mono (div_le_div_of_nonneg_right h (nonneg_iff.mp hc))
theorem div_le_div_right_of_nonpos {a b c : Rd M} (h : a ≤ b) (hc : c ≤ 0) : b / c ≤ a / c :=
  M.rnd_mono (div_le_div_of_nonpos_of_le (nonpos_iff.mp hc) h)
theorem div_le_div_left_nonneg {a b c : Rd M} (ha : 0 ≤ a) (hb : 0 < b) (h : b ≤ c) : a / c ≤ a / b :=
  M.rnd_mono (div_le_div_of_nonneg_left (nonneg_iff.mp ha) (pos_iff.mp hb) h)
theorem div_le_div_left_nonpos {a b c : Rd M} (ha : a ≤ 0) (hb : 0 < b) (h : b ≤ c) : a / b ≤ a / c :=
  M.rnd_mono (mul_le_mul_of_nonpos_left (inv_anti₀ (pos_iff.mp hb) h) (nonpos_iff.mp ha))
theorem log_le_log' {a b : Rd M} (ha : 0 < a) (h : a ≤ b) : (Transc.log a : Rd M) ≤ Transc.log b :=
  M.log_mono _ _ (pos_iff.mp ha) h
theorem exp_le_exp' {a b : Rd M} (h : a ≤ b) : (Transc.exp a : Rd M) ≤ Transc.exp b := M.exp_mono h
theorem asinh_le_asinh' {a b : Rd M} (h : a ≤ b) : (Transc.asinh a : Rd M) ≤ Transc.asinh b := M.asinh_mono h
theorem pow_le_pow_base {a b k : Rd M} (hk : 0 ≤ k) (ha : 0 < a) (h : a ≤ b) :
    (Transc.pow a k : Rd M) ≤ Transc.pow b k :=
  M.pow_mono _ _ _ (nonneg_iff.mp hk) (pos_iff.mp ha) h
theorem pow_le_pow_base_of_nonpos {a b k : Rd M} (hk : k ≤ 0) (ha : 0 < a) (h : a ≤ b) :
    (Transc.pow b k : Rd M) ≤ Transc.pow a k :=
  M.pow_anti _ _ _ (nonpos_iff.mp hk) (pos_iff.mp ha) h

theorem add_nonneg' {a b : Rd M} (ha : 0 ≤ a) (hb : 0 ≤ b) : 0 ≤ a + b :=
  nonneg_iff.mpr (rnd_nonneg (add_nonneg (nonneg_iff.mp ha) (nonneg_iff.mp hb)))
theorem mul_nonneg' {a b : Rd M} (ha : 0 ≤ a) (hb : 0 ≤ b) : 0 ≤ a * b :=
  nonneg_iff.mpr (rnd_nonneg (mul_nonneg (nonneg_iff.mp ha) (nonneg_iff.mp hb)))
theorem mul_self_nonneg' (a : Rd M) : 0 ≤ a * a := nonneg_iff.mpr (rnd_nonneg (mul_self_nonneg _))
theorem div_nonneg' {a b : Rd M} (ha : 0 ≤ a) (hb : 0 ≤ b) : 0 ≤ a / b :=
  nonneg_iff.mpr (rnd_nonneg (div_nonneg (nonneg_iff.mp ha) (nonneg_iff.mp hb)))
theorem sub_nonneg' {a b : Rd M} (h : b ≤ a) : 0 ≤ a - b := nonneg_iff.mpr (rnd_nonneg (sub_nonneg.mpr h))
theorem exp_nonneg' (a : Rd M) : (0 : Rd M) ≤ Transc.exp a := nonneg_iff.mpr (M.exp_nonneg _)
theorem sqrt_nonneg' (a : Rd M) : (0 : Rd M) ≤ Transc.sqrt a := nonneg_iff.mpr (M.sqrt_nonneg _)
theorem tanh_nonneg' {a : Rd M} (h : 0 ≤ a) : (0 : Rd M) ≤ Transc.tanh a :=
  nonneg_iff.mpr (M.tanh_nonneg _ (nonneg_iff.mp h))
theorem pow_nonneg' {a : Rd M} (k : Rd M) (h : 0 < a) : (0 : Rd M) ≤ Transc.pow a k :=
  nonneg_iff.mpr (M.pow_nonneg _ _ (pos_iff.mp h))
/-- `a` is a floating-point number: rounding leaves it as it is (`Rd.Fix` in Lemmas/C01Rnd) -/
def Repr (a : Rd M) : Prop := M.rnd a.val = a.val
theorem repr_add (a b : Rd M) : Repr (a + b) := M.rnd_idem _
theorem repr_sub (a b : Rd M) : Repr (a - b) := M.rnd_idem _

theorem eps_nonneg : (0 : Rd M) ≤ eps := nonneg_iff.mpr (rnd_nonneg (by norm_num))
theorem eps_le_one : (eps : Rd M) ≤ 1 := le_def.mpr (one_val (M := M) ▸ rnd_le_one (by norm_num))
theorem eps_le_half : (eps : Rd M).val ≤ 1 / 2 := M.rnd_half ▸ M.rnd_mono (by norm_num)

/-- `1 - w > 0` survives the rounding when `w < EPS`: `1 - w ≥ 1/2`, a floating-point number -/
theorem neg_add_one_pos {w : Rd M} (h : ¬ eps ≤ w) : (0 : Rd M) < -w + 1 := by
  have h3 := M.rnd_mono (show 1 / 2 ≤ -w.val + (1 : Rd M).val by
    rw [one_val]; linarith [eps_le_half (M := M), lt_def.mp (not_le.mp h)])
  rw [M.rnd_half] at h3
  exact pos_iff.mpr (lt_of_lt_of_le one_half_pos h3)
theorem add_one_pos {w : Rd M} (h : eps ≤ w) : (0 : Rd M) < w + 1 :=
  pos_iff.mpr (lt_of_lt_of_le one_pos (one_le_rnd (by
    rw [one_val]; exact le_add_of_nonneg_left (nonneg_iff.mp (eps_nonneg.trans h)))))

theorem absv_nonneg (a : Rd M) : (0 : Rd M) ≤ absv a := by
  unfold absv
  split_ifs with h
  · exact nonneg_iff.mpr (neg_nonneg.mpr (neg_iff.mp h).le)
  · exact not_lt.mp h
theorem le_absv (a : Rd M) : a ≤ absv a := by
  unfold absv
  split_ifs with h
  · exact h.le.trans (nonneg_iff.mpr (neg_nonneg.mpr (neg_iff.mp h).le))
  · exact le_rfl
theorem div_le_div_of_sign {n1 n2 k : Rd M} (hpos : 0 ≤ k → n1 ≤ n2) (hneg : k ≤ 0 → n2 ≤ n1) : n1 / k ≤ n2 / k :=
  (le_total 0 k).elim (fun hk => div_le_div_right' (hpos hk) hk) fun hk => div_le_div_right_of_nonpos (hneg hk) hk

theorem sign_of_pos {x : Rd M} (h : 0 < x) : sign x = 1 := if_pos h
theorem sign_of_neg {x : Rd M} (h : x < 0) : sign x = -1 := (if_neg h.not_gt).trans (if_pos h)
theorem absv_of_neg {x : Rd M} (h : x < 0) : absv x = -x := if_pos h
theorem absv_of_not_neg {x : Rd M} (h : ¬ x < 0) : absv x = x := if_neg h

theorem sign_mul_nonpos {x g : Rd M} (hx : ¬ 0 < x) (hg : 0 ≤ g) : sign x * g ≤ 0 := by
  rw [sign, if_neg hx]
  refine nonpos_iff.mpr (rnd_nonpos (mul_nonpos_of_nonpos_of_nonneg ?_ (nonneg_iff.mp hg)))
  split_ifs
  exacts [nonpos_iff.mp neg_one_nonpos, zero_val.le]

theorem sign_mul_nonneg {x g : Rd M} (hx : ¬ x < 0) (hg : 0 ≤ g) : 0 ≤ sign x * g := by
  rw [sign, if_neg hx]
  split_ifs
  exacts [mul_nonneg' one_pos'.le hg, mul_nonneg' le_rfl hg]

theorem oddExt_mono {F : Rd M → Rd M} (hF : ∀ a b, 0 ≤ a → a ≤ b → F a ≤ F b) {x1 x2 : Rd M} (h : x1 ≤ x2) :
    sign x1 * (F (absv x1) - F 0) ≤ sign x2 * (F (absv x2) - F 0) := by
  have hG : ∀ a : Rd M, 0 ≤ F (absv a) - F 0 := fun a => sub_nonneg' (hF 0 _ le_rfl (absv_nonneg a))
  rcases lt_or_ge 0 x1 with h1 | h1
  · have h2 := h1.trans_le h
    rw [sign_of_pos h1, sign_of_pos h2, absv_of_not_neg h1.not_gt, absv_of_not_neg h2.not_gt]
    exact mul_le_mul_left' (sub_le_sub' (hF x1 x2 h1.le h) le_rfl) one_pos'.le
  · rcases lt_or_ge x2 0 with h2 | h2
    · have h1' := h.trans_lt h2
      rw [sign_of_neg h1', sign_of_neg h2, absv_of_neg h1', absv_of_neg h2]
      exact mul_le_mul_left_of_nonpos
        (sub_le_sub' (hF (-x2) (-x1) (nonneg_iff.mpr (neg_nonneg.mpr (neg_iff.mp h2).le)) (neg_le_neg' h)) le_rfl)
        neg_one_nonpos
    · exact (sign_mul_nonpos h1.not_gt (hG x1)).trans (sign_mul_nonneg h2.not_gt (hG x2))

theorem lamBig_ne {lam : Rd M} (h : lamBig lam = true) : lam.val < 0 ∨ 0 < lam.val := by
  have h' : eps < absv lam := of_decide_eq_true h
  unfold absv at h'
  split_ifs at h' with hneg
  · exact Or.inl (neg_iff.mp hneg)
  · exact Or.inr (pos_iff.mp (lt_of_le_of_lt eps_nonneg h'))
end Rd

end HydroVerif.C02
