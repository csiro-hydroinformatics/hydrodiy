/-
C08 — helper lemmas for the buffer level: `cAggregate` / `cFlathomogen` are the list kernels spliced into the caller's
buffer (`cAggregate_eq`, `cFlathomogen_eq`, on every input; the Cython layer `pyxAggregate`, `pyxFlathomogen` and the
wrappers `aggregateWB`, `flathomogenWB` are read through these two in `Props/C08.lean`).
The error-keeping loops `loopB` / `hloopB` are `loop` / `hloop` once the state kept with an error is forgotten.
Also the two facts the history theorems share: `histRun_append`, `histStep_args`.
-/
import HydroVerif.Lemmas.C08

namespace HydroVerif.C08

section buf
variable {α : Type} [Add α] [Div α] [LT α] [DecidableLT α] [OfNat α 0] [NatCast α]

theorem loopB_loop (op maxnan : Int) (nval : Nat) :
    ∀ (l : List (Int × Option α)) (s : St α),
      loop op maxnan nval s l = (loopB op maxnan nval s l).mapError Prod.fst
  | [], s => rfl
  | (ia, x) :: rest, s => by
    simp only [loop, loopB, step, stepB]
    split_ifs
    · rfl
    · rfl
    · exact loopB_loop op maxnan nval rest _
    · exact loopB_loop op maxnan nval rest _

theorem hloopB_hloop (maxnan : Int) :
    ∀ (l : List (Int × Option α)) (s : HSt α), hloop maxnan s l = (hloopB maxnan s l).mapError Prod.fst
  | [], s => rfl
  | (ia, x) :: rest, s => by
    simp only [hloop, hloopB, hstep, hstepB]
    split_ifs
    · rfl
    · exact hloopB_hloop maxnan rest _
    · exact hloopB_hloop maxnan rest _

theorem cAggregate_eq (op maxnan : Int) (l : List (Int × Option α)) (buf : List (Option α)) (i0 : Int) :
    match aggregate op maxnan l with
    | .ok out => cAggregate op maxnan l buf i0 =
        { ierr := none, outputs := out ++ buf.drop out.length, iend := (out.length : Int) }
    | .error e => (cAggregate op maxnan l buf i0).ierr = some e ∧ (cAggregate op maxnan l buf i0).iend = i0 ∧
        ∃ w, (cAggregate op maxnan l buf i0).outputs = w ++ buf.drop w.length := by
  cases l with
  | nil => exact ⟨rfl, rfl, [], rfl⟩
  | cons p rest =>
    simp only [aggregate, cAggregate, loopB_loop]
    cases loopB op maxnan (p :: rest).length ({ prev := p.1, acc := Acc.init, out := [] } : St α) (p :: rest) with
    | ok s' => rfl
    | error es => exact ⟨rfl, rfl, _, by rw [List.length_reverse]⟩

theorem cFlathomogen_eq (maxnan : Int) (l : List (Int × Option α)) (buf : List (Option α)) :
    match flathomogen maxnan l with
    | .ok out => cFlathomogen maxnan l buf = (none, out ++ buf.drop out.length)
    | .error e => (cFlathomogen maxnan l buf).1 = some e ∧
        ∃ w, (cFlathomogen maxnan l buf).2 = w ++ buf.drop w.length := by
  cases l with
  | nil => exact ⟨rfl, [], rfl⟩
  | cons p rest =>
    simp only [flathomogen, cFlathomogen, hloopB_hloop]
    cases hloopB maxnan ({ prev := p.1, acc := Acc.init, grp := [], out := [] } : HSt α) (p :: rest) with
    | ok s' => rfl
    | error es => exact ⟨rfl, _, by rw [List.length_reverse]⟩



theorem histRun_append (s : Hist α) (a b : List (HOp α)) :
    histRun s (a ++ b) = ((histRun (histRun s a).1 b).1, (histRun s a).2 ++ (histRun (histRun s a).1 b).2) := by
  induction a generalizing s with
  | nil => simp [histRun]
  | cons o rest ih =>
    simp only [List.cons_append, histRun, ih]
    cases (histStep s o).2 <;> simp

theorem histStep_args (s : Hist α) (o : HOp α) :
    (histStep s o).1.idx = (match o with | .setIdx i k => s.idx.set i k | _ => s.idx) ∧
    (histStep s o).1.vals = (match o with | .setVal i v => s.vals.set i v | _ => s.vals) := by
  cases o with
  | setVal i v => exact ⟨rfl, rfl⟩
  | setIdx i k => exact ⟨rfl, rfl⟩
  | scribble r v => exact ⟨rfl, rfl⟩
  | callAgg op maxnan =>
    simp only [histStep]
    cases aggregateW op maxnan s.idx s.vals <;> exact ⟨rfl, rfl⟩
  | callHomog maxnan =>
    simp only [histStep]
    cases flathomogenW maxnan s.idx s.vals <;> exact ⟨rfl, rfl⟩

end buf

end HydroVerif.C08
