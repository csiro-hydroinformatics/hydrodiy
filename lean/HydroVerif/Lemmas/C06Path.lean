/-
C06 — the flow-path walk of `c_delineate_flowpathlengths_in_catchment` (`fpLoop`, `flowPathWith`) read along the
downstream chain: the walk makes the iterations that go on (`GoesOn`) and ends at the first one that does not,
or is cut when every iteration it was given goes on.
-/
import HydroVerif.Lemmas.C06

namespace HydroVerif.C06
open HydroVerif.C07

variable {codes : List Int} {g : FlowGrid} {outlet : Int}

theorem goesOn_chainCell {c : Int} {i : Nat} :
    GoesOn codes g outlet (chainCell codes g i c) 0 ↔ GoesOn codes g outlet c i := by
  unfold GoesOn
  rw [chainCell_succ i]
  exact Iff.rfl

variable (diag : Int → Int → Bool)

theorem fpLoop_step (rem ip : Nat) (up dn : Int) (st : List Bool)
    (h : GoesOn codes g outlet up 0) :
    fpLoop codes g outlet diag (rem + 1) ⟨ip, up, dn, st⟩ = fpLoop codes g outlet diag rem
      ⟨ip + 1, downstreamCell codes g up, downstreamCell codes g up, st ++ [diag up (downstreamCell codes g up)]⟩ := by
  obtain ⟨hv, h0, hne⟩ := h
  have hv' : validCell g.nrows g.ncols up = true := hv
  rw [fpLoop, downstream_of_valid hv']
  exact (if_neg (not_lt.2 h0)).trans (if_neg hne)

theorem fpLoop_stop (rem ip : Nat) (up dn : Int) (st : List Bool)
    (hv : validCell g.nrows g.ncols up = true) (h : ¬ GoesOn codes g outlet up 0) :
    fpLoop codes g outlet diag (rem + 1) ⟨ip, up, dn, st⟩ = ⟨ip, up, downstreamCell codes g up, st⟩ := by
  rw [fpLoop, downstream_of_valid hv]
  by_cases hneg : downstreamCell codes g up < 0
  · exact if_pos hneg
  · exact (if_neg hneg).trans (if_pos (by_contra fun ho => h ⟨hv, not_lt.1 hneg, ho⟩))

/-- The states are spelled out field by field, and the last steps are `congrArg _ rfl`, not `rfl`: asked whether two
applications of `fpLoop` without metavariables are equal, the unifier does not compare their arguments first but
unfolds the recursion on both sides, which is very slow to check. -/
theorem fpLoop_run : ∀ (n rem ip : Nat) (up dn : Int) (st : List Bool),
    (∀ i, i ≤ n → GoesOn codes g outlet up i) →
    fpLoop codes g outlet diag (rem + (n + 1)) ⟨ip, up, dn, st⟩ = fpLoop codes g outlet diag rem
      ⟨ip + (n + 1), chainCell codes g (n + 1) up, chainCell codes g (n + 1) up,
        st ++ chainSteps codes g diag (n + 1) up⟩
  | 0, rem, ip, up, dn, st, h => by
    rw [fpLoop_step diag rem ip up dn st (h 0 (le_refl 0))]
    exact congrArg _ rfl
  | n + 1, rem, ip, up, dn, st, h => by
    rw [← Nat.add_assoc, fpLoop_step diag _ ip up dn st (h 0 (Nat.zero_le _)),
      fpLoop_run n rem _ _ _ _ fun i hi => h (i + 1) (Nat.succ_le_succ hi),
      Nat.add_assoc ip, Nat.add_comm 1, List.append_assoc]
    exact congrArg _ rfl

theorem fpLoop_stop_at {j : Nat} (rem ip : Nat) {up : Int} (dn : Int) (st : List Bool)
    (hgo : ∀ i, i < j → GoesOn codes g outlet up i)
    (hv : validCell g.nrows g.ncols (chainCell codes g j up) = true) (hno : ¬ GoesOn codes g outlet up j) :
    fpLoop codes g outlet diag (rem + 1 + j) ⟨ip, up, dn, st⟩ =
      ⟨ip + j, chainCell codes g j up, chainCell codes g (j + 1) up, st ++ chainSteps codes g diag j up⟩ := by
  cases j with
  | zero =>
    simp only [Nat.add_zero, chainCell, chainSteps, List.append_nil]
    exact fpLoop_stop diag rem ip up dn st hv hno
  | succ n =>
    rw [fpLoop_run diag n (rem + 1) ip up dn st fun i hi => hgo i (Nat.lt_succ_of_le hi),
      fpLoop_stop diag rem _ _ _ _ hv (mt goesOn_chainCell.1 hno), chainCell_succ (n + 1)]

theorem fpLoop_invalid (rem : Nat) (s : FpState)
    (hv : validCell g.nrows g.ncols s.up = false) : fpLoop codes g outlet diag rem s = s := by
  cases rem with
  | zero => rfl
  | succ rem =>
    have hds : downstream codes g s.up = .error .badCell := if_neg (hv ▸ Bool.false_ne_true)
    rw [fpLoop, hds]

/-- **the row of a walk that ends at iteration `j < nval`**, the first that does not go on: the end cell is where
the cell it stands on drains (the outlet, or an exit code); nothing is added up for an exit code; and the last step
is added only if `j` was not the very last iteration the walk had (`ipath + 1 < nval`) -/
theorem flowPathWith_stop {start : Int} {j nval : Nat} (hj : j < nval)
    (hgo : ∀ i, i < j → GoesOn codes g outlet start i)
    (hv : validCell g.nrows g.ncols (chainCell codes g j start) = true) (hno : ¬ GoesOn codes g outlet start j) :
    flowPathWith codes g outlet diag nval start =
      (chainCell codes g (j + 1) start,
        if chainCell codes g (j + 1) start < 0 then []
        else if j + 1 < nval then chainSteps codes g diag (j + 1) start else chainSteps codes g diag j start) := by
  obtain ⟨rem, rfl⟩ : ∃ rem, nval = rem + 1 + j := ⟨nval - (j + 1), by omega⟩
  unfold flowPathWith
  rw [fpLoop_stop_at diag rem 0 (-1) [] hgo hv hno]
  simp only [Nat.zero_add, List.nil_append, ← chainSteps_succ_last]
  by_cases hneg : chainCell codes g (j + 1) start < 0
  · rw [if_pos hneg, if_pos hneg]
  · simp only [if_neg hneg, and_iff_left (not_lt.1 hneg)]

/-- a start cell off the grid (`c_downstream` refuses it): end cell `-1`, nothing added -/
theorem flowPathWith_invalid (start : Int) (nval : Nat)
    (hv : validCell g.nrows g.ncols start = false) :
    flowPathWith codes g outlet diag nval start = (-1, []) := by
  unfold flowPathWith
  rw [fpLoop_invalid diag nval ⟨0, start, -1, []⟩ hv]
  exact congrArg (Prod.mk (-1)) (if_pos (show (-1 : Int) < 0 by decide))

theorem fpLoop_capped {start : Int} : ∀ {nval : Nat}, 1 ≤ nval →
    (∀ i, i < nval → GoesOn codes g outlet start i) →
    fpLoop codes g outlet diag nval ⟨0, start, -1, []⟩ =
      ⟨nval, chainCell codes g nval start, chainCell codes g nval start, chainSteps codes g diag nval start⟩
  | n + 1, _, hgo => by
    have h := fpLoop_run diag n 0 0 start (-1) [] fun i hi => hgo i (Nat.lt_succ_of_le hi)
    rw [Nat.zero_add, List.nil_append] at h
    exact h

theorem flowPathWith_capped {start : Int} {nval : Nat}
    (h1 : 1 ≤ nval) (hgo : ∀ i, i < nval → GoesOn codes g outlet start i) :
    flowPathWith codes g outlet diag nval start =
      (chainCell codes g nval start, chainSteps codes g diag nval start) := by
  obtain ⟨n, rfl⟩ : ∃ n, nval = n + 1 := ⟨nval - 1, by omega⟩
  have h0 : ¬ chainCell codes g (n + 1) start < 0 := not_lt.2 (hgo n (Nat.lt_succ_self n)).2.1
  unfold flowPathWith
  rw [fpLoop_capped diag h1 hgo]
  simp only [Nat.not_succ_lt_self, false_and, if_false, h0]

theorem reaches_of_goesOn {c : Int} {j : Nat} (h : ∀ i, i < j → GoesOn codes g outlet c i) :
    Reaches codes g [] j c (chainCell codes g j c) :=
  reaches_iff.2 ⟨fun i hi => ⟨(h i hi).1, List.not_mem_nil, (h i hi).2.1⟩, rfl⟩

/-- **a chain that first meets the outlet after `k + 1 ≤ nval` steps** is reported with the outlet as end cell and
its `k + 1` steps — except when `k + 1 = nval`: the walk then ends at its very last iteration and the last step is
NOT added (`ipath + 1 < nval` fails) -/
theorem flowPathWith_first_hit {start : Int} {k nval : Nat}
    (hw : Reaches codes g [] (k + 1) start outlet)
    (hfirst : ∀ j, 1 ≤ j → j ≤ k → ¬ Reaches codes g [] j start outlet) (hk : k < nval) :
    flowPathWith codes g outlet diag nval start =
      (outlet, if k + 1 < nval then chainSteps codes g diag (k + 1) start else chainSteps codes g diag k start) := by
  obtain ⟨hP, e⟩ := reaches_iff.1 hw
  have hgo : ∀ i, i < k → GoesOn codes g outlet start i := fun i hi =>
    ⟨(hP i (Nat.lt_succ_of_lt hi)).1, (hP i (Nat.lt_succ_of_lt hi)).2.2, fun he =>
      hfirst (i + 1) (Nat.le_add_left 1 i) hi
        (reaches_iff.2 ⟨fun i' hi' => hP i' (Nat.lt_of_lt_of_le hi' (Nat.succ_le_succ hi.le)), he⟩)⟩
  rw [flowPathWith_stop diag hk hgo (hP k (Nat.lt_succ_self k)).1 fun h => h.2.2 e, e,
    if_neg (not_lt.2 (e ▸ (hP k (Nat.lt_succ_self k)).2.2))]

theorem flowPathWith_exit {start x : Int} {j nval : Nat}
    (hr : Reaches codes g [] j start x) (hv : validCell g.nrows g.ncols x = true)
    (hno : ∀ i, 1 ≤ i → i ≤ j → chainCell codes g i start ≠ outlet)
    (hneg : downstreamCell codes g x < 0) (hj : j < nval) :
    flowPathWith codes g outlet diag nval start = (downstreamCell codes g x, []) := by
  obtain ⟨hP, rfl⟩ := reaches_iff.1 hr
  rw [← chainCell_succ] at hneg
  rw [flowPathWith_stop diag hj (fun i hi => ⟨(hP i hi).1, (hP i hi).2.2, hno (i + 1) (Nat.le_add_left 1 i) hi⟩) hv
    fun h => absurd h.2.1 (not_le.2 hneg), if_pos hneg, chainCell_succ]

theorem goesOn_or_first_stop {start : Int} (hv : validCell g.nrows g.ncols start = true) :
    ∀ nval : Nat, (∀ i, i < nval → GoesOn codes g outlet start i) ∨
      ∃ j, j < nval ∧ (∀ i, i < j → GoesOn codes g outlet start i) ∧
        validCell g.nrows g.ncols (chainCell codes g j start) = true ∧ ¬ GoesOn codes g outlet start j
  | 0 => Or.inl fun i hi => absurd hi (Nat.not_lt_zero i)
  | n + 1 => by
    rcases goesOn_or_first_stop hv n with hall | ⟨j, hj, h⟩
    · by_cases hn : GoesOn codes g outlet start n
      · exact Or.inl fun i hi => (Nat.lt_succ_iff_lt_or_eq.1 hi).elim (hall i) fun e => e ▸ hn
      · refine Or.inr ⟨n, Nat.lt_succ_self n, hall, ?_, hn⟩
        cases n with
        | zero => exact hv
        | succ m => exact chainCell_succ_valid (hall m (Nat.lt_succ_self m)).2.1
    · exact Or.inr ⟨j, Nat.lt_succ_of_lt hj, h⟩

theorem flowPathCapped_iff_goesOn {start : Int} {nval : Nat} (h1 : 1 ≤ nval)
    (hv : validCell g.nrows g.ncols start = true) :
    flowPathCapped codes g outlet nval start = true ↔ ∀ i, i < nval → GoesOn codes g outlet start i := by
  unfold flowPathCapped
  rw [beq_iff_eq]
  refine ⟨fun hip => ?_, fun hgo => by rw [fpLoop_capped _ h1 hgo]⟩
  rcases goesOn_or_first_stop hv nval with hall | ⟨j, hj, hgo, hvj, hno⟩
  · exact hall
  · obtain ⟨rem, rfl⟩ : ∃ rem, nval = rem + 1 + j := ⟨nval - (j + 1), by omega⟩
    rw [fpLoop_stop_at _ rem 0 (-1) [] hgo hvj hno] at hip
    exact absurd hip (by simp only; omega)

/-- the three rows a walk can report (`flowPathWith_invalid`, `_capped`, `_stop`) add up at most `nval` steps -/
theorem flowPathWith_bound (nval : Nat) (start : Int) :
    (flowPathWith codes g outlet diag nval start).2.length ≤ nval := by
  cases hv : validCell g.nrows g.ncols start with
  | false => rw [flowPathWith_invalid diag start nval hv]; exact Nat.zero_le _
  | true =>
    rcases goesOn_or_first_stop (outlet := outlet) hv nval with hgo | ⟨j, hj, hgo, hvj, hno⟩
    · cases nval with
      | zero => exact Nat.le_of_eq (by unfold flowPathWith fpLoop; rfl)
      | succ n => rw [flowPathWith_capped diag n.succ_pos hgo, chainSteps_length]
    · rw [flowPathWith_stop diag hj hgo hvj hno]
      split
      · exact Nat.zero_le _
      · split
        · rw [chainSteps_length]; exact hj
        · rw [chainSteps_length]; exact hj.le

end HydroVerif.C06
