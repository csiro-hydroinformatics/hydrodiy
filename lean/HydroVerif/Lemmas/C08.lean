/-
C08 — helper definitions and lemmas (not property statements).
Runs of equal index and their description by `keys` / `groupOf` on a non-decreasing index; the loop invariants of the
two kernels (kernel = one fold per run, for every operator, over any carrier) and each kernel as one equation on
every input (`aggregate_eq`, `flathomogen_eq` through `onSorted`); what the fold leaves in the
accumulator (`accOf_eq`, no arithmetic law) and where the one law `x + 0 = x` enters (`sumL_fill_zero`); the
specification in textbook vocabulary (`maxOf` is an entry that bounds every entry, by the shared `Lemmas/Extrema.lean`,
hence `List.maximum`, over any linear order; `sumL` is `List.sum` over an ordered field: `red_eq`, `cell_eq`); calendar
and monthly2daily helpers.  In front: the int32 cast of the wrappers (`wrap32_of_inInt32`), the `AS-MMM` index as a
case distinction (`aggIndexRaw_ASm`), `computeAggindex_ok`.
-/
import HydroVerif.Model.C08Spec
import HydroVerif.Lemmas.Extrema
import Mathlib.Algebra.Order.Field.Basic
import Mathlib.Algebra.BigOperators.Group.List.Basic
import Mathlib.Data.List.MinMax
import Mathlib.Tactic.Ring

namespace HydroVerif.C08

theorem wrap32_of_inInt32 {i : Int} (h : inInt32 i = true) : wrap32 i = i := by
  simp only [inInt32, Bool.and_eq_true, decide_eq_true_eq] at h
  unfold wrap32
  omega

theorem map_wrap32_of_inInt32 {idx : List Int} (h : ∀ i ∈ idx, inInt32 i = true) : idx.map wrap32 = idx :=
  (List.map_congr_left (g := id) fun i hi => wrap32_of_inInt32 (h i hi)).trans (List.map_id idx)

theorem zip_ne_nil {β γ : Type} {a : List β} {b : List γ} (h : a.length = b.length) (ha : a ≠ []) : a.zip b ≠ [] := by
  rw [← List.length_pos_iff, List.length_zip, ← h, Nat.min_self]
  exact List.length_pos_iff.mpr ha

theorem aggIndexRaw_ASm (e : Nat) (he12 : e ≤ 12) (t : Stamp) (h1 : 1 ≤ t.m) (h12 : t.m ≤ 12) :
    aggIndexRaw (.ASm e) t = if t.m ≤ e then t.y - 1 else t.y := by
  simp only [aggIndexRaw]
  split
  · rw [Nat.div_eq_of_lt (by omega)]; omega
  · rw [show (t.m - 1 + (12 - e)) / 12 = 1 by omega]; omega

theorem computeAggindex_ok {timestep : List Char} {ts : List Stamp} {idx : List Int}
    (h : computeAggindex timestep ts = .ok idx) :
    ∃ st, parseStep timestep = .ok st ∧ idx = ts.map (aggIndex st) := by
  unfold computeAggindex at h
  split at h
  · cases h
  · cases h
    exact ⟨_, ‹_›, rfl⟩

/-- maximal runs of equal index with their key, in order; `cur` is the run in progress -/
def groupsGo {β : Type} (k : Int) (cur : List β) : List (Int × β) → List (Int × List β)
  | [] => [(k, cur)]
  | (i, x) :: rest => if i = k then groupsGo k (cur ++ [x]) rest else (k, cur) :: groupsGo i [x] rest

def groups {β : Type} : List (Int × β) → List (Int × List β)
  | [] => []
  | (i, x) :: rest => groupsGo i [x] rest

theorem groupOf_cons_eq {β : Type} (k : Int) (x : β) (l : List (Int × β)) :
    groupOf ((k, x) :: l) k = x :: groupOf l k := by
  simp [groupOf]

theorem groupOf_cons_ne {β : Type} {i k : Int} (h : i ≠ k) (x : β) (l : List (Int × β)) :
    groupOf ((i, x) :: l) k = groupOf l k := by
  simp [groupOf, h]

theorem groupOf_eq_nil_of_lt {β : Type} {k : Int} (l : List (Int × β)) (h : ∀ p ∈ l, k < p.1) :
    groupOf l k = [] := by
  unfold groupOf
  rw [List.map_eq_nil_iff, List.filter_eq_nil_iff]
  intro p hp
  have := h p hp
  simp
  omega

theorem map_groupOf_cons {β : Type} (i : Int) (x : β) (l : List (Int × β)) (xs : List Int) :
    ((xs.filter fun j => !j == i).eraseDups).map (fun k => (k, groupOf ((i, x) :: l) k)) =
      ((xs.filter fun j => !j == i).eraseDups).map fun k => (k, groupOf l k) :=
  List.map_congr_left fun k hk => by
    rw [groupOf_cons_ne]
    rintro rfl
    simp at hk

/-- on a non-decreasing index the maximal runs ARE the `filter` groups of the `eraseDups` keys: the run in progress is
`cur` followed by the rest of its group, the later runs are the groups of the later keys.  (The list of later keys is
written as `List.eraseDups_cons` leaves it: the index column with `k` filtered out, then `eraseDups`.) -/
theorem groupsGo_eq {β : Type} : ∀ (l : List (Int × β)) (k : Int) (cur : List β),
    (k :: l.map Prod.fst).Pairwise (· ≤ ·) →
    groupsGo k cur l = (k, cur ++ groupOf l k) ::
      (((l.map Prod.fst).filter fun j => !j == k).eraseDups).map fun k' => (k', groupOf l k')
  | [], k, cur, _ => by simp [groupsGo, groupOf]
  | (i, x) :: rest, k, cur, h => by
    obtain ⟨hk, hr⟩ := List.pairwise_cons.mp h
    by_cases hik : i = k
    · subst hik
      rw [groupsGo, if_pos rfl, groupsGo_eq rest i _ hr, groupOf_cons_eq, List.map_cons,
        List.filter_cons_of_neg (by simp), map_groupOf_cons, List.append_assoc, List.singleton_append]
    · -- a new run: everything from here on lies above `k`
      have hi : ∀ a ∈ i :: rest.map Prod.fst, i ≤ a := List.forall_mem_cons.mpr ⟨le_rfl, (List.pairwise_cons.mp hr).1⟩
      have hgt : ∀ p ∈ (i, x) :: rest, k < p.1 := fun p hp =>
        lt_of_lt_of_le (lt_of_le_of_ne (hk i (List.mem_cons_self ..)) (Ne.symm hik)) (hi p.1 (List.mem_map_of_mem hp))
      have hfil : ((((i, x) :: rest).map Prod.fst).filter fun j => !j == k) = i :: rest.map Prod.fst :=
        List.filter_eq_self.mpr fun j hj => by
          obtain ⟨p, hp, rfl⟩ := List.mem_map.mp hj
          simpa using (hgt p hp).ne'
      rw [groupsGo, if_neg hik, groupsGo_eq rest i _ hr, groupOf_eq_nil_of_lt _ hgt, hfil, List.eraseDups_cons,
        List.map_cons, groupOf_cons_eq, map_groupOf_cons, List.append_nil, List.singleton_append]

theorem groups_eq {β : Type} (l : List (Int × β)) (h : (l.map Prod.fst).Pairwise (· ≤ ·)) :
    groups l = (keys l).map fun k => (k, groupOf l k) := by
  cases l with
  | nil => rfl
  | cons p rest =>
    rw [groups, groupsGo_eq rest p.1 _ h, keys, List.map_cons,
      List.eraseDups_cons, List.map_cons, groupOf_cons_eq, map_groupOf_cons, List.singleton_append]

theorem groupsGo_keyed {β : Type} : ∀ (l : List (Int × β)) (k : Int) (cur : List β),
    (groupsGo k cur l).flatMap (fun g => g.2.map fun x => (g.1, x)) = cur.map (fun x => (k, x)) ++ l
  | [], k, cur => by simp [groupsGo]
  | (i, x) :: rest, k, cur => by
    rw [groupsGo]
    split
    · rename_i h; subst h
      rw [groupsGo_keyed rest i (cur ++ [x])]; simp
    · rw [List.flatMap_cons, groupsGo_keyed rest i [x]]; simp

theorem keyed_groups {β : Type} (l : List (Int × β)) (hs : (l.map Prod.fst).Pairwise (· ≤ ·)) :
    (keys l).flatMap (fun k => (groupOf l k).map fun x => (k, x)) = l := by
  have : (groups l).flatMap (fun g => g.2.map fun x => (g.1, x)) = l := by
    cases l with
    | nil => rfl
    | cons p rest => simp [groups, groupsGo_keyed]
  rwa [groups_eq l hs, List.flatMap_map] at this

/-- what both kernels do with the index column: the empty input and a decrease are rejected, anything else is answered -/
def onSorted {β γ : Type} (f : List (Int × β) → γ) (l : List (Int × β)) : Except Err γ :=
  if l.isEmpty then .error .emptyInput
  else if (l.map Prod.fst).Pairwise (· ≤ ·) then .ok (f l) else .error .decreasingIndex

theorem onSorted_ok {β γ : Type} (f : List (Int × β) → γ) {l : List (Int × β)} (hne : l ≠ [])
    (hs : (l.map Prod.fst).Pairwise (· ≤ ·)) : onSorted f l = .ok (f l) := by
  rw [onSorted, if_neg (by simpa using hne), if_pos hs]

theorem onSorted_err {β γ : Type} (f : List (Int × β) → γ) {l : List (Int × β)} (hne : l ≠ [])
    (hs : ¬ (l.map Prod.fst).Pairwise (· ≤ ·)) : onSorted f l = .error .decreasingIndex := by
  rw [onSorted, if_neg (by simpa using hne), if_neg hs]

theorem onSorted_ok_iff {β γ : Type} (f : List (Int × β) → γ) {l : List (Int × β)} (hne : l ≠ []) :
    (∃ out, onSorted f l = .ok out) ↔ (l.map Prod.fst).Pairwise (· ≤ ·) := by
  by_cases hs : (l.map Prod.fst).Pairwise (· ≤ ·)
  · rw [onSorted_ok f hne hs]; exact iff_of_true ⟨_, rfl⟩ hs
  · rw [onSorted_err f hne hs]; exact iff_of_false (fun ⟨_, h⟩ => nomatch h) hs

section
variable {α : Type} [Div α] [NatCast α]

theorem hflush_reverse (maxnan : Int) (a : Acc α) (g : List (Option α)) :
    (hflush maxnan a g.reverse).reverse = hflush maxnan a g := by
  simp [hflush, List.map_reverse]

end

section loopinv
variable {α : Type}

theorem vals_concat (g : List (Option α)) (x : Option α) : vals (g ++ [x]) = vals g ++ x.toList := by
  cases x <;> simp [vals, List.filterMap_append]

theorem nmiss_concat (g : List (Option α)) (x : Option α) :
    nmiss (g ++ [x]) = nmiss g + (if x.isNone then 1 else 0) := by
  cases x <;> simp [nmiss, List.countP_append]

variable [Add α] [OfNat α 0]

theorem sumL_concat (v : List α) (a : α) : sumL (v ++ [a]) = sumL v + a :=
  List.foldl_concat ..

/-- the one law the sum and the mean need: the `+ 0` of a missing value is invisible -/
theorem sumL_fill_zero (h0 : ∀ x : α, x + 0 = x) (g : List (Option α)) :
    sumL (g.map (·.getD 0)) = sumL (vals g) := by
  induction g using List.reverseRecOn with
  | nil => rfl
  | append_singleton g x ih =>
    rw [List.map_append, List.map_singleton, sumL_concat, ih, vals_concat]
    cases x with
    | none => simp [h0]
    | some v => exact (sumL_concat ..).symm

variable [LT α] [DecidableLT α]

theorem accOf_concat (op : Int) (g : List (Option α)) (x : Option α) :
    accOf op (g ++ [x]) = accStep op (accOf op g) x := by
  simp [accOf, List.foldl_append]

theorem maxOf_concat {γ : Type} [LT γ] [DecidableLT γ] [OfNat γ 0] {v : List γ} (hv : v ≠ []) (a : γ) :
    maxOf (v ++ [a]) = if maxOf v < a then a else maxOf v := by
  cases v with
  | nil => exact absurd rfl hv
  | cons b t => exact List.foldl_concat ..


/-- no arithmetic law is used: a missing value enters the sum as `+ 0`, exactly as the kernel adds it -/
theorem accOf_eq (op : Int) (g : List (Option α)) : accOf op g =
    { agg := if op ≤ 1 then sumL (g.map (·.getD 0)) else if op = 2 then maxOf (vals g)
        else if op = 3 then (vals g).getLast?.getD 0 else 0,
      nagg := (vals g).length, nnan := nmiss g } := by
  induction g using List.reverseRecOn with
  | nil => simp [accOf, Acc.init, vals, nmiss, sumL, maxOf]
  | append_singleton g x ih =>
    rw [accOf_concat, ih, vals_concat, nmiss_concat, List.map_append, List.map_singleton, sumL_concat]
    cases x with
    | none => by_cases h1 : op ≤ 1 <;> simp [accStep, h1]
    | some v =>
      by_cases h1 : op ≤ 1
      · simp [accStep, h1]
      by_cases h2 : op = 2
      · by_cases hv : vals g = []
        · simp [accStep, h2, hv, maxOf]
        · simp [accStep, h2, maxOf_concat hv, hv]
      by_cases h3 : op = 3 <;> simp [accStep, h1, h2, h3]

variable [Div α] [NatCast α]

theorem step_same (op maxnan : Int) (nval : Nat) (s : St α) (x : Option α) :
    step op maxnan nval s s.prev x = .ok { s with acc := accStep op s.acc x } := by
  simp [step]

theorem step_new (op maxnan : Int) (nval : Nat) {s : St α} {i : Int} (x : Option α) (hlt : s.prev < i)
    (hcap : s.out.length + 1 < nval) :
    step op maxnan nval s i x =
      .ok { prev := i, acc := accStep op Acc.init x, out := flush op maxnan s.acc :: s.out } := by
  simp [step, hlt.not_gt, hlt.ne', Nat.not_le.mpr hcap]

theorem step_decr (op maxnan : Int) (nval : Nat) {s : St α} {i : Int} (x : Option α) (hlt : i < s.prev) :
    step op maxnan nval s i x = .error .decreasingIndex := by
  simp [step, hlt]

/-- `cur` is the part of the current run already folded into `s.acc`; the capacity hypothesis is what keeps the
kernel's `count >= nval` guard from firing.  The kernel tests every index against its predecessor, hence `IsChain`;
`aggregate_eq` turns it into `Pairwise`. -/
theorem loop_eq (op maxnan : Int) (nval : Nat) :
    ∀ (l : List (Int × Option α)) (s : St α) (cur : List (Option α)),
      s.acc = accOf op cur → s.out.length + l.length < nval →
      (loop op maxnan nval s l).map (fun s' => (flush op maxnan s'.acc :: s'.out).reverse) =
        if (s.prev :: l.map Prod.fst).IsChain (· ≤ ·) then
          .ok (s.out.reverse ++ (groupsGo s.prev cur l).map fun g => flush op maxnan (accOf op g.2))
        else .error .decreasingIndex
  | [], s, cur, hacc, _ => by simp [loop, Except.map, groupsGo, hacc]
  | (i, x) :: rest, s, cur, hacc, hlen => by
    rw [List.length_cons] at hlen
    rcases lt_trichotomy i s.prev with hlt | rfl | hgt
    · simp [loop, step_decr op maxnan nval x hlt, Except.map, not_le.mpr hlt]
    · have ih := loop_eq op maxnan nval rest { s with acc := accStep op s.acc x } (cur ++ [x])
        (by rw [accOf_concat, ← hacc]) (by show s.out.length + rest.length < nval; omega)
      simp only [loop, step_same, ih]
      simp [groupsGo]
    · have ih := loop_eq op maxnan nval rest
        { prev := i, acc := accStep op Acc.init x, out := flush op maxnan s.acc :: s.out } [x] rfl
        (by show s.out.length + 1 + rest.length < nval; omega)
      simp only [loop, step_new op maxnan nval x hgt (by omega), ih]
      simp [groupsGo, hgt.le, hgt.ne', hacc]

/-- the first element is folded: the loop runs over `rest` from the accumulator that holds `p.2` -/
theorem aggregate_cons (op maxnan : Int) (p : Int × Option α) (rest : List (Int × Option α)) :
    aggregate op maxnan (p :: rest) =
      (loop op maxnan (rest.length + 1) { prev := p.1, acc := accStep op Acc.init p.2, out := [] } rest).map
        fun s => (flush op maxnan s.acc :: s.out).reverse := by
  obtain ⟨i, x⟩ := p
  have hstep : step op maxnan (rest.length + 1) ({ prev := i, acc := Acc.init, out := [] } : St α) i x =
      .ok { prev := i, acc := accStep op Acc.init x, out := [] } := by simp [step]
  simp only [aggregate, List.length_cons, loop, hstep]
  cases loop op maxnan (rest.length + 1) ({ prev := i, acc := accStep op Acc.init x, out := [] } : St α) rest <;> rfl

/-- `c_aggregate` on every input: every operator code, every `maxnan`, any carrier -/
theorem aggregate_eq (op maxnan : Int) (l : List (Int × Option α)) :
    aggregate op maxnan l = onSorted (aggregatePerGroup op maxnan) l := by
  cases l with
  | nil => rfl
  | cons p rest =>
    rw [aggregate_cons, loop_eq op maxnan _ rest { prev := p.1, acc := accStep op Acc.init p.2, out := [] } [p.2] rfl
      (by simp), onSorted, List.isEmpty_cons, if_neg Bool.false_ne_true]
    have hc := List.isChain_iff_pairwise (R := (· ≤ ·)) (l := p.1 :: rest.map Prod.fst)
    by_cases hs : ((p :: rest).map Prod.fst).Pairwise (· ≤ ·)
    · rw [if_pos (hc.mpr hs), if_pos hs,
        show groupsGo p.1 [p.2] rest = groups (p :: rest) from rfl, groups_eq _ hs, List.map_map]
      rfl
    · rw [if_neg (mt hc.mp hs), if_neg hs]

/-- `f := reduce op maxnan` gives `aggregateSpec` -/
theorem aggregate_eq_map (op maxnan : Int) (f : List (Option α) → Option α)
    (hf : ∀ g, flush op maxnan (accOf op g) = f g) (l : List (Int × Option α)) (hne : l ≠ [])
    (hs : (l.map Prod.fst).Pairwise (· ≤ ·)) :
    aggregate op maxnan l = .ok ((keys l).map fun k => f (groupOf l k)) := by
  simp only [aggregate_eq, onSorted_ok _ hne hs, aggregatePerGroup, hf]

theorem hstep_same (maxnan : Int) (s : HSt α) (x : Option α) :
    hstep maxnan s s.prev x = .ok { s with acc := accStep 0 s.acc x, grp := x :: s.grp } := by
  simp [hstep]

theorem hstep_new (maxnan : Int) {s : HSt α} {i : Int} (x : Option α) (hlt : s.prev < i) :
    hstep maxnan s i x =
      .ok { prev := i, acc := accStep 0 Acc.init x, grp := [x], out := hflush maxnan s.acc s.grp ++ s.out } := by
  simp [hstep, hlt.not_gt, hlt.ne']

theorem hstep_decr (maxnan : Int) {s : HSt α} {i : Int} (x : Option α) (hlt : i < s.prev) :
    hstep maxnan s i x = .error .decreasingIndex := by
  simp [hstep, hlt]

theorem hloop_eq (maxnan : Int) :
    ∀ (l : List (Int × Option α)) (s : HSt α) (cur : List (Option α)),
      s.acc = accOf 0 cur → s.grp = cur.reverse →
      (hloop maxnan s l).map (fun s' => (hflush maxnan s'.acc s'.grp ++ s'.out).reverse) =
        if (s.prev :: l.map Prod.fst).IsChain (· ≤ ·) then
          .ok (s.out.reverse ++ (groupsGo s.prev cur l).flatMap fun g => hcells maxnan g.2)
        else .error .decreasingIndex
  | [], s, cur, hacc, hgrp => by
    simp [hloop, Except.map, groupsGo, hcells, hgrp, hacc, hflush_reverse]
  | (i, x) :: rest, s, cur, hacc, hgrp => by
    rcases lt_trichotomy i s.prev with hlt | rfl | hgt
    · simp [hloop, hstep_decr maxnan x hlt, Except.map, not_le.mpr hlt]
    · have ih := hloop_eq maxnan rest { s with acc := accStep 0 s.acc x, grp := x :: s.grp } (cur ++ [x])
        (by rw [accOf_concat, ← hacc]) (by simp [hgrp])
      simp only [hloop, hstep_same, ih]
      simp [groupsGo]
    · have ih := hloop_eq maxnan rest
        { prev := i, acc := accStep 0 Acc.init x, grp := [x], out := hflush maxnan s.acc s.grp ++ s.out } [x] rfl rfl
      simp only [hloop, hstep_new maxnan x hgt, ih]
      simp [groupsGo, hgt.le, hgt.ne', hcells, hgrp, hacc, hflush_reverse]

/-- only the `match` is removed: the loop still runs over `p :: rest`, from the empty group (so `flathomogen_eq` starts
`groupsGo` from `[]` where `aggregate_eq` starts it from `[p.2]`) -/
theorem flathomogen_cons (maxnan : Int) (p : Int × Option α) (rest : List (Int × Option α)) :
    flathomogen maxnan (p :: rest) =
      (hloop maxnan ({ prev := p.1, acc := Acc.init, grp := [], out := [] } : HSt α) (p :: rest)).map
        fun s => (hflush maxnan s.acc s.grp ++ s.out).reverse := by
  simp only [flathomogen]
  cases hloop maxnan ({ prev := p.1, acc := Acc.init, grp := [], out := [] } : HSt α) (p :: rest) <;> rfl

/-- `c_flathomogen` on every input -/
theorem flathomogen_eq (maxnan : Int) (l : List (Int × Option α)) :
    flathomogen maxnan l = onSorted (flathomogenPerGroup maxnan) l := by
  cases l with
  | nil => rfl
  | cons p rest =>
    rw [flathomogen_cons, hloop_eq maxnan _ _ [] rfl rfl, onSorted, List.isEmpty_cons, if_neg Bool.false_ne_true]
    have hc : (p.1 :: (p :: rest).map Prod.fst).IsChain (· ≤ ·) ↔ ((p :: rest).map Prod.fst).Pairwise (· ≤ ·) :=
      List.isChain_cons_cons.trans ((and_iff_right le_rfl).trans List.isChain_iff_pairwise)
    by_cases hs : ((p :: rest).map Prod.fst).Pairwise (· ≤ ·)
    · rw [if_pos (hc.mpr hs), if_pos hs,
        show groupsGo p.1 [] (p :: rest) = groups (p :: rest) by simp [groups, groupsGo], groups_eq _ hs,
        List.flatMap_map]
      rfl
    · rw [if_neg (mt hc.mp hs), if_neg hs]

theorem flathomogen_eq_spec (maxnan : Int) (hc : ∀ g : List (Option α), hcells maxnan g = g.map (cell maxnan g))
    (l : List (Int × Option α)) (hne : l ≠ []) (hs : (l.map Prod.fst).Pairwise (· ≤ ·)) :
    flathomogen maxnan l = .ok (flathomogenSpec maxnan l) := by
  have h := congrArg (List.map fun p => cell maxnan (groupOf l p.1) p.2) (keyed_groups l hs)
  rw [flathomogen_eq, onSorted_ok _ hne hs, flathomogenSpec, ← h]
  simp only [flathomogenPerGroup, hc, List.map_flatMap, List.map_map, Function.comp_def]

theorem flathomogen_length (maxnan : Int) (l : List (Int × Option α)) (out : List (Option α))
    (h : flathomogen maxnan l = .ok out) : out.length = l.length := by
  have hne : l ≠ [] := by rintro rfl; cases h
  by_cases hs : (l.map Prod.fst).Pairwise (· ≤ ·)
  · rw [flathomogen_eq, onSorted_ok _ hne hs] at h
    cases h
    conv_rhs => rw [← keyed_groups l hs]
    simp [flathomogenPerGroup, hcells, hflush, List.length_flatMap]
  · rw [flathomogen_eq, onSorted_err _ hne hs] at h
    cases h


theorem flush_accOf (op maxnan : Int) (hop0 : 0 ≤ op) (hop3 : op ≤ 3) (h0 : op ≤ 1 → ∀ x : α, x + 0 = x)
    (g : List (Option α)) : flush op maxnan (accOf op g) = reduce op maxnan g := by
  have hcases : op = 0 ∨ op = 1 ∨ op = 2 ∨ op = 3 := by omega
  rw [flush, reduce, red, accOf_eq]
  -- with the operator known both sides evaluate their tests on it; only the sum and the mean have anything left to show
  rcases hcases with rfl | rfl | rfl | rfl
  · simp only [sumL_fill_zero (h0 (by decide))]; rfl
  · simp only [sumL_fill_zero (h0 (by decide))]
    by_cases hv : vals g = []
    · simp [hv]; rfl
    · simp [hv, List.length_pos_iff]
  · rfl
  · rfl

theorem hcells_eq (h0 : ∀ x : α, x + 0 = x) (maxnan : Int) (g : List (Option α)) :
    hcells maxnan g = g.map (cell maxnan g) := by
  unfold hcells hflush
  apply List.map_congr_left
  intro x _
  cases x with
  | none => rfl
  | some v => simp only [cell, accOf_eq, sumL_fill_zero h0]; split <;> rfl

end loopinv

section linord
variable {β : Type} [LinearOrder β] [OfNat β 0]

theorem maxOf_mem_and_ge (v : List β) (hv : v ≠ []) : maxOf v ∈ v ∧ ∀ x ∈ v, x ≤ maxOf v := by
  obtain ⟨a, t, rfl⟩ := List.exists_cons_of_ne_nil hv
  exact Extrema.foldl_max_spec t a

theorem maxOf_eq_maximum (v : List β) : maxOf v = v.maximum.unbotD 0 := by
  rcases eq_or_ne v [] with rfl | hv
  · rfl
  · rw [List.maximum_eq_coe_iff.mpr (maxOf_mem_and_ge v hv), WithBot.unbotD_coe]

end linord

/-! ### lists of optional values; the Gregorian calendar of `monthAt` / `ndaysAt` (no arithmetic on the values) -/

theorem vals_map_some {β : Type} (v : List β) : vals (v.map some) = v := by
  simp [vals, List.filterMap_map]

theorem vals_map_map {β : Type} (c : β → β) (g : List (Option β)) : vals (g.map (Option.map c)) = (vals g).map c := by
  simp [vals, List.filterMap_map, List.map_filterMap]

theorem daysInMonth_range (y : Int) (m : Nat) (h1 : 1 ≤ m) (h12 : m ≤ 12) :
    28 ≤ daysInMonth y m ∧ daysInMonth y m ≤ 31 := by
  unfold daysInMonth
  split
  any_goals omega
  -- left: February, and the branch of no month, which the bounds exclude
  · split <;> omega
  · simp only [imp_false] at *; omega

theorem monthAt_month_valid (y0 : Int) (m0 j : Nat) :
    1 ≤ (monthAt y0 m0 j).2 ∧ (monthAt y0 m0 j).2 ≤ 12 := by
  simp only [monthAt]
  omega

theorem monthAt_start (y0 : Int) (m0 : Nat) (h1 : 1 ≤ m0) (h12 : m0 ≤ 12) : monthAt y0 m0 0 = (y0, m0) := by
  rw [monthAt, Nat.add_zero, Nat.div_eq_of_lt (by omega), Nat.mod_eq_of_lt (by omega), Nat.sub_add_cancel h1]
  simp

theorem monthAt_next (y0 : Int) (m0 j : Nat) :
    monthAt y0 m0 (j + 1) =
      if (monthAt y0 m0 j).2 = 12 then ((monthAt y0 m0 j).1 + 1, 1)
      else ((monthAt y0 m0 j).1, (monthAt y0 m0 j).2 + 1) := by
  unfold monthAt
  rw [← Nat.add_assoc]
  generalize m0 - 1 + j = q
  split
  · rename_i h
    obtain ⟨e1, e2⟩ : (q + 1) / 12 = q / 12 + 1 ∧ (q + 1) % 12 = 0 := by omega
    rw [e1, e2, Nat.cast_succ, Int.add_assoc]
  · rename_i h
    obtain ⟨e1, e2⟩ : (q + 1) / 12 = q / 12 ∧ (q + 1) % 12 = q % 12 + 1 := by omega
    rw [e1, e2]

theorem ndaysAt_bounds (y0 : Int) (m0 j : Nat) : 28 ≤ ndaysAt y0 m0 j ∧ ndaysAt y0 m0 j ≤ 31 :=
  daysInMonth_range _ _ (monthAt_month_valid y0 m0 j).1 (monthAt_month_valid y0 m0 j).2

theorem ndaysAt_pos (y0 : Int) (m0 j : Nat) : 0 < ndaysAt y0 m0 j :=
  Nat.lt_of_lt_of_le (by decide) (ndaysAt_bounds y0 m0 j).1

theorem monthLengths_length (y0 : Int) (m0 k : Nat) : (monthLengths y0 m0 k).length = k := by
  simp [monthLengths]

theorem monthLengths_getElem (y0 : Int) (m0 k j : Nat) (h : j < (monthLengths y0 m0 k).length) :
    (monthLengths y0 m0 k)[j] = ndaysAt y0 m0 j := by
  simp [monthLengths]

theorem map_zipWith_left {A B C : Type} (f : A → B → C) (g : C → A) (hg : ∀ a b, g (f a b) = a) :
    ∀ (as : List A) (bs : List B), as.length ≤ bs.length → (List.zipWith f as bs).map g = as
  | [], _, _ => by simp
  | a :: as, [], h => by simp at h
  | a :: as, b :: bs, h => by
    rw [List.zipWith_cons_cons, List.map_cons, hg, map_zipWith_left f g hg as bs (Nat.le_of_succ_le_succ h)]


section field
variable {α : Type} [Field α]

theorem sumL_eq_sum (v : List α) : sumL v = v.sum := List.sum_eq_foldl.symm

/-- summing, over the keys `P` keeps, the sum of the values of each group is summing the values of all entries whose key
`P` keeps (any predicate on keys, any family of groups): the whole content of `aggregate_sum_conserved_general` -/
theorem sum_vals_kept {ι : Type} (P : ι → Bool) (g : ι → List (Option α)) : ∀ ks : List ι,
    (vals (ks.map fun k => if P k then some (vals (g k)).sum else none)).sum =
      (vals (((ks.flatMap fun k => (g k).map fun x => (k, x)).filter fun p => P p.1).map Prod.snd)).sum
  | [] => rfl
  | k :: t => by
    have ih := sum_vals_kept P g t
    simp only [vals, List.map_cons, List.flatMap_cons, List.filter_append, List.map_append, List.filterMap_append,
      List.sum_append, List.filterMap_cons] at ih ⊢
    rw [← ih]
    cases hk : P k <;> simp [hk, List.filter_map, Function.comp_def]


theorem sum_range_diff (f : Nat → α) (n : Nat) :
    ((List.range n).map fun j => f (j + 1) - f j).sum = f n - f 0 := by
  induction n with
  | zero => simp
  | succ n ih => rw [List.range_succ, List.map_append, List.sum_append, ih]; simp

theorem cum_zero (m : Month α) : cum m 0 = 0 := by
  simp [cum, polyval]

theorem dycTail_length : ∀ (u : List α), (dycTail u).length = u.length
  | [] => rfl
  | [_] => rfl
  | a :: b :: r => by simp [dycTail, dycTail_length (b :: r)]

theorem dyc_tail_length (u : List α) : (dyc u).tail.length = u.length := by
  cases u <;> simp [dyc, dycTail_length]

theorem cubicInit_yn (ys : List α) (ns : List Nat) (h : ys.length = ns.length) :
    (cubicInit ys ns).map (fun m => (m.y, m.n)) = ys.zip ns := by
  unfold cubicInit
  apply map_zipWith_left _ _ (fun _ _ => rfl)
  have := dyc_tail_length (List.zipWith (fun (y : α) (n : Nat) => y / (n : α)) ys ns)
  simp only [List.length_zip, List.length_zipWith, List.length_tail] at this ⊢
  omega

theorem sweepGo_yn : ∀ (rest : List (Month α)) (cur : Month α),
    (sweepGo cur rest).map (fun m => (m.y, m.n)) = (cur :: rest).map (fun m => (m.y, m.n))
  | [], cur => by simp [sweepGo]
  | nxt :: rest, cur => by
    simp only [sweepGo, List.map_cons]
    rw [sweepGo_yn rest]
    simp

theorem sweep_yn (ms : List (Month α)) :
    (sweep ms).map (fun m => (m.y, m.n)) = ms.map (fun m => (m.y, m.n)) := by
  cases ms with
  | nil => rfl
  | cons m rest => simp [sweep, sweepGo_yn]

theorem cell_eq (maxnan : Int) (g : List (Option α)) (x : Option α) : cell maxnan g x =
    match x with
    | none => none
    | some _ => if maxnan < (nmiss g : Int) then none else some ((vals g).sum / ((vals g).length : α)) := by
  cases x <;> simp [cell, sumL_eq_sum]

variable [LinearOrder α]

theorem red_eq (op : Int) (v : List α) : red op v =
    if op = 0 then v.sum
    else if op = 1 then (if v = [] then 0 else v.sum / (v.length : α))
    else if op = 2 then v.maximum.unbotD 0
    else v.getLast?.getD 0 := by
  simp only [red, sumL_eq_sum, maxOf_eq_maximum, List.isEmpty_iff]

variable [IsStrictOrderedRing α]

theorem sum_replicate_div (n : Nat) (s : α) (h : n = 0 → s = 0) : (List.replicate n (s / (n : α))).sum = s := by
  rw [List.sum_replicate, nsmul_eq_mul]
  by_cases hn : n = 0
  · rw [h hn, zero_div, mul_zero]
  · exact mul_div_cancel₀ s (Nat.cast_ne_zero.mpr hn)

/-- whatever the derivative constraints `c1`, `c2`: the columns of `Mi` sum to `(1,0,0)` -/
theorem cum_end (m : Month α) (hn : 0 < m.n) : cum m m.n = m.y := by
  have : (m.n : α) ≠ 0 := by exact_mod_cast hn.ne'
  simp only [cum, polyval, coefs, div_self this, Nat.cast_ofNat]
  ring

end field

end HydroVerif.C08
