/-
C11 — the kernel in ROUNDED arithmetic (`Rounded α rnd`: every addition is followed by `rnd`).

Three facts about the left-to-right fold the kernel performs (`accumulate_eq_fold`), each true of IEEE doubles:
* integer-valued contributions whose absolute values sum to at most `B` are accumulated EXACTLY by any rounding that
  is the identity on the integers of absolute value `≤ B` (doubles: `B = 2^53`);
* a rounding with relative error `u` (`|rnd x - x| ≤ u |x|`; doubles: `u = 2^-53`) leaves the fold within
  `((1+u)^k - 1) * Σ|f|` of the exact sum after `k` additions — the classical bound of recursive summation;
* a monotone, idempotent rounding that keeps the contributions keeps the fold of non-negative contributions above
  every single contribution (no cancellation, no loss below a summand).
The first two hypotheses are proved for `rndBits p` (the model's rounding to `p` significant bits): `rndBits_int`, `rndBits_err`.
-/
import HydroVerif.Lemmas.C11Sum
import HydroVerif.Lemmas.Round
import HydroVerif.Lemmas.Ordered
import Mathlib.Algebra.Order.Field.Basic
import Mathlib.Algebra.Order.Ring.Abs
import Mathlib.Tactic.Ring
import Mathlib.Algebra.Order.Field.Rat
import Mathlib.Data.Rat.Floor
import Mathlib.Algebra.Order.Field.Power
import Mathlib.Tactic.NormNum

namespace HydroVerif.C11

theorem rep_rounded {α : Type} (rnd : α → α) (a : Array α) (d : α) :
    Rep a.size (a.map fun x => (⟨x⟩ : Rounded α rnd)) (fun j => ⟨a[j]?.getD d⟩) := by
  refine ⟨by simp, fun j hj => ?_⟩
  simp [hj]

theorem rep_rounded_int {α : Type} [IntCast α] (rnd : α → α) (a : Array Int) :
    Rep a.size (a.map fun (z : Int) => (⟨(z : α)⟩ : Rounded α rnd)) (fun j => ⟨((a[j]?.getD 0 : Int) : α)⟩) := by
  refine ⟨by simp, fun j hj => ?_⟩
  simp [hj]

theorem le_foldl_natAbs (N : Nat → Int) (l : List Nat) (b : Nat) :
    b ≤ l.foldl (fun s (i : Nat) => s + (N i).natAbs) b := by
  induction l generalizing b with
  | nil => exact Nat.le_refl _
  | cons i rest ih => exact Nat.le_trans (Nat.le_add_right _ _) (ih _)

theorem foldl_rounded_int {α : Type} [AddGroupWithOne α] (rnd : α → α) (B : Nat)
    (hrnd : ∀ z : Int, z.natAbs ≤ B → rnd (z : α) = (z : α)) (N : Nat → Int)
    (l : List Nat) (a : Int) (b : Nat) (hab : a.natAbs ≤ b)
    (hB : l.foldl (fun s (i : Nat) => s + (N i).natAbs) b ≤ B) :
    l.foldl (fun (s : Rounded α rnd) (i : Nat) => s + ⟨(N i : α)⟩) ⟨(a : α)⟩ =
      ⟨((l.foldl (fun s (i : Nat) => s + N i) a : Int) : α)⟩ := by
  induction l generalizing a b with
  | nil => rfl
  | cons i rest ih =>
    have h1 : (a + N i).natAbs ≤ b + (N i).natAbs :=
      Nat.le_trans (Int.natAbs_add_le _ _) (Nat.add_le_add_right hab _)
    have h2 : (a + N i).natAbs ≤ B := Nat.le_trans h1 (Nat.le_trans (le_foldl_natAbs N rest _) hB)
    have h3 : ((⟨(a : α)⟩ : Rounded α rnd) + ⟨(N i : α)⟩) = ⟨((a + N i : Int) : α)⟩ := by
      show (⟨rnd ((a : α) + (N i : α))⟩ : Rounded α rnd) = _
      rw [← Int.cast_add, hrnd _ h2]
    rw [List.foldl_cons, h3]
    exact ih (a + N i) (b + (N i).natAbs) h1 hB

theorem foldl_rounded_val {α : Type} [Add α] (rnd : α → α) (f : Nat → α) (l : List Nat) (a : α) :
    l.foldl (fun (s : Rounded α rnd) (i : Nat) => s + ⟨f i⟩) ⟨a⟩ = ⟨l.foldl (fun s i => rnd (s + f i)) a⟩ := by
  induction l generalizing a with
  | nil => rfl
  | cons i rest ih => exact ih _

section Err
variable {α : Type} [CommRing α] [LinearOrder α] [IsStrictOrderedRing α]

/-- the rounded fold against the exact fold (`Round.foldl_rnd_add_err`): `k` counts the additions, `b` the absolute mass -/
theorem foldl_rounded_err (rnd : α → α) {u : α} (hu : 0 ≤ u) (hrnd : ∀ x, |rnd x - x| ≤ u * |x|)
    (f : Nat → α) (l : List Nat) (a a' b : α) (k : Nat)
    (he : |a - a'| ≤ ((1 + u) ^ k - 1) * b) (ha' : |a'| ≤ b) :
    |(l.foldl (fun (s : Rounded α rnd) (i : Nat) => s + ⟨f i⟩) ⟨a⟩).val - l.foldl (fun s (i : Nat) => s + f i) a'| ≤
      ((1 + u) ^ (l.foldl (fun (n : Nat) (_ : Nat) => n + 1) k) - 1) * l.foldl (fun s (i : Nat) => s + |f i|) b := by
  rw [foldl_rounded_val, List.foldl_add_const, Nat.one_mul]
  exact Round.foldl_rnd_add_err hu hrnd f l a a' b k he ha'

end Err

section Mono
variable {α : Type} [AddCommMonoid α] [PartialOrder α] [IsOrderedAddMonoid α]

theorem foldl_rounded_mono (rnd : α → α) (hmono : ∀ x y, x ≤ y → rnd x ≤ rnd y) (hidem : ∀ x, rnd (rnd x) = rnd x)
    (f : Nat → α) (hf0 : ∀ i, 0 ≤ f i) (hfr : ∀ i, rnd (f i) = f i)
    (l : List Nat) (a : α) (ha : rnd a = a) (ha0 : 0 ≤ a) :
    let r := (l.foldl (fun (s : Rounded α rnd) (i : Nat) => s + ⟨f i⟩) ⟨a⟩).val
    rnd r = r ∧ a ≤ r ∧ ∀ i ∈ l, f i ≤ r := by
  induction l generalizing a with
  | nil => exact ⟨ha, le_refl _, fun i hi => nomatch hi⟩
  | cons i rest ih =>
    have h1 : a ≤ rnd (a + f i) := by
      have := hmono a (a + f i) (le_add_of_nonneg_right (hf0 i))
      rwa [ha] at this
    have h2 : f i ≤ rnd (a + f i) := by
      have := hmono (f i) (a + f i) (le_add_of_nonneg_left ha0)
      rwa [hfr] at this
    obtain ⟨r1, r2, r3⟩ := ih (rnd (a + f i)) (hidem _) (le_trans ha0 h1)
    refine ⟨r1, le_trans h1 r2, fun j hj => ?_⟩
    rcases List.mem_cons.1 hj with rfl | h
    · exact le_trans h2 r2
    · exact r3 j h

end Mono


theorem pow2_eq (k : Int) : pow2 k = (2 : ℚ) ^ k := Round.pow2_eq k

theorem absR_eq (x : ℚ) : absR x = |x| := Ordered.ite_neg_eq_abs x

theorem expOf?_le {x : ℚ} {k : Int} (h : expOf? x = some k) : (2 : ℚ) ^ k ≤ |x| := by
  rw [← pow2_eq, ← absR_eq]
  unfold expOf? at h
  simp only [] at h
  split at h
  · rename_i h1; cases h; exact h1
  · split at h
    · rename_i h1; cases h; exact h1
    · cases h

theorem roundHalfEven_cases (y : ℚ) :
    roundHalfEven y = ⌊y + 1 / 2⌋ ∨ ((⌊y + 1 / 2⌋ : ℚ) = y + 1 / 2 ∧ roundHalfEven y = ⌊y + 1 / 2⌋ - 1) := by
  unfold roundHalfEven
  show (if _ then _ else _) = _ ∨ _ ∧ (if _ then _ else _) = _
  split
  · rename_i h; exact Or.inr ⟨h.1, rfl⟩
  · exact Or.inl rfl

theorem roundHalfEven_err (y : ℚ) : |((roundHalfEven y : Int) : ℚ) - y| ≤ 1 / 2 := by
  rcases roundHalfEven_cases y with h | ⟨h, h'⟩
  · rw [h, ← round_eq, abs_sub_comm]
    exact abs_sub_round y
  · rw [h', Int.cast_sub, h, Int.cast_one, add_sub_assoc, add_sub_cancel_left, abs_sub_comm]
    norm_num

theorem roundHalfEven_int (n : Int) : roundHalfEven (n : ℚ) = n := by
  have hf : ⌊(n : ℚ) + 1 / 2⌋ = n := by
    rw [Int.floor_intCast_add, Int.floor_eq_zero_iff.2 ⟨by norm_num, by norm_num⟩, add_zero]
  rcases roundHalfEven_cases (n : ℚ) with h | ⟨h, -⟩
  · rw [h, hf]
  · rw [hf, left_eq_add] at h
    norm_num at h

theorem rndBits_cases (p : Nat) (x : ℚ) :
    rndBits p x = x ∨ ∃ k : Int, (2 : ℚ) ^ k ≤ |x| ∧
      rndBits p x = ((roundHalfEven (x / 2 ^ (k - (p : Int) + 1)) : Int) : ℚ) * 2 ^ (k - (p : Int) + 1) := by
  unfold rndBits
  split
  · rename_i h; exact Or.inl h.symm
  · cases hk : expOf? x with
    | none => exact Or.inl rfl
    | some k => exact Or.inr ⟨k, expOf?_le hk, by rw [← pow2_eq]⟩

theorem rndBits_err (p : Nat) (x : ℚ) : |rndBits p x - x| ≤ (2 : ℚ) ^ (-(p : Int)) * |x| := by
  rcases rndBits_cases p x with h | ⟨k, hk, h⟩
  · rw [h, sub_self, abs_zero]
    exact mul_nonneg (zpow_pos two_pos _).le (abs_nonneg _)
  · rw [h]
    exact Round.abs_mul_zpow_sub_le (roundHalfEven_err _) hk (by ring)

/-- from `2^k ≤ |z| ≤ 2^p` the exponent is `k ≤ p`, so the spacing `2^(k-p+1)` is `1/2^j`, or `2` in the one case `|z| = 2^p`,
where `z` is even: `z / spacing` is an integer, and `roundHalfEven` keeps integers -/
theorem rndBits_int {p : Nat} (hp : 1 ≤ p) (z : Int) (hz : z.natAbs ≤ 2 ^ p) : rndBits p (z : ℚ) = (z : ℚ) := by
  rcases rndBits_cases p (z : ℚ) with h | ⟨k, hk, h⟩
  · exact h
  · rw [h]
    rw [← Int.cast_abs, ← Nat.cast_natAbs] at hk
    have hkp : k ≤ (p : Int) := by
      rw [← zpow_le_zpow_iff_right₀ (one_lt_two (α := ℚ)), zpow_natCast]
      exact hk.trans (by exact_mod_cast hz)
    obtain ⟨n, hn⟩ : ∃ n : Int, (z : ℚ) / 2 ^ (k - (p : Int) + 1) = (n : ℚ) := by
      rcases lt_or_eq_of_le hkp with hlt | rfl
      · obtain ⟨j, hj⟩ : ∃ j : Nat, k - (p : Int) + 1 = -(j : Int) := ⟨((p : Int) - 1 - k).toNat, by omega⟩
        rw [hj, zpow_neg, div_inv_eq_mul, zpow_natCast]
        exact ⟨z * 2 ^ j, by push_cast; rfl⟩
      · -- `|z| = 2^p`: the quantum is 2 and `z` is even
        have hnat : z.natAbs = 2 ^ p := le_antisymm hz (by rw [zpow_natCast] at hk; exact_mod_cast hk)
        obtain ⟨n, hn⟩ : (2 : Int) ∣ z := by
          rw [← Int.natAbs_dvd_natAbs, hnat]
          exact dvd_pow_self 2 (by omega)
        rw [sub_self, zero_add, zpow_one, hn, Int.cast_mul, Int.cast_ofNat, mul_div_cancel_left₀ _ two_ne_zero]
        exact ⟨n, rfl⟩
    rw [hn, roundHalfEven_int, ← hn, div_mul_cancel₀ _ (by positivity)]

end HydroVerif.C11
