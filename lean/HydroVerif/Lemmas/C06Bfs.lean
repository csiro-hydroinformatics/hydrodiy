/-
C06 — breadth-first layers over an abstract upstream/downstream pair. `up d` lists the cells draining into `d`,
`down u` is the cell `u` drains into (if any). Nothing here knows about grids.
-/
import HydroVerif.Model.C06
import Mathlib.Data.List.Basic
import Mathlib.Data.List.Nodup
import Mathlib.Data.List.Range

namespace HydroVerif.C06.Bfs
variable {C : Type}

def layer (up : C → List C) (o : C) : Nat → List C
  | 0 => [o]
  | k+1 => (layer up o k).flatMap up

variable (up : C → List C) (down : C → Option C) (inv : ∀ u d, u ∈ up d ↔ down u = some d) (o : C)

theorem walk_add (j k : Nat) (c : C) :
    walk down (j + k) c = (walk down j c).bind (walk down k) := by
  induction j generalizing c with
  | zero => simp [walk]
  | succ j ih =>
    have : j + 1 + k = (j + k) + 1 := by omega
    rw [this]
    show (down c).bind (walk down (j+k)) = ((down c).bind (walk down j)).bind (walk down k)
    cases h : down c with
    | none => simp
    | some d => simpa using ih d

theorem layer_empty_of_le {n m : Nat} (hstop : layer up o n = [])
    (hm : n ≤ m) : layer up o m = [] := by
  induction m, hm using Nat.le_induction with
  | base => exact hstop
  | succ m _ ih => simp [layer, ih]

def layersFrom (up : C → List C) (o : C) (a len : Nat) : List C :=
  (List.range' (a + 1) len).flatMap (layer up o)

theorem layersFrom_zero (a : Nat) : layersFrom up o a 0 = [] := by
  simp [layersFrom]

theorem layersFrom_succ (a len : Nat) :
    layersFrom up o a (len + 1) = layer up o (a + 1) ++ layersFrom up o (a + 1) len := by
  simp [layersFrom, List.range'_succ]

/-- the step of the loop invariant of `c_delineate_area`: what a search standing at layer `k` and stopping at `n > k` still
has to store is the next layer (and the outlet, which the code stores after layer 1) followed by what is to be stored
from layer `k + 1` on -/
theorem outlet_layers_succ {k n : Nat} (hkn : k < n) :
    ((if k = 0 ∧ 1 ≤ n then [o] else []) ++ layersFrom up o k (n - k)).Perm
      ((layer up o (k + 1) ++ if k = 0 then [o] else []) ++
        ((if k + 1 = 0 ∧ 1 ≤ n then [o] else []) ++ layersFrom up o (k + 1) (n - (k + 1)))) := by
  rw [show n - k = n - (k + 1) + 1 by omega, layersFrom_succ, if_neg (by omega : ¬ (k + 1 = 0 ∧ 1 ≤ n)),
    List.nil_append]
  by_cases hk : k = 0
  · rw [if_pos ⟨hk, by omega⟩, if_pos hk, List.append_assoc, List.singleton_append, List.singleton_append]
    exact List.perm_middle.symm
  · rw [if_neg fun h => hk h.1, if_neg hk, List.nil_append, List.append_nil]

theorem mem_layersFrom (a len : Nat) (c : C) :
    c ∈ layersFrom up o a len ↔ ∃ m, a < m ∧ m ≤ a + len ∧ c ∈ layer up o m := by
  simp only [layersFrom, List.mem_flatMap, List.mem_range'_1]
  constructor
  · rintro ⟨m, ⟨h1, h2⟩, hc⟩; exact ⟨m, by omega, by omega, hc⟩
  · rintro ⟨m, h1, h2, hc⟩; exact ⟨m, ⟨by omega, by omega⟩, hc⟩

theorem le_length_layersFrom (up : C → List C) (o : C) : ∀ (len a : Nat),
    (∀ m, a < m → m ≤ a + len → layer up o m ≠ []) → len ≤ (layersFrom up o a len).length
  | 0, _, _ => Nat.zero_le _
  | len + 1, a, h => by
    rw [layersFrom_succ, List.length_append]
    have h1 := List.length_pos_iff.2 (h (a + 1) (Nat.lt_succ_self a) (by omega))
    have h2 := le_length_layersFrom up o len (a + 1) fun m hm1 hm2 => h m (by omega) (by omega)
    omega

section
include inv

theorem mem_layer_iff :
    ∀ k c, c ∈ layer up o k ↔ walk down k c = some o := by
  intro k
  induction k with
  | zero => intro c; simp [layer, walk, eq_comm]
  | succ k ih =>
    intro c
    simp only [layer, List.mem_flatMap, walk]
    constructor
    · rintro ⟨d, hd, hc⟩
      rw [(inv c d).1 hc]
      simpa using (ih d).1 hd
    · intro h
      cases hd : down c with
      | none => simp [hd] at h
      | some d =>
        refine ⟨d, (ih d).2 ?_, (inv c d).2 hd⟩
        simpa [hd] using h

theorem layer_nodup (hup : ∀ d, (up d).Nodup) :
    ∀ k, (layer up o k).Nodup := by
  intro k
  induction k with
  | zero => simp [layer]
  | succ k ih =>
    simp only [layer]
    rw [List.nodup_flatMap]
    refine ⟨fun d _ => hup d, ?_⟩
    refine List.Pairwise.imp_of_mem ?_ (List.Pairwise.and_mem.1 ih)
    intro d e _ _ hne
    obtain ⟨_, _, hne⟩ := hne
    simp only [Function.onFun, List.disjoint_left]
    intro c hc1 hc2
    have h1 := (inv c d).1 hc1
    have h2 := (inv c e).1 hc2
    rw [h1] at h2
    exact hne (Option.some.inj h2)

/-- the outlet on a cycle of length `p` lies in every layer `t * p`, so no layer is ever empty: the search does not stop -/
theorem layer_ne_nil_of_cycle {p : Nat} (hp : 0 < p)
    (cyc : walk down p o = some o) (n : Nat) : layer up o n ≠ [] := by
  intro hstop
  have hmul : ∀ t, walk down (t * p) o = some o := by
    intro t; induction t with
    | zero => simp [walk]
    | succ t ih =>
      have : (t + 1) * p = t * p + p := Nat.succ_mul t p
      rw [this, walk_add, ih]; simpa using cyc
  have : o ∈ layer up o (n * p) := (mem_layer_iff up down inv o (n * p) o).2 (hmul n)
  rw [layer_empty_of_le up o hstop (Nat.le_mul_of_pos_right n hp)] at this
  simp at this

/-- the one idea of the area proof: a cell in two layers `j < k` walks down to the outlet in `j` steps and in `k` steps, so
the outlet comes back to itself after `k - j` steps; by `layer_ne_nil_of_cycle` a search that stops has no such cell.
Hence each cell is found once (`found_nodup`) -/
theorem layers_disjoint_of_stop (n : Nat)
    (hstop : layer up o n = []) (j k : Nat) (hjk : j < k) (c : C)
    (hj : c ∈ layer up o j) (hk : c ∈ layer up o k) : False := by
  have wj := (mem_layer_iff up down inv o j c).1 hj
  have wk := (mem_layer_iff up down inv o k c).1 hk
  obtain ⟨p, rfl⟩ : ∃ p, k = j + p := ⟨k - j, by omega⟩
  have hp : 0 < p := by omega
  rw [walk_add, wj] at wk
  have cyc : walk down p o = some o := by simpa using wk
  exact layer_ne_nil_of_cycle up down inv o hp cyc n hstop

end

/-- what a search that stops at layer `n` has found: the outlet, stored once layer 1 is not empty, and the layers
`1 .. n` (in the order of the layers; `c_delineate_area` stores the outlet after layer 1) -/
def found (up : C → List C) (o : C) (n : Nat) : List C :=
  (if 1 ≤ n then [o] else []) ++ layersFrom up o 0 n

section Stop
variable {n : Nat}
  (hstop : layer up o (n + 1) = []) (hne : ∀ m, 0 < m → m ≤ n → layer up o m ≠ [])
include inv hstop hne

theorem one_le_stop_iff : 1 ≤ n ↔ ∃ u, walk down 1 u = some o := by
  constructor
  · intro hn
    obtain ⟨u, hu⟩ := List.exists_mem_of_ne_nil _ (hne 1 Nat.one_pos hn)
    exact ⟨u, (mem_layer_iff up down inv o 1 u).1 hu⟩
  · rintro ⟨u, hu⟩
    by_contra hn
    have := (mem_layer_iff up down inv o 1 u).2 hu
    rw [layer_empty_of_le up o hstop (by omega)] at this
    exact List.not_mem_nil this

theorem mem_found (c : C) :
    c ∈ found up o n ↔
      (c = o ∧ ∃ u, walk down 1 u = some o) ∨ ∃ k, 1 ≤ k ∧ walk down k c = some o := by
  rw [found, List.mem_append, mem_layersFrom, ← one_le_stop_iff up down inv o hstop hne]
  constructor
  · rintro (hc1 | ⟨m, hm1, _, hcm⟩)
    · by_cases hn : 1 ≤ n
      · rw [if_pos hn] at hc1; exact Or.inl ⟨List.mem_singleton.1 hc1, hn⟩
      · rw [if_neg hn] at hc1; exact absurd hc1 List.not_mem_nil
    · exact Or.inr ⟨m, hm1, (mem_layer_iff up down inv o m c).1 hcm⟩
  · rintro (⟨rfl, hn⟩ | ⟨k, hk, hr⟩)
    · rw [if_pos hn]; exact Or.inl (List.mem_singleton_self c)
    · have hck := (mem_layer_iff up down inv o k c).2 hr
      refine Or.inr ⟨k, hk, ?_, hck⟩
      by_contra hkn
      rw [layer_empty_of_le up o hstop (by omega)] at hck
      exact List.not_mem_nil hck

omit hne in
theorem found_nodup (hup : ∀ d, (up d).Nodup) :
    (found up o n).Nodup := by
  unfold found
  have h : (o :: layersFrom up o 0 n).Nodup := by
    rw [List.nodup_cons]
    constructor
    · rw [mem_layersFrom]
      rintro ⟨m, h1, _, hc⟩
      exact layers_disjoint_of_stop up down inv o (n + 1) hstop 0 m h1 o (by simp [layer]) hc
    · unfold layersFrom
      rw [List.nodup_flatMap]
      refine ⟨fun k _ => layer_nodup up down inv o hup k, ?_⟩
      refine List.Nodup.pairwise_of_forall_ne (List.nodup_range' (step := 1) (by omega)) ?_
      intro j _ k _ hjk
      simp only [Function.onFun, List.disjoint_left]
      intro c hj hk
      rcases Nat.lt_or_gt_of_ne hjk with h | h
      · exact layers_disjoint_of_stop up down inv o (n + 1) hstop j k h c hj hk
      · exact layers_disjoint_of_stop up down inv o (n + 1) hstop k j h c hk hj
  split
  · exact h
  · exact h.of_cons

theorem found_eq_nil (h : ∀ u, walk down 1 u ≠ some o) :
    found up o n = [] := by
  unfold found
  have hn : ¬ 1 ≤ n := fun hn => (one_le_stop_iff up down inv o hstop hne).1 hn |>.elim h
  rw [if_neg hn, show n = 0 by omega, layersFrom_zero]; rfl

end Stop

end HydroVerif.C06.Bfs
