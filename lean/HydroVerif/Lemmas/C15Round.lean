/-
C15 — the kernel under rounded arithmetic: relative-error algebra (`Near`), the error of the computed crossing
abscissa, the per-edge statement and the reduction of the `Rd` instance of the model to plain expressions of `K`; the
rectilinear case (`Rectilinear`, `edgeToggleR_rectilinear`: no rounding survives); the hypotheses `SepR`, `GapR` of the
theorems, and that the driver's decided checks mean them (`sepRb_iff`, `gapRb_iff`, `rectb_iff`, `repb_iff`).
The ONE generic model is run at the wrapper type `Rd K rnd`, which rounds every `+ - * /` (comparisons exact): no second
text of the kernel, and nothing is asked of `rnd` but the error bound `RelRound u rnd`. The accumulated error is kept
linear in `u` (`rel_le`, for `u ≤ 1/100`) because it is compared with a margin that is a multiple of `u`. C07 writes
`rnd` into a second text of two short kernels and keeps exact polynomial budgets (`Lemmas/C07Round.lean`); C16 needs
order and exact counts of the rounded computation, hence representable numbers (`Lemmas/C16Rnd.lean`).
-/
import HydroVerif.Lemmas.C15
import HydroVerif.Model.C15Round
import HydroVerif.Lemmas.Round
import Mathlib.Tactic.NormNum.Ineq
import Mathlib.Tactic.NormNum.Inv
import Mathlib.Tactic.NormNum.Pow
import Mathlib.Tactic.NormNum.Eq

namespace HydroVerif.C15

section order
variable {K : Type} [LinearOrder K]

theorem rd_fmin_val {rnd : K → K} (a b : Rd K rnd) : (fmin a b).val = min a.val b.val :=
  (apply_ite Rd.val _ _ _).trans (fmin_eq a.val b.val)

theorem rd_fmax_val {rnd : K → K} (a b : Rd K rnd) : (fmax a b).val = max a.val b.val :=
  (apply_ite Rd.val _ _ _).trans (fmax_eq a.val b.val)

theorem Rd.lt_iff {rnd : K → K} {a b : Rd K rnd} : a < b ↔ a.val < b.val := Iff.rfl
theorem Rd.le_iff {rnd : K → K} {a b : Rd K rnd} : a ≤ b ↔ a.val ≤ b.val := Iff.rfl

theorem rd_lift_fmin {rnd : K → K} (a b : K) : fmin (⟨a⟩ : Rd K rnd) ⟨b⟩ = ⟨fmin a b⟩ :=
  congrArg Rd.mk (apply_ite Rd.val _ _ _)

theorem rd_lift_fmax {rnd : K → K} (a b : K) : fmax (⟨a⟩ : Rd K rnd) ⟨b⟩ = ⟨fmax a b⟩ :=
  congrArg Rd.mk (apply_ite Rd.val _ _ _)

theorem rd_colMin {rnd : K → K} (l : List K) : ∀ m : K,
    colMin (⟨m⟩ : Rd K rnd) (l.map fun a => ⟨a⟩) = ⟨colMin m l⟩ := by
  induction l with
  | nil => intro m; rfl
  | cons a t ih => intro m; simp only [List.map_cons, colMin, rd_lift_fmin, ih]

theorem rd_colMax {rnd : K → K} (l : List K) : ∀ m : K,
    colMax (⟨m⟩ : Rd K rnd) (l.map fun a => ⟨a⟩) = ⟨colMax m l⟩ := by
  induction l with
  | nil => intro m; rfl
  | cons a t ih => intro m; simp only [List.map_cons, colMax, rd_lift_fmax, ih]

theorem rd_outsideBox {rnd : K → K} (v0 : K × K) (t : List (K × K)) (pt : K × K) :
    outsideBox (extentX (Rd.lift (rnd := rnd) v0) (t.map Rd.lift)) (extentY (Rd.lift v0) (t.map Rd.lift))
      (Rd.lift pt) = outsideBox (extentX v0 t) (extentY v0 t) pt := by
  have hx : (t.map (Rd.lift (rnd := rnd))).map (·.1) = (t.map (·.1)).map fun a => (⟨a⟩ : Rd K rnd) := by
    simp [List.map_map, Rd.lift, Function.comp_def]
  have hy : (t.map (Rd.lift (rnd := rnd))).map (·.2) = (t.map (·.2)).map fun a => (⟨a⟩ : Rd K rnd) := by
    simp [List.map_map, Rd.lift, Function.comp_def]
  unfold extentX extentY outsideBox
  rw [hx, hy]
  simp only [Rd.lift, rd_colMin, rd_colMax]
  rfl

end order

section identities
variable {K : Type} [Field K]

theorem Rd.sub_val {rnd : K → K} (a b : Rd K rnd) : (a - b).val = rnd (a.val - b.val) := rfl

end identities

variable {K : Type} [Field K] [LinearOrder K]

/-- the approximation `x'` (first) is within the relative error `ε` of the exact `x` (second) -/
def Near (ε x' x : K) : Prop := |x' - x| ≤ ε * |x|

/-- the standard model of floating-point arithmetic: every rounded result has relative error at most `u` -/
def RelRound (u : K) (rnd : K → K) : Prop := ∀ x : K, |rnd x - x| ≤ u * |x|

theorem near_rnd {u : K} {rnd : K → K} (hr : RelRound u rnd) (x : K) : Near u (rnd x) x := hr x

def edgeToggleR (rnd : K → K) (atol x y : K) (p1 p2 : K × K) : Bool :=
  edgeToggle (α := Rd K rnd) ⟨atol⟩ ⟨x⟩ ⟨y⟩ (Rd.lift p1) (Rd.lift p2)

theorem pointInsideRounded_eq_of_crossing {atol : K} {rnd : K → K} {poly : List (K × K)} {pt : K × K} {r : Bool}
    (hc : crossing (α := Rd K rnd) ⟨atol⟩ (poly.map Rd.lift) (Rd.lift pt) = r)
    (hbox : ∀ v0 t, poly = v0 :: t → outsideBox (extentX v0 t) (extentY v0 t) pt = true → r = false) :
    pointInsideRounded rnd atol poly pt = r := by
  refine pointInside_eq_of_crossing hc fun v0' t' h hout => ?_
  cases poly with
  | nil => cases h
  | cons v0 t =>
    rw [List.map_cons] at h
    cases h
    exact hbox v0 t rfl (by rwa [rd_outsideBox] at hout)

theorem crossing_rounded_eq (rnd : K → K) (atol : K) (poly : List (K × K)) (pt : K × K) :
    crossing (α := Rd K rnd) ⟨atol⟩ (poly.map Rd.lift) (Rd.lift pt) =
      parity ((edges poly).map fun e => edgeToggleR rnd atol pt.1 pt.2 e.1 e.2) := by
  rw [crossing_eq, edges_map, List.map_map]
  rfl

variable [IsStrictOrderedRing K]

theorem Near.mono {ε ε' x' x : K} (h : Near ε x' x) (hε : ε ≤ ε') : Near ε' x' x :=
  le_trans h (mul_le_mul_of_nonneg_right hε (abs_nonneg x))

theorem near_abs_le {ε x' x : K} (h : Near ε x' x) : |x'| ≤ (1 + ε) * |x| :=
  (Round.abs_le_add_of_abs_sub_le le_rfl h).trans_eq (by ring)

theorem near_abs_ge {ε x' x : K} (h : Near ε x' x) : (1 - ε) * |x| ≤ |x'| := by
  rw [sub_mul, one_mul]
  exact sub_le_comm.mp ((abs_sub_abs_le_abs_sub x x').trans ((abs_sub_comm x x').le.trans h))

theorem rnd_zero {u : K} {rnd : K → K} (hr : RelRound u rnd) : rnd 0 = 0 := by
  have := hr 0
  rw [abs_zero, mul_zero, sub_zero] at this
  exact abs_eq_zero.mp (le_antisymm this (abs_nonneg _))

/-- one more rounding: `Round.rel_step` at `M = |x|`, in the `Near` form -/
theorem near_rnd_comp {u ε z x : K} {rnd : K → K} (hr : RelRound u rnd) (hu : 0 ≤ u) (h : Near ε z x) :
    Near (ε + u + ε * u) (rnd z) x :=
  (Round.rel_step hu le_rfl h (hr z)).trans_eq (by ring)

theorem near_mul {ε1 ε2 a' a b' b : K} (ha : Near ε1 a' a) (hb : Near ε2 b' b) :
    Near (ε1 + ε2 + ε1 * ε2) (a' * b') (a * b) := by
  have hb' := near_abs_le hb
  unfold Near at *
  calc |a' * b' - a * b| = |(a' - a) * b' + a * (b' - b)| := by rw [sub_mul, mul_sub, sub_add_sub_cancel]
    _ ≤ |a' - a| * |b'| + |a| * |b' - b| := by rw [← abs_mul, ← abs_mul]; exact abs_add_le _ _
    _ ≤ ε1 * |a| * ((1 + ε2) * |b|) + |a| * (ε2 * |b|) :=
      add_le_add (mul_le_mul ha hb' (abs_nonneg _) ((abs_nonneg _).trans ha))
        (mul_le_mul_of_nonneg_left hb (abs_nonneg a))
    _ = (ε1 + ε2 + ε1 * ε2) * |a * b| := by rw [abs_mul]; ring

/-- a quotient of perturbed values: `ε` with `(ε1 + ε2) / (1 - ε2) ≤ ε`, the condition written without division -/
theorem near_div {ε ε1 ε2 m' m d' d : K} (hm : Near ε1 m' m) (hd : Near ε2 d' d) (hε2 : ε2 < 1) (hd0 : d ≠ 0)
    (hε : 0 ≤ ε) (h : ε1 + ε2 + ε * ε2 ≤ ε) : Near ε (m' / d') (m / d) := by
  have hdpos : 0 < |d| := abs_pos.mpr hd0
  have hd' : (1 - ε2) * |d| ≤ |d'| := near_abs_ge hd
  have hd'pos : 0 < |d'| := (mul_pos (sub_pos.mpr hε2) hdpos).trans_le hd'
  unfold Near at *
  rw [div_sub_div _ _ (abs_pos.mp hd'pos) hd0, abs_div, abs_div, abs_mul, div_le_iff₀ (mul_pos hd'pos hdpos),
    mul_comm |d'| |d|, ← mul_assoc, mul_assoc ε, div_mul_cancel₀ _ hdpos.ne']
  calc |m' * d - d' * m| = |(m' - m) * d + m * (d - d')| := by rw [sub_mul, mul_sub, sub_add_sub_cancel, mul_comm d' m]
    _ ≤ |m' - m| * |d| + |m| * |d - d'| := by rw [← abs_mul, ← abs_mul]; exact abs_add_le _ _
    _ ≤ ε1 * |m| * |d| + |m| * (ε2 * |d|) :=
      add_le_add (mul_le_mul_of_nonneg_right hm (abs_nonneg d))
        (mul_le_mul_of_nonneg_left (by rwa [abs_sub_comm]) (abs_nonneg m))
    _ = (ε1 + ε2) * (|m| * |d|) := by ring
    _ ≤ ε * (1 - ε2) * (|m| * |d|) :=
      mul_le_mul_of_nonneg_right ((le_sub_iff_add_le.mpr h).trans_eq (by ring))
        (mul_nonneg (abs_nonneg m) (abs_nonneg d))
    _ = ε * |m| * ((1 - ε2) * |d|) := by ring
    _ ≤ ε * |m| * |d'| := mul_le_mul_of_nonneg_left hd' (mul_nonneg hε (abs_nonneg m))

def errX (u : K) (p1 p2 : K × K) : K := u * (|p1.1| + 8 * |p2.1 - p1.1|)

theorem errX_nonneg {u : K} (hu : 0 ≤ u) (p1 p2 : K × K) : 0 ≤ errX u p1 p2 :=
  mul_nonneg hu (add_nonneg (abs_nonneg _) (mul_nonneg (Nat.ofNat_nonneg 8) (abs_nonneg _)))

/-- for `u ≤ 1/100`, so that `u² ≤ u / 100`, the relative errors stay linear in `u` -/
theorem rel_le {u c c' m : K} (hu : 0 ≤ u) (hu1 : u ≤ 1 / 100) (hc' : 0 ≤ c') (h : c + 1 + c' / 100 ≤ m) :
    c * u + u + c' * u * u ≤ m * u :=
  calc c * u + u + c' * u * u = (c + 1) * u + c' * (u * u) := by ring
    _ ≤ (c + 1) * u + c' * (1 / 100 * u) :=
      add_le_add le_rfl (mul_le_mul_of_nonneg_left (mul_le_mul_of_nonneg_right hu1 hu) hc')
    _ = (c + 1 + c' / 100) * u := by ring
    _ ≤ m * u := mul_le_mul_of_nonneg_right h hu

/-- the five roundings of `(y - p1y) * (p2x - p1x) / (p2y - p1y)`: each step adds one `u` and the second-order terms, which
`u ≤ 1/100` turns into hundredths: two rounded factors 2.01 u, their rounded product 3.04 u, the quotient by a rounded
divisor 4.09 u, its rounding 5.14 u, stated as `6 u` -/
theorem quotient_near {u : K} {rnd : K → K} (hr : RelRound u rnd) (hu : 0 ≤ u) (hu1 : u ≤ 1 / 100) (A B D : K)
    (hD : D ≠ 0) : Near (6 * u) (rnd (rnd (rnd A * rnd B) / rnd D)) (A * B / D) := by
  have hab : Near (201 / 100 * u) (rnd A * rnd B) (A * B) :=
    (near_mul (near_rnd hr A) (near_rnd hr B)).mono
      ((add_le_add le_rfl (mul_le_mul_of_nonneg_right hu1 hu)).trans_eq (by ring))
  have hm : Near (304 / 100 * u) (rnd (rnd A * rnd B)) (A * B) :=
    (near_rnd_comp hr hu hab).mono (rel_le hu hu1 (by norm_num) (by norm_num))
  have hq : Near (409 / 100 * u) (rnd (rnd A * rnd B) / rnd D) (A * B / D) :=
    near_div hm (near_rnd hr D) (hu1.trans_lt (by norm_num)) hD (mul_nonneg (by norm_num) hu)
      (rel_le hu hu1 (by norm_num) (by norm_num))
  exact (near_rnd_comp hr hu hq).mono (rel_le hu hu1 (by norm_num) (by norm_num))

/-- the `8` is convenient, not tight: the proof gives `(7 + 6 u) u |t| ≤ 7.06 u |t|` (6 from the term, 1 from the last
rounding) -/
theorem rnd_add_error {u : K} {rnd : K → K} (hr : RelRound u rnd) (hu : 0 ≤ u) (hu1 : u ≤ 1 / 100) {a q t b : K}
    (hq : Near (6 * u) q t) (ht : |t| ≤ b) : |rnd (a + q) - (a + t)| ≤ u * (|a| + 8 * b) :=
  calc |rnd (a + q) - (a + t)| ≤ |rnd (a + q) - (a + q)| + |q - t| := by
        have := abs_sub_le (rnd (a + q)) (a + q) (a + t)
        rwa [add_sub_add_left_eq_sub] at this
    _ ≤ u * |a + q| + 6 * u * |t| := add_le_add (hr _) hq
    _ ≤ u * (|a| + (1 + 6 * u) * |t|) + 6 * u * |t| :=
      add_le_add (mul_le_mul_of_nonneg_left ((abs_add_le a q).trans (add_le_add le_rfl (near_abs_le hq))) hu)
        le_rfl
    _ = u * |a| + (6 * u + u + 6 * u * u) * |t| := by ring
    _ ≤ u * |a| + 8 * u * b :=
      add_le_add le_rfl ((mul_le_mul_of_nonneg_right (rel_le hu hu1 (by norm_num) (by norm_num)) (abs_nonneg t)).trans
        (mul_le_mul_of_nonneg_left ht (mul_nonneg (by norm_num) hu)))
    _ = u * (|a| + 8 * b) := by ring

theorem xintersR_error {u : K} {rnd : K → K} (hr : RelRound u rnd) (hu : 0 ≤ u) (hu1 : u ≤ 1 / 100) {y : K}
    {p1 p2 : K × K} (hs : straddle y p1 p2 = true) :
    |xintersR rnd y p1 p2 - xint y p1 p2| ≤ errX u p1 p2 := by
  obtain ⟨ht0, ht1⟩ := tpar_mem hs
  unfold tpar at ht0 ht1
  refine rnd_add_error hr hu hu1
    (quotient_near hr hu hu1 (y - p1.2) (p2.1 - p1.1) (p2.2 - p1.2) (straddle_ne hs)) ?_
  rw [mul_div_right_comm, abs_mul, abs_of_nonneg ht0]
  exact mul_le_of_le_one_left (abs_nonneg _) ht1

/-- `SepEdge` with the factor `1 - u`: the two tolerance guards test rounded differences -/
def SepEdgeR (u atol : K) (p1 p2 : K × K) : Prop :=
  (p1.2 = p2.2 ∨ atol < (1 - u) * |p1.2 - p2.2|) ∧ (p1.1 = p2.1 ∨ atol ≤ (1 - u) * |p1.1 - p2.1|)

def GapEdgeR (u x y : K) (p1 p2 : K × K) : Prop :=
  straddle y p1 p2 = true → errX u p1 p2 < |x - xint y p1 p2|

theorem rd_fabs_val {rnd : K → K} (a : Rd K rnd) : (fabs a).val = |a.val| :=
  (apply_ite Rd.val _ _ _).trans (fabs_eq a.val)

theorem rd_xinters_val (rnd : K → K) (atol y : K) (p1 p2 : K × K) :
    (xinters (⟨atol⟩ : Rd K rnd) ⟨y⟩ (Rd.lift p1) (Rd.lift p2)).val =
      if atol < |rnd (p1.2 - p2.2)| then xintersR rnd y p1 p2 else p1.1 := by
  unfold xinters
  rw [apply_ite Rd.val]
  simp only [Rd.lt_iff, rd_fabs_val, Rd.sub_val, Rd.lift]
  rfl

theorem edgeToggleR_iff (rnd : K → K) (atol x y : K) (p1 p2 : K × K) :
    edgeToggleR rnd atol x y p1 p2 = true ↔
      (straddle y p1 p2 = true ∧ x ≤ max p1.1 p2.1 ∧
        (|rnd (p1.1 - p2.1)| < atol ∨
          x ≤ (if atol < |rnd (p1.2 - p2.2)| then xintersR rnd y p1 p2 else p1.1))) := by
  simp only [edgeToggleR, edgeToggle_eq, Bool.and_eq_true, Bool.or_eq_true, decide_eq_true_eq, Rd.lt_iff, Rd.le_iff,
    rd_fmin_val, rd_fmax_val, rd_fabs_val, rd_xinters_val, Rd.sub_val, straddle_iff_minmax, and_assoc]
  rfl

theorem edgeToggleR_eq_crossR {u atol x y : K} {rnd : K → K} {p1 p2 : K × K} (hr : RelRound u rnd)
    (hu : 0 ≤ u) (hu1 : u ≤ 1 / 100) (hsep : SepEdgeR u atol p1 p2) (hgap : GapEdgeR u x y p1 p2) :
    edgeToggleR rnd atol x y p1 p2 = crossR x y p1 p2 := by
  rw [Bool.eq_iff_iff, edgeToggleR_iff, crossR_iff]
  refine and_congr_right fun hs => ?_
  have hgap' := hgap hs
  have hE := errX_nonneg hu p1 p2
  have herr := abs_le.mp (xintersR_error hr hu hu1 hs)
  have hg1 : atol < |rnd (p1.2 - p2.2)| :=
    (hsep.1.resolve_left fun h => straddle_ne hs (by rw [h, sub_self])).trans_le (near_abs_ge (near_rnd hr _))
  rw [if_pos hg1]
  constructor
  · rintro ⟨hmax, hg2 | hle⟩
    · -- the second guard fires only on a vertical edge
      have hx : p1.1 = p2.1 :=
        hsep.2.resolve_right fun h => lt_irrefl _ ((h.trans (near_abs_ge (near_rnd hr _))).trans_lt hg2)
      have hxi : xint y p1 p2 = p1.1 := by unfold xint; rw [hx, sub_self, mul_zero, zero_div, add_zero]
      rw [← hx, max_self] at hmax
      rw [hxi] at hgap' ⊢
      refine lt_of_le_of_ne hmax fun h => ?_
      rw [h, sub_self, abs_zero] at hgap'
      exact not_lt.mpr hE hgap'
    · by_contra hnot
      rw [abs_of_nonneg (sub_nonneg.mpr (not_lt.mp hnot))] at hgap'
      exact lt_irrefl _ (hgap'.trans_le ((sub_le_sub_right hle _).trans herr.2))
  · intro hlt
    rw [abs_of_neg (sub_neg.mpr hlt)] at hgap'
    exact ⟨hlt.le.trans (xint_mem hs).2,
      Or.inr ((sub_lt_sub_iff_right _).mp ((lt_neg.mp hgap').trans_le herr.1)).le⟩

def SepR (u atol : K) (poly : List (K × K)) : Prop := ∀ e ∈ edges poly, SepEdgeR u atol e.1 e.2

def GapR (u : K) (poly : List (K × K)) (pt : K × K) : Prop := ∀ e ∈ edges poly, GapEdgeR u pt.1 pt.2 e.1 e.2

theorem sepR_sep {u atol : K} {poly : List (K × K)} (hu : 0 ≤ u) (h : SepR u atol poly) : Sep atol poly := by
  intro e he
  have hle : ∀ z : K, (1 - u) * |z| ≤ |z| := fun z => mul_le_of_le_one_left (abs_nonneg z) (sub_le_self 1 hu)
  exact ⟨(h e he).1.imp id fun h' => h'.trans_le (hle _), (h e he).2.imp id fun h' => h'.trans (hle _)⟩

theorem gapR_offEdges {u : K} {poly : List (K × K)} {pt : K × K} (hu : 0 ≤ u) (h : GapR u poly pt) :
    OffEdges poly pt := by
  intro e he hs heq
  have := h e he hs
  rw [heq, sub_self, abs_zero] at this
  exact not_lt.mpr (errX_nonneg hu _ _) this

def Rectilinear (poly : List (K × K)) : Prop := ∀ e ∈ edges poly, e.1.1 = e.2.1 ∨ e.1.2 = e.2.2

/-- on a vertical or horizontal edge no rounding survives: `(y - p1y) * 0 / d = 0` and `p1x + 0 = p1x` whatever the
rounding does elsewhere, provided it keeps `0` and the vertex abscissa (a representable number) -/
theorem edgeToggleR_rectilinear {rnd : K → K} (hz : rnd 0 = 0) {p1 p2 : K × K} (hx : rnd p1.1 = p1.1)
    (hrect : p1.1 = p2.1 ∨ p1.2 = p2.2) (atol x y : K) :
    edgeToggleR rnd atol x y p1 p2 = crossRle x y p1 p2 := by
  rw [Bool.eq_iff_iff, edgeToggleR_iff, crossRle_iff]
  refine and_congr_right fun hs => ?_
  -- a straddled edge is not horizontal
  have hv : p1.1 = p2.1 := hrect.resolve_right fun h => straddle_ne hs (by rw [h, sub_self])
  have hxr : xintersR rnd y p1 p2 = p1.1 := by
    unfold xintersR
    rw [← hv, sub_self, hz, mul_zero, hz, zero_div, hz, add_zero, hx]
  have hxi : xint y p1 p2 = p1.1 := by unfold xint; rw [← hv, sub_self, mul_zero, zero_div, add_zero]
  rw [hxr, hxi, ite_self, ← hv, max_self]
  exact ⟨fun h => h.1, fun h => ⟨h, Or.inr h⟩⟩

theorem roundHalfEven_error (z : ℚ) : |((roundHalfEven z : ℤ) : ℚ) - z| ≤ 1 / 2 := Round.rne_err z

theorem sepRb_iff (u atol : ℚ) (poly : List (ℚ × ℚ)) : sepRb u atol poly = true ↔ SepR u atol poly := by
  unfold sepRb SepR
  rw [List.all_eq_true]
  apply forall₂_congr
  intro e _
  unfold sepEdgeRb SepEdgeR
  simp only [Bool.and_eq_true, Bool.or_eq_true, decide_eq_true_eq, fabs_eq]

theorem gapRb_iff (u : ℚ) (poly : List (ℚ × ℚ)) (pt : ℚ × ℚ) : gapRb u poly pt = true ↔ GapR u poly pt := by
  unfold gapRb GapR
  rw [List.all_eq_true]
  apply forall₂_congr
  intro e _
  unfold gapEdgeRb GapEdgeR errX
  simp only [Bool.or_eq_true, Bool.not_eq_true', decide_eq_true_eq, fabs_eq]
  cases straddle pt.2 e.1 e.2 <;> simp

theorem rectb_iff (poly : List (ℚ × ℚ)) : rectb poly = true ↔ Rectilinear poly := by
  unfold rectb Rectilinear
  rw [List.all_eq_true]
  apply forall₂_congr
  intro e _
  simp only [Bool.or_eq_true, decide_eq_true_eq]

theorem repb_iff (poly : List (ℚ × ℚ)) : repb poly = true ↔ ∀ v ∈ poly, rnd53 v.1 = v.1 := by
  unfold repb
  rw [List.all_eq_true]
  apply forall₂_congr
  intro e _
  simp only [decide_eq_true_eq]

end HydroVerif.C15
