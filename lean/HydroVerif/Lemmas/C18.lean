/-
C18 — helper lemmas for `Model/C18.lean`: the invariant linking the syntactic ownership check to the buffers of a
run (`AbsOK`, `safe_step`, `sound_aux`, `sound_split`; `andersonDarlingAsarray_private` is `sound_split` on the one body
that needs it), the bodies that convert no object in place (`runFrom_retyped_of_noRetype`), the frame property of the
contents semantics (`mrun_frame`), and the relation between two runs whose allocators differ by a shift (`Rel`, `rel_run`).
-/
import HydroVerif.Model.C18
import HydroVerif.Lemmas.History
namespace HydroVerif.C18

theorem step_view_unsat {st : State} {d s : Nat} {c : Cond} (h : c.sat (st.env s).kind = false) :
    step st (.view d s c) = step st (.copy d s c.dt) := by
  simp [step, h]

theorem step_view_sat {st : State} {d s : Nat} {c : Cond} (h : c.sat (st.env s).kind = true) :
    step st (.view d s c) = { st with env := upd st.env d (st.env s) } := by
  simp [step, h]

theorem view_private {st : State} {d s : Nat} {c : Cond}
    (h : c.sat (st.env s).kind = false ∨ (st.env s).buf.isFresh = true) :
    ((step st (.view d s c)).env d).buf.isFresh = true := by
  cases hc : c.sat (st.env s).kind
  · rw [step_view_unsat hc]; simp [step, upd, Buf.isFresh]
  · rw [step_view_sat hc]; simpa [upd, hc] using h

/-- the buffers statement `s` stores into, given what the locals denote: `step_written`, `mstep_frame` and `safe_step` are
phrased with it -/
def stores (env : Nat → Entry) : Stmt → List Buf
  | .pywrite x => [(env x).buf]
  | .kernel _ args => (args.filter (·.2)).map fun a => (env a.1).buf
  | _ => []

theorem step_written (st : State) (s : Stmt) : (step st s).written = stores st.env s ++ st.written := by
  cases s with
  | view d src c => simp only [step]; split <;> rfl
  | _ => rfl

theorem callerIdx_eq_some {b : Buf} {i : Nat} : b.callerIdx = some i ↔ b = .caller i := by
  cases b <;> simp [Buf.callerIdx]

/-- abstract value `none`: certainly a private buffer; `some r`: caller `r`'s buffer or a private one -/
def Describes : Option Nat → Buf → Prop
  | none, b => b.isFresh = true
  | some r, b => b = .caller r ∨ b.isFresh = true

theorem Describes.of_fresh {v : Option Nat} {b : Buf} (h : b.isFresh = true) : Describes v b := by
  cases v
  · exact h
  · exact Or.inr h

theorem Describes.private {v : Option Nat} {b : Buf} (hd : Describes v b) (hv : v.isNone = true) :
    b.isFresh = true := by
  cases v
  · exact hd
  · cases hv

/-- the abstract environment describes every local of the concrete one -/
def AbsOK (a : Abs) (env : Nat → Entry) : Prop := ∀ x, Describes (a x) (env x).buf

/-- every caller buffer in the written set is one the wrapper may write -/
def WrittenOK (allowed : List Nat) (w : List Buf) : Prop := ∀ i, Buf.caller i ∈ w → i ∈ allowed

/-- the same seen in the kernel events: a written argument that aliases a caller buffer aliases an allowed one -/
def EventsOK (allowed : List Nat) (evs : List Event) : Prop :=
  ∀ e ∈ evs, ∀ arg ∈ e.args, arg.2 = true → ∀ i, arg.1 = some i → i ∈ allowed

theorem absOK_init (kinds : Nat → Kind) (n0 : Nat) : AbsOK absInit (init kinds n0).env :=
  fun _ => Or.inl rfl

theorem absOK_upd {a : Abs} {env : Nat → Entry} (h : AbsOK a env) (d : Nat) {v : Option Nat} {e : Entry}
    (he : Describes v e.buf) : AbsOK (absUpd a d v) (upd env d e) := by
  intro x
  by_cases hx : x = d
  · simpa [absUpd, upd, hx] using he
  · simpa [absUpd, upd, hx] using h x

theorem absOK_private {a : Abs} {env : Nat → Entry} (h : AbsOK a env) (x : Nat) (hx : (env x).buf.isFresh = true) :
    AbsOK (absUpd a x none) env := by
  intro y
  by_cases hy : y = x
  · simpa [absUpd, hy, Describes] using hx
  · simpa [absUpd, hy] using h y

theorem absOK_step {a : Abs} {st : State} (h : AbsOK a st.env) (s : Stmt) : AbsOK (absStep a s) (step st s).env := by
  cases s with
  | copy d src dt => exact absOK_upd h d (v := none) rfl
  | alloc d dt => exact absOK_upd h d (v := none) rfl
  | view d src c =>
    cases hc : c.sat (st.env src).kind
    · rw [step_view_unsat hc]; exact absOK_upd h d (.of_fresh rfl)
    · rw [step_view_sat hc]; exact absOK_upd h d (h src)
  | retype x dt =>
    intro y
    by_cases hy : y = x
    · simpa [absStep, step, upd, hy] using h x
    · simpa [absStep, step, upd, hy] using h y
  | pywrite x => exact h
  | kernel name args => exact h

theorem absOK_run (p : Program) (a : Abs) (st : State) (h : AbsOK a st.env) : AbsOK (absRun a p) (runFrom st p).env :=
  (History.Run.foldl absStep).sim (.foldl step) (fun a st => AbsOK a st.env) (fun _ _ s _ h => absOK_step h s) h

theorem allowed_of_check {allowed : List Nat} {v : Option Nat} {i : Nat}
    (hc : (match v with | none => true | some r => allowed.contains r) = true) (hd : Describes v (.caller i)) :
    i ∈ allowed := by
  cases v with
  | none => cases hd
  | some r =>
    rcases hd with hd | hd
    · cases hd; simpa using hc
    · cases hd

theorem safe_step {allowed : List Nat} {a : Abs} {st : State} {s : Stmt} {p : Program}
    (hs : safeFrom allowed a (s :: p) = true) (ha : AbsOK a st.env) (hw : WrittenOK allowed st.written)
    (he : EventsOK allowed st.events) :
    safeFrom allowed (absStep a s) p = true ∧ WrittenOK allowed (step st s).written ∧
      EventsOK allowed (step st s).events := by
  have hw' : WrittenOK allowed (stores st.env s) → WrittenOK allowed (step st s).written := by
    intro h i hi
    rw [step_written, List.mem_append] at hi
    exact hi.elim (h i) (hw i)
  cases s with
  | pywrite x =>
    simp only [safeFrom, Bool.and_eq_true] at hs
    refine ⟨hs.2, hw' ?_, he⟩
    intro i hi
    rw [stores, List.mem_singleton] at hi
    exact allowed_of_check hs.1 (hi ▸ ha x)
  | kernel name args =>
    simp only [safeFrom, Bool.and_eq_true, List.all_eq_true] at hs
    have hst : WrittenOK allowed (stores st.env (.kernel name args)) := by
      intro i hi
      simp only [stores, List.mem_map, List.mem_filter] at hi
      obtain ⟨arg, ⟨hmem, hflag⟩, hb⟩ := hi
      have hc := hs.1 arg hmem
      simp only [hflag, Bool.not_true, Bool.false_or] at hc
      exact allowed_of_check hc (hb ▸ ha arg.1)
    refine ⟨hs.2, hw' hst, fun e hmem => ?_⟩
    simp only [step, List.mem_append, List.mem_singleton] at hmem
    rcases hmem with hmem | rfl
    · exact he e hmem
    · -- an argument the new event flags as written is among the buffers the statement stores into
      intro earg hearg hflag i hi
      obtain ⟨arg, hmem, rfl⟩ := List.mem_map.mp hearg
      exact hst i (List.mem_map.mpr ⟨arg, List.mem_filter.mpr ⟨hmem, hflag⟩, callerIdx_eq_some.mp hi⟩)
  | view d src c =>
    refine ⟨hs, hw' (fun _ h => nomatch h), ?_⟩
    cases hc : c.sat (st.env src).kind
    · rw [step_view_unsat hc]; exact he
    · rw [step_view_sat hc]; exact he
  -- copy / alloc / retype: nothing is stored, and `safeFrom` on `s :: p` IS `safeFrom` on `p` from `absStep a s`
  -- (its clauses repeat the updates of `absStep`), so `hs` serves as it stands — as in the `view` case above
  | _ => exact ⟨hs, hw, he⟩

theorem sound_aux (allowed : List Nat) :
    ∀ (p : Program) (a : Abs) (st : State), safeFrom allowed a p = true → AbsOK a st.env →
      WrittenOK allowed st.written → EventsOK allowed st.events →
      WrittenOK allowed (runFrom st p).written ∧ EventsOK allowed (runFrom st p).events := by
  intro p
  induction p with
  | nil => intro a st _ _ hw he; exact ⟨hw, he⟩
  | cons s p ih =>
    intro a st hs ha hw he
    obtain ⟨hs', hw', he'⟩ := safe_step hs ha hw he
    exact ih _ _ hs' (absOK_step ha s) hw' he'

theorem sound_init (allowed : List Nat) (p : Program) (h : SafeExcept allowed p) (kinds : Nat → Kind) (n0 : Nat) :
    WrittenOK allowed (runFrom (init kinds n0) p).written ∧ EventsOK allowed (runFrom (init kinds n0) p).events :=
  sound_aux allowed p absInit (init kinds n0) h (absOK_init kinds n0) (fun _ h => nomatch h) (fun _ h => nomatch h)

/-- **The check used path by path.**  When, for the kinds at hand, local `x` is known to hold a private buffer after
the first part of a body, the rest may be checked with `x` recorded as private. -/
theorem sound_split (allowed : List Nat) (pre post : Program) (x : Nat) (kinds : Nat → Kind) (n0 : Nat)
    (hpre : SafeExcept allowed pre) (hx : ((runFrom (init kinds n0) pre).env x).buf.isFresh = true)
    (hpost : safeFrom allowed (absUpd (absRun absInit pre) x none) post = true) :
    WrittenOK allowed (runFrom (init kinds n0) (pre ++ post)).written := by
  have h1 := sound_init allowed pre hpre kinds n0
  have ha := absOK_private (absOK_run pre absInit _ (absOK_init kinds n0)) x hx
  rw [runFrom, List.foldl_append]
  exact (sound_aux allowed post _ _ hpost ha h1.1 h1.2).1

/-- `andersonDarlingAsarray` (the `np.asarray` edit of `anderson_darling_test`): when the conversion to float64 meets
an array that is not float64, or one that `np.atleast_1d` already made, `ad_test` sorts a private array -/
theorem andersonDarlingAsarray_private (kinds : Nat → Kind)
    (h : (⟨some .f64, false⟩ : Cond).sat ((step (init kinds) (.view 0 0 anyLayout)).env 0).kind = false ∨
      ((step (init kinds) (.view 0 0 anyLayout)).env 0).buf.isFresh = true) :
    Buf.caller 0 ∉ (run andersonDarlingAsarray kinds).written := fun hw =>
  nomatch sound_split [] (andersonDarlingAsarray.take 2) (andersonDarlingAsarray.drop 2) 0 kinds 0 (by decide)
    (view_private h) (by decide) 0 hw

theorem step_retyped_of_not_retype (st : State) (s : Stmt) (h : (match s with | .retype _ _ => false | _ => true) = true) :
    (step st s).retyped = st.retyped := by
  cases s with
  | retype x dt => cases h
  | view d src c => simp only [step]; split <;> rfl
  | _ => rfl

theorem runFrom_retyped_of_noRetype (p : Program) (st : State) (h : noRetype p = true) :
    (runFrom st p).retyped = st.retyped :=
  (History.Run.foldl step).preserves (·.retyped = st.retyped)
    (fun t s hs ht => (step_retyped_of_not_retype t s (List.all_eq_true.mp h s hs)).trans ht) rfl

theorem mstep_st {α} (sem : Sem α) (ms : MState α) (s : Stmt) : (mstep sem ms s).st = step ms.st s := by
  cases s with
  | view d src c => simp only [mstep]; split <;> rfl
  | _ => rfl

theorem mrunFrom_st {α} (sem : Sem α) (p : Program) (ms : MState α) : (mrunFrom sem ms p).st = runFrom ms.st p :=
  (History.Run.foldl (mstep sem)).sim (.foldl step) (·.st = ·) (fun ms _ s _ h => h ▸ mstep_st sem ms s) rfl

theorem mstep_view_unsat {α} (sem : Sem α) {ms : MState α} {d s : Nat} {c : Cond}
    (h : c.sat (ms.st.env s).kind = false) : mstep sem ms (.view d s c) = mstep sem ms (.copy d s c.dt) := by
  simp [mstep, h, step_view_unsat h]

theorem mstep_view_sat {α} (sem : Sem α) {ms : MState α} {d s : Nat} {c : Cond}
    (h : c.sat (ms.st.env s).kind = true) :
    mstep sem ms (.view d s c) = ⟨{ ms.st with env := upd ms.st.env d (ms.st.env s) }, ms.mem⟩ := by
  simp [mstep, h, step_view_sat h]

theorem step_next_le (st : State) (s : Stmt) : st.next ≤ (step st s).next := by
  cases s with
  | copy d src dt => exact Nat.le_succ _
  | alloc d dt => exact Nat.le_succ _
  | view d src c =>
    cases hc : c.sat (st.env src).kind
    · exact step_view_unsat hc ▸ Nat.le_succ _
    · exact step_view_sat hc ▸ Nat.le_refl _
  | _ => exact Nat.le_refl _

theorem memSet_frame {α} (m : Mem α) (b0 : Buf) (v : α) (b : Buf) : memSet m b0 v b = m b ∨ b = b0 := by
  by_cases hb : b = b0
  · exact Or.inr hb
  · exact Or.inl (if_neg hb)

theorem storeOut_frame {α} (f : Nat → Buf) : ∀ (args : List (Nat × Bool)) (m : Mem α) (outs : List α) (b : Buf),
    storeOut m (args.map fun a => (f a.1, a.2)) outs b = m b ∨ b ∈ (args.filter (·.2)).map fun a => f a.1 := by
  intro args
  induction args with
  | nil => intro m outs b; exact Or.inl rfl
  | cons a rest ih =>
    intro m outs b
    obtain ⟨x, w⟩ := a
    cases outs with
    | nil => exact Or.inl rfl
    | cons v vs =>
      cases w with
      | false => exact ih m vs b
      | true =>
        rcases ih (memSet m (f x) v) vs b with h | h
        · rcases memSet_frame m (f x) v b with h' | rfl
          · exact Or.inl (h.trans h')
          · exact Or.inr List.mem_cons_self
        · exact Or.inr (List.mem_cons_of_mem _ h)

theorem mstep_frame {α} (sem : Sem α) (ms : MState α) (s : Stmt) (b : Buf) :
    (mstep sem ms s).mem b = ms.mem b ∨ b = .fresh ms.st.next ∨ b ∈ stores ms.st.env s := by
  cases s with
  | copy d src dt => exact (memSet_frame ..).imp_right Or.inl
  | alloc d dt => exact (memSet_frame ..).imp_right Or.inl
  | view d src c =>
    cases hc : c.sat (ms.st.env src).kind
    · rw [mstep_view_unsat sem hc]; exact (memSet_frame ..).imp_right Or.inl
    · rw [mstep_view_sat sem hc]; exact Or.inl rfl
  | retype x dt => exact Or.inl rfl
  | pywrite x => exact (memSet_frame ..).imp_right fun h => Or.inr (List.mem_singleton.mpr h)
  | kernel name args =>
    exact (storeOut_frame (fun x => (ms.st.env x).buf) args ms.mem _ b).imp_right Or.inr

theorem mrun_frame {α} (sem : Sem α) (p : Program) (ms : MState α) (b : Buf) :
    (mrunFrom sem ms p).mem b = ms.mem b ∨ (∃ n, b = .fresh n ∧ ms.st.next ≤ n) ∨
      b ∈ (runFrom ms.st p).written := by
  rw [← mrunFrom_st sem]
  -- along the run the allocator only grows, and `b` holds what it held unless it was allocated or stored into since
  refine ((History.Run.foldl (mstep sem)).preserves
    (fun t => ms.st.next ≤ t.st.next ∧
      (t.mem b = ms.mem b ∨ (∃ n, b = .fresh n ∧ ms.st.next ≤ n) ∨ b ∈ t.st.written))
    (fun t s _ ⟨hle, ht⟩ => ?_) ⟨Nat.le_refl _, Or.inl rfl⟩).2
  rw [mstep_st, step_written]
  refine ⟨Nat.le_trans hle (step_next_le t.st s), ?_⟩
  rcases mstep_frame sem t s b with h | h | h
  · exact ht.imp h.trans (Or.imp_right (List.mem_append_right _))
  · exact Or.inr (Or.inl ⟨_, h, hle⟩)
  · exact Or.inr (Or.inr (List.mem_append_left _ h))

def shiftBuf (δ : Nat) : Buf → Buf
  | .caller i => .caller i
  | .fresh n => .fresh (n + δ)

theorem shiftBuf_inj (δ : Nat) {a b : Buf} (h : shiftBuf δ a = shiftBuf δ b) : a = b := by
  cases a <;> cases b <;> simp [shiftBuf] at h ⊢ <;> omega

theorem callerIdx_shift (δ : Nat) (b : Buf) : (shiftBuf δ b).callerIdx = b.callerIdx := by
  cases b <;> rfl

/-- buffers that exist in a run started with allocator state `n0`: every caller buffer, and the private
buffers handed out so far -/
def Valid (n0 nx : Nat) : Buf → Prop
  | .caller _ => True
  | .fresh n => n0 ≤ n ∧ n < nx

theorem Valid.mono {n0 nx nx' : Nat} {b : Buf} (h : Valid n0 nx b) (hle : nx ≤ nx') : Valid n0 nx' b := by
  cases b with
  | caller i => trivial
  | fresh n => exact ⟨h.1, Nat.lt_of_lt_of_le h.2 hle⟩

theorem Valid.of_succ {n0 nx : Nat} {b : Buf} (h : Valid n0 (nx + 1) b) (hb : b ≠ .fresh nx) : Valid n0 nx b := by
  cases b with
  | caller i => trivial
  | fresh n => exact ⟨h.1, Nat.lt_of_le_of_ne (Nat.le_of_lt_succ h.2) fun e => hb (e ▸ rfl)⟩

/-- `m2` is `m1` with every private buffer renamed by `shiftBuf δ`. The memories are compared on `Valid` buffers only:
outside them the two heaps hold unrelated garbage, and no statement reads there because every local denotes a
`Valid` buffer (`valid`). `base` is what makes a newly allocated buffer `Valid`. -/
structure Rel {α} (δ n0 : Nat) (m1 m2 : MState α) : Prop where
  next : m2.st.next = m1.st.next + δ
  base : n0 ≤ m1.st.next
  envBuf : ∀ x, (m2.st.env x).buf = shiftBuf δ (m1.st.env x).buf
  envKind : ∀ x, (m2.st.env x).kind = (m1.st.env x).kind
  valid : ∀ x, Valid n0 m1.st.next (m1.st.env x).buf
  events : m2.st.events = m1.st.events
  written : m2.st.written = m1.st.written.map (shiftBuf δ)
  mem : ∀ b, Valid n0 m1.st.next b → m2.mem (shiftBuf δ b) = m1.mem b

theorem memSet_shift {α} {δ : Nat} {P : Buf → Prop} {m1 m2 : Mem α} (b0 : Buf) (v : α)
    (hm : ∀ b, P b → b ≠ b0 → m2 (shiftBuf δ b) = m1 b) :
    ∀ b, P b → memSet m2 (shiftBuf δ b0) v (shiftBuf δ b) = memSet m1 b0 v b := by
  intro b hb
  by_cases h : b = b0
  · simp [memSet, h]
  · simp [memSet, h, mt (shiftBuf_inj δ) h, hm b hb h]

theorem storeOut_shift {α} {δ : Nat} {P : Buf → Prop} {f1 f2 : Nat → Buf} (hf : ∀ x, f2 x = shiftBuf δ (f1 x)) :
    ∀ (args : List (Nat × Bool)) (m1 m2 : Mem α) (outs : List α), (∀ b, P b → m2 (shiftBuf δ b) = m1 b) → ∀ b, P b →
      storeOut m2 (args.map fun a => (f2 a.1, a.2)) outs (shiftBuf δ b) =
        storeOut m1 (args.map fun a => (f1 a.1, a.2)) outs b := by
  intro args
  induction args with
  | nil => intro m1 m2 outs hm; exact hm
  | cons a rest ih =>
    intro m1 m2 outs hm
    obtain ⟨x, w⟩ := a
    cases outs with
    | nil => exact hm
    | cons v vs =>
      apply ih
      cases w with
      | false => exact hm
      | true => exact hf x ▸ memSet_shift (f1 x) v fun b hb _ => hm b hb

theorem rel_bind {α} {δ n0 : Nat} {m1 m2 : MState α} (h : Rel δ n0 m1 m2) (d : Nat) (e1 e2 : Entry)
    (r1 r2 : List (Nat × DType)) (hb : e2.buf = shiftBuf δ e1.buf) (hk : e2.kind = e1.kind)
    (hv : Valid n0 m1.st.next e1.buf) :
    Rel δ n0 ⟨{ m1.st with env := upd m1.st.env d e1, retyped := r1 }, m1.mem⟩
      ⟨{ m2.st with env := upd m2.st.env d e2, retyped := r2 }, m2.mem⟩ := by
  refine ⟨h.next, h.base, ?_, ?_, ?_, h.events, h.written, h.mem⟩ <;> intro x <;> by_cases hx : x = d
  · simpa [upd, hx] using hb
  · simpa [upd, hx] using h.envBuf x
  · simpa [upd, hx] using hk
  · simpa [upd, hx] using h.envKind x
  · simpa [upd, hx] using hv
  · simpa [upd, hx] using h.valid x

theorem rel_new {α} {δ n0 : Nat} {m1 m2 : MState α} (h : Rel δ n0 m1 m2) (v : α) :
    Rel δ n0 ⟨{ m1.st with next := m1.st.next + 1 }, memSet m1.mem (.fresh m1.st.next) v⟩
      ⟨{ m2.st with next := m2.st.next + 1 }, memSet m2.mem (.fresh m2.st.next) v⟩ := by
  have hn : Buf.fresh m2.st.next = shiftBuf δ (.fresh m1.st.next) := congrArg Buf.fresh h.next
  refine ⟨?_, Nat.le_succ_of_le h.base, h.envBuf, h.envKind, fun x => (h.valid x).mono (Nat.le_succ _), h.events,
    h.written, ?_⟩
  · exact (congrArg (· + 1) h.next).trans (Nat.add_right_comm _ _ _)
  · rw [hn]
    exact memSet_shift _ v fun b hb hne => h.mem b (hb.of_succ hne)

theorem rel_alloc {α} {δ n0 : Nat} {m1 m2 : MState α} (h : Rel δ n0 m1 m2) (d : Nat) (k : Kind) (v : α) :
    Rel δ n0
      ⟨{ m1.st with env := upd m1.st.env d ⟨.fresh m1.st.next, k⟩, next := m1.st.next + 1 },
        memSet m1.mem (.fresh m1.st.next) v⟩
      ⟨{ m2.st with env := upd m2.st.env d ⟨.fresh m2.st.next, k⟩, next := m2.st.next + 1 },
        memSet m2.mem (.fresh m2.st.next) v⟩ :=
  rel_bind (rel_new h v) d _ _ _ _ (congrArg Buf.fresh h.next) rfl ⟨h.base, Nat.lt_succ_self _⟩

theorem rel_step {α} (sem : Sem α) {δ n0 : Nat} {m1 m2 : MState α} (h : Rel δ n0 m1 m2) (s : Stmt) :
    Rel δ n0 (mstep sem m1 s) (mstep sem m2 s) := by
  have hm : ∀ x, m2.mem (m2.st.env x).buf = m1.mem (m1.st.env x).buf := fun x => by
    rw [h.envBuf x]; exact h.mem _ (h.valid x)
  have hcopy : ∀ d src dt, Rel δ n0 (mstep sem m1 (.copy d src dt)) (mstep sem m2 (.copy d src dt)) := fun d src dt => by
    simp only [mstep, step]
    rw [h.envKind src, hm src]
    exact rel_alloc h d _ _
  cases s with
  | copy d src dt => exact hcopy d src dt
  | alloc d dt => exact rel_alloc h d _ _
  | view d src c =>
    cases hc : c.sat (m1.st.env src).kind
    · rw [mstep_view_unsat sem hc, mstep_view_unsat sem ((h.envKind src).symm ▸ hc)]
      exact hcopy d src c.dt
    · rw [mstep_view_sat sem hc, mstep_view_sat sem ((h.envKind src).symm ▸ hc)]
      exact rel_bind h d _ _ _ _ (h.envBuf src) (h.envKind src) (h.valid src)
  | retype x dt => exact rel_bind h x _ _ _ _ (h.envBuf x) rfl (h.valid x)
  | pywrite x =>
    refine ⟨h.next, h.base, h.envBuf, h.envKind, h.valid, h.events, ?_, ?_⟩
    · simp [mstep, step, h.written, h.envBuf x]
    · simp only [mstep]
      rw [hm x, h.envBuf x]
      exact memSet_shift _ _ fun b hb _ => h.mem b hb
  | kernel name args =>
    have hins : ((args.map fun a => ((m2.st.env a.1).buf, a.2)).map fun b => m2.mem b.1) =
        ((args.map fun a => ((m1.st.env a.1).buf, a.2)).map fun b => m1.mem b.1) := by
      simp only [List.map_map, Function.comp_def]
      exact List.map_congr_left fun a _ => hm a.1
    refine ⟨h.next, h.base, h.envBuf, h.envKind, h.valid, ?_, ?_, ?_⟩
    · simp [mstep, step, h.events, h.envBuf, callerIdx_shift]
    · simp [mstep, step, h.written, List.map_map, Function.comp_def, h.envBuf]
    · simp only [mstep]
      rw [hins]
      exact storeOut_shift h.envBuf _ _ _ _ h.mem

theorem rel_run {α} (sem : Sem α) {δ n0 : Nat} (p : Program) {m1 m2 : MState α} (h : Rel δ n0 m1 m2) :
    Rel δ n0 (mrunFrom sem m1 p) (mrunFrom sem m2 p) :=
  (History.Run.foldl (mstep sem)).sim (.foldl (mstep sem)) (Rel δ n0) (fun _ _ s _ h => rel_step sem h s) h

theorem rel_init {α} (kinds : Nat → Kind) (m m' : Mem α) (n0 δ : Nat)
    (hm : ∀ i, m' (.caller i) = m (.caller i)) :
    Rel δ n0 (⟨init kinds n0, m⟩ : MState α) ⟨init kinds (n0 + δ), m'⟩ := by
  refine ⟨rfl, Nat.le_refl _, fun _ => rfl, fun _ => rfl, fun _ => trivial, rfl, rfl, ?_⟩
  intro b hb
  cases b with
  | caller i => exact hm i
  | fresh n => exact absurd hb.2 (Nat.not_lt.mpr hb.1)

end HydroVerif.C18
