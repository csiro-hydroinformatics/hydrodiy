/-
C01 / C02 — the real-number instance of the transform model and the helper lemmas used by
`Props/C01.lean` and `Props/C02.lean` (none of these is a property statement). Every class is an inner function between
two affine maps: the power / logarithm pairs of BoxCox2, of the four Yeo-Johnson formulas and of Manly (at `exp (x/xmax)`)
are treated once, as the family `bc` / `bcInv` with the caller's branch test as a parameter; LogSinh has `lsF` / `lsB`
(`log ∘ sinh` and `arsinh ∘ exp`: `logsinh_eq`, `lsB_eq`), Logit `logit` / `expit`, Reciprocal `s ↦ -1/s`. The facts
`x ∈ dom → the inner argument is in range` are here for both the round trips (C01) and the derivatives (C02).
-/
import HydroVerif.Model.C01
import HydroVerif.Lemmas.Ordered
import Mathlib.Analysis.SpecialFunctions.Pow.Real
import Mathlib.Analysis.SpecialFunctions.Arsinh
import Mathlib.Analysis.SpecialFunctions.Log.Basic
import Mathlib.Analysis.SpecialFunctions.Sqrt
import Mathlib.Analysis.Convex.SpecificFunctions.Basic
import Mathlib.Tactic.Ring
import Mathlib.Tactic.Linarith
import Mathlib.Tactic.FieldSimp
import Mathlib.Tactic.NormNum
namespace HydroVerif

noncomputable instance instTranscReal : Transc ℝ where
  exp := Real.exp
  log := Real.log
  sqrt := Real.sqrt
  sinh := Real.sinh
  cosh := Real.cosh
  tanh := Real.tanh
  asinh := Real.arsinh
  pow := fun x y => x ^ y

instance : C01.NanTest ℝ := ⟨fun _ => false⟩

namespace C01

@[simp] theorem transc_exp (x : ℝ) : Transc.exp x = Real.exp x := rfl
@[simp] theorem transc_log (x : ℝ) : Transc.log x = Real.log x := rfl
@[simp] theorem transc_sqrt (x : ℝ) : Transc.sqrt x = Real.sqrt x := rfl
@[simp] theorem transc_sinh (x : ℝ) : Transc.sinh x = Real.sinh x := rfl
@[simp] theorem transc_cosh (x : ℝ) : Transc.cosh x = Real.cosh x := rfl
@[simp] theorem transc_tanh (x : ℝ) : Transc.tanh x = Real.tanh x := rfl
@[simp] theorem transc_asinh (x : ℝ) : Transc.asinh x = Real.arsinh x := rfl
@[simp] theorem transc_pow (x y : ℝ) : Transc.pow x y = x ^ y := rfl

theorem absv_eq (x : ℝ) : absv x = |x| := Ordered.ite_neg_eq_abs x

theorem maxv_eq (a b : ℝ) : maxv a b = max a b := (max_def_lt a b).symm

theorem eps_pos : (0 : ℝ) < eps := by unfold eps; norm_num
theorem eps_lt_one : (eps : ℝ) < 1 := by unfold eps; norm_num

theorem lamBig_true {lam : ℝ} (h : lamBig lam = true) : lam ≠ 0 := by
  unfold lamBig at h
  rw [decide_eq_true_iff, absv_eq] at h
  intro h0
  rw [h0, abs_zero] at h
  exact absurd h (not_lt.mpr eps_pos.le)

theorem lamBig_zero : lamBig (0 : ℝ) = false := by
  unfold lamBig
  rw [decide_eq_false_iff_not, absv_eq, abs_zero]
  exact not_lt.mpr eps_pos.le

theorem lamBig_ne (lam : ℝ) : (!lamBig lam) = false → lam ≠ 0 := fun h => lamBig_true (by simpa using h)

theorem isclose0_false {lam : ℝ} (h : isclose0 lam = false) : lam ≠ 0 := by
  unfold isclose0 at h
  rw [decide_eq_false_iff_not, absv_eq] at h
  intro h0
  apply h
  rw [h0, abs_zero]; norm_num

theorem isclose2_false {lam : ℝ} (h : isclose2 lam = false) : 2 - lam ≠ 0 := by
  unfold isclose2 at h
  rw [decide_eq_false_iff_not, absv_eq] at h
  intro h0
  apply h
  have : lam - 2 = 0 := by linarith
  rw [this, abs_zero]; norm_num

/-- `np.isclose(lam, t)` is `|lam - t| ≤ atol + rtol·|t|` (`atol = 1e-8`, `rtol = 1e-5`): away from its target it fails, and the
power formula is the one evaluated -/
theorem isclose0_of {lam : ℝ} (h : 1e-8 < |lam|) : isclose0 lam = false :=
  decide_eq_false (by rw [absv_eq]; exact not_le.mpr h)

theorem isclose2_of {lam : ℝ} (h : 1e-8 + 1e-5 * 2 < |lam - 2|) : isclose2 lam = false :=
  decide_eq_false (by rw [absv_eq]; exact not_le.mpr h)

theorem sign_pos {x : ℝ} (h : 0 < x) : sign x = 1 := by simp [sign, h]
theorem sign_neg {x : ℝ} (h : x < 0) : sign x = -1 := by
  simp [sign, h, not_lt.mpr h.le]
theorem sign_zero : sign (0 : ℝ) = 0 := by simp [sign]

/-- the round trip of an odd extension `x ↦ sign x * φ |x|` through `y ↦ sign y * ψ |y|`: it is enough that `φ` is positive
and undone by `ψ` at `|x|` for `x ≠ 0`, since at `0` both sides vanish with `sign 0 = 0`. The four BoxCox2sym round trips are
this with `φ = BC(·) - BC(0)`, `ψ = BC⁻¹(· + BC(0))`, and with the two exchanged (`oddExt F` of Lemmas/C02 is the first map with
`φ = F · - F 0`). -/
theorem sign_mul_abs_inv (φ ψ : ℝ → ℝ) (x : ℝ) (h : x ≠ 0 → 0 < φ |x| ∧ ψ (φ |x|) = |x|) :
    sign (sign x * φ |x|) * ψ |sign x * φ (|x|)| = x := by
  rcases lt_trichotomy x 0 with hx | rfl | hx
  · obtain ⟨h1, h2⟩ := h hx.ne
    have hy : -1 * φ |x| < 0 := by linarith
    rw [sign_neg hx, sign_neg hy, abs_of_neg hy, show -(-1 * φ |x|) = φ |x| by ring, h2, abs_of_neg hx]
    ring
  · rw [sign_zero, zero_mul, sign_zero, zero_mul]
  · obtain ⟨h1, h2⟩ := h hx.ne'
    have hy : 0 < 1 * φ |x| := by linarith
    rw [sign_pos hx, sign_pos hy, abs_of_pos hy, one_mul (φ |x|), h2, abs_of_pos hx, one_mul]

/-- the Box-Cox kernel at `s`: `(s^k - 1)/k`, or `log s` when the caller's test `lg` takes the exponent `k` for zero; `bcInv`
is its inverse. BoxCox2 and Manly pass `!lamBig lam` (the code's `abs(lam) > EPS` fails), Yeo-Johnson `isclose0 lam`
(`np.isclose(lam, 0)`) with `k = lam` and `isclose2 lam` (`np.isclose(lam, 2)`) with `k = 2 - lam`; the lemmas need only
`lg = false → k ≠ 0`. -/
noncomputable def bc (lg : Bool) (k s : ℝ) : ℝ := if lg then Real.log s else (s ^ k - 1) / k
noncomputable def bcInv (lg : Bool) (k y : ℝ) : ℝ := if lg then Real.exp y else (k * y + 1) ^ (1 / k)

/-- what the inverse raises to the power `1/k` at an image of the kernel -/
theorem mul_bc_add_one {k : ℝ} (hk : k ≠ 0) (s : ℝ) : k * bc false k s + 1 = s ^ k := by
  rw [bc, if_neg Bool.false_ne_true, mul_div_cancel₀ _ hk, sub_add_cancel]

theorem bcInv_bc {lg : Bool} {k s : ℝ} (hk : lg = false → k ≠ 0) (hs : 0 < s) : bcInv lg k (bc lg k s) = s := by
  cases lg with
  | true => exact Real.exp_log hs
  | false =>
    rw [bcInv, if_neg Bool.false_ne_true, mul_bc_add_one (hk rfl), one_div, Real.rpow_rpow_inv hs.le (hk rfl)]

theorem bc_bcInv {lg : Bool} {k y : ℝ} (hk : lg = false → k ≠ 0) (hy : lg = false → 0 < k * y + 1) :
    bc lg k (bcInv lg k y) = y := by
  unfold bcInv bc
  cases lg with
  | true => exact Real.log_exp y
  | false =>
    simp only [Bool.false_eq_true, if_false]
    rw [one_div, Real.rpow_inv_rpow (hy rfl).le (hk rfl), add_sub_cancel_right, mul_div_cancel_left₀ _ (hk rfl)]

theorem bcInv_pos {lg : Bool} {k y : ℝ} (hy : lg = false → 0 < k * y + 1) : 0 < bcInv lg k y := by
  unfold bcInv
  cases lg with
  | true => exact Real.exp_pos y
  | false => exact Real.rpow_pos_of_pos (hy rfl) _

theorem bc_strictMonoOn {lg : Bool} {k : ℝ} (hk : lg = false → k ≠ 0) : StrictMonoOn (bc lg k) (Set.Ioi 0) := by
  intro s hs t _ hst
  unfold bc
  cases lg with
  | true => exact Real.log_lt_log hs hst
  | false =>
    simp only [Bool.false_eq_true, if_false]
    rcases lt_or_gt_of_ne (hk rfl) with h | h
    · rw [div_lt_div_right_of_neg h]
      linarith [Real.rpow_lt_rpow_of_neg hs hst h]
    · rw [div_lt_div_iff_of_pos_right h]
      linarith [Real.rpow_lt_rpow (le_of_lt hs) hst h]

theorem bcInv_lt {lg : Bool} {k u v : ℝ} (hk : lg = false → k ≠ 0) (hu : lg = false → 0 < k * u + 1)
    (hv : lg = false → 0 < k * v + 1) (huv : u < v) : bcInv lg k u < bcInv lg k v :=
  ((bc_strictMonoOn hk).lt_iff_lt (bcInv_pos hu) (bcInv_pos hv)).mp (by rwa [bc_bcInv hk hu, bc_bcInv hk hv])

theorem bc_one (lg : Bool) (k : ℝ) : bc lg k 1 = 0 := by
  unfold bc
  cases lg with
  | true => exact Real.log_one
  | false => simp only [Bool.false_eq_true, if_false, Real.one_rpow, sub_self, zero_div]

theorem bc_nonneg_iff {lg : Bool} {k s : ℝ} (hk : lg = false → k ≠ 0) (hs : 0 < s) : 0 ≤ bc lg k s ↔ 1 ≤ s := by
  rw [← bc_one lg k]
  exact (bc_strictMonoOn hk).le_iff_le (Set.mem_Ioi.mpr one_pos) hs

theorem bc_nonpos_iff {lg : Bool} {k s : ℝ} (hk : lg = false → k ≠ 0) (hs : 0 < s) : bc lg k s ≤ 0 ↔ s ≤ 1 := by
  rw [← bc_one lg k]
  exact (bc_strictMonoOn hk).le_iff_le hs (Set.mem_Ioi.mpr one_pos)

theorem one_le_bcInv_iff {lg : Bool} {k y : ℝ} (hk : lg = false → k ≠ 0) (hy : lg = false → 0 < k * y + 1) :
    1 ≤ bcInv lg k y ↔ 0 ≤ y := by
  rw [← bc_nonneg_iff hk (bcInv_pos hy), bc_bcInv hk hy]

theorem bcInv_le_one_iff {lg : Bool} {k y : ℝ} (hk : lg = false → k ≠ 0) (hy : lg = false → 0 < k * y + 1) :
    bcInv lg k y ≤ 1 ↔ y ≤ 0 := by
  rw [← bc_nonpos_iff hk (bcInv_pos hy), bc_bcInv hk hy]

theorem sub_one_le_bc {k s : ℝ} (hk : 1 ≤ k) (hs : 0 < s) : s - 1 ≤ bc false k s := by
  have hb := one_add_mul_self_le_rpow_one_add (s := s - 1) (by linarith) hk
  rw [add_sub_cancel] at hb
  unfold bc
  simp only [Bool.false_eq_true, if_false]
  rw [le_div_iff₀ (by linarith)]
  linarith

/-- the image of the kernel lies where its inverse is defined -/
theorem bc_arg_pos {lg : Bool} {k s : ℝ} (hk : lg = false → k ≠ 0) (hs : 0 < s) :
    lg = false → 0 < k * bc lg k s + 1 := by
  rintro rfl
  rw [mul_bc_add_one (hk rfl)]
  exact Real.rpow_pos_of_pos hs _

theorem BoxCox2.fwd_eq (p : BoxCox2.Params ℝ) (x : ℝ) : BoxCox2.fwd p x = bc (!lamBig p.lam) p.lam (x + p.nu) := by
  unfold BoxCox2.fwd bc
  cases lamBig p.lam <;> rfl

theorem BoxCox2.bwd_eq (p : BoxCox2.Params ℝ) (y : ℝ) : BoxCox2.bwd p y = bcInv (!lamBig p.lam) p.lam y - p.nu := by
  unfold BoxCox2.bwd bcInv
  cases lamBig p.lam <;> rfl

theorem BoxCox2.codom_arg {p : BoxCox2.Params ℝ} {y : ℝ} (hy : BoxCox2.codom p y) :
    (!lamBig p.lam) = false → 0 < p.lam * y + 1 := fun h => hy (by simpa using h)

theorem BoxCox2.bwd_fwd (p : BoxCox2.Params ℝ) {x : ℝ} (hx : 0 < x + p.nu) :
    BoxCox2.bwd p (BoxCox2.fwd p x) = x := by
  rw [BoxCox2.bwd_eq, BoxCox2.fwd_eq, bcInv_bc (lamBig_ne _) hx, add_sub_cancel_right]

theorem BoxCox2.fwd_bwd (p : BoxCox2.Params ℝ) {y : ℝ} (hy : BoxCox2.codom p y) :
    BoxCox2.fwd p (BoxCox2.bwd p y) = y := by
  rw [BoxCox2.bwd_eq, BoxCox2.fwd_eq, sub_add_cancel, bc_bcInv (lamBig_ne _) (BoxCox2.codom_arg hy)]

theorem BoxCox2.codom_fwd (p : BoxCox2.Params ℝ) {x : ℝ} (hx : 0 < x + p.nu) :
    BoxCox2.codom p (BoxCox2.fwd p x) := fun h => by
  rw [BoxCox2.fwd_eq]
  exact bc_arg_pos (lamBig_ne _) hx (congrArg (!·) h)

theorem BoxCox2.fwd_lt (p : BoxCox2.Params ℝ) {s t : ℝ} (hs : 0 < s + p.nu) (hst : s < t) :
    BoxCox2.fwd p s < BoxCox2.fwd p t := by
  rw [BoxCox2.fwd_eq, BoxCox2.fwd_eq]
  exact bc_strictMonoOn (lamBig_ne _) hs (Set.mem_Ioi.mpr (by linarith)) (by linarith)

theorem BoxCox2.fwd_lt_of_pos (p : BoxCox2.Params ℝ) (hl : lamBig p.lam = true) (hpos : 0 < p.lam) {s t : ℝ}
    (hs : 0 ≤ s + p.nu) (hst : s < t) : BoxCox2.fwd p s < BoxCox2.fwd p t := by
  unfold BoxCox2.fwd
  simp only [hl, if_true, transc_pow]
  rw [div_lt_div_iff_of_pos_right hpos]
  have := Real.rpow_lt_rpow hs (by linarith : s + p.nu < t + p.nu) hpos
  linarith

theorem BoxCox2.bwd_lt (p : BoxCox2.Params ℝ) {u v : ℝ} (hu : BoxCox2.codom p u) (hv : BoxCox2.codom p v)
    (huv : u < v) : BoxCox2.bwd p u < BoxCox2.bwd p v := by
  rw [BoxCox2.bwd_eq, BoxCox2.bwd_eq]
  linarith [bcInv_lt (lamBig_ne _) (BoxCox2.codom_arg hu) (BoxCox2.codom_arg hv) huv]

namespace YeoJohnson

noncomputable def posF (lam w : ℝ) : ℝ :=
  if isclose0 lam then Real.log (w + 1) else ((w + 1) ^ lam - 1) / lam
noncomputable def negF (lam w : ℝ) : ℝ :=
  if isclose2 lam then -(Real.log (-w + 1)) else (-((-w + 1) ^ (2 - lam) - 1)) / (2 - lam)
noncomputable def posB (lam y : ℝ) : ℝ :=
  if isclose0 lam then Real.exp y - 1 else (lam * y + 1) ^ (1 / lam) - 1
noncomputable def negB (lam y : ℝ) : ℝ :=
  if isclose2 lam then -(Real.exp (-y)) + 1 else -((-(2 - lam) * y + 1) ^ (1 / (2 - lam))) + 1

theorem fwdW_eq (lam w : ℝ) : fwdW lam w = if eps ≤ w then posF lam w else negF lam w := by
  unfold fwdW posF negF; simp only [transc_log, transc_pow]
theorem bwdW_eq (lam y : ℝ) : bwdW lam y = if eps ≤ y then posB lam y else negB lam y := by
  unfold bwdW posB negB; simp only [transc_exp, transc_pow]

theorem posF_eq (lam w : ℝ) : posF lam w = bc (isclose0 lam) lam (w + 1) := rfl
theorem posB_eq (lam y : ℝ) : posB lam y = bcInv (isclose0 lam) lam y - 1 := by
  unfold posB bcInv; split_ifs <;> rfl
theorem negF_eq (lam v : ℝ) : negF lam v = -bc (isclose2 lam) (2 - lam) (-v + 1) := by
  unfold negF bc; split_ifs
  · rfl
  · exact neg_div _ _
theorem negB_eq (lam y : ℝ) : negB lam y = -bcInv (isclose2 lam) (2 - lam) (-y) + 1 := by
  unfold negB bcInv; split_ifs
  · rfl
  · rw [neg_mul_comm]

theorem neg_arg {lam y : ℝ} (hq : isclose2 lam = false → 0 < -(2 - lam) * y + 1) :
    isclose2 lam = false → 0 < (2 - lam) * -y + 1 := fun h => by rw [← neg_mul_comm]; exact hq h

theorem posB_posF {lam w : ℝ} (hw : 0 < w + 1) : posB lam (posF lam w) = w := by
  rw [posB_eq, posF_eq, bcInv_bc isclose0_false hw, add_sub_cancel_right]

theorem negB_negF {lam w : ℝ} (hw : 0 < -w + 1) : negB lam (negF lam w) = w := by
  rw [negB_eq, negF_eq, neg_neg, bcInv_bc isclose2_false hw]; ring

theorem posF_posB {lam y : ℝ} (hq : isclose0 lam = false → 0 < lam * y + 1) : posF lam (posB lam y) = y := by
  rw [posF_eq, posB_eq, sub_add_cancel, bc_bcInv isclose0_false hq]

theorem negF_negB {lam y : ℝ} (hq : isclose2 lam = false → 0 < -(2 - lam) * y + 1) : negF lam (negB lam y) = y := by
  rw [negF_eq, negB_eq, show -(-bcInv (isclose2 lam) (2 - lam) (-y) + 1) + 1 = bcInv (isclose2 lam) (2 - lam) (-y) by ring,
    bc_bcInv isclose2_false (neg_arg hq), neg_neg]

theorem posB_nonneg {lam y : ℝ} (hy : 0 ≤ y) (hq : isclose0 lam = false → 0 < lam * y + 1) :
    0 ≤ posB lam y := by
  rw [posB_eq]; linarith [(one_le_bcInv_iff isclose0_false hq).mpr hy]

theorem negB_nonneg {lam y : ℝ} (hy : 0 ≤ y) (hq : isclose2 lam = false → 0 < -(2 - lam) * y + 1) :
    0 ≤ negB lam y := by
  rw [negB_eq]; linarith [(bcInv_le_one_iff isclose2_false (neg_arg hq)).mpr (neg_nonpos.mpr hy)]

theorem negB_lt_one {lam y : ℝ} (hq : isclose2 lam = false → 0 < -(2 - lam) * y + 1) : negB lam y < 1 := by
  rw [negB_eq]; linarith [bcInv_pos (neg_arg hq)]

theorem posF_strictMonoOn (lam : ℝ) : StrictMonoOn (posF lam) (Set.Ioi (-1)) :=
  fun _ ha _ hb hab => bc_strictMonoOn isclose0_false (Set.mem_Ioi.mpr (neg_lt_iff_pos_add.mp ha))
    (Set.mem_Ioi.mpr (neg_lt_iff_pos_add.mp hb)) ((add_lt_add_iff_right 1).mpr hab)

theorem negF_strictMonoOn (lam : ℝ) : StrictMonoOn (negF lam) (Set.Iio 1) := by
  intro a ha b hb hab
  rw [negF_eq, negF_eq, neg_lt_neg_iff]
  exact bc_strictMonoOn isclose2_false (Set.mem_Ioi.mpr (lt_neg_add_iff_lt.mpr hb)) (Set.mem_Ioi.mpr (lt_neg_add_iff_lt.mpr ha))
    ((add_lt_add_iff_right 1).mpr (neg_lt_neg hab))

end YeoJohnson

theorem YeoJohnson.bwdW_fwdW (lam w : ℝ) (hb : eps ≤ w ↔ eps ≤ YeoJohnson.fwdW lam w) :
    YeoJohnson.bwdW lam (YeoJohnson.fwdW lam w) = w := by
  rw [YeoJohnson.bwdW_eq]
  by_cases hw : eps ≤ w
  · rw [if_pos (hb.mp hw), YeoJohnson.fwdW_eq, if_pos hw]
    exact YeoJohnson.posB_posF (by linarith [eps_pos])
  · rw [if_neg (fun h => hw (hb.mpr h)), YeoJohnson.fwdW_eq, if_neg hw]
    exact YeoJohnson.negB_negF (by linarith [eps_lt_one])

theorem YeoJohnson.fwdW_bwdW (lam y : ℝ) (hb : eps ≤ y ↔ eps ≤ YeoJohnson.bwdW lam y)
    (hpos : eps ≤ y → isclose0 lam = false → 0 < lam * y + 1)
    (hneg : ¬ eps ≤ y → isclose2 lam = false → 0 < -(2 - lam) * y + 1) :
    YeoJohnson.fwdW lam (YeoJohnson.bwdW lam y) = y := by
  rw [YeoJohnson.fwdW_eq]
  by_cases hy : eps ≤ y
  · rw [if_pos (hb.mp hy), YeoJohnson.bwdW_eq, if_pos hy]
    exact YeoJohnson.posF_posB (hpos hy)
  · rw [if_neg (fun h => hy (hb.mpr h)), YeoJohnson.bwdW_eq, if_neg hy]
    exact YeoJohnson.negF_negB (hneg hy)

theorem YeoJohnson.negF_nonpos {lam w : ℝ} (hw : w ≤ 0) : YeoJohnson.negF lam w ≤ 0 := by
  rw [YeoJohnson.negF_eq, neg_nonpos, bc_nonneg_iff isclose2_false (by linarith)]
  linarith

/-- so for `w ≤ 0` the backward test `y ≥ EPS` picks the branch the forward test picked -/
theorem YeoJohnson.fwdW_nonpos (lam w : ℝ) (hw : w ≤ 0) : YeoJohnson.fwdW lam w ≤ 0 := by
  rw [YeoJohnson.fwdW_eq, if_neg (by linarith [eps_pos])]
  exact YeoJohnson.negF_nonpos hw

/-- Bernoulli; so for `lam ≥ 1`, `w ≥ EPS ⇒ forward ≥ EPS`: the two branch tests agree -/
theorem YeoJohnson.le_fwdW_of_one_le (lam w : ℝ) (hl : 1 ≤ lam) (hw : eps ≤ w) : w ≤ YeoJohnson.fwdW lam w := by
  have h0 : isclose0 lam = false :=
    isclose0_of ((show (1e-8 : ℝ) < 1 by norm_num).trans_le (hl.trans (le_abs_self lam)))
  rw [YeoJohnson.fwdW_eq, if_pos hw, YeoJohnson.posF_eq, h0]
  linarith [sub_one_le_bc hl (by linarith [eps_pos] : 0 < w + 1)]

/-- Bernoulli; so for `lam ≤ 1`, `w < EPS ⇒ forward < EPS`: the two branch tests agree -/
theorem YeoJohnson.fwdW_le_of_le_one (lam w : ℝ) (hl : lam ≤ 1) (hw : w < eps) : YeoJohnson.fwdW lam w ≤ w := by
  have h2 : isclose2 lam = false :=
    isclose2_of ((show (1e-8 : ℝ) + 1e-5 * 2 < 1 by norm_num).trans_le
      ((show 1 ≤ -(lam - 2) by linarith).trans (neg_le_abs (lam - 2))))
  rw [YeoJohnson.fwdW_eq, if_neg (not_le.mpr hw), YeoJohnson.negF_eq, h2]
  linarith [sub_one_le_bc (by linarith : 1 ≤ 2 - lam) (by linarith [eps_lt_one] : 0 < -w + 1)]

theorem YeoJohnson.bwdW_nonpos (lam y : ℝ) (hy : y ≤ 0)
    (hneg : isclose2 lam = false → 0 < -(2 - lam) * y + 1) : YeoJohnson.bwdW lam y ≤ 0 := by
  rw [YeoJohnson.bwdW_eq, if_neg (by linarith [eps_pos]), YeoJohnson.negB_eq]
  linarith [(one_le_bcInv_iff isclose2_false (YeoJohnson.neg_arg hneg)).mpr (neg_nonneg.mpr hy)]

theorem YeoJohnson.scale_pos (p : YeoJohnson.Params ℝ) (hp : YeoJohnson.admissible p) : 0 < p.scale :=
  lt_of_lt_of_le (by norm_num) hp.1

theorem YeoJohnson.lam_mem (p : YeoJohnson.Params ℝ) (hp : YeoJohnson.admissible p) : -1 ≤ p.lam ∧ p.lam ≤ 3 :=
  ⟨le_of_eq_of_le (by norm_num) hp.2.1, le_of_le_of_eq hp.2.2 (by norm_num)⟩

/-- `log (sinh w)` as LogSinh computes it, and the inverse LogSinh uses, on the normalised argument -/
noncomputable def lsF (w : ℝ) : ℝ := w + Real.log ((1 - Real.exp (-2 * w)) / 2)
noncomputable def lsB (t : ℝ) : ℝ := t + Real.log (1 + Real.sqrt (1 + Real.exp (-2 * t)))

/-- the overflow-free form `lsF` the code evaluates is `log sinh w`: `(1 - e^{-2w})/2 = e^{-w} sinh w` -/
theorem logsinh_eq {w : ℝ} (hw : 0 < w) : lsF w = Real.log (Real.sinh w) := by
  have e : (1 - Real.exp (-2 * w)) / 2 = Real.exp (-w) * Real.sinh w := by
    rw [Real.sinh_eq, mul_div_assoc', mul_sub, ← Real.exp_add, ← Real.exp_add, neg_add_cancel, Real.exp_zero,
      ← two_mul, mul_neg, neg_mul]
  rw [lsF, e, Real.log_mul (Real.exp_pos _).ne' (Real.sinh_pos_iff.mpr hw).ne', Real.log_exp, ← add_assoc,
    add_neg_cancel, zero_add]

/-- `sqrt (1 + a²)` with `a` taken out of the root: `lsB` below at `a = e^t`, the overflow-free `hypot` of Model/C02 at `a = |u|`
(`Sinh.hypot1_eq` of Lemmas/C02) -/
theorem mul_sqrt_one_add_inv_sq {a : ℝ} (ha : 0 < a) : a * √(1 + (a ^ 2)⁻¹) = √(1 + a ^ 2) := by
  nth_rewrite 1 [← Real.sqrt_sq ha.le]
  rw [← Real.sqrt_mul (sq_nonneg _), mul_add, mul_one, mul_inv_cancel₀ (pow_pos ha 2).ne', add_comm]

/-- and `lsB` is `arsinh (exp t) = log (e^t + sqrt (1 + e^{2t}))` with `e^t` taken out of the logarithm -/
theorem lsB_eq (t : ℝ) : lsB t = Real.arsinh (Real.exp t) := by
  have he := Real.exp_pos t
  have h2 : Real.exp (-2 * t) = (Real.exp t ^ 2)⁻¹ := by rw [neg_mul, Real.exp_neg, two_mul, Real.exp_add, sq]
  rw [Real.arsinh, ← mul_sqrt_one_add_inv_sq he, ← mul_one_add, Real.log_mul he.ne' (by positivity), Real.log_exp, lsB, h2]

/-! so the two are inverse to each other because `sinh`, `arsinh` and `exp`, `log` are -/

theorem lsB_lsF {w : ℝ} (hw : 0 < w) : lsB (lsF w) = w := by
  rw [lsB_eq, logsinh_eq hw, Real.exp_log (Real.sinh_pos_iff.mpr hw), Real.arsinh_sinh]

theorem lsF_lsB (t : ℝ) : lsF (lsB t) = t := by
  rw [lsB_eq, logsinh_eq (Real.arsinh_pos_iff.mpr (Real.exp_pos t)), Real.sinh_arsinh, Real.log_exp]

theorem LogSinh.fwd_eq (p : LogSinh.Params ℝ) (x : ℝ) :
    LogSinh.fwd p x = lsF (LogSinh.a p + LogSinh.b p * (x / p.xmax)) / LogSinh.b p := rfl

theorem LogSinh.bwd_eq (p : LogSinh.Params ℝ) (y : ℝ) :
    LogSinh.bwd p y = p.xmax * ((lsB (LogSinh.b p * y) - LogSinh.a p) / LogSinh.b p) := by
  have hb : LogSinh.b p ≠ 0 := (Real.exp_pos _).ne'
  rw [lsB, add_sub_assoc, add_div, mul_div_cancel_left₀ _ hb]
  rfl

theorem LogSinh.xmax_pos (p : LogSinh.Params ℝ) (hp : LogSinh.admissible p) : 0 < p.xmax :=
  lt_of_lt_of_le eps_pos hp.2.2.2.2

theorem LogSinh.xmax_ne_zero {p : LogSinh.Params ℝ} (hp : LogSinh.admissible p) : p.xmax ≠ 0 :=
  (LogSinh.xmax_pos p hp).ne'

/-- on the domain the normalised argument `a + b x / xmax` of `log sinh` is positive -/
theorem LogSinh.w_pos (p : LogSinh.Params ℝ) (x : ℝ) (hx : LogSinh.dom p x) :
    0 < LogSinh.a p + LogSinh.b p * (x / p.xmax) := by
  have hb : 0 < LogSinh.b p := Real.exp_pos _
  have h1 : -LogSinh.a p / LogSinh.b p < x / p.xmax :=
    lt_trans (lt_add_of_pos_right _ eps_pos) (of_decide_eq_true hx)
  rw [div_lt_iff₀ hb, mul_comm] at h1
  exact neg_lt_iff_pos_add'.mp h1

/-! Logit is the logistic pair between the affine maps `x ↦ (x - lower) / width` and `v ↦ v * width + lower`. -/

noncomputable def logit (v : ℝ) : ℝ := Real.log (1 / (1 - v) - 1)
noncomputable def expit (y : ℝ) : ℝ := 1 - 1 / (1 + Real.exp y)

theorem logit_arg {v : ℝ} (h1 : v < 1) : 1 / (1 - v) - 1 = v / (1 - v) := by
  rw [div_sub_one (sub_pos.mpr h1).ne', sub_sub_cancel]

theorem expit_logit {v : ℝ} (h0 : 0 < v) (h1 : v < 1) : expit (logit v) = v := by
  have hp : 0 < 1 / (1 - v) - 1 := by rw [logit_arg h1]; exact div_pos h0 (sub_pos.mpr h1)
  rw [expit, logit, Real.exp_log hp, add_sub_cancel, one_div_one_div, sub_sub_cancel]

theorem logit_expit (y : ℝ) : logit (expit y) = y := by
  rw [logit, expit, sub_sub_cancel, one_div_one_div, add_sub_cancel_left, Real.log_exp]

theorem expit_mem (y : ℝ) : 0 < expit y ∧ expit y < 1 :=
  have hE : 0 < 1 + Real.exp y := add_pos one_pos (Real.exp_pos y)
  ⟨sub_pos.mpr ((div_lt_one hE).mpr (lt_add_of_pos_right 1 (Real.exp_pos y))), sub_lt_self 1 (one_div_pos.mpr hE)⟩

theorem Logit.width_pos (p : Logit.Params ℝ) : 0 < Logit.upper p - p.lower := by
  rw [Logit.upper, add_sub_cancel_left]
  exact Real.exp_pos _

theorem Logit.value_mem (p : Logit.Params ℝ) {x : ℝ} (hx : Logit.dom p x) :
    0 < (x - p.lower) / (Logit.upper p - p.lower) ∧ (x - p.lower) / (Logit.upper p - p.lower) < 1 :=
  ⟨div_pos (sub_pos.mpr hx.1) (Logit.width_pos p),
    (div_lt_one (Logit.width_pos p)).mpr (sub_lt_sub_right hx.2 _)⟩

theorem Logit.fwd_eq (p : Logit.Params ℝ) (x : ℝ) :
    Logit.fwd p x = logit ((x - p.lower) / (Logit.upper p - p.lower)) := rfl

theorem Logit.bwd_eq (p : Logit.Params ℝ) (y : ℝ) :
    Logit.bwd p y = expit y * (Logit.upper p - p.lower) + p.lower := rfl

/-! Manly is the Box-Cox kernel of `exp (x / xmax)`; the test `abs lam > EPS` decides when `lam` counts as zero, as for
BoxCox2, and `log (exp u) = u` is the identity branch. -/

theorem Manly.xmax_pos (p : Manly.Params ℝ) (hp : Manly.admissible p) : 0 < p.xmax :=
  lt_of_lt_of_le eps_pos hp.2.2

theorem Manly.fwd_eq (p : Manly.Params ℝ) (x : ℝ) :
    Manly.fwd p x = bc (!lamBig p.lam) p.lam (Real.exp (x / p.xmax)) := by
  unfold Manly.fwd bc
  cases lamBig p.lam
  · exact (Real.log_exp _).symm
  · simp only [if_true, Bool.not_true, Bool.false_eq_true, if_false, transc_exp, ← Real.exp_mul, mul_comm]

theorem Manly.codom_arg {p : Manly.Params ℝ} {y : ℝ} (hy : Manly.codom p y) :
    (!lamBig p.lam) = false → 0 < p.lam * y + 1 := fun h => by
  rw [add_comm]; exact hy (by simpa using h)

theorem Manly.bwd_eq (p : Manly.Params ℝ) {y : ℝ} (hy : Manly.codom p y) :
    Manly.bwd p y = p.xmax * Real.log (bcInv (!lamBig p.lam) p.lam y) := by
  unfold Manly.bwd bcInv
  cases h : lamBig p.lam
  · simp only [Bool.false_eq_true, if_false, Bool.not_false, if_true, Real.log_exp]
  · simp only [if_true, Bool.not_true, Bool.false_eq_true, if_false, transc_log]
    rw [Real.log_rpow (by rw [add_comm]; exact hy h), add_comm, mul_div_assoc, div_eq_mul_one_div, mul_comm (Real.log _)]

theorem Manly.codom_fwd (p : Manly.Params ℝ) (x : ℝ) : Manly.codom p (Manly.fwd p x) := fun h => by
  rw [add_comm, Manly.fwd_eq]
  exact bc_arg_pos (lamBig_ne _) (Real.exp_pos _) (congrArg (!·) h)

theorem Manly.bwd_fwd (p : Manly.Params ℝ) (x : ℝ) (hxm : p.xmax ≠ 0) : Manly.bwd p (Manly.fwd p x) = x := by
  rw [Manly.bwd_eq p (Manly.codom_fwd p x), Manly.fwd_eq, bcInv_bc (lamBig_ne _) (Real.exp_pos _), Real.log_exp,
    mul_div_cancel₀ _ hxm]

theorem Manly.fwd_bwd (p : Manly.Params ℝ) {y : ℝ} (hxm : p.xmax ≠ 0) (hy : Manly.codom p y) :
    Manly.fwd p (Manly.bwd p y) = y := by
  rw [Manly.fwd_eq, Manly.bwd_eq p hy, mul_div_cancel_left₀ _ hxm, Real.exp_log (bcInv_pos (Manly.codom_arg hy)),
    bc_bcInv (lamBig_ne _) (Manly.codom_arg hy)]

/-! Reciprocal is the involution `s ↦ -1/s` after the shift by `nu`. -/

theorem neg_one_div_invol (s : ℝ) : -1 / (-1 / s) = s := by
  rw [div_div_eq_mul_div, neg_one_mul, neg_div_neg_eq, div_one]

theorem Reciprocal.arg_pos (p : Reciprocal.Params ℝ) {x : ℝ} (hx : Reciprocal.dom p x) : 0 < p.nu + x :=
  neg_lt_iff_pos_add'.mp hx

theorem Sinh.scale_pos (p : Sinh.Params ℝ) (hp : Sinh.admissible p) : 0 < p.scale :=
  lt_of_lt_of_le (by norm_num) hp

theorem sumFrom_eq (acc : ℝ) (xs : List ℝ) : Softmax.sumFrom acc xs = acc + xs.sum := by
  induction xs generalizing acc with
  | nil => simp [Softmax.sumFrom]
  | cons x xs ih => simp [Softmax.sumFrom, ih, add_assoc]

theorem sumL_eq (xs : List ℝ) : Softmax.sumL xs = xs.sum := by
  simp [Softmax.sumL, sumFrom_eq]

theorem sum_map_div (xs : List ℝ) (c : ℝ) : (xs.map fun v => v / c).sum = xs.sum / c := by
  induction xs with
  | nil => simp
  | cons x xs ih => simp [ih, add_div]

theorem sum_exp_nonneg (ys : List ℝ) : 0 ≤ (ys.map Real.exp).sum :=
  List.sum_nonneg fun _ hx => let ⟨y, _, e⟩ := List.mem_map.mp hx; e ▸ (Real.exp_pos y).le

theorem Softmax.bwdRow_eq (ys : List ℝ) :
    Softmax.bwdRow ys = ys.map fun y => Real.exp y / (1 + (ys.map Real.exp).sum) := by
  simp only [Softmax.bwdRow, sumL_eq, List.map_map]
  rfl

theorem Softmax.sumL_bwdRow (ys : List ℝ) :
    Softmax.sumL (Softmax.bwdRow ys) = (ys.map Real.exp).sum / (1 + (ys.map Real.exp).sum) := by
  rw [sumL_eq, Softmax.bwdRow_eq, ← sum_map_div, List.map_map]
  rfl

theorem Softmax.anyNeg_false {xs : List ℝ} (h : ∀ x ∈ xs, 0 < x) : Softmax.anyNeg xs = false := by
  unfold Softmax.anyNeg
  rw [List.any_eq_false]
  intro x hx
  rw [decide_eq_true_eq]
  exact not_lt.mpr (h x hx).le

theorem Softmax.anyNeg_true {xs : List ℝ} (h : ∃ x ∈ xs, x < 0) : Softmax.anyNeg xs = true :=
  let ⟨x, hx, hn⟩ := h
  List.any_eq_true.mpr ⟨x, hx, decide_eq_true hn⟩

theorem Softmax.sumTooBig_false {xs : List ℝ} (h : Softmax.sumL xs ≤ 1 - eps) : Softmax.sumTooBig xs = false :=
  decide_eq_false (not_lt.mpr h)

theorem Softmax.forward_of_dom {xs : List ℝ} (hd : Softmax.dom xs) : Softmax.forward xs = .ok (Softmax.fwdRow xs) := by
  unfold Softmax.forward
  rw [Softmax.anyNeg_false hd.1, Softmax.sumTooBig_false hd.2]
  rfl

/-- rows of the domain pass the two tests of `forwardM` and `jacobianM` -/
theorem Softmax.any_of_dom {rows : List (List ℝ)} (hd : ∀ r ∈ rows, Softmax.dom r) :
    rows.any Softmax.anyNeg = false ∧ rows.any Softmax.sumTooBig = false :=
  ⟨List.any_eq_false.mpr fun r hr => Bool.eq_false_iff.mp (Softmax.anyNeg_false (hd r hr).1),
    List.any_eq_false.mpr fun r hr => Bool.eq_false_iff.mp (Softmax.sumTooBig_false (hd r hr).2)⟩

theorem Softmax.forwardM_of_dom {rows : List (List ℝ)} (hd : ∀ r ∈ rows, Softmax.dom r) :
    Softmax.forwardM rows = .ok (rows.map Softmax.fwdRow) := by
  rw [Softmax.forwardM, (Softmax.any_of_dom hd).1, (Softmax.any_of_dom hd).2]
  rfl

end C01
end HydroVerif
