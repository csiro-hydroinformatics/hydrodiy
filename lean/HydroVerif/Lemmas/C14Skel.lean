/-
C14 — the missing pattern of the kernel does not depend on the arithmetic: the kernel, run in ANY number system in
which whole seconds (in a range `R`) are cast, compared, added and subtracted exactly, marks as missing exactly the
periods that the control skeleton `kernelMiss` marks on the `marks` of the observations.  No law of
multiplication, division or rounding is assumed: `ExactInt` is true of IEEE doubles for `R x := |x| ≤ 2^53`
(epoch seconds are far inside), of exact rationals and reals for every `R`, and of arithmetics that round every
operation (`Rnd8` in `Lemmas/C14Arith.lean`, which rounds to multiples of 1/8; evaluated on a series in
`Lemmas/C14Sample.lean`).
-/
import HydroVerif.Model.C14
import Mathlib.Tactic.Common

namespace HydroVerif.C14

structure ExactInt (α : Type) [Add α] [Sub α] [LT α] [IntCast α] (R : Int → Prop) : Prop where
  lt_iff : ∀ x y : Int, R x → R y → (((x : α) < (y : α)) ↔ x < y)
  add_cast : ∀ x y : Int, R x → R y → R (x + y) → (x : α) + (y : α) = ((x + y : Int) : α)
  sub_cast : ∀ x y : Int, R x → R y → R (x - y) → (x : α) - (y : α) = ((x - y : Int) : α)

def Agree {A B : Type} (f : A → B → Prop) : Except Err A → Except Err B → Prop
  | .ok a, .ok b => f a b
  | .error x, .error y => x = y
  | _, _ => False

/-- How agreement is carried through the `match … with | .error x => .error x | .ok r => …` steps of the kernel and
its skeleton. -/
theorem Agree.cases {A B : Type} {f : A → B → Prop} : ∀ {x : Except Err A} {y : Except Err B}, Agree f x y →
    (∃ e, x = .error e ∧ y = .error e) ∨ ∃ a b, x = .ok a ∧ y = .ok b ∧ f a b
  | .ok a, .ok b, h => Or.inr ⟨a, b, rfl, rfl, h⟩
  | .error e, .error _, h => Or.inl ⟨e, rfl, congrArg _ h.symm⟩
  | .ok _, .error _, h => h.elim
  | .error _, .ok _, h => h.elim

theorem Agree.map_eq {A B : Type} {f : A → B} {x : Except Err A} {y : Except Err B}
    (h : Agree (fun a b => b = f a) x y) : Except.map f x = y := by
  rcases h.cases with ⟨e, rfl, rfl⟩ | ⟨a, b, rfl, rfl, rfl⟩ <;> rfl

section anyarith
variable {α : Type} [Sub α] [Neg α] [LT α] [DecidableLT α] [IntCast α]

/-- Only the stamp of the head is related: the skeleton never reads the head's flag. -/
structure Sim (c : Cfg α) (R : Int → Prop) (suf : Obs α × List (Obs α)) (sufM : Mark × List Mark) : Prop where
  head : sufM.1.1 = suf.1.1
  rest : sufM.2 = marksFrom c suf.1 suf.2
  rhead : R suf.1.1
  rrest : ∀ x ∈ suf.2, R x.1

/-- the start scan only compares whole seconds -/
theorem scanFrom_marks (c : Cfg α) (R : Int → Prop) (hstart : Int) :
    ∀ (l : List (Obs α)) (a : Obs α) (aM : Mark), aM.1 = a.1 → R a.1 → (∀ x ∈ l, R x.1) →
      Sim c R (scanFrom hstart a l) (scanFromM hstart aM (marksFrom c a l)) := by
  intro l
  induction l with
  | nil => intro a aM h hRa hRl; exact ⟨h, rfl, hRa, hRl⟩
  | cons b rest ih =>
    intro a aM h hRa hRl
    cases rest with
    | nil => exact ⟨h, rfl, hRa, hRl⟩
    | cons r rest' =>
      rw [scanFrom, marksFrom, marksFrom, scanFromM]
      split_ifs
      · exact ih b (b.1, invalid c a b) rfl (hRl b (by simp)) fun x hx' => hRl x (List.mem_cons_of_mem _ hx')
      · exact ⟨h, rfl, hRa, hRl⟩

variable [Add α] [Mul α] [Div α] [OfNat α 2]

theorem walk_marks {R : Int → Prop} (hx : ExactInt α R) (c : Cfg α) (s : α) (E : Int) (hE : R E) :
    ∀ (l : List (Obs α)) (a : Obs α) (aM : Mark) (h : α) (m : Bool), aM.1 = a.1 → R a.1 → (∀ x ∈ l, R x.1) →
      Agree (fun r rM => rM.1 = r.1.2 ∧ Sim c R r.2 rM.2)
        (walk c s (E : α) a l (h, m)) (walkM E aM (marksFrom c a l) m) := by
  intro l
  induction l with
  | nil => intro a aM h m _ _ _; rw [walk, marksFrom, walkM]; exact rfl
  | cons b rest ih =>
    intro a aM h m haM hRa hRl
    have hRb : R b.1 := hRl b (by simp)
    rw [walk, marksFrom, walkM, haM]
    simp only [hx.lt_iff _ _ hRb hRa, hx.lt_iff _ _ hRb hE]
    by_cases hd : b.1 < a.1
    · rw [if_pos hd, if_pos hd]; exact rfl
    · rw [if_neg hd, if_neg hd]
      cases rest with
      | nil => exact ⟨rfl, haM, rfl, hRa, hRl⟩
      | cons r rest' =>
        simp only [marksFrom]
        by_cases hbe : b.1 < E
        · rw [if_pos hbe, if_pos hbe]
          exact ih b (b.1, invalid c a b) _ _ rfl hRb fun x hx' => hRl x (List.mem_cons_of_mem _ hx')
        · rw [if_neg hbe, if_neg hbe]; exact ⟨rfl, haM, rfl, hRa, hRl⟩

variable [OfNat α 0]

theorem period_marks {R : Int → Prop} (hx : ExactInt α R) (c : Cfg α) (hstart : Int) (i : Nat)
    (hR1 : R (hstart + (i : Int) * c.P)) (hRP : R c.P) (hR2 : R (hstart + (i : Int) * c.P + c.P))
    (suf : Obs α × List (Obs α)) (sufM : Mark × List Mark) (hs : Sim c R suf sufM) :
    Agree (fun r rM => rM.1 = r.1.isNone ∧ Sim c R r.2 rM.2) (period c hstart i suf) (periodM c.P hstart i sufM) := by
  have hend : pEnd c hstart i = ((hstart + (i : Int) * c.P + c.P : Int) : α) := hx.add_cast _ _ hR1 hRP hR2
  have hw := walk_marks hx c (pStart c hstart i) _ hR2 suf.2 suf.1 sufM.1 0 false hs.head hs.rhead hs.rrest
  unfold period periodM
  simp only [hend, hs.head, hs.rest, hx.lt_iff _ _ hs.rhead hR2]
  split_ifs
  · rcases hw.cases with ⟨e, hx, hy⟩ | ⟨⟨⟨hh, m⟩, suf'⟩, ⟨mM, sufM'⟩, hx, hy, rfl, hs'⟩
    · rw [hx, hy]; exact rfl
    · rw [hx, hy]; exact ⟨by cases mM <;> rfl, hs'⟩
  · exact rfl

theorem loop_marks {R : Int → Prop} (hx : ExactInt α R) (c : Cfg α) (hstart : Int) (hRP : R c.P) (N : Nat)
    (hRper : ∀ k : Nat, k < N → R (hstart + (k : Int) * c.P) ∧ R (hstart + (k : Int) * c.P + c.P)) :
    ∀ (n i : Nat) (suf : Obs α × List (Obs α)) (sufM : Mark × List Mark), i + n ≤ N → Sim c R suf sufM →
      Agree (fun out outM => outM = out.map Option.isNone) (loop c hstart n i suf) (loopM c.P hstart n i sufM) := by
  intro n
  induction n with
  | zero => intro i suf sufM _ _; exact rfl
  | succ n ih =>
    intro i suf sufM hiN hs
    rw [loop, loopM]
    rcases (period_marks hx c hstart i (hRper i (by omega)).1 hRP (hRper i (by omega)).2 suf sufM hs).cases with
      ⟨e, hx, hy⟩ | ⟨⟨o, suf'⟩, ⟨mM, sufM'⟩, hx, hy, rfl, hs'⟩
    · rw [hx, hy]; exact rfl
    · rw [hx, hy]
      rcases (ih (i + 1) suf' sufM' (by omega) hs').cases with ⟨e, hx', hy'⟩ | ⟨out, outM, hx', hy', rfl⟩
      · simp only [hx', hy']; exact rfl
      · simp only [hx', hy']; exact rfl

theorem kernel_marks {R : Int → Prop} (hx : ExactInt α R) (c : Cfg α) (hstart nvalh : Int) (obs : List (Obs α))
    (hRobs : ∀ x ∈ obs, R x.1) (hRP : R c.P)
    (hRper : ∀ k : Nat, (k : Int) < nvalh - 1 → R (hstart + (k : Int) * c.P) ∧ R (hstart + (k : Int) * c.P + c.P)) :
    Except.map (List.map Option.isNone) (kernel c hstart nvalh obs) =
      kernelMiss c.P c.rain hstart nvalh (marks c obs) := by
  refine Agree.map_eq ?_
  unfold kernel kernelMiss
  split_ifs
  · exact rfl
  · exact rfl
  · match obs, hRobs with
    | [], _ => exact rfl
    | [a], _ => exact rfl
    | a :: b :: rest, hRobs =>
      simp only [startScan, marks, marksFrom, startScanM]
      split_ifs
      · exact loop_marks hx c hstart hRP (nvalh - 1).toNat (fun k hk => hRper k (by omega)) _ 0 _ _ (by omega)
          (scanFrom_marks c R hstart (b :: rest) a (a.1, false) rfl (hRobs a (by simp))
            fun x hx' => hRobs x (List.mem_cons_of_mem _ hx'))
      · exact rfl

end anyarith

end HydroVerif.C14
