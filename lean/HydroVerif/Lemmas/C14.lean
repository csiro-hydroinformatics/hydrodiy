/-
C14 — helper definitions and lemmas: the specification vocabulary (consecutive pairs, per-pair
contribution, sums over all pairs), the loop invariant of the `c_var2h` walk and the wrapper past its guards.
What speaks of lists and stamps only (`pairs`, `lastTime`, `Sorted`, the position `Inv` of `varindex`, the start
scan) holds for every value type; the rest is over any ordered field.
The statements `Props/C14.lean` is read off: `walk_spec` → `period_spec` → `loop_spec` → `kernel_spec` (every returned
value satisfies `PeriodOK`, through `suffix_periodOK` and `PeriodOK.of_suffix`), `kernel_periodOK`, `wrapper_of_kernel`,
`contrib_add` (additivity in the period, from `gate_add`), `perE_origin_le` (where the computed periods end).
-/
import HydroVerif.Model.C14
import Mathlib.Algebra.Order.Field.Basic
import Mathlib.Algebra.Order.Ring.Cast
import Mathlib.Algebra.BigOperators.Group.List.Basic
import Mathlib.Tactic.Ring

namespace HydroVerif.C14

def Sorted {α : Type} (l : List (Obs α)) : Prop := l.Pairwise (fun x y => x.1 ≤ y.1)

def pairs {α : Type} : List (Obs α) → List (Obs α × Obs α)
  | a :: b :: r => (a, b) :: pairs (b :: r)
  | _ => []

def lastTime {α : Type} : List (Obs α) → Int
  | [] => 0
  | [a] => a.1
  | _ :: b :: r => lastTime (b :: r)

@[simp] theorem pairs_nil {α : Type} : pairs ([] : List (Obs α)) = [] := rfl
@[simp] theorem pairs_single {α : Type} (a : Obs α) : pairs [a] = [] := rfl
@[simp] theorem pairs_cons_cons {α : Type} (a b : Obs α) (r : List (Obs α)) :
    pairs (a :: b :: r) = (a, b) :: pairs (b :: r) := rfl
@[simp] theorem lastTime_single {α : Type} (a : Obs α) : lastTime [a] = a.1 := rfl
@[simp] theorem lastTime_cons_cons {α : Type} (a b : Obs α) (r : List (Obs α)) :
    lastTime (a :: b :: r) = lastTime (b :: r) := rfl

theorem pairs_append {α : Type} (pre : List (Obs α)) (a : Obs α) (l : List (Obs α)) :
    pairs (pre ++ a :: l) = pairs (pre ++ [a]) ++ pairs (a :: l) := by
  induction pre with
  | nil => simp
  | cons x pre ih =>
    cases pre with
    | nil => simp
    | cons y pre => simpa using ih

theorem lastTime_append {α : Type} (pre : List (Obs α)) (a : Obs α) (l : List (Obs α)) :
    lastTime (pre ++ a :: l) = lastTime (a :: l) := by
  induction pre with
  | nil => simp
  | cons x pre ih =>
    cases pre with
    | nil => simp
    | cons y pre => simpa using ih

theorem Sorted.tail {α : Type} {a : Obs α} {l : List (Obs α)} (h : Sorted (a :: l)) : Sorted l :=
  (List.pairwise_cons.mp h).2

theorem Sorted.head_le {α : Type} {a : Obs α} {l : List (Obs α)} (h : Sorted (a :: l)) :
    ∀ x ∈ l, a.1 ≤ x.1 := (List.pairwise_cons.mp h).1

theorem Sorted.head_le_mem {α : Type} {a : Obs α} {l : List (Obs α)} (h : Sorted (a :: l)) :
    ∀ x ∈ a :: l, a.1 ≤ x.1 := List.forall_mem_cons.mpr ⟨le_rfl, h.head_le⟩

theorem Sorted.le_lastTime {α : Type} : ∀ {l : List (Obs α)}, Sorted l → ∀ x ∈ l, x.1 ≤ lastTime l
  | [], _, x, hx => by simp at hx
  | [a], _, x, hx => by simp at hx; simp [hx]
  | a :: b :: r, h, x, hx => by
    rw [lastTime_cons_cons]
    rcases List.mem_cons.mp hx with rfl | hx
    · exact le_trans (h.head_le b (by simp)) (Sorted.le_lastTime h.tail b (by simp))
    · exact Sorted.le_lastTime h.tail x hx

theorem pairs_eq_zip {α : Type} : ∀ l : List (Obs α), pairs l = l.zip l.tail
  | [] => rfl
  | [_] => rfl
  | a :: b :: r => by rw [pairs_cons_cons, pairs_eq_zip (b :: r)]; rfl

theorem mem_pairs_snd {α : Type} {l : List (Obs α)} {a : Obs α} {p : Obs α × Obs α} (h : p ∈ pairs (a :: l)) :
    p.2 ∈ l :=
  (List.of_mem_zip (pairs_eq_zip _ ▸ h)).2

theorem mem_pairs {α : Type} {l : List (Obs α)} {p : Obs α × Obs α} (h : p ∈ pairs l) : p.1 ∈ l ∧ p.2 ∈ l :=
  ⟨(List.of_mem_zip (pairs_eq_zip _ ▸ h)).1, List.mem_of_mem_tail (List.of_mem_zip (pairs_eq_zip _ ▸ h)).2⟩

theorem pairs_map {α β : Type} (f : Obs α → Obs β) (l : List (Obs α)) :
    pairs (l.map f) = (pairs l).map fun p => (f p.1, f p.2) := by
  rw [pairs_eq_zip, pairs_eq_zip, ← List.map_tail, List.zip_map]; rfl

theorem lastTime_map {α β : Type} {f : Obs α → Obs β} (hf : ∀ x, (f x).1 = x.1) : ∀ l : List (Obs α),
    lastTime (l.map f) = lastTime l
  | [] => rfl
  | [a] => hf a
  | _ :: b :: r => lastTime_map hf (b :: r)

theorem Sorted.map {α β : Type} {f : Obs α → Obs β} (hf : ∀ x, (f x).1 = x.1) {l : List (Obs α)} (h : Sorted l) :
    Sorted (l.map f) := by
  unfold Sorted at h ⊢
  simpa only [List.pairwise_map, hf] using h

section position
variable {α : Type}

theorem Sorted.of_append {pre l : List (Obs α)} (h : Sorted (pre ++ l)) : Sorted l :=
  (List.pairwise_append.mp h).2.1

theorem Sorted.prefix_le {pre l : List (Obs α)} {a : Obs α} (hs : Sorted (pre ++ a :: l)) :
    ∀ x ∈ pre ++ [a], x.1 ≤ a.1 := fun x hx => by
  rcases List.mem_append.1 hx with hx | hx
  · exact (List.pairwise_append.mp hs).2.2 x hx a (List.mem_cons_self ..)
  · rw [List.mem_singleton.1 hx]

theorem getLast?_lastTime : ∀ (a : Obs α) (l : List (Obs α)),
    ∃ x, (a :: l).getLast? = some x ∧ x.1 = lastTime (a :: l)
  | a, [] => ⟨a, rfl, rfl⟩
  | a, b :: r => by rw [List.getLast?_cons_cons, lastTime_cons_cons]; exact getLast?_lastTime b r

/-- position of `varindex` at the start of the period that begins at `S`:
`varsec[varindex] ≤ S`, there is a next observation, and it is not earlier than `S` unless it is the last one -/
structure Inv (obs : List (Obs α)) (S : Int) (suf : Obs α × List (Obs α)) : Prop where
  pre : ∃ pre, obs = pre ++ suf.1 :: suf.2
  ne : suf.2 ≠ []
  le : suf.1.1 ≤ S
  nxt : (∃ b, suf.2 = [b]) ∨ ∀ b ∈ suf.2.head?, S ≤ b.1

theorem Inv.append {l : List (Obs α)} {S : Int} {suf : Obs α × List (Obs α)} (h : Inv l S suf) (pre : List (Obs α)) :
    Inv (pre ++ l) S suf :=
  let ⟨p, hp⟩ := h.pre
  ⟨⟨pre ++ p, by rw [hp, List.append_assoc]⟩, h.ne, h.le, h.nxt⟩

/-- what `Inv.nxt` gives the walk: the data end before `S`, or every later stamp is at or after `S` -/
theorem nxt_all {a : Obs α} {l : List (Obs α)} {S : Int} (hs : Sorted (a :: l))
    (h : (∃ b, l = [b]) ∨ ∀ b ∈ l.head?, S ≤ b.1) : lastTime (a :: l) < S ∨ ∀ x ∈ l, S ≤ x.1 := by
  rcases h with ⟨b, rfl⟩ | h
  · rcases lt_or_ge b.1 S with hb | hb
    · exact Or.inl hb
    · exact Or.inr fun x hx => by rw [List.mem_singleton.1 hx]; exact hb
  · cases l with
    | nil => exact Or.inr (by simp)
    | cons b r => exact Or.inr fun x hx => (h b rfl).trans (hs.tail.head_le_mem x hx)

theorem scanFrom_spec (obs : List (Obs α)) (hstart : Int) :
    ∀ (l : List (Obs α)) (a : Obs α) (pre : List (Obs α)), obs = pre ++ a :: l → l ≠ [] → a.1 ≤ hstart →
      (∃ pre, obs = pre ++ (scanFrom hstart a l).1 :: (scanFrom hstart a l).2) ∧ (scanFrom hstart a l).2 ≠ [] ∧
      (scanFrom hstart a l).1.1 ≤ hstart ∧
      ((∃ x, (scanFrom hstart a l).2 = [x]) ∨ ∀ x ∈ (scanFrom hstart a l).2.head?, hstart < x.1) := by
  intro l
  induction l with
  | nil => intro a pre _ hne; exact absurd rfl hne
  | cons b rest ih =>
    intro a pre hpre _ ha
    cases rest with
    | nil => exact ⟨⟨pre, hpre⟩, by simp [scanFrom], ha, Or.inl ⟨b, rfl⟩⟩
    | cons r rest' =>
      rw [scanFrom]
      split_ifs with hb
      · exact ih b (pre ++ [a]) (by rw [hpre]; simp) (by simp) hb
      · exact ⟨⟨pre, hpre⟩, by simp, ha, Or.inr (by simpa using hb)⟩

theorem startScan_of_le {hstart : Int} {a : Obs α} (b : Obs α) (rest : List (Obs α)) (ha : a.1 ≤ hstart) :
    startScan hstart (a :: b :: rest) = some (scanFrom hstart a (b :: rest)) :=
  if_pos ha

end position

/-- length of `[a, b] ∩ [S, E]` (0 when empty) as a difference of the two ends clamped into `[S, E]`: what makes the
overlaps telescope along consecutive intervals (`overlaps_tile` in Props) -/
theorem overlap_length {a b S E : Int} (hab : a ≤ b) (hSE : S ≤ E) :
    max 0 (min b E - max a S) = min E (max S b) - min E (max S a) := by
  rcases le_total b S with h | h
  · rw [max_eq_left h, max_eq_left (hab.trans h), max_eq_right (hab.trans h), min_eq_left (h.trans hSE), sub_self,
      max_eq_left (sub_nonpos.2 h)]
  · rcases le_total E a with h' | h'
    · rw [max_eq_right h, max_eq_right (hSE.trans h'), min_eq_left (h'.trans hab), min_eq_left h', sub_self,
        min_eq_right (h'.trans hab), max_eq_left (hSE.trans h'), max_eq_left (sub_nonpos.2 h')]
    · rw [max_eq_right h, min_comm E b, min_eq_right (max_le hSE h'), max_comm S a, max_eq_right]
      exact sub_nonneg.2 (le_min (max_le hab h) (max_le h' hSE))

section field
variable {α : Type} [Field α]

def perS (P hstart : Int) (i : Nat) : Int := hstart + (i : Int) * P
def perE (P hstart : Int) (i : Nat) : Int := hstart + (i : Int) * P + P

theorem perS_succ (P hstart : Int) (i : Nat) : perS P hstart (i + 1) = perE P hstart i := by
  simp only [perS, perE]; push_cast; ring

theorem perS_mono {P : Int} (hP : 0 ≤ P) (hstart : Int) {i j : Nat} (h : i ≤ j) : perS P hstart i ≤ perS P hstart j :=
  Int.add_le_add_left (Int.mul_le_mul_of_nonneg_right (Int.ofNat_le.2 h) hP) _

/-- Where the computed periods end: the origin is at most 3600 s after the first stamp and `nvalh` whole periods fit
between the first and the last stamp, so period `i` ends at least `k` periods before `last + 3600` when `i + k < nvalh`. -/
theorem perE_origin_le {first last P : Int} (h : first ≤ last) (hP : 0 < P) (i k : Nat)
    (hi : (i : Int) + k < nvalhOf first last P) : perE P (origin first) i + k * P ≤ last + 3600 := by
  unfold nvalhOf at hi
  rw [Int.tdiv_eq_ediv_of_nonneg (sub_nonneg.2 h)] at hi
  have h1 : ((i : Int) + k + 1) * P ≤ (last - first) / P * P := Int.mul_le_mul_of_nonneg_right (by omega) hP.le
  have h2 := Int.ediv_mul_le (last - first) hP.ne'
  have h3 : origin first ≤ first + 3600 := by unfold origin; omega
  rw [add_mul, add_mul, one_mul] at h1
  unfold perE
  omega

theorem pEnd_eq (c : Cfg α) (hstart : Int) (i : Nat) : pEnd c hstart i = ((perE c.P hstart i : Int) : α) := by
  simp [pEnd, pStart, perE]

def lin (t1 t2 v1 v2 x : α) : α := (v2 - v1) / (t2 - t1) * (x - t1) + v1

section
-- `pieceVal` (kernel side, it needs the order) stands before `trapArea`: Lean shares the auxiliary proof term of the two
-- definitions and names it after the first, `pieceVal._proof_1`
variable [LinearOrder α]
/-- contribution of the interval `(a, b)` to `hvalue` for the period `[s, e)` (0 when nothing is added) -/
def pieceVal (c : Cfg α) (s e : α) (a b : Obs α) : α := (piece c s e a b).getD 0
end

def trapArea (a b : Obs α) (v1 v2 : α) (lo hi : Int) : α :=
  (lin (a.1 : α) (b.1 : α) v1 v2 (hi : α) + lin (a.1 : α) (b.1 : α) v1 v2 (lo : α)) * ((hi : α) - (lo : α)) / 2

def ovLo (S : Int) (a : Obs α) : Int := max a.1 S
def ovHi (E : Int) (b : Obs α) : Int := min b.1 E

def rainShare (a b : Obs α) (v2 : α) (lo hi : Int) : α :=
  v2 * ((hi : α) - (lo : α)) / ((b.1 : α) - (a.1 : α))

/-- In the rain case the prorated increment is multiplied by `P`, which the final division removes. -/
def contrib (c : Cfg α) (S E : Int) (a b : Obs α) : α :=
  if ovLo S a < ovHi E b then
    match a.2, b.2 with
    | some v1, some v2 =>
      if c.rain = 1 then rainShare a b v2 (ovLo S a) (ovHi E b) * (c.P : α)
      else trapArea a b v1 v2 (ovLo S a) (ovHi E b)
    | _, _ => 0
  else 0

theorem contrib_of_ge_end (c : Cfg α) (S : Int) {E : Int} {a : Obs α} (b : Obs α) (h : E ≤ a.1) :
    contrib c S E a b = 0 :=
  if_neg (not_lt.2 ((min_le_right _ _).trans (h.trans (le_max_left _ _))))

theorem contrib_of_le_start (c : Cfg α) {S : Int} (E : Int) (a : Obs α) {b : Obs α} (h : b.1 ≤ S) :
    contrib c S E a b = 0 :=
  if_neg (not_lt.2 ((min_le_left _ _).trans (h.trans (le_max_right _ _))))

theorem contrib_self (c : Cfg α) (S : Int) (a b : Obs α) : contrib c S S a b = 0 :=
  if_neg (not_lt.2 ((min_le_right _ _).trans (le_max_right _ _)))

theorem trapArea_add (a b : Obs α) (v1 v2 : α) (lo mid hi : Int) :
    trapArea a b v1 v2 lo mid + trapArea a b v1 v2 mid hi = trapArea a b v1 v2 lo hi := by
  unfold trapArea lin
  generalize (v2 - v1) / ((b.1 : α) - (a.1 : α)) = sl
  ring

theorem rainShare_add (a b : Obs α) (v2 : α) (lo mid hi : Int) :
    rainShare a b v2 lo mid + rainShare a b v2 mid hi = rainShare a b v2 lo hi := by
  unfold rainShare
  rw [← add_div]; congr 1; ring

/-- An additive interval function `F`, gated by "the overlap of `[ta, tb]` with the period has positive length",
is `F` between the period ends clamped into `[ta, tb]` (both clamps coincide when the gate is closed); hence it
is additive in the period. -/
theorem gate_add (F : Int → Int → α) (hF : ∀ x y z, F x y + F y z = F x z) {ta tb S M E : Int}
    (hSM : S ≤ M) (hME : M ≤ E) :
    (if max ta S < min tb M then F (max ta S) (min tb M) else 0) +
      (if max ta M < min tb E then F (max ta M) (min tb E) else 0) =
    if max ta S < min tb E then F (max ta S) (min tb E) else 0 := by
  have self : ∀ x, F x x = 0 := fun x => add_eq_left.1 (hF x x x)
  have clamp : ∀ S E, S ≤ E → (if max ta S < min tb E then F (max ta S) (min tb E) else 0) =
      F (max ta (min tb S)) (max ta (min tb E)) := by
    intro S E h
    split_ifs with hlt
    · have hS : S < tb := (le_max_right ta S).trans_lt (hlt.trans_le (min_le_left tb E))
      rw [min_eq_right hS.le, max_eq_right ((le_max_left ta S).trans hlt.le)]
    · have : max ta (min tb S) = max ta (min tb E) := by
        refine le_antisymm (max_le_max_left _ (min_le_min_left _ h)) (max_le (le_max_left _ _) ?_)
        rcases le_max_iff.1 (not_lt.1 hlt) with h1 | h1
        · exact h1.trans (le_max_left _ _)
        · exact (le_min (min_le_left _ _) h1).trans (le_max_right _ _)
      rw [this, self]
  rw [clamp S M hSM, clamp M E hME, clamp S E (hSM.trans hME), hF]

theorem contrib_add (c : Cfg α) {S M E : Int} (hSM : S ≤ M) (hME : M ≤ E) (a b : Obs α) :
    contrib c S M a b + contrib c M E a b = contrib c S E a b := by
  obtain ⟨ta, va⟩ := a
  obtain ⟨tb, vb⟩ := b
  refine gate_add (fun lo hi => match va, vb with
    | some v1, some v2 =>
      if c.rain = 1 then rainShare (ta, va) (tb, vb) v2 lo hi * (c.P : α) else trapArea (ta, va) (tb, vb) v1 v2 lo hi
    | _, _ => 0) (fun x y z => ?_) hSM hME
  cases va with
  | none => exact add_zero 0
  | some v1 =>
    cases vb with
    | none => exact add_zero 0
    | some v2 =>
      dsimp only
      split_ifs
      · rw [← add_mul, rainShare_add]
      · exact trapArea_add _ _ _ _ _ _ _

variable [LinearOrder α]

/-- sum of the contributions of **all** observation intervals -/
def psum (c : Cfg α) (s e : α) (l : List (Obs α)) : α :=
  ((pairs l).map fun p => pieceVal c s e p.1 p.2).sum

theorem addPiece_piece (c : Cfg α) (s e : α) (a b : Obs α) (h : α) :
    addPiece h (piece c s e a b) = h + pieceVal c s e a b := by
  unfold pieceVal; cases piece c s e a b <;> simp [addPiece]

@[simp] theorem psum_single (c : Cfg α) (s e : α) (a : Obs α) : psum c s e [a] = 0 := rfl
@[simp] theorem psum_cons_cons (c : Cfg α) (s e : α) (a b : Obs α) (r : List (Obs α)) :
    psum c s e (a :: b :: r) = pieceVal c s e a b + psum c s e (b :: r) := rfl

theorem psum_append (c : Cfg α) (s e : α) (pre : List (Obs α)) (a : Obs α) (l : List (Obs α)) :
    psum c s e (pre ++ a :: l) = psum c s e (pre ++ [a]) + psum c s e (a :: l) := by
  rw [psum, pairs_append, List.map_append, List.sum_append]; rfl

/-- the missing flag after a walk over all of `l`: some invalid interval STARTS before `E`.  Only the upper end is gated:
intervals from `E` on are never read, so the flag may speak of the whole suffix; that the interval also reaches `S`
comes back from the position of the suffix (`hnxt` in `suffix_periodOK`) -/
def pmiss (c : Cfg α) (E : Int) (l : List (Obs α)) : Bool :=
  (pairs l).any fun p => decide (p.1.1 < E) && invalid c p.1 p.2

@[simp] theorem pmiss_single (c : Cfg α) (E : Int) (a : Obs α) : pmiss c E [a] = false := rfl
@[simp] theorem pmiss_cons_cons (c : Cfg α) (E : Int) (a b : Obs α) (r : List (Obs α)) :
    pmiss c E (a :: b :: r) = ((decide (a.1 < E) && invalid c a b) || pmiss c E (b :: r)) := rfl

theorem pmiss_iff (c : Cfg α) (E : Int) (l : List (Obs α)) :
    pmiss c E l = true ↔ ∃ p ∈ pairs l, p.1.1 < E ∧ invalid c p.1 p.2 = true := by
  simp only [pmiss, List.any_eq_true, Bool.and_eq_true, decide_eq_true_eq]

theorem pmiss_of_ge_end (c : Cfg α) (E : Int) (l : List (Obs α)) (h : ∀ x ∈ l, E ≤ x.1) : pmiss c E l = false :=
  Bool.eq_false_iff.2 fun hm => by
    obtain ⟨p, hp, hpE, _⟩ := (pmiss_iff c E l).1 hm
    exact absurd hpE (not_lt.2 (h _ (mem_pairs hp).1))

/-- what the property requires of the value returned for the period `[S, E)` -/
def PeriodOK (c : Cfg α) (obs : List (Obs α)) (S E : Int) : Option α → Prop
  | some h => h * (c.P : α) = psum c (S : α) (E : α) obs ∧ E ≤ lastTime obs ∧
      ∀ p ∈ pairs obs, p.1.1 < E → S < p.2.1 → invalid c p.1 p.2 = false
  | none => lastTime obs < E ∨ ∃ p ∈ pairs obs, p.1.1 < E ∧ S ≤ p.2.1 ∧ invalid c p.1 p.2 = true

/-- the value computed from the sums over the SUFFIX `a :: l` the walk starts at satisfies `PeriodOK` of that suffix
(`PeriodOK.of_suffix` then lifts it to the whole list) -/
theorem suffix_periodOK (c : Cfg α) (hP : (c.P : α) ≠ 0) {S E : Int} (hSE : S ≤ E) {a : Obs α} {l : List (Obs α)}
    (hnxt : lastTime (a :: l) < S ∨ ∀ x ∈ l, S ≤ x.1) :
    PeriodOK c (a :: l) S E (if (pmiss c E (a :: l) || decide (lastTime (a :: l) < E)) = true then none
      else some (psum c (S : α) (E : α) (a :: l) / (c.P : α))) := by
  split_ifs with hm
  · rw [Bool.or_eq_true, decide_eq_true_eq, pmiss_iff] at hm
    rcases hm with ⟨p, hp, hpE, hinv⟩ | hlt
    · rcases hnxt with h | h
      · exact Or.inl (h.trans_le hSE)
      · exact Or.inr ⟨p, hp, hpE, h _ (mem_pairs_snd hp), hinv⟩
    · exact Or.inl hlt
  · rw [Bool.or_eq_true, not_or, decide_eq_true_eq, pmiss_iff] at hm
    exact ⟨div_mul_cancel₀ _ hP, not_lt.1 hm.2,
      fun p hp hpE _ => Bool.eq_false_iff.2 fun hinv => hm.1 ⟨p, hp, hpE, hinv⟩⟩

/-- admissible scalar arguments: what the kernel's guards accept, and `eps` a tolerance below one second -/
structure CfgOK (c : Cfg α) : Prop where
  period : c.P = 1800 ∨ c.P = 3600
  rain : c.rain = 0 ∨ c.rain = 1
  eps_pos : 0 < c.eps
  eps_lt : c.eps < 1

theorem CfgOK.P_pos {c : Cfg α} (h : CfgOK c) : 0 < c.P := by rcases h.period with h | h <;> omega

theorem CfgOK.rain_guard {c : Cfg α} (h : CfgOK c) : ¬ (c.rain < 0 ∨ 1 < c.rain) := by
  rcases h.rain with h | h <;> omega

theorem CfgOK.period_guard {c : Cfg α} (h : CfgOK c) : ¬ (c.P ≠ 1800 ∧ c.P ≠ 3600) :=
  fun h' => h.period.elim h'.1 h'.2

theorem kernel_eq_loop {c : Cfg α} (hc : CfgOK c) {hstart : Int} (nvalh : Int) {obs : List (Obs α)}
    {suf : Obs α × List (Obs α)} (hs : startScan hstart obs = some suf) :
    kernel c hstart nvalh obs = loop c hstart (nvalh - 1).toNat 0 suf := by
  simp only [kernel, hc.rain_guard, hc.period_guard, if_false, hs]

theorem lt_origin (first : Int) : first < origin first := by unfold origin; omega

theorem wrapper_of_kernel {c : Cfg α} (hc : CfgOK c) (hgap : 3600 ≤ c.maxgap) {a b : Obs α} {rest : List (Obs α)}
    (hs : Sorted (a :: b :: rest)) {out : List (Option α)}
    (hk : kernel c (origin a.1) (nvalhOf a.1 (lastTime (a :: b :: rest)) c.P) (a :: b :: rest) = .ok out) :
    wrapper c (a :: b :: rest) =
      .ok (origin a.1, if nvalhOf a.1 (lastTime (a :: b :: rest)) c.P = 0 then [] else out ++ [none]) := by
  obtain ⟨lst, hlst, hl1⟩ := getLast?_lastTime a (b :: rest)
  have hn : ¬ nvalhOf a.1 (lastTime (a :: b :: rest)) c.P < 0 :=
    not_lt.2 (Int.tdiv_nonneg (sub_nonneg.2 (hs.le_lastTime a (by simp))) hc.P_pos.le)
  simp only [wrapper, hc.period_guard, not_lt.2 hgap, if_false, List.head?_cons, hlst, hl1, hn, hk]


variable [IsStrictOrderedRing α]

section
-- stated over the ordered field although it is `rfl`
set_option linter.unusedSectionVars false
theorem pStart_eq (c : Cfg α) (hstart : Int) (i : Nat) :
    pStart c hstart i = ((hstart + (i : Int) * c.P : Int) : α) := rfl
end

theorem invalid_some_iff (c : Cfg α) {a b : Obs α} {v1 v2 : α} (h1 : a.2 = some v1) (h2 : b.2 = some v2) :
    invalid c a b = true ↔ v1 < -c.eps ∨ v2 < -c.eps ∨ c.maxgap < b.1 - a.1 := by
  unfold invalid
  rw [h1, h2]
  simp only [Bool.or_eq_true, decide_eq_true_eq, or_assoc, ← Int.cast_sub, Int.cast_lt]

theorem clipLo_cast (S : Int) (a : Obs α) : clipLo ((S : Int) : α) a = ((ovLo S a : Int) : α) :=
  (max_def_lt _ _).symm.trans (Int.cast_max ..).symm

theorem clipHi_cast (E : Int) (b : Obs α) : clipHi ((E : Int) : α) b = ((ovHi E b : Int) : α) :=
  ((min_def_lt _ _).symm.trans (min_comm _ _)).trans (Int.cast_min ..).symm

/-- with whole-second stamps the `1e-8` tolerance is an exact "positive length" test -/
theorem eps_lt_cast_sub (eps : α) (h0 : 0 < eps) (h1 : eps < 1) (lo hi : Int) :
    eps < ((hi : Int) : α) - ((lo : Int) : α) ↔ lo < hi := by
  rw [← Int.cast_sub, ← sub_pos (a := hi)]
  exact ⟨fun h => Int.cast_pos.1 (h0.trans h), fun h => h1.trans_le (Int.cast_one_le_of_pos h)⟩

theorem pieceVal_eq_contrib (c : Cfg α) (h0 : 0 < c.eps) (h1 : c.eps < 1) (S E : Int) (a b : Obs α) :
    pieceVal c (S : α) (E : α) a b = contrib c S E a b := by
  obtain ⟨ta, va⟩ := a
  obtain ⟨tb, vb⟩ := b
  unfold pieceVal piece contrib
  simp only [clipLo_cast, clipHi_cast, eps_lt_cast_sub c.eps h0 h1]
  split_ifs with h hr
  · cases va <;> cases vb <;> rfl
  · cases va <;> cases vb <;> rfl
  · rfl

theorem psum_eq_contrib (c : Cfg α) (h0 : 0 < c.eps) (h1 : c.eps < 1) (S E : Int) (l : List (Obs α)) :
    psum c (S : α) (E : α) l = ((pairs l).map fun p => contrib c S E p.1 p.2).sum :=
  congrArg List.sum (List.map_congr_left fun p _ => pieceVal_eq_contrib c h0 h1 S E p.1 p.2)

theorem psum_eq_zero (c : Cfg α) (h0 : 0 < c.eps) (h1 : c.eps < 1) (S E : Int) (l : List (Obs α))
    (h : ∀ p ∈ pairs l, contrib c S E p.1 p.2 = 0) : psum c (S : α) (E : α) l = 0 := by
  rw [psum_eq_contrib c h0 h1]
  refine List.sum_eq_zero fun x hx => ?_
  obtain ⟨p, hp, rfl⟩ := List.mem_map.1 hx
  exact h p hp

/-- The `while` loop. The sum is over all remaining intervals: those the loop does not reach add nothing. -/
theorem walk_spec (c : Cfg α) (h0 : 0 < c.eps) (h1 : c.eps < 1) (S E : Int) :
    ∀ (l : List (Obs α)) (a : Obs α) (h : α) (m : Bool), l ≠ [] → Sorted (a :: l) → a.1 < E →
      ∃ suf, walk c (S : α) (E : α) a l (h, m) = .ok ((h + psum c (S : α) (E : α) (a :: l),
          m || pmiss c E (a :: l) || decide (lastTime (a :: l) < E)), suf) ∧ Inv (a :: l) E suf := by
  intro l
  induction l with
  | nil => intro a h m hne; exact absurd rfl hne
  | cons b rest ih =>
    intro a h m _ hs hae
    have hnlt : ¬ b.1 < a.1 := not_lt.2 (hs.head_le b (by simp))
    rw [walk]
    simp only [Int.cast_lt, if_neg hnlt, addPiece_piece]
    cases rest with
    | nil =>
      refine ⟨(a, [b]), ?_, ⟨[], rfl⟩, by simp, hae.le, Or.inl ⟨b, rfl⟩⟩
      simp only [psum_cons_cons, psum_single, pmiss_cons_cons, pmiss_single, lastTime_cons_cons,
        lastTime_single, hae, decide_true, Bool.true_and, Bool.or_false, add_zero]
      rfl
    | cons r rest' =>
      by_cases hbe : b.1 < E
      · obtain ⟨suf, hw, hinv⟩ := ih b (h + pieceVal c S E a b) (m || invalid c a b) (by simp) hs.tail hbe
        refine ⟨suf, ?_, hinv.append [a]⟩
        rw [if_pos hbe, hw]
        simp only [psum_cons_cons, pmiss_cons_cons, lastTime_cons_cons, hae, decide_true, Bool.true_and,
          add_assoc, Bool.or_assoc]
        rfl
      · refine ⟨(a, b :: r :: rest'), ?_, ⟨[], rfl⟩, by simp, hae.le, Or.inr (by simpa using not_lt.1 hbe)⟩
        have hall : ∀ x ∈ b :: r :: rest', E ≤ x.1 := fun x hx => (not_lt.1 hbe).trans (hs.tail.head_le_mem x hx)
        have hlast : ¬ lastTime (b :: r :: rest') < E :=
          not_lt.2 ((not_lt.1 hbe).trans (Sorted.le_lastTime hs.tail b (by simp)))
        rw [if_neg hbe, psum_cons_cons, pmiss_cons_cons, pmiss_of_ge_end c E _ hall, lastTime_cons_cons,
          psum_eq_zero c h0 h1 S E _ fun p hp => contrib_of_ge_end c S p.2 (hall _ (mem_pairs hp).1)]
        simp only [hae, hlast, decide_true, decide_false, Bool.true_and, Bool.or_false, add_zero]

/-- the intervals already passed neither add to the period nor overlap it -/
theorem PeriodOK.of_suffix {c : Cfg α} (h0 : 0 < c.eps) (h1 : c.eps < 1) {pre l : List (Obs α)} {a : Obs α}
    (hs : Sorted (pre ++ a :: l)) {S E : Int} (hle : a.1 ≤ S) :
    ∀ {o : Option α}, PeriodOK c (a :: l) S E o → PeriodOK c (pre ++ a :: l) S E o
  | none, h => by
    unfold PeriodOK
    rw [lastTime_append, pairs_append]
    exact h.imp_right fun ⟨p, hp, hh⟩ => ⟨p, List.mem_append_right _ hp, hh⟩
  | some v, h => by
    unfold PeriodOK
    rw [lastTime_append, pairs_append, psum_append,
      psum_eq_zero c h0 h1 S E _ fun p hp => contrib_of_le_start c E p.1 ((hs.prefix_le _ (mem_pairs hp).2).trans hle),
      zero_add]
    refine ⟨h.1, h.2.1, fun p hp hpE hSp => ?_⟩
    rcases List.mem_append.1 hp with hp | hp
    · exact absurd hSp (not_lt.2 ((hs.prefix_le _ (mem_pairs hp).2).trans hle))
    · exact h.2.2 p hp hpE hSp

theorem period_spec (c : Cfg α) (h0 : 0 < c.eps) (h1 : c.eps < 1) (hP : 0 < c.P) (obs : List (Obs α))
    (hs : Sorted obs) (hstart : Int) (i : Nat) (suf : Obs α × List (Obs α))
    (hinv : Inv obs (perS c.P hstart i) suf) :
    ∃ o suf', period c hstart i suf = .ok (o, suf')
      ∧ PeriodOK c obs (perS c.P hstart i) (perE c.P hstart i) o
      ∧ Inv obs (perE c.P hstart i) suf' := by
  obtain ⟨a, l⟩ := suf
  obtain ⟨⟨pre, rfl⟩, hne, hle, hnxt⟩ := hinv
  have hSE : perS c.P hstart i < perE c.P hstart i := Int.lt_add_of_pos_right _ hP
  have hae : a.1 < perE c.P hstart i := hle.trans_lt hSE
  obtain ⟨suf', hw, hinv'⟩ :=
    walk_spec c h0 h1 (perS c.P hstart i) (perE c.P hstart i) l a 0 false hne hs.of_append hae
  refine ⟨_, suf', ?_, (suffix_periodOK c (Int.cast_ne_zero.2 hP.ne') hSE.le (nxt_all hs.of_append hnxt)).of_suffix
    h0 h1 hs hle, hinv'.append pre⟩
  rw [period, if_pos (by rw [pEnd_eq]; exact Int.cast_lt.2 hae)]
  simp only [pEnd_eq, pStart_eq]
  rw [show ((hstart + (i : Int) * c.P : Int) : α) = ((perS c.P hstart i : Int) : α) from rfl, hw]
  simp only [zero_add, Bool.false_or]

theorem loop_spec (c : Cfg α) (h0 : 0 < c.eps) (h1 : c.eps < 1) (hP : 0 < c.P) (obs : List (Obs α))
    (hs : Sorted obs) (hstart : Int) :
    ∀ (n i : Nat) (suf : Obs α × List (Obs α)), Inv obs (perS c.P hstart i) suf →
      ∃ out, loop c hstart n i suf = .ok out ∧ out.length = n ∧
        ∀ k o, out[k]? = some o → PeriodOK c obs (perS c.P hstart (i + k)) (perE c.P hstart (i + k)) o := by
  intro n
  induction n with
  | zero => intro i suf _; exact ⟨[], rfl, rfl, by simp⟩
  | succ n ih =>
    intro i suf hinv
    obtain ⟨o, suf', hper, hok, hinv'⟩ := period_spec c h0 h1 hP obs hs hstart i suf hinv
    obtain ⟨out, hl, hlen, hall⟩ := ih (i + 1) suf' (perS_succ .. ▸ hinv')
    refine ⟨o :: out, ?_, by simp [hlen], ?_⟩
    · simp only [loop, hper, hl]
    · intro k o' hk
      cases k with
      | zero => simp at hk; subst hk; exact hok
      | succ k =>
        simp at hk
        have := hall k o' hk
        rwa [show i + 1 + k = i + (k + 1) by omega] at this

section
-- stated over the ordered field although each is one `simp` in a field
set_option linter.unusedSectionVars false
theorem trapArea_self (a b : Obs α) (v1 v2 : α) (x : Int) : trapArea a b v1 v2 x x = 0 := by
  simp [trapArea]

theorem rainShare_self (a b : Obs α) (v2 : α) (x : Int) : rainShare a b v2 x x = 0 := by
  simp [rainShare]
end

theorem kernel_spec {c : Cfg α} (hc : CfgOK c) {hstart : Int} (nvalh : Int) {a b : Obs α} {rest : List (Obs α)}
    (hs : Sorted (a :: b :: rest)) (ha : a.1 ≤ hstart) :
    ∃ out, kernel c hstart nvalh (a :: b :: rest) = .ok out ∧ out.length = (nvalh - 1).toNat ∧
      ∀ i o, out[i]? = some o →
        PeriodOK c (a :: b :: rest) (perS c.P hstart i) (perE c.P hstart i) o := by
  obtain ⟨h1, h2, h3, h4⟩ := scanFrom_spec (a :: b :: rest) hstart (b :: rest) a [] rfl (by simp) ha
  have hinv0 : Inv (a :: b :: rest) (perS c.P hstart 0) (scanFrom hstart a (b :: rest)) :=
    ⟨h1, h2, by simpa [perS] using h3, h4.imp_right fun h x hx => by simpa [perS] using (h x hx).le⟩
  obtain ⟨out, hl, hlen, hall⟩ :=
    loop_spec c hc.eps_pos hc.eps_lt hc.P_pos (a :: b :: rest) hs hstart (nvalh - 1).toNat 0 _ hinv0
  exact ⟨out, by rw [kernel_eq_loop hc nvalh (startScan_of_le b rest ha), hl], hlen,
    fun i o h => by simpa using hall i o h⟩

theorem kernel_periodOK {c : Cfg α} (hc : CfgOK c) {hstart nvalh : Int} {a b : Obs α} {rest : List (Obs α)}
    (hs : Sorted (a :: b :: rest)) (ha : a.1 ≤ hstart) {out : List (Option α)}
    (hk : kernel c hstart nvalh (a :: b :: rest) = .ok out) {i : Nat} {o : Option α} (hi : out[i]? = some o) :
    PeriodOK c (a :: b :: rest) (perS c.P hstart i) (perE c.P hstart i) o := by
  obtain ⟨out', h1, _, h3⟩ := kernel_spec hc nvalh hs ha
  cases h1.symm.trans hk
  exact h3 i o hi

end field

end HydroVerif.C14
