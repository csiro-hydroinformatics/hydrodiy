/-
C09 — facts about lists that the string functions of the model are made of (`takeWhile`, `dropWhile` at either end) and
the white-space strips (through `Lemmas/Strip.lean`, which spells them `reverse.dropWhile.reverse` as the model does; the
`rdropWhile` lemmas of `Mathlib.Data.List.DropRight` serve `rstripNL` in `Props/C09.lean`). The header
dictionary and the directories are association lists written with python's `d[k] = v`: `Lemmas/Assoc.lean`; the scan up to a
separator (`Strip.takeWhile_append_stop`) is in `Lemmas/Strip.lean`.
-/
import HydroVerif.Model.C09
import HydroVerif.Lemmas.Assoc
import HydroVerif.Lemmas.Strip
import Mathlib.Data.List.DropRight

namespace HydroVerif.C09

theorem contains_take_of_lt {α} [BEq α] [LawfulBEq α] (k : List α) (c : α) (rest : List α) (n : Nat) (h : k.length < n) :
    ((k ++ c :: rest).take n).contains c = true := by
  obtain ⟨m, rfl⟩ : ∃ m, n = k.length + (m + 1) := ⟨n - k.length - 1, by omega⟩
  simp [List.take_length_add_append]

theorem isSpace_toNat_le {c : Char} (h : isSpace c = true) : c.toNat ≤ 32 := by
  simp only [isSpace, Bool.or_eq_true, beq_iff_eq] at h
  rcases h with ((((rfl | rfl) | rfl) | rfl) | rfl) | rfl <;> decide

theorem ne_of_not_isSpace {c d : Char} (hc : isSpace c = false) (hd : isSpace d = true) : c ≠ d :=
  fun e => by rw [e, hd] at hc; cases hc

theorem lstrip_cons_of_not_space {c : Char} (s : Str) (hc : isSpace c = false) : lstrip (c :: s) = c :: s :=
  List.dropWhile_cons_of_neg (by simp [hc])

theorem strip_space_cons (s : Str) : strip (' ' :: s) = strip s :=
  congrArg rstrip (List.dropWhile_cons_of_pos (by decide))

theorem strip_of_no_space (s : Str) (h : ∀ c ∈ s, isSpace c = false) : strip s = s ∧ strip (s ++ [' ']) = s :=
  ⟨Strip.strip_eq_self isSpace h, Strip.strip_concat isSpace h (c := ' ') rfl⟩

theorem subSpacesAux_id (b : Bool) (k : Str) (h : ∀ c ∈ k, c ≠ ' ') : subSpacesAux b k = k := by
  induction k generalizing b with
  | nil => rfl
  | cons c s ih =>
    have hc : (c == ' ') = false := beq_false_of_ne (h c List.mem_cons_self)
    rw [subSpacesAux, hc, if_neg Bool.false_ne_true, ih false fun d hd => h d (List.mem_cons_of_mem _ hd)]

theorem dictSet_eq (d : List (Str × Str)) (k v : Str) : dictSet d k v = Assoc.upsert d k v := rfl

end HydroVerif.C09
