/-
C17 — histories of calls (`Model/C17Hist.lean`) as a `History.Trace` of `step`: replies of a prefix, reply number `n`,
rejected calls change nothing, calls write no argument.
-/
import HydroVerif.Lemmas.C17Linear
import HydroVerif.Model.C17Hist
import HydroVerif.Lemmas.History

namespace HydroVerif.C17

open Finset

variable {α : Type} [CommRing α]

theorem trace (nan : α → Bool) : History.Trace (step nan) (exec nan) (run nan) :=
  ⟨⟨fun _ => rfl, fun _ _ _ => rfl⟩, fun _ => rfl, fun _ _ _ => rfl⟩

theorem run_append (nan : α → Bool) : ∀ (ops1 ops2 : List (Op α)) (s : St α),
    run nan s (ops1 ++ ops2) = run nan s ops1 ++ run nan (exec nan s ops1) ops2 :=
  fun ops1 ops2 s => (trace nan).outs_append s ops1 ops2

theorem run_length (nan : α → Bool) : ∀ (ops : List (Op α)) (s : St α), (run nan s ops).length = ops.length :=
  fun ops s => (trace nan).outs_length s ops

theorem step_rejected (nan : α → Bool) (s : St α) (op : Op α) (e : Err)
    (h : (step nan s op).2 = some (.error e)) : (step nan s op).1 = s := by
  cases op with
  | callSim ma ia => exact congrArg (afterCall s) (Option.some.inj h)
  | callRes nm ma ia => exact congrArg (afterCall s) (Option.some.inj h)
  | _ => cases h

theorem exec_rejected (nan : α → Bool) (fs : List (Op α))
    (hfs : ∀ f ∈ fs, ∀ s : St α, ∃ e, (step nan s f).2 = some (.error e)) (s : St α) : exec nan s fs = s :=
  (trace nan).preserves (· = s) (fun _ f hf ht => by rw [ht]; exact (hfs f hf s).elim (step_rejected nan s f)) rfl

theorem step_call_args (nan : α → Bool) (s : St α) (op : Op α) (h : op.isCall = true) :
    (step nan s op).1.params = s.params ∧ (step nan s op).1.series = s.series := by
  cases op with
  | callSim ma ia =>
    simp only [step]
    cases pySim nan s.params s.series ma ia <;> exact ⟨rfl, rfl⟩
  | callRes nm ma ia =>
    simp only [step]
    cases pyResidual nan s.params s.series nm ma ia <;> exact ⟨rfl, rfl⟩
  | _ => simp [Op.isCall] at h

end HydroVerif.C17
