/- C04 over the reals: the square roots in `np.std` (`sqrt_mul_self_mul_div`, behind `std_scale`, `pearson_scale`) and in `np.corrcoef`
(`clip1_corrcoef`, behind `pearson_textbook`, `pearson_self`) -/
import HydroVerif.Lemmas.C04
import Mathlib.Analysis.Real.Sqrt

namespace HydroVerif.C04

theorem sqrt_mul_self_mul_div {c : ℝ} (hc : 0 ≤ c) (v n : ℝ) : √(c * c * v / n) = c * √(v / n) := by
  rw [mul_div_assoc, Real.sqrt_mul (mul_self_nonneg c), Real.sqrt_mul_self hc]

/-- covariance and variances carry the same factor `1/n`, which cancels; by Cauchy-Schwarz (`h`) the quotient lies
in [-1, 1], so the clipping of `np.corrcoef` leaves it alone -/
theorem clip1_corrcoef {A B C n : ℝ} (hA : 0 < A) (hB : 0 < B) (hn : 0 < n) (h : C * C ≤ A * B) :
    clip1 (C / n / √(A / n) / √(B / n)) = C / (√A * √B) := by
  have hAB : 0 < √A * √B := mul_pos (Real.sqrt_pos.mpr hA) (Real.sqrt_pos.mpr hB)
  have e : C / n / √(A / n) / √(B / n) = C / (√A * √B) := by
    rw [Real.sqrt_div hA.le, Real.sqrt_div hB.le, div_div, div_div, div_mul_div_comm, Real.mul_self_sqrt hn.le,
      ← div_div, div_div_div_cancel_right₀ hn.ne']
  rw [e, clip1_of_abs_le]
  rw [abs_div, abs_of_pos hAB, div_le_one hAB, ← Real.sqrt_mul hA.le]
  exact Real.abs_le_sqrt (by rwa [sq])

end HydroVerif.C04
