/-
C18 — the two tables `wrappers` / `results` looked at once: the facts about all wrappers are one statement, and the table
theorems of `Props/C18.lean` (`wrappers_return_private`, `wrappers_noRetype`, `pointsInsidePolygonOut_returns_caller`) are
its projections.
-/
import HydroVerif.Model.C18
namespace HydroVerif.C18

/-- per wrapper: its body converts nothing in place or it is one of `retypingWrappers` (the body is looked at first, so a
name is compared only for the bodies that do convert); what it hands back is private unless it is one of the two named
exceptions. And the entry of the wrapper with a caller-supplied output array. -/
theorem tables_checked :
    (∀ w ∈ wrappers, (noRetype w.2 = true ∨ w.1 ∈ retypingWrappers)
      ∧ (w.1 ∉ ["points_inside_polygon_out", "grid_data_setter_nocopy"] →
          ReturnsPrivate w.2 ((results.lookup w.1).getD [])))
    ∧ results.lookup "points_inside_polygon_out" = some [2] := by decide +kernel

end HydroVerif.C18
