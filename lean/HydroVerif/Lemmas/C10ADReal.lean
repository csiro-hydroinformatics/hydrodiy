/-
C10 — the Anderson-Darling statistic over ℝ (it takes logarithms): the loop of `ADtest` against the textbook formula, and
`c_ad_test` on NaN-free data for any sort that meets `ADSorts`.
-/
import HydroVerif.Lemmas.C10Unif
import HydroVerif.Lemmas.C10TranscR

namespace HydroVerif.C10

/-- textbook Anderson-Darling statistic on the order statistics `s` (0-based `i`):
`-n - (1/n) Σ (2i+1) [ln x_(i) + ln(1 - x_(n-1-i))]` -/
noncomputable def adTextbook (s : List ℝ) : ℝ :=
  -(s.length : ℝ) - (1 / (s.length : ℝ))
    * ((s.zip s.reverse).zipIdx.map fun p =>
        (2 * (p.2 : ℝ) + 1) * (Real.log p.1.1 + Real.log (1 - p.1.2))).sum

theorem adLoop_eq (xs rs : List ℝ) (hx : ∀ v ∈ xs, 0 < v) (hr : ∀ v ∈ rs, v < 1) : ∀ (i : ℕ) (z : ℝ),
    adLoop i z xs rs = z - (((xs.zip rs).zipIdx i).map fun p =>
        (2 * (p.2 : ℝ) + 1) * (Real.log p.1.1 + Real.log (1 - p.1.2))).sum := by
  induction xs generalizing rs with
  | nil => intro i z; simp [adLoop]
  | cons x xs ih =>
    intro i z
    cases rs with
    | nil => simp [adLoop]
    | cons r rs =>
      have hx0 : 0 < x := hx x (by simp)
      have hr1 : r < 1 := hr r (by simp)
      simp only [adLoop, List.zip_cons_cons, List.zipIdx_cons, List.map_cons, List.sum_cons]
      rw [ih rs (fun v hv => hx v (by simp [hv])) (fun v hv => hr v (by simp [hv])), log_def,
        Real.log_mul hx0.ne' (by linarith)]
      push_cast; ring

theorem adStat_eq {s : List ℝ} (h : ∀ v ∈ s, 0 < v ∧ v < 1) : adStat s = adTextbook s := by
  unfold adStat adTextbook
  rw [adLoop_eq s s.reverse (fun v hv => (h v hv).1) (fun v hv => (h v (List.mem_reverse.mp hv)).2) 0 0]
  ring

theorem adTest_map_some {sort : List (Option ℝ) → List (Option ℝ)} (hs : ADSorts sort) {prev0 : ℝ} (hprev : prev0 ≤ 0)
    (xs : List ℝ) :
    ∃ s : List ℝ, s.Perm xs ∧ s.Pairwise (· ≤ ·) ∧
      adTest sort prev0 (xs.map some) = if ∀ v ∈ xs, 0 ≤ v ∧ v ≤ 1 then .ok (adStat s) else .error .range := by
  obtain ⟨s, hsort, hperm, hsorted⟩ := hs.2 xs
  refine ⟨s, hperm, hsorted, ?_⟩
  unfold adTest
  simp only [hsort, allSome_map_some, hperm.mem_iff,
    adGuards_sorted s hsorted prev0 fun v _ => (lt_or_ge v 0).imp id hprev.trans]
  split_ifs <;> rfl

end HydroVerif.C10
