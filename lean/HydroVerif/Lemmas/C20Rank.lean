/- C20 — ranks: the window `IsRankOf` between the number of smaller entries and the number of entries that are not larger,
from which every tie method of pandas picks (average, min, max; dense on the distinct values; first), hence order
preservation and `1 ≤ rank ≤ n`; and the plotting positions `scoreArg` handed to `norm.ppf` -/
import HydroVerif.Model.C20X
import HydroVerif.Lemmas.C20List
import Mathlib.Algebra.Order.Field.Basic
import Mathlib.Tactic.Ring
import Mathlib.Tactic.Linarith.Frontend


namespace HydroVerif.C20

variable {α : Type} [Field α] [LinearOrder α]

/-! the two list functions unfolded: no order axiom of the field is used -/

theorem ppos_eq (n : Nat) (cst : α) (h0 : 0 ≤ cst) (h1 : cst ≤ 1 / 2) :
    ppos n cst = .ok ((List.range n).map fun (i : Nat) => scoreArg n cst (i : α)) := by
  unfold ppos scoreArg
  rw [if_neg (not_or.mpr ⟨not_lt.mpr h0, not_lt.mpr h1⟩)]
  simp only [Nat.cast_succ]

theorem ranksFirst_getElem (xs : List α) (i : Nat) (hi : i < xs.length) :
    (ranksFirst xs)[i]? = some ((cntLt xs xs[i] + cntEq (xs.take i) xs[i] + 1 : Nat) : α) := by
  unfold ranksFirst
  rw [List.getElem?_map, List.getElem?_range hi]
  simp [List.getElem?_eq_getElem hi]

variable [IsStrictOrderedRing α]

/-- `ρ` is an admissible rank of `x` among `xs` (1-based): above the number of smaller entries, at most the number of
entries that are not larger. Every tie method of pandas picks such a value. -/
def IsRankOf (xs : List α) (x ρ : α) : Prop :=
  (cntLt xs x : α) + 1 ≤ ρ ∧ ρ ≤ ((cntLt xs x + cntEq xs x : Nat) : α)

theorem IsRankOf.bounds {xs : List α} {x ρ : α} (h : IsRankOf xs x ρ) : 1 ≤ ρ ∧ ρ ≤ (xs.length : α) :=
  ⟨le_trans (le_add_of_nonneg_left (Nat.cast_nonneg _)) h.1,
   le_trans h.2 (Nat.cast_le.mpr (cntLt_add_cntEq xs x ▸ List.countP_le_length))⟩

theorem IsRankOf.lt_of_lt {xs : List α} {x y ρ σ : α} (hx : IsRankOf xs x ρ) (hy : IsRankOf xs y σ) (h : x < y) :
    ρ < σ :=
  lt_of_le_of_lt (le_trans hx.2 (Nat.cast_le.mpr (cntLt_add_cntEq_le xs h))) (lt_of_lt_of_le (lt_add_one _) hy.1)

theorem rank_isRankOf (m : RankMethod) (xs : List α) {x : α} (hx : x ∈ xs) : IsRankOf xs x (rank m xs x) := by
  have h : (1 : α) ≤ (cntEq xs x : α) := by exact_mod_cast cntEq_pos xs hx
  cases m with
  | average => exact ⟨by simp only [rank]; linarith, by simp only [rank]; push_cast; linarith⟩
  | min => exact ⟨(Nat.cast_succ _).ge, Nat.cast_le.mpr (Nat.add_le_add_left (cntEq_pos xs hx) _)⟩
  | max => exact ⟨by simp only [rank]; push_cast; linarith, le_refl _⟩

theorem rank_strictMonoOn (m : RankMethod) (xs : List α) : StrictMonoOn (rank m xs) {x | x ∈ xs} :=
  fun _ hx _ hy h => (rank_isRankOf m xs hx).lt_of_lt (rank_isRankOf m xs hy) h

theorem ppos_den_pos (n : Nat) (hn : 0 < n) (cst : α) (h1 : cst ≤ 1 / 2) :
    (0 : α) < ((n + 1 : Nat) : α) - 2 * cst := by
  have h : (1 : α) ≤ (n : α) := Nat.one_le_cast.mpr hn
  push_cast
  linarith

theorem scoreArg_strictMono (n : Nat) (hn : 0 < n) (cst : α) (h1 : cst ≤ 1 / 2) : StrictMono (scoreArg n cst) :=
  fun _ _ h => div_lt_div_of_pos_right (sub_lt_sub_right (add_lt_add_left h 1) cst) (ppos_den_pos n hn cst h1)

theorem scoreArg_mem_unit (n : Nat) (hn : 0 < n) (cst : α) (h1 : cst ≤ 1 / 2) {r : α}
    (hr0 : 0 ≤ r) (hr1 : r ≤ (n : α) - 1) : 0 < scoreArg n cst r ∧ scoreArg n cst r < 1 := by
  unfold scoreArg
  have hden := ppos_den_pos n hn cst h1
  refine ⟨div_pos (by linarith) hden, (div_lt_one hden).mpr ?_⟩
  push_cast
  linarith

theorem scoreArg_add_eq_one (n : Nat) (hn : 0 < n) (cst : α) (h1 : cst ≤ 1 / 2) {r s : α} (h : r + s + 1 = (n : α)) :
    scoreArg n cst r + scoreArg n cst s = 1 := by
  unfold scoreArg
  rw [← add_div, div_eq_one_iff_eq (ppos_den_pos n hn cst h1).ne', Nat.cast_succ, ← h]
  ring

theorem scoreArg_range (n : Nat) (cst : α) (h1 : cst ≤ 1 / 2) :
    ((List.range n).map fun (i : Nat) => scoreArg n cst (i : α)).Pairwise (· < ·) ∧
    ∀ p ∈ (List.range n).map fun (i : Nat) => scoreArg n cst (i : α), 0 < p ∧ p < 1 := by
  refine ⟨List.pairwise_map.mpr (List.pairwise_lt_range.imp_of_mem fun {a b} _ hb hab => ?_), fun p hp => ?_⟩
  · exact scoreArg_strictMono n (Nat.zero_lt_of_lt (List.mem_range.mp hb)) cst h1 (Nat.cast_lt.mpr hab)
  · obtain ⟨i, hi, rfl⟩ := List.mem_map.mp hp
    have hi := List.mem_range.mp hi
    exact scoreArg_mem_unit n (Nat.zero_lt_of_lt hi) cst h1 (Nat.cast_nonneg i)
      (le_sub_iff_add_le.mpr (by exact_mod_cast hi))

theorem scoreArg_rank_mem_unit (n : Nat) (cst : α) (h1 : cst ≤ 1 / 2) {r : α} (hr : 1 ≤ r ∧ r ≤ (n : α)) :
    0 < scoreArg n cst (r - 1) ∧ scoreArg n cst (r - 1) < 1 :=
  scoreArg_mem_unit n (Nat.cast_pos.mp (lt_of_lt_of_le zero_lt_one (hr.1.trans hr.2))) cst h1
    (sub_nonneg.mpr hr.1) (sub_le_sub_right hr.2 1)

theorem ppf_scoreArg_lt_iff (ppf : α → α) (hppf : StrictMonoOn ppf (Set.Ioo 0 1)) (n : Nat) (cst : α)
    (h1 : cst ≤ 1 / 2) {r s : α} (hr : 1 ≤ r ∧ r ≤ (n : α)) (hs : 1 ≤ s ∧ s ≤ (n : α)) :
    ppf (scoreArg n cst (r - 1)) < ppf (scoreArg n cst (s - 1)) ↔ r < s := by
  have hn : 0 < n := Nat.cast_pos.mp (lt_of_lt_of_le zero_lt_one (hr.1.trans hr.2))
  rw [hppf.lt_iff_lt (scoreArg_rank_mem_unit n cst h1 hr) (scoreArg_rank_mem_unit n cst h1 hs),
    (scoreArg_strictMono n hn cst h1).lt_iff_lt, sub_lt_sub_iff_right]

theorem rankDense_isRankOf (xs : List α) {x : α} (hx : x ∈ xs) : IsRankOf (distinctL xs) x (rankDense xs x) := by
  have h := cntEq_pos (distinctL xs) (mem_distinctL.mpr hx)
  exact ⟨by unfold rankDense; push_cast; exact le_refl _, Nat.cast_le.mpr (by omega)⟩

theorem rankDense_strictMonoOn (xs : List α) : StrictMonoOn (rankDense xs) {x | x ∈ xs} :=
  fun _ hx _ hy h => (rankDense_isRankOf xs hx).lt_of_lt (rankDense_isRankOf xs hy) h

theorem rankDense_bounds (xs : List α) {x : α} (hx : x ∈ xs) : 1 ≤ rankDense xs x ∧ rankDense xs x ≤ (xs.length : α) :=
  have b := (rankDense_isRankOf xs hx).bounds
  ⟨b.1, b.2.trans (Nat.cast_le.mpr (distinctL_length_le xs))⟩

theorem firstRank_isRankOf (xs : List α) (i : Nat) (hi : i < xs.length) :
    IsRankOf xs xs[i] ((cntLt xs xs[i] + cntEq (xs.take i) xs[i] + 1 : Nat) : α) :=
  ⟨by push_cast; exact (add_le_add_iff_right 1).mpr (le_add_of_nonneg_right (Nat.cast_nonneg _)),
   Nat.cast_le.mpr (by have := cntEq_take_lt xs _ i _ hi le_rfl rfl; rw [List.take_length] at this; omega)⟩

end HydroVerif.C20
