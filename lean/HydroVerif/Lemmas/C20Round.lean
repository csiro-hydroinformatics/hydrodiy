/-
C20 — `rnd53` of `Model/C20X.lean` (round to nearest even at 53 significant bits on exact rationals): it keeps the sign of its
argument, which is all the pareto kernel asks of it. (What the rounded formulas need of ANY monotone rounding is in `Lemmas/Round`.)
-/
import HydroVerif.Model.C20X
import HydroVerif.Lemmas.Round
import Mathlib.Tactic.NormNum.Ineq
import Mathlib.Algebra.Order.Field.Basic

namespace HydroVerif.C20

theorem pow2_eq_zpow (e : Int) : pow2 e = (2 : Rat) ^ e := Round.pow2_eq e

theorem pow2_pred (e : Int) : pow2 (e - 1) = pow2 e / 2 := by
  rw [pow2_eq_zpow, pow2_eq_zpow, zpow_sub_one₀ (by norm_num : (2 : Rat) ≠ 0)]
  rfl

theorem pow2_succ (e : Int) : pow2 (e + 1) = pow2 e * 2 := by
  rw [pow2_eq_zpow, pow2_eq_zpow, zpow_add_one₀ (by norm_num : (2 : Rat) ≠ 0)]

theorem floor_le_rne (s : Rat) : s.floor ≤ rne s := by
  rcases Round.rne_cases s with ⟨e, -⟩ | ⟨e, -⟩
  · exact e.ge
  · exact (Int.le_add_one le_rfl).trans e.ge

/-- `a ≥ 2^p / 2^(q+1)` where `p`, `q` are the bit lengths (minus one) of numerator and denominator; the exponent is
`e0 - 1`, the smallest `expo53` can return, and only `1 ≤` is kept: all that `rndMag_pos` needs is a significand whose
floor is positive -/
theorem scaled_estimate (a : Rat) (ha : 0 < a) :
    (1 : Rat) ≤ a / pow2 ((Nat.log2 a.num.natAbs : Int) - (Nat.log2 a.den : Int) - 52 - 1) := by
  have hnum : 0 < a.num := Rat.num_pos.mpr ha
  set p := Nat.log2 a.num.natAbs
  set q := Nat.log2 a.den
  have h1 : ((2 ^ p : Nat) : Rat) ≤ (a.num : Rat) := by
    have : 2 ^ p ≤ a.num.natAbs := Nat.log2_self_le (by omega)
    have : ((2 ^ p : Nat) : Int) ≤ a.num := by omega
    exact_mod_cast this
  have h2 : (a.den : Rat) ≤ ((2 ^ (q + 1) : Nat) : Rat) := by exact_mod_cast (Nat.lt_log2_self (n := a.den)).le
  rw [pow2_eq_zpow, le_div_iff₀ (zpow_pos two_pos _), one_mul]
  calc (2 : Rat) ^ ((p : Int) - q - 52 - 1) ≤ (2 : Rat) ^ ((p : Int) - ((q + 1 : Nat) : Int)) :=
        zpow_le_zpow_right₀ one_le_two (by push_cast; omega)
    _ = ((2 ^ p : Nat) : Rat) / ((2 ^ (q + 1) : Nat) : Rat) := by
        rw [zpow_sub₀ two_ne_zero, zpow_natCast, zpow_natCast]; push_cast; rfl
    _ ≤ a.num / a.den := div_le_div₀ (by exact_mod_cast hnum.le) h1 (by exact_mod_cast a.den_pos) h2
    _ = a := Rat.num_div_den a

theorem one_le_scaled (a : Rat) (ha : 0 < a) : 1 ≤ a / pow2 (expo53 a) := by
  unfold expo53
  simp only
  split
  · exact scaled_estimate a ha
  · split
    · rename_i h2
      rw [pow2_succ, ← div_div, le_div_iff₀ two_pos]
      exact le_trans (by norm_num) h2
    · rename_i h1 _
      exact le_trans (by norm_num) (not_lt.mp h1)

theorem rndMag_pos (a : Rat) (ha : 0 < a) : 0 < rndMag a := by
  unfold rndMag
  have h1 := one_le_scaled a ha
  have h2 : (1 : Int) ≤ (a / pow2 (expo53 a)).floor := Rat.le_floor_iff.mpr (by simpa using h1)
  have h3 := floor_le_rne (a / pow2 (expo53 a))
  have h4 : (0 : Rat) < (rne (a / pow2 (expo53 a)) : Rat) := by
    have : 0 < rne (a / pow2 (expo53 a)) := by omega
    exact_mod_cast this
  exact mul_pos h4 (Round.pow2_pos _)

theorem rnd53_sign (x : Rat) : (0 < rnd53 x ↔ 0 < x) ∧ (rnd53 x < 0 ↔ x < 0) := by
  rcases lt_trichotomy x 0 with h | h | h
  · have hm := rndMag_pos (-x) (neg_pos.mpr h)
    rw [show rnd53 x = -(rndMag (-x)) by simp [rnd53, h.ne, h]]
    exact ⟨iff_of_false (not_lt.mpr (neg_nonpos.mpr hm.le)) (not_lt.mpr h.le), iff_of_true (neg_neg_of_pos hm) h⟩
  · subst h
    simp [rnd53]
  · have hm := rndMag_pos x h
    rw [show rnd53 x = rndMag x by simp [rnd53, h.ne', not_lt.mpr h.le]]
    exact ⟨iff_of_true hm h, iff_of_false (not_lt.mpr hm.le) (not_lt.mpr h.le)⟩

end HydroVerif.C20
