/-
Rounded arithmetic, for every group that models floating point: a bare function `rnd : α → α` with plain
hypotheses (over a preorder for the first part, an ordered field or ring from there on).

* a monotone `rnd` does not cross a value it fixes (`rnd_le`, `rnd_mem`): it keeps every interval whose ends it fixes, and a
  rounded quotient of `0 ≤ a ≤ b` stays in `[0, 1]` (`rnd_div_mem`); the rounded formulas of C01, C04, C10 and C20;
* relative error `u` (`∀ t, |rnd t - t| ≤ u * |t|`, the standard model): one rounded operation after an error already
  made (`rel_step`), and the left-to-right rounded sum of a list (`foldl_rnd_add_err`, recursive summation);
* rounding to a grid of spacing `s` by any nearest-integer function: half a spacing, hence relative error `u` as soon
  as `s = 2 u m` with `m ≤ |x|`;
* nearest integer with ties to even on `ℚ` (`rne`) and `2 ^ e` for an integer `e` (`pow2`), written as the models of
  C07, C09, C15, C17 and C20 write them, so that their copies are these BY DEFINITION (`rfl`) and inherit the lemmas
  (of C11 only `pow2` is such a copy: its `roundHalfEven` is written with `⌊y + 1/2⌋` and has lemmas of its own).
The error bounds are used by C07, C08, C09, C11, C15, C16, C17, C20.
-/
import Mathlib.Algebra.Order.Ring.Rat
import Mathlib.Algebra.Field.Rat
import Mathlib.Tactic.Linarith.Frontend
import Mathlib.Algebra.Order.Field.Power
import Mathlib.Tactic.Ring

namespace HydroVerif.Round

section Mono
variable {β : Type} [Preorder β] {rnd : β → β}

/-- a monotone rounding does not cross a value it fixes -/
theorem rnd_le (hm : Monotone rnd) {b x : β} (hb : rnd b = b) (h : x ≤ b) : rnd x ≤ b :=
  (hm h).trans_eq hb

/-- hence it keeps every interval whose ends it fixes -/
theorem rnd_mem (hm : Monotone rnd) {a b x : β} (ha : rnd a = a) (hb : rnd b = b) (h1 : a ≤ x) (h2 : x ≤ b) :
    a ≤ rnd x ∧ rnd x ≤ b :=
  ⟨ha.symm.trans_le (hm h1), rnd_le hm hb h2⟩

end Mono

section MonoField
variable {α : Type} [Field α] [LinearOrder α] [IsStrictOrderedRing α] {rnd : α → α}

/-- a rounded quotient of `0 ≤ a ≤ b` stays in `[0, 1]` (also for `b = 0`, where the quotient is 0) -/
theorem rnd_div_mem (hm : Monotone rnd) (h0 : rnd 0 = 0) (h1 : rnd 1 = 1) {a b : α} (ha : 0 ≤ a) (hab : a ≤ b) :
    0 ≤ rnd (a / b) ∧ rnd (a / b) ≤ 1 :=
  rnd_mem hm h0 h1 (div_nonneg ha (ha.trans hab)) (div_le_one_of_le₀ hab (ha.trans hab))

end MonoField

section Rel
variable {α : Type} [CommRing α] [LinearOrder α] [IsStrictOrderedRing α]

theorem abs_le_add_of_abs_sub_le {a b M E : α} (hM : |a| ≤ M) (hE : |b - a| ≤ E) : |b| ≤ M + E :=
  (sub_le_iff_le_add'.1 (abs_sub_abs_le_abs_sub b a)).trans (add_le_add hM hE)

/-- `b` is within `E` of `a`, where `|a| ≤ M`, and `b'` is within the relative error `η` of `b` (`b' = rnd b`): then
`b'` is within `E + η (M + E)` of `a`. Every error bound of a rounded expression is this step, once per operation. -/
theorem rel_step {a b b' η M E : α} (hη : 0 ≤ η) (hM : |a| ≤ M) (hE : |b - a| ≤ E) (h : |b' - b| ≤ η * |b|) :
    |b' - a| ≤ E + η * (M + E) :=
  (abs_sub_le b' b a).trans ((add_le_add (h.trans
    (mul_le_mul_of_nonneg_left (abs_le_add_of_abs_sub_le hM hE) hη)) hE).trans_eq (add_comm _ _))

/-- the same with both bounds as multiples of `M`: relative errors compose as `q (1 + η) - 1` -/
theorem rel_step_mul {a b b' η q M : α} (hη : 0 ≤ η) (hM : |a| ≤ M) (hE : |b - a| ≤ (q - 1) * M)
    (h : |b' - b| ≤ η * |b|) : |b' - a| ≤ (q * (1 + η) - 1) * M :=
  (rel_step hη hM hE h).trans_eq (by ring)

/-- recursive summation: after `k` rounded additions the accumulator `a` is within `((1+u)^k - 1) b` of the exact `a'`,
`|a'| ≤ b`; every further summand costs one more factor `1 + u` and adds its absolute value to the mass -/
theorem foldl_rnd_add_err {ι : Type} {rnd : α → α} {u : α} (hu : 0 ≤ u) (hr : ∀ t, |rnd t - t| ≤ u * |t|) (f : ι → α)
    (l : List ι) (a a' b : α) (k : ℕ) (he : |a - a'| ≤ ((1 + u) ^ k - 1) * b) (ha' : |a'| ≤ b) :
    |l.foldl (fun s i => rnd (s + f i)) a - l.foldl (fun s i => s + f i) a'| ≤
      ((1 + u) ^ (k + l.length) - 1) * l.foldl (fun s i => s + |f i|) b := by
  induction l generalizing a a' b k with
  | nil => exact he
  | cons i rest ih =>
    have hs : |a' + f i| ≤ b + |f i| := (abs_add_le _ _).trans (add_le_add ha' le_rfl)
    have hq : 0 ≤ (1 + u) ^ k - 1 := sub_nonneg.2 (one_le_pow₀ (le_add_of_nonneg_right hu))
    rw [List.length_cons, ← Nat.add_assoc, Nat.add_right_comm]
    refine ih (rnd (a + f i)) (a' + f i) (b + |f i|) (k + 1) ?_ hs
    rw [pow_succ]
    refine rel_step_mul hu hs ?_ (hr _)
    rw [add_sub_add_right_eq_sub]
    exact he.trans (mul_le_mul_of_nonneg_left (le_add_of_nonneg_right (abs_nonneg _)) hq)

/-- … from an empty accumulator, against the exact sum: `|fl(Σ f) - Σ f| ≤ ((1+u)^n - 1) Σ|f|` -/
theorem foldl_rnd_add_err_sum {ι : Type} {rnd : α → α} {u : α} (hu : 0 ≤ u) (hr : ∀ t, |rnd t - t| ≤ u * |t|)
    (f : ι → α) (l : List ι) :
    |l.foldl (fun s i => rnd (s + f i)) 0 - (l.map f).sum| ≤ ((1 + u) ^ l.length - 1) * (l.map fun i => |f i|).sum := by
  rw [List.sum_eq_foldl, List.sum_eq_foldl, List.foldl_map, List.foldl_map, ← Nat.zero_add l.length]
  exact foldl_rnd_add_err hu hr f l 0 0 0 0 (by rw [sub_self, abs_zero, mul_zero]) abs_zero.le

end Rel

section Grid
variable {α : Type} [Field α] [LinearOrder α] [IsStrictOrderedRing α]

/-- `n` is an integer nearest to `x / s`: then `n s` is within half a spacing of `x` -/
theorem abs_mul_sub_le_half {n x s : α} (hs : 0 < s) (h : |n - x / s| ≤ 1 / 2) : |n * s - x| ≤ 1 / 2 * s := by
  have e : n * s - x = (n - x / s) * s := by rw [sub_mul, div_mul_cancel₀ x hs.ne']
  rw [e, abs_mul, abs_of_pos hs]
  exact mul_le_mul_of_nonneg_right h hs.le

/-- … hence within the relative error `u` when the spacing is `2 u m` for some `m ≤ |x|` (`m = 2 ^ ⌊log₂ |x|⌋`) -/
theorem abs_mul_sub_le_rel {n x s u m : α} (hs : 0 < s) (h : |n - x / s| ≤ 1 / 2) (hu : 0 ≤ u) (hm : m ≤ |x|)
    (e : s = 2 * u * m) : |n * s - x| ≤ u * |x| :=
  (abs_mul_sub_le_half hs h).trans ((mul_le_mul_of_nonneg_left hm hu).trans_eq' (by rw [e]; ring))

/-- the binary case: spacing `2 ^ e` with `e + p = k + 1` and `2 ^ k ≤ |x|` gives `p` significant bits -/
theorem abs_mul_zpow_sub_le {n x : α} {e k p : ℤ} (h : |n - x / 2 ^ e| ≤ 1 / 2) (hk : (2 : α) ^ k ≤ |x|)
    (hp : e = 1 + (-p + k)) : |n * 2 ^ e - x| ≤ 2 ^ (-p) * |x| :=
  abs_mul_sub_le_rel (zpow_pos two_pos e) h (zpow_pos two_pos _).le hk
    (by rw [hp, zpow_add₀ two_ne_zero, zpow_add₀ two_ne_zero, zpow_one, mul_assoc])

end Grid

/-! ### nearest integer, ties to even, and integer powers of two, on `ℚ` -/

/-- `2 ^ e`, as the models compute it -/
def pow2 (e : Int) : Rat := if 0 ≤ e then ((2 ^ e.toNat : Nat) : Rat) else 1 / ((2 ^ (-e).toNat : Nat) : Rat)

/-- nearest integer, ties to even, as the models compute it -/
def rne (q : Rat) : Int :=
  let f := q.floor
  let r := q - (f : Rat)
  if r < 1 / 2 then f else if 1 / 2 < r then f + 1 else if f % 2 = 0 then f else f + 1

theorem pow2_eq (e : ℤ) : pow2 e = (2 : ℚ) ^ e := by
  unfold pow2
  split
  · rename_i h
    rw [Nat.cast_pow, Nat.cast_ofNat, ← zpow_natCast, Int.toNat_of_nonneg h]
  · rename_i h
    rw [Nat.cast_pow, Nat.cast_ofNat, one_div, ← zpow_natCast, ← zpow_neg, Int.toNat_of_nonneg (by omega), neg_neg]

theorem pow2_pos (e : ℤ) : 0 < pow2 e := (zpow_pos two_pos e).trans_eq (pow2_eq e).symm

/-- the result is `⌊q⌋` only when the fractional part is at most `1/2`, `⌊q⌋ + 1` only when it is at least `1/2`
(`q.floor` is core's floor of a rational: these lemmas need no more of the library than the order of `ℚ`) -/
theorem rne_cases (q : ℚ) :
    (rne q = q.floor ∧ q - (q.floor : ℚ) ≤ 1 / 2) ∨ (rne q = q.floor + 1 ∧ 1 / 2 ≤ q - (q.floor : ℚ)) := by
  unfold rne
  simp only
  split_ifs with h1 h2 h3
  · exact Or.inl ⟨rfl, h1.le⟩
  · exact Or.inr ⟨rfl, h2.le⟩
  · exact Or.inl ⟨rfl, not_lt.1 h2⟩
  · exact Or.inr ⟨rfl, not_lt.1 h1⟩

theorem rne_err (q : ℚ) : |(rne q : ℚ) - q| ≤ 1 / 2 := by
  have h0 : (q.floor : ℚ) ≤ q := Rat.floor_le q
  have h1 : q < (q.floor : ℚ) + 1 := by simpa using Rat.lt_floor_add_one q
  rcases rne_cases q with ⟨e, h⟩ | ⟨e, h⟩
  · rwa [e, abs_sub_comm, abs_of_nonneg (sub_nonneg.2 h0)]
  · rw [e, Int.cast_add, Int.cast_one, abs_of_nonneg (sub_nonneg.2 h1.le)]
    linarith

theorem abs_rne_mul_sub_le (x : ℚ) {s : ℚ} (hs : 0 < s) : |(rne (x / s) : ℚ) * s - x| ≤ 1 / 2 * s :=
  abs_mul_sub_le_half hs (rne_err _)

end HydroVerif.Round
