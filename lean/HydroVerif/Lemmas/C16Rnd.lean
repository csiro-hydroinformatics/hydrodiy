/-
C16 — the model in rounded arithmetic.

`Rounding` is a rounding operator on an ordered field: monotone, idempotent (its fixed points are the representable
numbers), exact on the naturals `0 .. N`. IEEE-754 round-to-nearest on the finite doubles is such an operator
(`N = 2^53`, relative error `u = 2^-53` away from underflow); so is the identity (`u = 0`). `Fl r` is the type of
representable numbers with `+ - * /` rounded after each operation, the order of the field and the conversions of
`C07.Trunc`: the generic text of `Model/C16.lean` instantiates at `Fl r` exactly as it does at `Float`, and what is
proved here about that instance are statements about ranges, order and exact integer counts — true of the
floating-point computation itself, not only of exact arithmetic — and, under the extra hypothesis
`∀ x, |rnd x - x| ≤ u * |x|`, two error bounds (`repAdd_val_error`, `abs_sum_rnd_sub_le`).
The numbers are the representable ones (`Fl r` carries `rnd val = val`) and `Rounding` asks for monotonicity, idempotence
and exact small naturals because order, ranges and counts of the rounded computation are what is stated; neither the
explicit-`rnd` kernels of C07 nor the wrapper `Rd K rnd` of C15 (any `rnd`, error bound only) give that.
-/
import HydroVerif.Lemmas.C16
import HydroVerif.Lemmas.Round
import Mathlib.Algebra.Order.Ring.Abs
import Mathlib.Algebra.Order.BigOperators.Group.List
import Mathlib.Order.Monotone.Basic

-- `[FloorRing α]` is in scope for the whole file because `Fl r` carries the conversions of `C07.Trunc`; the lemmas on
-- values, order and sums do not use it
set_option linter.unusedSectionVars false

namespace HydroVerif.C16
open HydroVerif.C07

/-- a rounding operator. No error bound is part of the structure: the statements about ranges, order and counts need
none, and those that bound an error take `∀ x, |rnd x - x| ≤ u * |x|` as a hypothesis of their own -/
structure Rounding (α : Type) [Field α] [LinearOrder α] [IsStrictOrderedRing α] where
  rnd : α → α
  mono : Monotone rnd
  idem : ∀ x, rnd (rnd x) = rnd x
  N : ℕ
  nat_exact : ∀ n : ℕ, n ≤ N → rnd (n : α) = n
  one_le_N : 1 ≤ N

variable {α : Type} [Field α] [LinearOrder α] [IsStrictOrderedRing α] [FloorRing α]

structure Fl (r : Rounding α) where
  val : α
  rep : r.rnd val = val

namespace Fl
variable {r : Rounding α}

theorem val_injective : Function.Injective (Fl.val : Fl r → α) := by
  intro a b h
  cases a; cases b
  cases h
  rfl

def ofField (x : α) : Fl r := ⟨r.rnd x, r.idem x⟩

instance : Add (Fl r) := ⟨fun a b => ofField (a.val + b.val)⟩
instance : Sub (Fl r) := ⟨fun a b => ofField (a.val - b.val)⟩
instance : Mul (Fl r) := ⟨fun a b => ofField (a.val * b.val)⟩
instance : Div (Fl r) := ⟨fun a b => ofField (a.val / b.val)⟩
instance : OfNat (Fl r) 0 := ⟨ofField 0⟩
instance : OfNat (Fl r) 1 := ⟨ofField 1⟩
instance : LinearOrder (Fl r) := LinearOrder.lift' Fl.val val_injective

/-- `(double) n` rounds; the two conversions to integers read the value -/
instance : C07.Trunc (Fl r) where
  ofInt n := ofField (n : α)
  truncToInt x := if 0 ≤ x.val then ⌊x.val⌋ else ⌈x.val⌉
  floorToInt x := ⌊x.val⌋

@[simp] theorem add_val (a b : Fl r) : (a + b).val = r.rnd (a.val + b.val) := rfl
@[simp] theorem mul_val (a b : Fl r) : (a * b).val = r.rnd (a.val * b.val) := rfl
@[simp] theorem sub_val (a b : Fl r) : (a - b).val = r.rnd (a.val - b.val) := rfl
@[simp] theorem div_val (a b : Fl r) : (a / b).val = r.rnd (a.val / b.val) := rfl
theorem lt_iff (a b : Fl r) : a < b ↔ a.val < b.val := Iff.rfl
theorem le_iff (a b : Fl r) : a ≤ b ↔ a.val ≤ b.val := Iff.rfl

theorem rnd_natCast (n : ℕ) (h : n ≤ r.N) : r.rnd (n : α) = n := r.nat_exact n h

theorem rnd_zero : r.rnd 0 = 0 := by
  have := r.nat_exact 0 (Nat.zero_le _)
  simpa using this

theorem rnd_one : r.rnd 1 = 1 := by
  have := r.nat_exact 1 r.one_le_N
  simpa using this

theorem rnd_nonneg {x : α} (h : 0 ≤ x) : 0 ≤ r.rnd x := by
  have := r.mono h
  rwa [rnd_zero] at this

@[simp] theorem zero_val : (0 : Fl r).val = 0 := rnd_zero

@[simp] theorem one_val : (1 : Fl r).val = 1 := rnd_one

theorem ofInt_natCast_val (n : ℕ) (h : n ≤ r.N) : (C07.Trunc.ofInt (n : Int) : Fl r).val = n := by
  show r.rnd (((n : Int) : α)) = n
  rw [Int.cast_natCast]
  exact r.nat_exact n h

end Fl

section Locate
variable {r : Rounding α}

theorem floorToInt_offset_mono (lo csz : Fl r) (hcsz : 0 < csz.val) {x x' : Fl r} (h : x.val ≤ x'.val) :
    (C07.Trunc.floorToInt ((x - lo) / csz) : Int) ≤ C07.Trunc.floorToInt ((x' - lo) / csz) :=
  Int.floor_le_floor (r.mono (div_le_div_of_nonneg_right (r.mono (sub_le_sub_right h lo.val)) hcsz.le))

theorem coord2cell_rounded_mono (g : Geom (Fl r)) (hcsz : 0 < g.csz.val) {x x' y y' : Fl r}
    (hx : x.val ≤ x'.val) (hy : y.val ≤ y'.val) (h : 0 ≤ coord2cell g x y) (h' : 0 ≤ coord2cell g x' y') :
    colOf g.ncols (coord2cell g x y) ≤ colOf g.ncols (coord2cell g x' y') ∧
    rowOf g.ncols (coord2cell g x' y') ≤ rowOf g.ncols (coord2cell g x y) := by
  have mx := floorToInt_offset_mono g.xll g.csz hcsz hx
  have my := floorToInt_offset_mono g.yll g.csz hcsz hy
  obtain ⟨c, r⟩ := coord2cell_rowcol g x y h
  obtain ⟨c', r'⟩ := coord2cell_rowcol g x' y' h'
  rw [c, c', r, r']
  exact ⟨mx, by omega⟩

end Locate

section RepAdd
variable {r : Rounding α}

theorem repAdd_val_mono (af : Fl r) (h0 : 0 ≤ af.val) (n : Nat) :
    (repAdd af n).val ≤ (repAdd af (n + 1)).val :=
  (repAdd af n).rep.symm.trans_le (r.mono (le_add_of_nonneg_right h0))

theorem repAdd_val_monotone (af : Fl r) (h0 : 0 ≤ af.val) {m n : Nat} (h : m ≤ n) :
    (repAdd af m).val ≤ (repAdd af n).val := by
  induction h with
  | refl => exact le_refl _
  | step _ ih => exact le_trans ih (repAdd_val_mono af h0 _)

theorem repAdd_val_ge (af : Fl r) (h0 : 0 ≤ af.val) (n : Nat) : af.val ≤ (repAdd af n).val :=
  repAdd_val_monotone af h0 (Nat.zero_le n)

theorem repAdd_val_error (af : Fl r) (h0 : 0 ≤ af.val) {u : α} (hu : 0 ≤ u)
    (herr : ∀ x, |r.rnd x - x| ≤ u * |x|) (n : Nat) :
    |(repAdd af n).val - ((n : α) + 1) * af.val| ≤ ((1 + u) ^ n - 1) * (((n : α) + 1) * af.val) := by
  induction n with
  | zero =>
    show |af.val - _| ≤ _
    rw [Nat.cast_zero, zero_add, one_mul, sub_self, abs_zero, pow_zero, sub_self, zero_mul]
  | succ n ih =>
    have e : (((n + 1 : ℕ) : α) + 1) * af.val = ((n : α) + 1) * af.val + af.val := by
      rw [Nat.cast_succ, add_mul _ 1, one_mul]
    have hs : 0 ≤ ((n : α) + 1) * af.val + af.val := e.symm ▸ mul_nonneg (by positivity) h0
    show |r.rnd ((repAdd af n).val + af.val) - _| ≤ _
    rw [pow_succ, e]
    -- one more rounded addition (`Round.rel_step_mul`); the error so far is measured against the larger exact sum
    refine Round.rel_step_mul hu (abs_of_nonneg hs).le ?_ (herr _)
    rw [add_sub_add_right_eq_sub]
    exact ih.trans (mul_le_mul_of_nonneg_left (le_add_of_nonneg_right h0)
      (sub_nonneg.2 (one_le_pow₀ (le_add_of_nonneg_right hu))))

end RepAdd

section Counts
variable {r : Rounding α}

/-- as long as the running count stays representable (`<= N`), every `+= 1` is exact -/
theorem Fl.iterate_add_one_val {w : Fl r} {m : ℕ} (n : ℕ) (hw : w.val = m) (h : m + n ≤ r.N) :
    ((· + 1)^[n] w).val = ((m + n : ℕ) : α) := by
  induction n generalizing w m with
  | zero => exact hw
  | succ n ih =>
    have h1 : (w + 1).val = ((m + 1 : ℕ) : α) := by
      rw [Fl.add_val, Fl.one_val, hw, ← Nat.cast_succ, r.nat_exact _ (by omega)]
    rw [Function.iterate_succ_apply, ih h1 (by omega), Nat.add_right_comm, Nat.add_assoc]

theorem Fl.iterate_add_one_zero_val {n : ℕ} (h : n ≤ r.N) : ((· + 1)^[n] (0 : Fl r)).val = n := by
  rw [Fl.iterate_add_one_val n (Fl.zero_val.trans Nat.cast_zero.symm) ((Nat.zero_add n).le.trans h), Nat.zero_add]

theorem abs_sum_rnd_sub_le {u : α} (herr : ∀ x, |r.rnd x - x| ≤ u * |x|) (l : List α) (h0 : ∀ x ∈ l, 0 ≤ x) :
    |(l.map r.rnd).sum - l.sum| ≤ u * l.sum := by
  induction l with
  | nil => rw [List.map_nil, List.sum_nil, sub_zero, abs_zero, mul_zero]
  | cons x t ih =>
    obtain ⟨hx, ht⟩ := List.forall_mem_cons.1 h0
    rw [List.map_cons, List.sum_cons, List.sum_cons, add_sub_add_comm, mul_add]
    exact (abs_add_le _ _).trans (add_le_add ((herr x).trans_eq (by rw [abs_of_nonneg hx])) (ih ht))

end Counts

end HydroVerif.C16
