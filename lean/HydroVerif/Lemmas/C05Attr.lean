/-
C05 — the simp set `vc`: the equivalences `wp statement Q ↔ bound ∧ …` of `Lemmas/C05.lean` that rewrite `wp block Q`
into the verification condition of the block. An attribute has to be declared in a module of its own.
-/
import Lean.Meta.Tactic.Simp.RegisterCommand

register_simp_attr vc
