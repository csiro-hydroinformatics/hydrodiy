/-
C14 — the piecewise-linear interpolant of a list of observations as ONE function ℝ → ℝ, and the fact that
its interval integral over a period inside the data is the sum of the clipped per-interval integrals.
-/
import HydroVerif.Lemmas.C14
import Mathlib.Analysis.SpecialFunctions.Integrals.Basic

open MeasureTheory Set

namespace HydroVerif.C14

noncomputable def pieceFun (a b : Obs ℝ) : ℝ → ℝ := fun x =>
  match a.2, b.2 with
  | some v1, some v2 => lin (a.1 : ℝ) (b.1 : ℝ) v1 v2 x
  | _, _ => 0

/-- **the piecewise-linear interpolant** of the observations: on `[t_a, t_b)` the affine piece through
`a` and `b` (right-continuous where stamps are duplicated; the first piece is continued to the left of the first
stamp; 0 after the last stamp and on an interval with a missing end value) -/
noncomputable def interp : List (Obs ℝ) → ℝ → ℝ
  | a :: b :: r => fun x => if x < (b.1 : ℝ) then pieceFun a b x else interp (b :: r) x
  | _ => fun _ => 0

theorem interp_cons_cons (a b : Obs ℝ) (r : List (Obs ℝ)) (x : ℝ) :
    interp (a :: b :: r) x = if x < (b.1 : ℝ) then pieceFun a b x else interp (b :: r) x := by
  rw [interp]

theorem interp_single (a : Obs ℝ) (x : ℝ) : interp [a] x = 0 := by simp [interp]

theorem pieceFun_continuous (a b : Obs ℝ) : Continuous (pieceFun a b) := by
  obtain ⟨ta, va⟩ := a
  obtain ⟨tb, vb⟩ := b
  cases va with
  | none => exact continuous_const
  | some v1 =>
    cases vb with
    | none => exact continuous_const
    | some v2 => unfold pieceFun lin; fun_prop

/-- `hab` is needed: at a duplicated stamp the interpolant takes the LATER value (`interp` is right-continuous). -/
theorem interp_at_left (a b : Obs ℝ) (r : List (Obs ℝ)) (v1 v2 : ℝ) (ha : a.2 = some v1) (hb : b.2 = some v2)
    (hab : a.1 < b.1) : interp (a :: b :: r) (a.1 : ℝ) = v1 := by
  have : ((a.1 : Int) : ℝ) < (b.1 : ℝ) := by exact_mod_cast hab
  rw [interp_cons_cons, if_pos this]
  simp [pieceFun, ha, hb, lin]

theorem interp_intervalIntegrable : ∀ (l : List (Obs ℝ)) (S E : ℝ), IntervalIntegrable (interp l) volume S E
  | [], _, _ => intervalIntegrable_const (c := (0 : ℝ))
  | [_], _, _ => intervalIntegrable_const (c := (0 : ℝ))
  | a :: b :: r, S, E => by
    -- by definition `interp (a :: b :: r)` is `(Iio b.1).piecewise (pieceFun a b) (interp (b :: r))`
    rw [intervalIntegrable_iff]
    exact Integrable.piecewise (s := Iio (b.1 : ℝ)) measurableSet_Iio
      (intervalIntegrable_iff.1 ((pieceFun_continuous a b).intervalIntegrable S E)).integrableOn
      (intervalIntegrable_iff.1 (interp_intervalIntegrable (b :: r) S E)).integrableOn

noncomputable def segInt (S E : Int) (p : Obs ℝ × Obs ℝ) : ℝ :=
  if ovLo S p.1 < ovHi E p.2 then
    ∫ x in ((ovLo S p.1 : Int) : ℝ)..((ovHi E p.2 : Int) : ℝ), pieceFun p.1 p.2 x
  else 0

theorem segInt_sum_zero_of_ge (S E : Int) (l : List (Obs ℝ)) (hall : ∀ x ∈ l, E ≤ x.1) :
    ((pairs l).map (segInt S E)).sum = 0 := by
  refine List.sum_eq_zero fun y hy => ?_
  obtain ⟨p, hp, rfl⟩ := List.mem_map.mp hy
  exact if_neg (not_lt.2 ((min_le_right _ _).trans ((hall p.1 (mem_pairs hp).1).trans (le_max_left _ _))))

theorem segInt_sum_congr_lo (S M E : Int) (hSM : S ≤ M) (l : List (Obs ℝ)) (hall : ∀ x ∈ l, M ≤ x.1) :
    ((pairs l).map (segInt M E)).sum = ((pairs l).map (segInt S E)).sum := by
  refine congrArg List.sum (List.map_congr_left fun p hp => ?_)
  have h1 := hall p.1 (mem_pairs hp).1
  unfold segInt ovLo
  rw [max_eq_left h1, max_eq_left (hSM.trans h1)]

theorem integral_interp_of_le (a b : Obs ℝ) (r : List (Obs ℝ)) {S E : ℝ} (hSE : S ≤ E) (hE : E ≤ (b.1 : ℝ)) :
    ∫ x in S..E, interp (a :: b :: r) x = ∫ x in S..E, pieceFun a b x :=
  intervalIntegral.integral_congr_Ioo_of_le hSE fun x hx => by rw [interp_cons_cons, if_pos (hx.2.trans_le hE)]

theorem integral_interp_of_ge (a b : Obs ℝ) (r : List (Obs ℝ)) {S E : ℝ} (hSE : S ≤ E) (hS : (b.1 : ℝ) ≤ S) :
    ∫ x in S..E, interp (a :: b :: r) x = ∫ x in S..E, interp (b :: r) x :=
  intervalIntegral.integral_congr_Ioo_of_le hSE fun x hx => by
    rw [interp_cons_cons, if_neg (not_lt.2 (hS.trans hx.1.le))]

theorem integral_interp_eq_sum (E : Int) :
    ∀ (l : List (Obs ℝ)) (a : Obs ℝ) (S : Int), Sorted (a :: l) → a.1 ≤ S → S ≤ E → E ≤ lastTime (a :: l) →
      ∫ x in (S : ℝ)..(E : ℝ), interp (a :: l) x = ((pairs (a :: l)).map (segInt S E)).sum := by
  intro l
  induction l with
  | nil =>
    intro a S _ h1 h2 h3
    cases le_antisymm h2 (h3.trans h1)
    simp
  | cons b r ih =>
    intro a S hs haS hSE hEl
    have hSEr : (S : ℝ) ≤ (E : ℝ) := Int.cast_le.2 hSE
    rw [pairs_cons_cons, List.map_cons, List.sum_cons]
    have hseg : segInt S E (a, b) = if S < min b.1 E then ∫ x in (S : ℝ)..((min b.1 E : Int) : ℝ), pieceFun a b x
        else 0 := by
      unfold segInt ovLo ovHi; rw [max_eq_right haS]
    rw [hseg]
    rcases le_total E b.1 with hEb | hbE
    · rw [segInt_sum_zero_of_ge S E (b :: r) fun x hx => hEb.trans (hs.tail.head_le_mem x hx), add_zero,
        integral_interp_of_le a b r hSEr (Int.cast_le.2 hEb), min_eq_right hEb]
      split_ifs with hlt
      · rfl
      · cases le_antisymm hSE (not_lt.1 hlt)
        exact intervalIntegral.integral_same
    · rw [min_eq_left hbE]
      rcases le_total b.1 S with hbS | hSb
      · rw [if_neg (not_lt.2 hbS), zero_add, ← ih b S hs.tail hbS hSE hEl,
          integral_interp_of_ge a b r hSEr (Int.cast_le.2 hbS)]
      · have hSbr : (S : ℝ) ≤ (b.1 : ℝ) := Int.cast_le.2 hSb
        have hbEr : ((b.1 : Int) : ℝ) ≤ (E : ℝ) := Int.cast_le.2 hbE
        rw [← intervalIntegral.integral_add_adjacent_intervals
          (interp_intervalIntegrable (a :: b :: r) (S : ℝ) (b.1 : ℝ))
          (interp_intervalIntegrable (a :: b :: r) (b.1 : ℝ) (E : ℝ)),
          integral_interp_of_le a b r hSbr le_rfl, integral_interp_of_ge a b r hbEr le_rfl,
          ← segInt_sum_congr_lo S b.1 E hSb (b :: r) hs.tail.head_le_mem,
          ← ih b b.1 hs.tail le_rfl hbE (hEl)]
        split_ifs with hlt
        · rfl
        · cases le_antisymm hSb (not_lt.1 hlt)
          rw [intervalIntegral.integral_same]

end HydroVerif.C14
