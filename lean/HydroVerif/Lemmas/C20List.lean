/-
C20 — facts that involve no arithmetic. Over any type: the traversal `mapOk` into which `quantilesAt`, `statsOfGroups`,
`statsOfColumns` are rewritten; the loop `anyOtherRow` over the other rows shared by the two pareto kernels; `gather`,
`broadcast`, the masks of the violin selection, `List.getD` on a non-empty list, one step of a Boxplot object and its
runs as a history (`Lemmas/History`). Over any linear order: `minL` / `maxL` (the folds of `Lemmas/Extrema`), a greatest
value among finitely many, the counts of smaller and of equal entries that every rank is made of, `distinctL`, the entries of
a sorted list as a monotone function of the index. (The insertion sort `sortL` is in `Lemmas/C20.lean`, from `Lemmas/Lists`.)
Besides the model, the two shared modules and three Mathlib modules without arithmetic are imported.
-/
import HydroVerif.Model.C20X
import HydroVerif.Lemmas.History
import HydroVerif.Lemmas.Extrema
import Mathlib.Order.Monotone.Basic
import Mathlib.Data.List.Perm.Basic
import Mathlib.Tactic.SplitIfs


namespace HydroVerif.C20

section anytype
variable {β γ : Type}

def mapOk (f : β → Except Err γ) : List β → Except Err (List γ)
  | [] => .ok []
  | x :: xs =>
    match f x, mapOk f xs with
    | .ok y, .ok ys => .ok (y :: ys)
    | .error e, _ => .error e
    | _, .error e => .error e

theorem mapOk_eq_ok {f : β → Except Err γ} {l : List β} {out : List γ} (h : mapOk f l = .ok out) :
    out.length = l.length ∧ ∀ (i : Nat) x, l[i]? = some x → ∃ y, out[i]? = some y ∧ f x = .ok y := by
  induction l generalizing out with
  | nil => cases h; simp
  | cons x xs ih =>
    rw [mapOk] at h
    cases hx : f x with
    | error e => simp [hx] at h
    | ok y =>
      cases hxs : mapOk f xs with
      | error e => simp [hx, hxs] at h
      | ok ys =>
        simp only [hx, hxs, Except.ok.injEq] at h
        subst h
        obtain ⟨ihl, ihc⟩ := ih hxs
        refine ⟨by simp [ihl], fun i x' hx' => ?_⟩
        cases i with
        | zero => exact ⟨y, rfl, by rwa [← Option.some.inj hx']⟩
        | succ i => exact ihc i x' hx'

theorem mapOk_mem {f : β → Except Err γ} {l : List β} {out : List γ} (h : mapOk f l = .ok out) :
    (∀ y ∈ out, ∃ x ∈ l, f x = .ok y) ∧ (∀ x ∈ l, ∃ y ∈ out, f x = .ok y) := by
  obtain ⟨hlen, hget⟩ := mapOk_eq_ok h
  constructor
  · intro y hy
    obtain ⟨i, hi, rfl⟩ := List.mem_iff_getElem.mp hy
    obtain ⟨y', hy', hf⟩ := hget i l[i] (List.getElem?_eq_getElem (hlen ▸ hi))
    rw [List.getElem?_eq_getElem hi] at hy'
    exact ⟨_, List.getElem_mem _, Option.some.inj hy' ▸ hf⟩
  · intro x hx
    obtain ⟨i, hi, rfl⟩ := List.mem_iff_getElem.mp hx
    obtain ⟨y, hy, hf⟩ := hget i _ (List.getElem?_eq_getElem hi)
    exact ⟨y, List.mem_of_getElem? hy, hf⟩

theorem mapOk_total {f : β → Except Err γ} {l : List β} (h : ∀ x ∈ l, ∃ y, f x = .ok y) :
    ∃ out, mapOk f l = .ok out ∧ out.length = l.length := by
  induction l with
  | nil => exact ⟨[], rfl, rfl⟩
  | cons x xs ih =>
    obtain ⟨⟨y, hy⟩, hxs⟩ := List.forall_mem_cons.mp h
    obtain ⟨ys, hys, hlen⟩ := ih hxs
    exact ⟨y :: ys, by simp only [mapOk, hy, hys], by simp [hlen]⟩

theorem all_zipWith_iff (f : β → γ → Bool) (a : List β) (b : List γ) :
    (List.zipWith f a b).all id = true ↔ ∀ (k : Nat) x y, a[k]? = some x → b[k]? = some y → f x y = true := by
  simp only [List.all_eq_true, List.mem_iff_getElem?, List.getElem?_zipWith_eq_some, id]
  constructor
  · intro h k x y hx hy
    exact h _ ⟨k, x, y, hx, hy, rfl⟩
  · rintro h _ ⟨k, x, y, hx, hy, rfl⟩
    exact h k x y hx hy

/-- the `j` loop of the kernel for an arbitrary row test `dom`: does some other row pass it against row `i`? -/
def anyOtherRow (dom : β → β → Bool) (d : List β) (i : Nat) : Bool :=
  match d[i]? with
  | none => false
  | some ri => (List.range d.length).any fun j =>
      j != i && (match d[j]? with | some rj => dom rj ri | none => false)

theorem anyOtherRow_iff (dom : β → β → Bool) (d : List β) (i : Nat) :
    anyOtherRow dom d i = true ↔ ∃ j ri rj, j ≠ i ∧ d[i]? = some ri ∧ d[j]? = some rj ∧ dom rj ri = true := by
  unfold anyOtherRow
  cases hi : d[i]? with
  | none => simp
  | some ri =>
    simp only [List.any_eq_true, List.mem_range, Bool.and_eq_true, bne_iff_ne, ne_eq]
    constructor
    · rintro ⟨j, hj, hne, hd⟩
      rw [List.getElem?_eq_getElem hj] at hd
      exact ⟨j, ri, d[j], hne, rfl, List.getElem?_eq_getElem hj, hd⟩
    · rintro ⟨j, ri', rj, hne, hri, hrj, hb⟩
      obtain rfl := Option.some.inj hri
      obtain ⟨hj, rfl⟩ := List.getElem?_eq_some_iff.mp hrj
      exact ⟨j, hj, hne, by rw [hrj]; exact hb⟩

theorem anyOtherRow_congr {dom dom' : β → β → Bool} (h : ∀ rj ri, dom rj ri = dom' rj ri) (d : List β)
    (i : Nat) : anyOtherRow dom d i = anyOtherRow dom' d i := by
  rw [show dom = dom' from funext fun rj => funext (h rj)]

theorem anyOtherRow_map (dom : β → β → Bool) (f : γ → β) (d : List γ) (i : Nat) :
    anyOtherRow dom (d.map f) i = anyOtherRow (fun a b => dom (f a) (f b)) d i := by
  unfold anyOtherRow
  rw [List.getElem?_map, List.length_map]
  cases d[i]? with
  | none => rfl
  | some ri =>
    simp only [Option.map_some]
    congr 1
    funext j
    rw [List.getElem?_map]
    cases d[j]? <;> rfl

theorem flags_getElem? (test : Nat → Bool) (n i : Nat) (hi : i < n) :
    ((((List.range n).map fun i => if test i then 1 else 0)[i]? = some 1) ↔ test i = true) ∧
    ((((List.range n).map fun i => if test i then 1 else 0)[i]? = some 0) ↔ ¬ test i = true) := by
  rw [List.getElem?_map, List.getElem?_range hi, Option.map_some]
  cases test i <;> simp

theorem gather_eq_some (u : List β) (g : Nat → β) (ks : List Nat)
    (h : ∀ k ∈ ks, u[k]? = some (g k)) : gather u ks = some (ks.map g) := by
  induction ks with
  | nil => rfl
  | cons k t ih =>
    have hk := h k (by simp)
    have ht := ih (fun k' hk' => h k' (List.mem_cons_of_mem _ hk'))
    simp only [gather, hk, ht, List.map_cons]

theorem broadcast_eq (pmax : List β) (m : Nat) (h : pmax.length = m) : broadcast m pmax = pmax := by
  subst h
  match pmax with
  | [] => rfl
  | [p] => rfl
  | _ :: _ :: _ => rfl

theorem broadcast_of_length_ne_one (pmax : List β) (m : Nat) (h : pmax.length ≠ 1) :
    broadcast m pmax = pmax := by
  match pmax, h with
  | [], _ => rfl
  | [p], h => simp at h
  | _ :: _ :: _, _ => rfl

theorem broadcast_singleton (p : β) (m : Nat) : broadcast m [p] = List.replicate m p := rfl

theorem countP_take_lt (p : β → Bool) (xs : List β) (i j : Nat) (hij : i < j) (hj : j ≤ xs.length)
    (hp : p (xs[i]'(by omega)) = true) : (xs.take i).countP p + 1 ≤ (xs.take j).countP p := by
  -- the first `i + 1` entries, which end with the counted `xs[i]`, are among the first `j`
  have h1 : (xs.take (i + 1)).countP p = (xs.take i).countP p + 1 := by
    rw [List.take_succ, List.getElem?_eq_getElem (by omega), Option.toList_some, List.countP_append,
      List.countP_singleton, hp, if_pos rfl]
  exact h1.symm.trans_le (List.take_sublist_take_left hij).countP_le

theorem boxStep_state {σ : Type} (s : BoxObj σ) (op : BoxOp) :
    (boxStep s op).1.stats = s.stats ∧ (boxStep s op).1.strNames = s.strNames ∧
      (s.drawn = true → (boxStep s op).1.drawn = true) ∧ (∀ ok st, op = .draw ok st → (boxStep s op).1.drawn = true) := by
  cases op <;> simp [boxStep]

theorem boxRun_trace {σ : Type} : History.PairTrace (boxStep (σ := σ)) boxRun :=
  .of_eqns (fun _ => rfl) fun _ _ _ => rfl

theorem getElem?_eq_some_getD (l : List β) (i : Nat) (d : β) (h : i < l.length) : l[i]? = some (l.getD i d) := by
  rw [List.getElem?_eq_getElem h, List.getElem_eq_getD d]

theorem getD_zero_of_head (s : List β) (first last : β) (hf : s.head? = some first) : s.getD 0 last = first := by
  cases s with
  | nil => simp at hf
  | cons a t => simpa using hf

theorem getD_last_of_getLast (s : List β) (last : β) (hl : s.getLast? = some last) :
    s.getD (s.length - 1) last = last := by
  rw [List.getLast?_eq_getElem?] at hl
  rw [List.getD_eq_getElem?_getD, hl, Option.getD_some]

theorem keepFirstTrue_length (m : List Bool) : (keepFirstTrue m).length = m.length := by
  induction m with
  | nil => rfl
  | cons b t ih => cases b <;> simp [keepFirstTrue, ih]

theorem reduceMask_length (m : List Bool) : (reduceMask m).length = m.length := by
  unfold reduceMask
  split
  · exact keepFirstTrue_length m
  · rfl

/-- `irest | ilow | ihigh` with `irest = ~ilow & ~ihigh` is true everywhere -/
theorem select_mask_all (a b : List Bool) (h : a.length = b.length) :
    List.zipWith (fun r ab => r || ab) (List.zipWith (fun x y => !x && !y) a b) (List.zipWith (fun x y => x || y) a b)
      = List.replicate a.length true := by
  induction a generalizing b with
  | nil => simp
  | cons x t ih =>
    cases b with
    | nil => simp at h
    | cons y u =>
      simp only [List.zipWith_cons_cons, List.length_cons, List.replicate_succ, ih u (by simpa using h)]
      cases x <;> cases y <;> rfl

theorem zip_replicate_true_filterMap (vals : List β) :
    ((vals.zip (List.replicate vals.length true)).filterMap fun vs => if vs.2 then some vs.1 else none) = vals := by
  induction vals with
  | nil => rfl
  | cons v t ih => simp [List.replicate_succ, ih]

end anytype

section order
variable {β : Type} [LinearOrder β]

theorem minL_spec {l : List β} {m : β} (h : minL l = some m) : m ∈ l ∧ ∀ v ∈ l, m ≤ v := by
  cases l with
  | nil => cases h
  | cons x t => obtain rfl := Option.some.inj h; exact Extrema.foldl_min_spec t x

theorem maxL_spec {l : List β} {m : β} (h : maxL l = some m) : m ∈ l ∧ ∀ v ∈ l, v ≤ m :=
  minL_spec (β := βᵒᵈ) h

theorem exists_minL_maxL {l : List β} (h : l ≠ []) :
    ∃ lo hi, minL l = some lo ∧ maxL l = some hi ∧ lo ∈ l ∧ hi ∈ l ∧ ∀ v ∈ l, lo ≤ v ∧ v ≤ hi := by
  match l, h with
  | x :: t, _ =>
    exact ⟨_, _, rfl, rfl, (minL_spec rfl).1, (maxL_spec rfl).1, fun v hv => ⟨(minL_spec rfl).2 v hv, (maxL_spec rfl).2 v hv⟩⟩

theorem exists_max_index (f : Nat → β) (n : Nat) : ∃ i ≤ n, ∀ j ≤ n, f j ≤ f i := by
  induction n with
  | zero => exact ⟨0, le_rfl, fun j hj => by rw [Nat.le_zero.mp hj]⟩
  | succ m ih =>
    obtain ⟨i, hi, hmax⟩ := ih
    rcases le_total (f i) (f (m + 1)) with h | h
    · exact ⟨m + 1, le_rfl, fun j hj => (Nat.le_succ_iff.mp hj).elim (fun hj => (hmax j hj).trans h) fun hj => by rw [hj]⟩
    · exact ⟨i, Nat.le_succ_of_le hi, fun j hj => (Nat.le_succ_iff.mp hj).elim (hmax j) fun hj => by rw [hj]; exact h⟩

theorem cntLt_add_cntEq (xs : List β) (x : β) : cntLt xs x + cntEq xs x = xs.countP fun y => !decide (x < y) := by
  unfold cntLt cntEq
  induction xs with
  | nil => rfl
  | cons z t ih =>
    simp only [List.countP_cons, ← ih]
    by_cases h : z < x
    · simp [h, not_lt.mpr h.le]; omega
    · simp [h]; omega

theorem cntLt_add_cntEq_le (xs : List β) {x y : β} (h : x < y) : cntLt xs x + cntEq xs x ≤ cntLt xs y := by
  rw [cntLt_add_cntEq]
  exact List.countP_mono_left fun z _ hz => by simpa using lt_of_le_of_lt (by simpa using hz) h

theorem cntEq_pos (xs : List β) {x : β} (h : x ∈ xs) : 0 < cntEq xs x := by
  unfold cntEq
  rw [List.countP_pos_iff]
  exact ⟨x, h, by simp⟩

theorem eqv_iff (x y : β) : eqv x y = true ↔ x = y := by
  unfold eqv
  simp only [Bool.and_eq_true, Bool.not_eq_true', decide_eq_false_iff_not, not_lt]
  exact ⟨fun h => le_antisymm h.1 h.2, fun h => ⟨h.le, h.ge⟩⟩

theorem mem_distinctL {xs : List β} {x : β} : x ∈ distinctL xs ↔ x ∈ xs := by
  induction xs with
  | nil => simp [distinctL]
  | cons a t ih =>
    unfold distinctL
    by_cases h : t.any (eqv a) = true
    · rw [if_pos h, ih]
      obtain ⟨b, hb, hab⟩ := List.any_eq_true.mp h
      have : a = b := (eqv_iff a b).mp hab
      subst this
      constructor
      · exact fun hx => List.mem_cons_of_mem _ hx
      · intro hx
        rcases List.mem_cons.mp hx with rfl | hx
        · exact hb
        · exact hx
    · rw [if_neg h]
      simp only [List.mem_cons, ih]

theorem distinctL_length_le (xs : List β) : (distinctL xs).length ≤ xs.length := by
  induction xs with
  | nil => simp [distinctL]
  | cons a t ih =>
    unfold distinctL
    split
    · simp only [List.length_cons]; omega
    · simp only [List.length_cons]; omega

theorem cntEq_take_lt (xs : List β) (x : β) (i j : Nat) (hij : i < j) (hj : j ≤ xs.length) (h : xs[i]'(by omega) = x) :
    cntEq (xs.take i) x + 1 ≤ cntEq (xs.take j) x :=
  countP_take_lt _ xs i j hij hj (by simp [h])

theorem sorted_le_getLast (s : List β) (hs : s.Pairwise (· ≤ ·)) (last : β) (hl : s.getLast? = some last) :
    ∀ x ∈ s, x ≤ last := by
  intro x hx
  obtain ⟨i, hi, rfl⟩ := List.mem_iff_getElem.mp hx
  rw [List.getLast?_eq_getElem?, List.getElem?_eq_getElem (by omega), Option.some.injEq] at hl
  rw [← hl]
  rcases Nat.eq_or_lt_of_le (Nat.le_sub_one_of_lt hi) with heq | hlt
  · simp [heq]
  · exact (List.pairwise_iff_getElem.mp hs) i (s.length - 1) hi (by omega) hlt

theorem getD_mono (s : List β) (hs : s.Pairwise (· ≤ ·)) (last : β) (hl : s.getLast? = some last) :
    Monotone (fun i => s.getD i last) := by
  intro i j hij
  simp only [List.getD_eq_getElem?_getD]
  by_cases hj : j < s.length
  · have hi : i < s.length := lt_of_le_of_lt hij hj
    rw [List.getElem?_eq_getElem hi, List.getElem?_eq_getElem hj]
    rcases Nat.eq_or_lt_of_le hij with rfl | hlt
    · exact le_rfl
    · exact (List.pairwise_iff_getElem.mp hs) i j hi hj hlt
  · rw [List.getElem?_eq_none (not_lt.mp hj), Option.getD_none]
    by_cases hi : i < s.length
    · rw [List.getElem?_eq_getElem hi]
      exact sorted_le_getLast s hs last hl _ (List.getElem_mem _)
    · rw [List.getElem?_eq_none (not_lt.mp hi), Option.getD_none]

end order

section traversals
variable {α : Type} [Add α] [Sub α] [Mul α] [Div α] [LT α] [DecidableLT α] [LE α] [DecidableLE α]
  [OfNat α 0] [OfNat α 1] [OfNat α 2] [NatCast α] [FloorNat α]

theorem quantilesAt_eq (s qs : List α) : quantilesAt s qs = mapOk (quantile s) qs := by
  induction qs with
  | nil => rfl
  | cons q t ih =>
    rw [quantilesAt, mapOk, ih, pquantile]
    cases quantile s q <;> cases mapOk (quantile s) t <;> rfl

theorem statsOfGroups_eq (b w : α) (groups : List (Int × List (Option α))) :
    statsOfGroups b w groups = mapOk (fun g => (boxStats g.2 b w).map fun st => (g.1, st.1, st.2)) groups := by
  induction groups with
  | nil => rfl
  | cons g gs ih =>
    rw [statsOfGroups, mapOk, ih]
    cases boxStats g.2 b w <;> cases mapOk (fun g => (boxStats g.2 b w).map fun st => (g.1, st.1, st.2)) gs <;> rfl

theorem statsOfColumns_eq (b w : α) (cols : List (List (Option α))) :
    statsOfColumns b w cols = mapOk (fun c => boxStats c b w) cols := by
  induction cols with
  | nil => rfl
  | cons c cs ih =>
    rw [statsOfColumns, mapOk, ih]
    cases boxStats c b w <;> cases mapOk (fun c => boxStats c b w) cs <;> rfl

end traversals

end HydroVerif.C20
