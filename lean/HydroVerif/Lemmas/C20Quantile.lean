/- C20 — `np.quantile` / `np.percentile` on a sorted list over an ordered field with a floor function (ℚ, ℝ, …): the value
as interpolation of the order statistics (`quantileVal`), monotone in the level and between the first and the last
entry (the masks of the violin selection and the traversal equations of `quantilesAt`, `statsOfGroups` are in C20List) -/
import HydroVerif.Lemmas.C20
import HydroVerif.Lemmas.Ordered
import Mathlib.Algebra.Order.Floor.Semiring
import Mathlib.Tactic.NormNum.Basic
import Mathlib.Tactic.NormNum.Ineq
import Mathlib.Tactic.NormNum.Pow
import Mathlib.Tactic.NormNum.Inv
import Mathlib.Tactic.NormNum.Eq
import Mathlib.Tactic.NormNum.DivMod


namespace HydroVerif.C20

variable {α : Type} [Field α] [LinearOrder α] [IsStrictOrderedRing α] [FloorRing α]

/-- the exact-field meaning of `floor` on non-negative numbers. On ℚ it agrees by `rfl` with the instance of `Model/C20.lean`
(`x.floor.toNat`) that the driver runs, so the theorems speak about the ℚ run -/
scoped instance fieldFloorNat : FloorNat α := ⟨fun x => ⌊x⌋₊⟩

section ByDefinition
/- `rfl`: stated over the ordered field with floor of the file, of which it uses the floor only -/
set_option linter.unusedSectionVars false
@[simp] theorem floorNat_eq (x : α) : FloorNat.floorNat x = ⌊x⌋₊ := rfl
end ByDefinition

/-- the line through `(k, g k)` and `(k + 1, g (k + 1))`, at `v` -/
def chord (g : Nat → α) (k : Nat) (v : α) : α := g k + (g (k + 1) - g k) * (v - (k : α))

/-- the piecewise-linear interpolant of `g` through the integer nodes, constant from `N` on. The quantile theorems go through it
with `g i = s.getD i last`, a total monotone function of the index: no bookkeeping of indices in range -/
def interpG (g : Nat → α) (N : Nat) (v : α) : α := if (N : α) ≤ v then g N else chord g ⌊v⌋₊ v

theorem floor_chord_bounds (g : Nat → α) (hg : Monotone g) (v : α) (hv : 0 ≤ v) :
    g ⌊v⌋₊ ≤ chord g ⌊v⌋₊ v ∧ chord g ⌊v⌋₊ v ≤ g (⌊v⌋₊ + 1) := by
  rw [chord, mul_comm (g (⌊v⌋₊ + 1) - g ⌊v⌋₊)]
  exact Ordered.lerp_mem ⟨le_rfl, hg (Nat.le_succ _)⟩ ⟨hg (Nat.le_succ _), le_rfl⟩ (sub_nonneg.mpr (Nat.floor_le hv))
    (sub_le_iff_le_add'.mpr (Nat.lt_floor_add_one v).le)

theorem interpG_bounds (g : Nat → α) (hg : Monotone g) (N : Nat) (v : α) (hv : 0 ≤ v) :
    g 0 ≤ interpG g N v ∧ interpG g N v ≤ g N := by
  unfold interpG
  split
  · exact ⟨hg (Nat.zero_le _), le_refl _⟩
  · rename_i hlt
    have hfl : ⌊v⌋₊ < N := (Nat.floor_lt hv).mpr (not_le.mp hlt)
    obtain ⟨h1, h2⟩ := floor_chord_bounds g hg v hv
    exact ⟨le_trans (hg (Nat.zero_le _)) h1, le_trans h2 (hg hfl)⟩

theorem interpG_mono (g : Nat → α) (hg : Monotone g) (N : Nat) (v w : α) (hv : 0 ≤ v) (hvw : v ≤ w) :
    interpG g N v ≤ interpG g N w := by
  by_cases h2 : (N : α) ≤ w
  · simpa [interpG, h2] using (interpG_bounds g hg N v hv).2
  · have h1 : ¬ (N : α) ≤ v := fun h => h2 (le_trans h hvw)
    simp only [interpG, h1, h2, if_false]
    rcases Nat.eq_or_lt_of_le (Nat.floor_le_floor hvw) with heq | hlt
    · -- same piece: the slope is non-negative
      rw [← heq]
      have h3 : 0 ≤ g (⌊v⌋₊ + 1) - g ⌊v⌋₊ := sub_nonneg.mpr (hg (Nat.le_succ _))
      exact (add_le_add_iff_left _).mpr (mul_le_mul_of_nonneg_left (sub_le_sub_right hvw _) h3)
    · exact le_trans (floor_chord_bounds g hg v hv).2
        (le_trans (hg hlt) (floor_chord_bounds g hg w (le_trans hv hvw)).1)

theorem interpG_of_floor (g : Nat → α) (N : Nat) (v : α) (k : Nat) (hk : k < N) (h1 : (k : α) ≤ v) (h2 : v < (k : α) + 1) :
    interpG g N v = chord g k v := by
  have hN : ¬ (N : α) ≤ v := not_le.mpr (lt_of_lt_of_le h2 (by exact_mod_cast hk))
  rw [interpG, if_neg hN, (Nat.floor_eq_iff (le_trans (Nat.cast_nonneg k) h1)).mpr ⟨h1, h2⟩]

theorem interpG_natCast (g : Nat → α) (N k : Nat) (hk : k ≤ N) : interpG g N (k : α) = g k := by
  rcases Nat.eq_or_lt_of_le hk with rfl | hlt
  · rw [interpG, if_pos (le_refl _)]
  · rw [interpG_of_floor g N _ k hlt (le_refl _) (lt_add_one _), chord, sub_self, mul_zero, add_zero]

theorem interpG_add_half (g : Nat → α) (N k : Nat) (hk : k < N) :
    interpG g N ((k : α) + 1 / 2) = (g k + g (k + 1)) / 2 := by
  rw [interpG_of_floor g N _ k hk (le_add_of_nonneg_right (by norm_num)) ((add_lt_add_iff_left _).mpr (by norm_num)),
    chord]
  ring

/-- the value of `np.quantile` at level `q` on a sorted list whose last entry is `last`: the order statistics
interpolated at the virtual index `(n - 1) q` -/
def quantileVal (s : List α) (last q : α) : α :=
  interpG (fun i => s.getD i last) (s.length - 1) (((s.length - 1 : Nat) : α) * q)

theorem quantile_eq (s : List α) (last : α) (hl : s.getLast? = some last) (q : α) (hq0 : 0 ≤ q) (hq1 : q ≤ 1) :
    quantile s q = .ok (quantileVal s last q) := by
  have hne : s ≠ [] := by rintro rfl; simp at hl
  have hlen : 0 < s.length := List.length_pos_iff.mpr hne
  obtain ⟨first, hf⟩ : ∃ first, s.head? = some first := ⟨_, List.head?_eq_some_head hne⟩
  have hv : 0 ≤ ((s.length - 1 : Nat) : α) * q := mul_nonneg (Nat.cast_nonneg _) hq0
  unfold quantile quantileVal interpG chord
  rw [if_neg (by push Not; exact ⟨hq0, hq1⟩)]
  simp only [hf, hl]
  split
  · rw [getD_last_of_getLast s last hl]
  · rename_i hlt
    have hfl : ⌊((s.length - 1 : Nat) : α) * q⌋₊ < s.length - 1 := (Nat.floor_lt hv).mpr (not_le.mp hlt)
    rw [if_neg (not_lt.mpr hv), floorNat_eq, getElem?_eq_some_getD s _ last (by omega),
      getElem?_eq_some_getD s _ last (by omega)]
    simp only [lerp_eq]

theorem quantileVal_mono (s : List α) (hs : s.Pairwise (· ≤ ·)) (last : α) (hl : s.getLast? = some last) {q q' : α}
    (hq0 : 0 ≤ q) (hqq : q ≤ q') : quantileVal s last q ≤ quantileVal s last q' :=
  interpG_mono _ (getD_mono s hs last hl) _ _ _ (mul_nonneg (Nat.cast_nonneg _) hq0)
    (mul_le_mul_of_nonneg_left hqq (Nat.cast_nonneg _))

theorem quantileVal_zero (s : List α) (first last : α) (hf : s.head? = some first) : quantileVal s last 0 = first := by
  rw [quantileVal, mul_zero, ← Nat.cast_zero, interpG_natCast _ _ 0 (Nat.zero_le _), getD_zero_of_head s first last hf]

theorem quantileVal_one (s : List α) (last : α) (hl : s.getLast? = some last) : quantileVal s last 1 = last := by
  rw [quantileVal, mul_one, interpG_natCast _ _ _ (le_refl _), getD_last_of_getLast s last hl]

theorem quantileVal_bounds (s : List α) (hs : s.Pairwise (· ≤ ·)) (first last : α) (hf : s.head? = some first)
    (hl : s.getLast? = some last) {q : α} (hq0 : 0 ≤ q) :
    first ≤ quantileVal s last q ∧ quantileVal s last q ≤ last := by
  have hb := interpG_bounds _ (getD_mono s hs last hl) (s.length - 1) (((s.length - 1 : Nat) : α) * q)
    (mul_nonneg (Nat.cast_nonneg _) hq0)
  rwa [getD_zero_of_head s first last hf, getD_last_of_getLast s last hl] at hb

def percentileVal (s : List α) (last p : α) : α := quantileVal s last (p / ((100 : Nat) : α))

theorem percentile_eq (s : List α) (last : α) (hl : s.getLast? = some last) (p : α) (h0 : 0 ≤ p) (h1 : p ≤ 100) :
    percentile s p = .ok (percentileVal s last p) := by
  have h100 : (0 : α) < ((100 : Nat) : α) := by norm_num
  exact quantile_eq s last hl _ (div_nonneg h0 h100.le) ((div_le_one h100).mpr (by simpa using h1))

theorem percentileVal_mono (s : List α) (hs : s.Pairwise (· ≤ ·)) (last : α) (hl : s.getLast? = some last) {p p' : α}
    (h0 : 0 ≤ p) (h : p ≤ p') : percentileVal s last p ≤ percentileVal s last p' :=
  have h100 : (0 : α) ≤ ((100 : Nat) : α) := by norm_num
  quantileVal_mono s hs last hl (div_nonneg h0 h100) (div_le_div_of_nonneg_right h h100)

theorem percentileVal_bounds (s : List α) (hs : s.Pairwise (· ≤ ·)) (first last : α) (hf : s.head? = some first)
    (hl : s.getLast? = some last) {p : α} (h0 : 0 ≤ p) :
    first ≤ percentileVal s last p ∧ percentileVal s last p ≤ last :=
  quantileVal_bounds s hs first last hf hl (div_nonneg h0 (by norm_num))

end HydroVerif.C20
