/-
Index lemmas of the integer grid core (`Model/C07.lean`, PART 1), proved once for C05, C06, C07, C11 and, through `Lemmas/C07Coord.lean`, C13 and C16:
`idx % ncols`, `(idx - col) / ncols`, the bijection cell <-> (row, col), and the neighbour table
(range, row/col offsets, symmetry with mirrored position `8 - k`), that the cells of a grid are the casts of the
naturals below `nrows * ncols` (`validCell_iff_exists_nat`), hence at most that many (`length_le_of_nodup_validCell`),
and what the scan of `c_downstream` over the positions returns (`foldl_ite_last`).
-/
import HydroVerif.Model.C07
import Mathlib.Tactic.Common
import Mathlib.Algebra.Order.Group.Int

namespace HydroVerif.C07

theorem validCell_iff {nrows ncols idx : Int} :
    validCell nrows ncols idx = true ↔ 0 ≤ idx ∧ idx < nrows * ncols := by
  unfold validCell
  generalize nrows * ncols = n
  simp only [Bool.not_eq_true', Bool.or_eq_false_iff, decide_eq_false_iff_not]
  omega

theorem validCell_eq_false_iff {nrows ncols idx : Int} :
    validCell nrows ncols idx = false ↔ idx < 0 ∨ nrows * ncols ≤ idx := by
  rw [← Bool.not_eq_true, validCell_iff]
  generalize nrows * ncols = n
  omega

/-- a valid cell exists only on a grid with `ncols ≠ 0`: `getnxy` never divides by zero behind the guard -/
theorem validCell_ncols_ne_zero {nrows ncols idx : Int} (h : validCell nrows ncols idx = true) :
    ncols ≠ 0 := by
  rintro rfl
  rw [validCell_iff] at h
  simp at h
  omega

theorem nrows_pos_of_valid {nrows ncols idx : Int} (hc : 0 < ncols)
    (h : validCell nrows ncols idx = true) : 0 < nrows := by
  rw [validCell_iff] at h
  by_contra hn
  have : nrows * ncols ≤ 0 := Int.mul_nonpos_of_nonpos_of_nonneg (by omega) (by omega)
  omega

theorem colOf_eq_emod {ncols idx : Int} (h0 : 0 ≤ idx) : colOf ncols idx = idx % ncols :=
  Int.tmod_eq_emod_of_nonneg h0

theorem rowOf_eq_ediv {ncols idx : Int} (hc : 0 < ncols) (h0 : 0 ≤ idx) :
    rowOf ncols idx = idx / ncols := by
  unfold rowOf
  rw [colOf_eq_emod h0, Int.emod_def, Int.sub_sub_self,
    Int.tdiv_eq_ediv_of_nonneg (Int.mul_nonneg hc.le (Int.ediv_nonneg h0 hc.le)),
    Int.mul_ediv_cancel_left _ hc.ne']

theorem colOf_nonneg {ncols idx : Int} (hc : 0 < ncols) (h0 : 0 ≤ idx) : 0 ≤ colOf ncols idx := by
  rw [colOf_eq_emod h0]; exact Int.emod_nonneg _ hc.ne'

theorem colOf_lt {ncols idx : Int} (hc : 0 < ncols) (h0 : 0 ≤ idx) : colOf ncols idx < ncols := by
  rw [colOf_eq_emod h0]; exact Int.emod_lt_of_pos _ hc

theorem rowOf_nonneg {ncols idx : Int} (hc : 0 < ncols) (h0 : 0 ≤ idx) : 0 ≤ rowOf ncols idx := by
  rw [rowOf_eq_ediv hc h0]; exact Int.ediv_nonneg h0 hc.le

theorem rowOf_lt {nrows ncols idx : Int} (hc : 0 < ncols) (h0 : 0 ≤ idx) (h1 : idx < nrows * ncols) :
    rowOf ncols idx < nrows := by
  rw [rowOf_eq_ediv hc h0]; exact Int.ediv_lt_of_lt_mul hc h1

theorem cellOf_rowOf_colOf {ncols idx : Int} (hc : 0 < ncols) (h0 : 0 ≤ idx) :
    cellOf ncols (rowOf ncols idx) (colOf ncols idx) = idx := by
  unfold cellOf
  rw [rowOf_eq_ediv hc h0, colOf_eq_emod h0]
  exact Int.ediv_mul_add_emod idx ncols

theorem ediv_emod_cellOf {ncols row col : Int} (hc0 : 0 ≤ col) (hc1 : col < ncols) :
    cellOf ncols row col / ncols = row ∧ cellOf ncols row col % ncols = col := by
  have hc : 0 < ncols := by omega
  rw [Int.ediv_emod_unique hc]
  refine ⟨?_, hc0, hc1⟩
  unfold cellOf
  rw [Int.mul_comm]; omega

theorem cellOf_nonneg {ncols row col : Int} (hr : 0 ≤ row) (hc0 : 0 ≤ col) (hc1 : col < ncols) :
    0 ≤ cellOf ncols row col := by
  unfold cellOf
  have : 0 ≤ row * ncols := Int.mul_nonneg hr (by omega)
  omega

theorem colOf_cellOf {ncols row col : Int} (hr : 0 ≤ row) (hc0 : 0 ≤ col) (hc1 : col < ncols) :
    colOf ncols (cellOf ncols row col) = col := by
  rw [colOf_eq_emod (cellOf_nonneg hr hc0 hc1)]; exact (ediv_emod_cellOf hc0 hc1).2

theorem rowOf_cellOf {ncols row col : Int} (hr : 0 ≤ row) (hc0 : 0 ≤ col) (hc1 : col < ncols) :
    rowOf ncols (cellOf ncols row col) = row := by
  rw [rowOf_eq_ediv (by omega) (cellOf_nonneg hr hc0 hc1)]; exact (ediv_emod_cellOf hc0 hc1).1

theorem validCell_cellOf_iff {nrows ncols row col : Int} (hc0 : 0 ≤ col) (hc1 : col < ncols) :
    validCell nrows ncols (cellOf ncols row col) = true ↔ 0 ≤ row ∧ row < nrows := by
  have hc : 0 < ncols := by omega
  rw [validCell_iff, ← Int.ediv_nonneg_iff_of_pos hc, ← Int.ediv_lt_iff_lt_mul hc, (ediv_emod_cellOf hc0 hc1).1]

theorem validCell_cellOf {nrows ncols row col : Int} (hr0 : 0 ≤ row) (hr1 : row < nrows)
    (hc0 : 0 ≤ col) (hc1 : col < ncols) : validCell nrows ncols (cellOf ncols row col) = true :=
  (validCell_cellOf_iff hc0 hc1).2 ⟨hr0, hr1⟩

theorem cellOf_injective {ncols r1 c1 r2 c2 : Int} (h10 : 0 ≤ c1) (h11 : c1 < ncols)
    (h20 : 0 ≤ c2) (h21 : c2 < ncols) (h : cellOf ncols r1 c1 = cellOf ncols r2 c2) :
    r1 = r2 ∧ c1 = c2 := by
  have a := ediv_emod_cellOf (row := r1) h10 h11
  have b := ediv_emod_cellOf (row := r2) h20 h21
  rw [h] at a
  exact ⟨a.1.symm.trans b.1, a.2.symm.trans b.2⟩

theorem valid_rowcol {nrows ncols idx : Int} (hc : 0 < ncols) (h : validCell nrows ncols idx = true) :
    0 ≤ rowOf ncols idx ∧ rowOf ncols idx < nrows ∧ 0 ≤ colOf ncols idx ∧ colOf ncols idx < ncols ∧
      cellOf ncols (rowOf ncols idx) (colOf ncols idx) = idx := by
  rw [validCell_iff] at h
  exact ⟨rowOf_nonneg hc h.1, rowOf_lt hc h.1 h.2, colOf_nonneg hc h.1, colOf_lt hc h.1,
    cellOf_rowOf_colOf hc h.1⟩

/-- `cell2rowcol` is injective on the grid (`Props/C07.lean: cell2rowcol_injective`; C16's scatter) -/
theorem rowcol_inj {nrows ncols k k' : Int} (hc : 0 < ncols) (hv : validCell nrows ncols k = true)
    (hv' : validCell nrows ncols k' = true) (h : cell2rowcol nrows ncols k = cell2rowcol nrows ncols k') :
    k = k' := by
  unfold cell2rowcol at h
  rw [if_pos hv, if_pos hv', Prod.mk.injEq] at h
  rw [← (valid_rowcol hc hv).2.2.2.2, ← (valid_rowcol hc hv').2.2.2.2, h.1, h.2]

theorem nbDx_range (k : Nat) : -1 ≤ nbDx k ∧ nbDx k ≤ 1 := by unfold nbDx; omega

theorem nbDy_range {k : Nat} (hk : k < 9) : -1 ≤ nbDy k ∧ nbDy k ≤ 1 := by
  have := hk; unfold nbDy; omega

theorem nb_centre_iff {k : Nat} : (nbDx k = 0 ∧ nbDy k = 0) ↔ k = 4 := by
  unfold nbDx nbDy; omega

theorem nb_pos (k : Nat) : (k : Int) = 1 + nbDx k + (1 + nbDy k) * 3 := by unfold nbDx nbDy; omega

theorem neighbour_eq (nrows ncols idx : Int) (k : Nat) :
    neighbour nrows ncols idx k =
      if nbDx k = 0 ∧ nbDy k = 0 then -1
      else if 0 ≤ colOf ncols idx + nbDx k ∧ colOf ncols idx + nbDx k < ncols ∧
              0 ≤ rowOf ncols idx + nbDy k ∧ rowOf ncols idx + nbDy k < nrows
        then cellOf ncols (rowOf ncols idx + nbDy k) (colOf ncols idx + nbDx k) else -1 := by
  unfold neighbour nbCell cellOf
  simp only []
  split
  · rfl
  · split <;> split <;> first | rfl | omega

theorem neighbour_spec {nrows ncols idx : Int} {k : Nat} {d : Int}
    (h : neighbour nrows ncols idx k = d) (hd : d ≠ -1) :
    ¬ (nbDx k = 0 ∧ nbDy k = 0) ∧
    0 ≤ colOf ncols idx + nbDx k ∧ colOf ncols idx + nbDx k < ncols ∧
    0 ≤ rowOf ncols idx + nbDy k ∧ rowOf ncols idx + nbDy k < nrows ∧
    d = cellOf ncols (rowOf ncols idx + nbDy k) (colOf ncols idx + nbDx k) := by
  rw [neighbour_eq] at h
  split_ifs at h with h1 h2
  · exact absurd h.symm hd
  · exact ⟨h1, h2.1, h2.2.1, h2.2.2.1, h2.2.2.2, h.symm⟩
  · exact absurd h.symm hd

theorem neighbour_valid {nrows ncols idx : Int} {k : Nat} {d : Int}
    (h : neighbour nrows ncols idx k = d) (hd : d ≠ -1) : validCell nrows ncols d = true := by
  obtain ⟨-, c0, c1, r0, r1, rfl⟩ := neighbour_spec h hd
  exact validCell_cellOf r0 r1 c0 c1

theorem neighbour_rowcol {nrows ncols idx : Int} {k : Nat} {d : Int}
    (h : neighbour nrows ncols idx k = d) (hd : d ≠ -1) :
    rowOf ncols d = rowOf ncols idx + nbDy k ∧ colOf ncols d = colOf ncols idx + nbDx k := by
  obtain ⟨-, c0, c1, r0, r1, rfl⟩ := neighbour_spec h hd
  exact ⟨rowOf_cellOf r0 c0 c1, colOf_cellOf r0 c0 c1⟩

theorem neighbour_eq_neg_one_or_nonneg (nrows ncols idx : Int) (k : Nat) :
    neighbour nrows ncols idx k = -1 ∨ 0 ≤ neighbour nrows ncols idx k := by
  by_cases hd : neighbour nrows ncols idx k = -1
  · exact Or.inl hd
  · exact Or.inr (validCell_iff.1 (neighbour_valid rfl hd)).1

theorem neighbour_eq_neg_one_iff {nrows ncols idx : Int} {k : Nat} :
    neighbour nrows ncols idx k = -1 ↔
      (nbDx k = 0 ∧ nbDy k = 0) ∨
      ¬ (0 ≤ colOf ncols idx + nbDx k ∧ colOf ncols idx + nbDx k < ncols ∧
         0 ≤ rowOf ncols idx + nbDy k ∧ rowOf ncols idx + nbDy k < nrows) := by
  rw [neighbour_eq]
  split_ifs with h1 h2
  · exact iff_of_true rfl (Or.inl h1)
  · exact iff_of_false (by have := cellOf_nonneg h2.2.2.1 h2.1 h2.2.1; omega) (not_or.2 ⟨h1, not_not.2 h2⟩)
  · exact iff_of_true rfl (Or.inr h2)

theorem neighbour_mirror {nrows ncols idx : Int} {k : Nat} {d : Int} (hc : 0 < ncols)
    (hv : validCell nrows ncols idx = true) (hk : k < 9)
    (h : neighbour nrows ncols idx k = d) (hd : d ≠ -1) :
    neighbour nrows ncols d (8 - k) = idx := by
  obtain ⟨hcen, -⟩ := neighbour_spec h hd
  obtain ⟨hrow, hcol⟩ := neighbour_rowcol h hd
  obtain ⟨hr0, hr1, hc0, hc1, hidx⟩ := valid_rowcol hc hv
  have hm := (by decide : ∀ k < 9, nbDx (8 - k) = -nbDx k ∧ nbDy (8 - k) = -nbDy k) k hk
  rw [neighbour_eq, hm.1, hm.2, hrow, hcol, if_neg (by omega), Int.add_neg_cancel_right,
    Int.add_neg_cancel_right, if_pos ⟨hc0, hc1, hr0, hr1⟩, hidx]

theorem neighbour_ne_self {nrows ncols idx : Int} {k : Nat}
    (hv : validCell nrows ncols idx = true) : neighbour nrows ncols idx k ≠ idx := by
  intro h
  have hd : idx ≠ -1 := by have := (validCell_iff.1 hv).1; omega
  obtain ⟨hcen, -⟩ := neighbour_spec h hd
  obtain ⟨hr, hcl⟩ := neighbour_rowcol h hd
  omega

theorem cNeighbours_eq {nrows ncols idx : Int} (hv : validCell nrows ncols idx = true) :
    cNeighbours nrows ncols idx = .ok ((List.range 9).map (neighbour nrows ncols idx)) := by
  unfold cNeighbours
  rw [if_pos hv]
  rfl

theorem cNeighbours_getElem? {nrows ncols idx : Int} (hv : validCell nrows ncols idx = true) {l : List Int}
    (hl : cNeighbours nrows ncols idx = .ok l) {k : Nat} (hk : k < 9) :
    l[k]? = some (neighbour nrows ncols idx k) := by
  obtain rfl := Except.ok.inj ((cNeighbours_eq hv).symm.trans hl)
  rw [List.getElem?_map, List.getElem?_range hk]
  rfl

theorem cNeighbours_invalid {nrows ncols idx : Int} (hv : validCell nrows ncols idx = false) :
    cNeighbours nrows ncols idx = .error .badCell := by
  unfold cNeighbours
  simp [hv]

theorem colOf_le {ncols idx : Int} (hc : 0 < ncols) (h0 : 0 ≤ idx) : colOf ncols idx ≤ idx := by
  have h := cellOf_rowOf_colOf hc h0
  have hr := rowOf_nonneg hc h0
  unfold cellOf at h
  have : 0 ≤ rowOf ncols idx * ncols := Int.mul_nonneg hr hc.le
  omega

theorem rowOf_le {ncols idx : Int} (hc : 0 < ncols) (h0 : 0 ≤ idx) : rowOf ncols idx ≤ idx := by
  rw [rowOf_eq_ediv hc h0]; exact Int.ediv_le_self _ h0

/-- for counting: `length_le_of_nodup_validCell` below, and through it the finite set of `Lemmas/Chain.lean` -/
theorem validCell_iff_exists_nat {nrows ncols c : Int} :
    validCell nrows ncols c = true ↔ ∃ n : Nat, n < (nrows * ncols).toNat ∧ (n : Int) = c := by
  rw [validCell_iff]
  exact ⟨fun h => ⟨c.toNat, by omega, by omega⟩, fun ⟨n, h1, h2⟩ => by omega⟩

/-- distinct cells of a grid: there are at most `nrows * ncols` of them -/
theorem length_le_of_nodup_validCell {nrows ncols : Int} {l : List Int} (hn : l.Nodup)
    (hv : ∀ c ∈ l, validCell nrows ncols c = true) : l.length ≤ (nrows * ncols).toNat := by
  have h := hn.length_le_of_subset (l₂ := (List.range (nrows * ncols).toNat).map fun n : Nat => (n : Int))
    fun c hc => List.mem_map.2 <| (validCell_iff_exists_nat.1 (hv c hc)).imp fun _ h => ⟨List.mem_range.2 h.1, h.2⟩
  rwa [List.length_map, List.length_range] at h

/-- the scan `for(j…) if(p j) d = f j;` of `c_downstream` (no `break`): the value at the LAST position where the test holds, the
initial value when it holds nowhere (`C05.downCell`, `C06.downstreamCell` are such folds over the nine positions) -/
theorem foldl_ite_last {β : Type} (p : Nat → Prop) [DecidablePred p] (f : Nat → β) : ∀ (l : List Nat) (init : β),
    ((∀ j ∈ l, ¬ p j) ∧ l.foldl (fun acc i => if p i then f i else acc) init = init) ∨
      ∃ j ∈ l, p j ∧ l.foldl (fun acc i => if p i then f i else acc) init = f j
  | [], _ => .inl ⟨fun _ h => absurd h List.not_mem_nil, rfl⟩
  | a :: l, init => by
    rw [List.foldl_cons]
    rcases foldl_ite_last p f l (if p a then f a else init) with ⟨hno, e⟩ | ⟨j, hj, hpj, e⟩
    · by_cases hpa : p a
      · exact .inr ⟨a, List.mem_cons_self, hpa, e.trans (if_pos hpa)⟩
      · exact .inl ⟨List.forall_mem_cons.2 ⟨hpa, hno⟩, e.trans (if_neg hpa)⟩
    · exact .inr ⟨j, List.mem_cons_of_mem _ hj, hpj, e⟩

end HydroVerif.C07
