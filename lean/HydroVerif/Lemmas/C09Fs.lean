/-
C09 — file names (`splitExt`, `stem`, `suffix`, the candidates of `_check_name`, the zip file `write_csv` creates and what
`read_csv` resolves to) and the directory / archive state machines, both read as association lists.
-/
import HydroVerif.Model.C09Fs
import HydroVerif.Lemmas.C09

namespace HydroVerif.C09

/-- the extension is described by three decidable facts (not as `'.' :: ext`) so that `ext_proper` settles the three extensions of
the code by evaluation -/
theorem stem_suffix_append (s e : Str) (hs : s ≠ [])
    (he : e.head? = some '.' ∧ e.tail ≠ [] ∧ ∀ c ∈ e.tail, c ≠ '.') : stem (s ++ e) = s ∧ suffix (s ++ e) = e := by
  obtain ⟨ext, rfl⟩ : ∃ ext, e = '.' :: ext := by
    cases e with
    | nil => cases he.1
    | cons c ext => exact ⟨ext, by rw [Option.some.inj he.1]⟩
  have hr : (s ++ '.' :: ext).reverse = ext.reverse ++ '.' :: s.reverse := by simp
  have htw : (ext.reverse ++ '.' :: s.reverse).takeWhile (· != '.') = ext.reverse :=
    Strip.takeWhile_append_stop _ _ _ _ (fun x hx => bne_iff_ne.mpr (he.2.2 x (List.mem_reverse.mp hx))) (by decide)
  have hsp : splitExt (s ++ '.' :: ext) = some (s, '.' :: ext) := by
    unfold splitExt
    simp only [hr, htw, List.drop_left']
    rw [if_pos ⟨by simpa using hs, by simpa using he.2.1⟩, List.reverse_reverse, List.reverse_reverse]
  rw [stem, suffix, hsp]
  exact ⟨rfl, rfl⟩

theorem ext_proper : ∀ e ∈ [extGz, extZip, extCsv], e.head? = some '.' ∧ e.tail ≠ [] ∧ ∀ c ∈ e.tail, c ≠ '.' := by
  unfold extGz extZip extCsv
  -- a literal read as the list of its characters: the kernel then evaluates without decoding UTF-8 (see `systemKeys_ok`)
  repeat rw [String.toList_ofList]
  decide +kernel

theorem ext_ne_zip : extGz ≠ extZip ∧ extCsv ≠ extZip := by
  unfold extGz extZip extCsv
  repeat rw [String.toList_ofList]
  decide +kernel

theorem stem_ne_nil (name : Str) (h : name ≠ []) : stem name ≠ [] := by
  unfold stem
  cases hsp : splitExt name with
  | none => exact h
  | some p =>
    unfold splitExt at hsp
    dsimp only at hsp
    split at hsp
    · split at hsp
      · cases hsp; exact List.reverse_ne_nil_iff.mpr ‹_ ∧ _›.1
      · cases hsp
    · cases hsp

theorem stem_stem_zip (name : Str) (h : name ≠ []) :
    stem (stem name ++ extZip) = stem name ∧ suffix (stem name ++ extZip) = extZip :=
  stem_suffix_append _ _ (stem_ne_nil name h) (ext_proper _ (by simp))

/-- the candidate files `_check_name` tries (list regenerated from csv.py), after the name itself -/
theorem checkName_eq (ex : Str → Bool) (name : Str) :
    checkName ex name = if ex name then some name else
      [stem name ++ extGz, stem name ++ extZip, stem name ++ extCsv, stem name ++ (extCsv ++ extGz)].find? ex := by
  have hext : (Gen.checkNameExtensions.map fun e => '.' :: e.toList) = [extGz, extZip, extCsv, extCsv ++ extGz] := by
    decide +kernel
  have : (Gen.checkNameExtensions.map fun e => stem name ++ '.' :: e.toList)
      = (Gen.checkNameExtensions.map fun e => '.' :: e.toList).map (stem name ++ ·) := by
    rw [List.map_map]; rfl
  rw [checkName, this, hext]
  rfl

theorem checkName_zip {ex : Str → Bool} {name full : Str} (hn : name ≠ []) (h : checkName ex name = some full)
    (hz : suffix full = extZip) : stem full = stem name ∧ ex full = true := by
  have hs := stem_ne_nil name hn
  rw [checkName_eq] at h
  split at h
  · cases h; exact ⟨rfl, ‹_›⟩
  · refine ⟨?_, List.find?_some h⟩
    have hmem := List.mem_of_find?_eq_some h
    simp only [List.mem_cons, List.not_mem_nil, or_false] at hmem
    rcases hmem with e | e | e | e <;> rw [e] at hz ⊢
    · rw [(stem_suffix_append _ _ hs (ext_proper _ (by simp))).2] at hz; exact absurd hz ext_ne_zip.1
    · exact (stem_stem_zip name hn).1
    · rw [(stem_suffix_append _ _ hs (ext_proper _ (by simp))).2] at hz; exact absurd hz ext_ne_zip.2
    · rw [← List.append_assoc, (stem_suffix_append _ _ (by simp [extCsv]) (ext_proper _ (by simp))).2] at hz
      exact absurd hz ext_ne_zip.1

theorem writeTarget_true (name : Str) :
    writeTarget name true = (if suffix name = extZip then name else stem name ++ extZip, some (stem name ++ extCsv)) := rfl

theorem writeTarget_true_fst (name : Str) (hn : name ≠ []) :
    suffix (writeTarget name true).1 = extZip ∧ stem (writeTarget name true).1 = stem name := by
  rw [writeTarget_true]
  dsimp only
  split
  · exact ⟨‹_›, rfl⟩
  · exact ⟨(stem_stem_zip name hn).2, (stem_stem_zip name hn).1⟩

/-- **the reader finds the zip file the writer created**, among any files: provided that file is there, no file is called
`name` itself (unless `name` is the zip file) and there is no `<stem>.gz`, which `_check_name` would both prefer -/
theorem readTarget_written_zip (ex : Str → Bool) (name : Str) (hn : name ≠ []) (hfull : ex (writeTarget name true).1 = true)
    (hstale : suffix name = extZip ∨ ex name = false) (hgz : ex (stem name ++ extGz) = false) :
    readTarget ex name = some (.zipMember (writeTarget name true).1 (stem name ++ extCsv)) := by
  have hc : checkName ex name = some (writeTarget name true).1 := by
    rw [writeTarget_true] at hfull ⊢
    dsimp only at hfull ⊢
    rw [checkName_eq]
    by_cases hz : suffix name = extZip
    · rw [if_pos hz] at hfull ⊢; rw [if_pos hfull]
    · rw [if_neg hz] at hfull ⊢
      rw [if_neg (by rw [hstale.resolve_left hz]; exact Bool.false_ne_true), List.find?_cons, hgz, List.find?_cons, hfull]
  rw [readTarget, hc]
  dsimp only
  rw [(writeTarget_true_fst name hn).1, if_neg ext_ne_zip.1.symm, if_pos rfl]

theorem ne_writeTarget_of_suffix {name x : Str} (hn : name ≠ []) (h : suffix x ≠ extZip) : x ≠ (writeTarget name true).1 :=
  fun e => h (e ▸ (writeTarget_true_fst name hn).1)

theorem stem_gz_ne_writeTarget (name : Str) (hn : name ≠ []) : stem name ++ extGz ≠ (writeTarget name true).1 :=
  ne_writeTarget_of_suffix hn (by
    rw [(stem_suffix_append _ _ (stem_ne_nil name hn) (ext_proper _ (by simp))).2]; exact ext_ne_zip.1)

theorem dirGet_eq_lookup (d : Dir) (f : Str) : dirGet d f = d.lookup f := by
  induction d with
  | nil => rfl
  | cons e d ih => rw [dirGet, ih, Assoc.lookup_cons_if, BEq.comm]

theorem memberGet_eq_lookup (a : List (Str × Str)) (m : Str) : memberGet a m = a.lookup m := by
  induction a with
  | nil => rfl
  | cons e a ih => rw [memberGet, ih, Assoc.lookup_cons_if, BEq.comm]

theorem dirGet_dirSet (d : Dir) (f g : Str) (c : Stored) :
    dirGet (dirSet d f c) g = if g = f then some c else dirGet d g := by
  rw [dirGet_eq_lookup, dirGet_eq_lookup, show dirSet d f c = Assoc.upsert d f c from rfl, Assoc.lookup_upsert]
  simp only [beq_iff_eq]

theorem dirHas_dirSet (d : Dir) (f g : Str) (c : Stored) : dirHas (dirSet d f c) g = (g == f || dirHas d g) := by
  have hd : ∀ d : Dir, dirHas d g = (dirGet d g).isSome := fun d => by rw [dirHas, Assoc.any_fst_beq, dirGet_eq_lookup]
  rw [hd, dirGet_dirSet, hd]
  by_cases h : g = f <;> simp [h]

theorem run_reads_append (ops : List Op) : ∀ d name,
    (run d (ops ++ [.read name])).2 = (run d ops).2 ++ [readStep (run d ops).1 name] := by
  induction ops with
  | nil => intro d name; rfl
  | cons op ops ih =>
    intro d name
    simp only [List.cons_append, run]
    rw [ih]
    cases (step d op).2 <;> rfl

theorem memberGet_isSome (a : Archive) (m : Str) : (memberGet a m).isSome = a.any (·.1 == m) := by
  rw [memberGet_eq_lookup, Assoc.any_fst_beq]

theorem memberGet_none_of_not_any (a : Archive) (m : Str) (h : a.any (·.1 == m) = false) : memberGet a m = none := by
  cases hl : memberGet a m with
  | none => rfl
  | some t => rw [← memberGet_isSome, hl] at h; cases h

theorem arcRead_astep_write (a : Archive) (n t m : Str) :
    arcRead (astep a (.write n t)).1 m = (arcRead a m).or (if n == m then some t else none) := by
  by_cases hany : a.any (·.1 == n) = true
  · have e : (astep a (.write n t)).1 = a := by simp only [astep, arcWrite, hany, if_true]
    rw [e]
    by_cases hnm : (n == m) = true
    · obtain ⟨x, hx⟩ := Option.isSome_iff_exists.mp ((memberGet_isSome a n).trans hany)
      rw [← eq_of_beq hnm, arcRead, hx]
      rfl
    · rw [if_neg hnm, Option.or_none]
  · have e : (astep a (.write n t)).1 = a ++ [(n, t)] := by simp only [astep, arcWrite, hany]; rfl
    rw [e, arcRead, arcRead, memberGet_eq_lookup, memberGet_eq_lookup, List.lookup_append, Assoc.lookup_cons_if, BEq.comm]
    rfl

theorem firstWrite_cons_write (n t : Str) (ops : List AOp) (m : Str) :
    firstWrite (.write n t :: ops) m = (if n == m then some t else none).or (firstWrite ops m) := by
  rw [firstWrite]
  split <;> rfl

theorem firstWrite_append (l r : List AOp) (m : Str) :
    firstWrite (l ++ r) m = (firstWrite l m).or (firstWrite r m) := by
  induction l with
  | nil => rfl
  | cons op l ih =>
    cases op with
    | read n => exact ih
    | write n t => rw [List.cons_append, firstWrite_cons_write, firstWrite_cons_write, ih, Option.or_assoc]

theorem arcRead_arun (ops : List AOp) (a : Archive) (m : Str) :
    arcRead (arun a ops).1 m = (arcRead a m).or (firstWrite ops m) := by
  induction ops generalizing a with
  | nil => exact Option.or_none.symm
  | cons op ops ih =>
    rw [arun]
    dsimp only
    rw [ih]
    cases op with
    | read n => rfl
    | write n t => rw [arcRead_astep_write, firstWrite_cons_write, Option.or_assoc]

end HydroVerif.C09
