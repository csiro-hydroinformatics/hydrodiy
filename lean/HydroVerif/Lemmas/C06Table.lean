/-
C06 — facts about the GENERATED direction-code table (`Generated/FlowDir.lean`, rewritten from
`FLOWDIRCODE` in grid.py on every run). Each is closed by `decide` on the table as it is now:
a duplicated, missing, swapped or re-centred code in grid.py makes one of them fail on the next run,
and with it every theorem of `Props/C06.lean` that needs a fact about the table (they take it from `tableOK` / `codes_esri`).
-/
import HydroVerif.Generated.FlowDir

namespace HydroVerif.C06
open HydroVerif.Generated.FlowDir

structure TableOK (codes : List Int) : Prop where
  len : codes.length = 9
  nodup : codes.Nodup
  centre : codes[4]? = some 0

/-- the literal in grid.py is a 3x3 nested list (what the Cython wrappers assert of the array) -/
theorem literal_is_3x3 : nrowsLit = 3 ∧ rowLens = [3, 3, 3] := by decide +kernel

theorem codes_length : codes.length = 9 := by decide +kernel
theorem codes_nodup : codes.Nodup := by decide +kernel
theorem codes_centre : codes[4]? = some 0 := by decide +kernel

theorem tableOK : TableOK codes := ⟨codes_length, codes_nodup, codes_centre⟩

/-- column offset of direction `m` (E, SE, S, SW, W, NW, N, NE) -/
def esriDx : Nat → Int
  | 0 => 1 | 1 => 1 | 2 => 0 | 3 => -1 | 4 => -1 | 5 => -1 | 6 => 0 | _ => 1
/-- row offset of direction `m` (rows are counted from the top: south is `+1`) -/
def esriDy : Nat → Int
  | 0 => 0 | 1 => 1 | 2 => 1 | 3 => 1 | 4 => 0 | 5 => -1 | 6 => -1 | _ => -1
def esriPos (m : Nat) : Nat := (1 + esriDx m + (1 + esriDy m) * 3).toNat

/-- **the table is the ESRI one**: east = 1, doubling clockwise, each at the position of its offset -/
theorem codes_esri : ∀ m, m < 8 → codes[esriPos m]? = some ((2 : Int) ^ m) := by decide +kernel

theorem codes_esri_surj : ∀ k, k < 9 → k ≠ 4 → ∃ m, m < 8 ∧ esriPos m = k := by decide +kernel

theorem codes_are_esri_or_zero : ∀ f ∈ codes, f = 0 ∨ ∃ m, m < 8 ∧ f = (2 : Int) ^ m := by decide +kernel

/-- **mirror structure**: position `8 - k` holds the code of the opposite direction (`m + 4 mod 8`) -/
theorem codes_mirror : ∀ m, m < 8 → codes[8 - esriPos m]? = some ((2 : Int) ^ ((m + 4) % 8)) := by decide +kernel

end HydroVerif.C06
