/-
C09 — numbers in the table body: rounding, digit strings of fixed length, the decimal text `decText` that `%0.{d}f`
prints and `%0.{d}e` uses as mantissa, read back by the decimal parsers; the decimal exponent found by `findExp`.
-/
import HydroVerif.Model.C09Num
import HydroVerif.Lemmas.C09Head
import HydroVerif.Lemmas.Round
import Mathlib.Tactic.Ring
import Mathlib.Tactic.Positivity.Basic
import Mathlib.Algebra.Order.Field.Basic
import Mathlib.Data.Rat.Floor
import Mathlib.Data.Int.Log
import Mathlib.Algebra.Order.GroupWithZero.Basic

namespace HydroVerif.C09

/-- the model's `roundHalfEven` is `Round.rne` of `Lemmas/Round.lean` by definition, whose lemmas it takes -/
theorem roundHalfEven_spec (q : ℚ) :
    (roundHalfEven q = q.floor ∧ q - q.floor ≤ 1 / 2) ∨ (roundHalfEven q = q.floor + 1 ∧ 1 / 2 ≤ q - q.floor) :=
  Round.rne_cases q

theorem abs_round_mul_sub_le (x p : ℚ) (hp : 0 < p) : |(roundHalfEven (x / p) : ℚ) * p - x| ≤ p / 2 :=
  (Round.abs_rne_mul_sub_le x hp).trans_eq (one_div_mul_eq_div 2 p)

theorem roundHalfEven_nonneg (q : ℚ) (h : 0 ≤ q) : 0 ≤ roundHalfEven q := by
  have hf : (0 : ℤ) ≤ q.floor := Rat.le_floor_iff.mpr (by simpa using h)
  rcases roundHalfEven_spec q with ⟨e, -⟩ | ⟨e, -⟩ <;> omega

theorem abs_sign_mul_sub (neg : Bool) (a m : ℚ) :
    |(if neg then -1 else 1) * a - (if neg then -1 else 1) * m| = |a - m| := by
  cases neg
  · simp
  · rw [if_pos rfl, neg_one_mul, neg_one_mul, neg_sub_neg, abs_sub_comm]

theorem cast_toNat_roundHalfEven (q : ℚ) (h : 0 ≤ q) : (((roundHalfEven q).toNat : ℕ) : ℚ) = ((roundHalfEven q : ℤ) : ℚ) :=
  mod_cast Int.toNat_of_nonneg (roundHalfEven_nonneg q h)

theorem allDigits_iff {s : Str} : allDigits s = true ↔ ∀ c ∈ s, isDigitChar c := by
  simp [allDigits, isDigit, isDigitChar]

theorem allDigits_natStr (n : Nat) : allDigits (natStr n) = true := allDigits_iff.mpr (natStr_digits n)

theorem fracDigits_length (d m : Nat) : (fracDigits d m).length = d := by
  induction d generalizing m with
  | zero => rfl
  | succ d ih => simp [fracDigits, ih]

theorem fracDigits_digits (d m : Nat) : ∀ c ∈ fracDigits d m, isDigitChar c := by
  induction d generalizing m with
  | zero => intro c hc; cases hc
  | succ d ih =>
    intro c hc
    rcases List.mem_append.mp hc with hc | hc
    · exact ih _ c hc
    · rw [List.mem_singleton.mp hc]; exact digitChar_isDigit _ (Nat.mod_lt _ (by decide))

theorem allDigits_fracDigits (d m : Nat) : allDigits (fracDigits d m) = true := allDigits_iff.mpr (fracDigits_digits d m)

theorem natVal_fracDigits (d m : Nat) : natVal (fracDigits d m) = m % 10 ^ d := by
  induction d generalizing m with
  | zero => simp [fracDigits, natVal, Nat.mod_one]
  | succ d ih =>
    rw [fracDigits, natVal_append_single, ih, digitVal_digitChar _ (Nat.mod_lt _ (by decide)), Nat.pow_succ', Nat.mod_mul]
    ring

theorem digit_ne_char (c d : Char) (h : isDigitChar c) (hd : d.toNat < 48 ∨ 57 < d.toNat) : c ≠ d := by
  unfold isDigitChar at h
  rintro rfl; omega

theorem idx2_spec (i : Nat) : (∀ c ∈ idx2 i, isDigitChar c) ∧ idx2 i ≠ [] ∧ natVal (idx2 i) = i := by
  unfold idx2
  split
  · refine ⟨fun c hc => ?_, List.cons_ne_nil _ _, ?_⟩
    · rcases List.mem_cons.mp hc with rfl | hc
      · exact ⟨by decide, by decide⟩
      · exact natStr_digits i c hc
    · exact (by simp [natVal, digitVal] : natVal ('0' :: natStr i) = natVal (natStr i)).trans (natVal_natStr i)
  · exact ⟨natStr_digits i, natStr_ne_nil i, natVal_natStr i⟩

theorem parseUnsigned_digits (s : Str) (hne : s ≠ []) (hd : ∀ c ∈ s, isDigitChar c) :
    parseUnsigned s = some (natVal s : ℚ) := by
  have htw : s.takeWhile (· != '.') = s :=
    List.takeWhile_eq_self_iff.mpr fun c hc => bne_iff_ne.mpr (digit_ne_char c '.' (hd c hc) (by decide))
  simp [parseUnsigned, htw, hne, allDigits_iff.mpr hd]

theorem parseUnsigned_point (ip fp : Str) (hne : ip ≠ []) (hi : ∀ c ∈ ip, isDigitChar c) (hf : ∀ c ∈ fp, isDigitChar c) :
    parseUnsigned (ip ++ '.' :: fp) = some ((natVal ip : ℚ) + (natVal fp : ℚ) / (10 : ℚ) ^ fp.length) := by
  have htw : (ip ++ '.' :: fp).takeWhile (· != '.') = ip :=
    Strip.takeWhile_append_stop _ _ _ _ (fun c hc => bne_iff_ne.mpr (digit_ne_char c '.' (hi c hc) (by decide))) (by decide)
  simp [parseUnsigned, htw, hne, allDigits_iff.mpr hi, allDigits_iff.mpr hf]

theorem parseDec_of_digit_head (s : Str) (h : ∀ c ∈ s.head?, isDigitChar c) : parseDec s = parseUnsigned s := by
  unfold parseDec
  split
  · exact absurd rfl (digit_ne_char _ '-' (h _ rfl) (by decide))
  · exact absurd rfl (digit_ne_char _ '+' (h _ rfl) (by decide))
  · rfl

theorem parseInt_digits (s : Str) (hne : s ≠ []) (hd : ∀ c ∈ s, isDigitChar c) : parseInt s = some (natVal s : ℤ) := by
  unfold parseInt
  split
  · exact absurd rfl (digit_ne_char _ '-' (hd _ List.mem_cons_self) (by decide))
  · rw [if_pos ⟨hne, allDigits_iff.mpr hd⟩]

theorem parseInt_neg_digits (s : Str) (hne : s ≠ []) (hd : ∀ c ∈ s, isDigitChar c) :
    parseInt ('-' :: s) = some (-(natVal s : ℤ)) := by
  rw [parseInt, if_pos ⟨hne, allDigits_iff.mpr hd⟩]

/-- the decimal text of `n / 10^d` with its sign bit: integer digits, and for `d > 0` a point and exactly `d` decimals.
`%0.{d}f` prints it for the rounded scaled magnitude, `%0.{d}e` for its mantissa -/
def decText (d n : ℕ) (neg : Bool) : Str :=
  (if neg then ['-'] else []) ++ (natStr (n / 10 ^ d) ++ (if d = 0 then [] else '.' :: fracDigits d (n % 10 ^ d)))

theorem fmtFixed_eq (d : ℕ) (neg : Bool) (mag : ℚ) :
    fmtFixed d neg mag = decText d (roundHalfEven (mag * (10 : ℚ) ^ d)).toNat neg := by
  simp only [fmtFixed, decText, List.append_assoc]

theorem fmtExp_eq (d : ℕ) (neg : Bool) (mag : ℚ) :
    fmtExp d neg mag = decText d (expParts d mag).1 neg
      ++ 'e' :: (if (expParts d mag).2 < 0 then '-' else '+') :: idx2 (expParts d mag).2.natAbs := by
  unfold fmtExp
  rcases expParts d mag with ⟨n, e⟩
  simp only [decText, idx2, List.append_assoc]

theorem decText_chars (d n : ℕ) (neg : Bool) : ∀ c ∈ decText d n neg, isDigitChar c ∨ c = '-' ∨ c = '.' := by
  intro c hc
  simp only [decText, List.mem_append] at hc
  rcases hc with hc | hc | hc
  · split at hc
    · exact .inr (.inl (List.mem_singleton.mp hc))
    · cases hc
  · exact .inl (natStr_digits _ c hc)
  · split at hc
    · cases hc
    · rcases List.mem_cons.mp hc with hc | hc
      · exact .inr (.inr hc)
      · exact .inl (fracDigits_digits _ _ c hc)

theorem parseUnsigned_decText (d n : ℕ) : parseUnsigned (decText d n false) = some ((n : ℚ) / (10 : ℚ) ^ d) := by
  rw [decText, if_neg Bool.false_ne_true, List.nil_append]
  by_cases hd : d = 0
  · subst hd
    rw [if_pos rfl, List.append_nil, pow_zero, Nat.div_one, pow_zero, div_one,
      parseUnsigned_digits _ (natStr_ne_nil n) (natStr_digits n), natVal_natStr]
  · rw [if_neg hd, parseUnsigned_point _ _ (natStr_ne_nil _) (natStr_digits _) (fracDigits_digits _ _),
      natVal_natStr, natVal_fracDigits, fracDigits_length, Nat.mod_mod]
    have h10 : ((10 ^ d : ℕ) : ℚ) ≠ 0 := by positivity
    rw [Nat.cast_pow, Nat.cast_ofNat] at h10
    congr 1
    rw [eq_div_iff h10, add_mul, div_mul_cancel₀ _ h10]
    exact_mod_cast Nat.div_add_mod' n (10 ^ d)

theorem parseDec_decText (d n : ℕ) (neg : Bool) :
    parseDec (decText d n neg) = some ((if neg then -1 else 1) * ((n : ℚ) / (10 : ℚ) ^ d)) := by
  cases neg with
  | true =>
    have : decText d n true = '-' :: decText d n false := rfl
    rw [this, parseDec, parseUnsigned_decText, Option.map_some, if_pos rfl, neg_one_mul]
  | false =>
    have hhead : ∀ c ∈ (decText d n false).head?, isDigitChar c := by
      rw [decText, if_neg Bool.false_ne_true, List.nil_append, List.head?_append_of_ne_nil _ (natStr_ne_nil _)]
      exact fun c hc => natStr_digits _ c (List.mem_of_mem_head? hc)
    rw [parseDec_of_digit_head _ hhead, parseUnsigned_decText, if_neg Bool.false_ne_true, one_mul]

theorem parseInt_expPart (e : ℤ) : parseInt (dropPlus ((if e < 0 then '-' else '+') :: idx2 e.natAbs)) = some e := by
  obtain ⟨hd, hne, hval⟩ := idx2_spec e.natAbs
  split
  · show parseInt ('-' :: idx2 e.natAbs) = some e
    rw [parseInt_neg_digits _ hne hd, hval]
    congr 1; omega
  · show parseInt (idx2 e.natAbs) = some e
    rw [parseInt_digits _ hne hd, hval]
    congr 1; omega

theorem pow10_eq_zpow (e : ℤ) : pow10 e = (10 : ℚ) ^ e := by
  unfold pow10
  split
  · rw [← zpow_natCast, Int.toNat_of_nonneg ‹_›]
  · rw [one_div, ← zpow_natCast, ← zpow_neg, Int.toNat_of_nonneg (by omega), neg_neg]

theorem pow10_pos (e : ℤ) : 0 < pow10 e := by
  rw [pow10_eq_zpow]; exact zpow_pos (by norm_num) e

theorem findExp_spec (fuel : ℕ) (mag : ℚ) (E : ℤ) (hE1 : (10 : ℚ) ^ E ≤ mag) (hE2 : mag < (10 : ℚ) ^ (E + 1)) :
    ∀ e : ℤ, E - fuel ≤ e → e ≤ E + fuel → findExp fuel mag e = E := by
  have hlt : ∀ {a b : ℤ}, (10 : ℚ) ^ a ≤ mag → mag < (10 : ℚ) ^ b → a < b := fun h1 h2 =>
    (zpow_lt_zpow_iff_right₀ (by norm_num : (1 : ℚ) < 10)).mp (lt_of_le_of_lt h1 h2)
  induction fuel with
  | zero => intro e h1 h2; rw [findExp]; omega
  | succ fuel ih =>
    intro e h1 h2
    rw [findExp, pow10_eq_zpow, pow10_eq_zpow]
    split_ifs with c1 c2
    · have := hlt hE1 c1
      exact ih _ (by omega) (by omega)
    · have := hlt c2 hE2
      exact ih _ (by omega) (by omega)
    · have a1 := hlt (not_lt.mp c1) hE2
      have a2 := hlt hE1 (not_le.mp c2)
      omega

/-- `expParts` runs the search with fuel 800, far beyond the range of doubles (`10^±308`, subnormals to `10^-324`) -/
theorem findExp_range (fuel : ℕ) (mag : ℚ) (hlo : (10 : ℚ) ^ (-(fuel : ℤ)) ≤ mag) (hhi : mag < (10 : ℚ) ^ (fuel : ℤ)) :
    (10 : ℚ) ^ (findExp fuel mag 0) ≤ mag ∧ mag < (10 : ℚ) ^ (findExp fuel mag 0 + 1) := by
  have h10 : (1 : ℚ) < 10 := by norm_num
  have hm : 0 < mag := lt_of_lt_of_le (zpow_pos (by norm_num) _) hlo
  obtain ⟨E, hE1, hE2⟩ : ∃ E : ℤ, (10 : ℚ) ^ E ≤ mag ∧ mag < (10 : ℚ) ^ (E + 1) :=
    ⟨Int.log 10 mag, by simpa using Int.zpow_log_le_self (b := 10) (by norm_num) hm,
      by simpa using Int.lt_zpow_succ_log_self (b := 10) (by norm_num) mag⟩
  have b1 : -(fuel : ℤ) < E + 1 := (zpow_lt_zpow_iff_right₀ h10).mp (lt_of_le_of_lt hlo hE2)
  have b2 : E < fuel := (zpow_lt_zpow_iff_right₀ h10).mp (lt_of_le_of_lt hE1 hhi)
  rw [findExp_spec fuel mag E hE1 hE2 0 (by omega) (by omega)]
  exact ⟨hE1, hE2⟩

theorem pow10_sub_natCast (e : ℤ) (d : ℕ) : pow10 (e - d) = pow10 e / (10 : ℚ) ^ d := by
  rw [pow10_eq_zpow, pow10_eq_zpow, zpow_sub₀ (by norm_num), zpow_natCast]

/-- the number `%0.{d}e` prints is the scaled magnitude rounded, in units of `10^(E-d)` - in both branches of the carry
from `9.99…` to `10.0…`, where the mantissa becomes `1.00…` and the exponent `E + 1` -/
theorem expParts_value (d : ℕ) (mag : ℚ) (hm : 0 < mag) :
    ((expParts d mag).1 : ℚ) / (10 : ℚ) ^ d * pow10 (expParts d mag).2
      = (roundHalfEven (mag / pow10 (findExp 800 mag 0 - d)) : ℚ) * pow10 (findExp 800 mag 0 - d) := by
  have hcast := cast_toNat_roundHalfEven (mag / pow10 (findExp 800 mag 0 - d)) (div_nonneg hm.le (pow10_pos _).le)
  rw [expParts, if_neg (not_le.mpr hm)]
  dsimp only
  split_ifs with hc
  · rw [← hcast, hc]
    dsimp only
    push_cast
    rw [div_self (by positivity), one_mul, pow10_eq_zpow, pow10_eq_zpow, ← zpow_natCast, ← zpow_add₀ (by norm_num)]
    congr 1
    push_cast
    ring
  · rw [hcast, pow10_sub_natCast, div_mul_eq_mul_div, mul_div_assoc]

end HydroVerif.C09
