/-
C11 — the worked example the `example`s of `Props/C11.lean` are stated on: a 2x3 grid, a session on it, and the
facts about them that several examples need (each a finite check).
-/
import HydroVerif.Lemmas.C11Round
import HydroVerif.Lemmas.C11Sess

namespace HydroVerif.C11
open HydroVerif.C07

/-- 2x3 grid, FLOWDIRCODE of grid.py; cells 0 → 1 → 2 (exit east), 3 → 1 (north-east), 4 → 1 (north), 5 sink -/
def gEx : FlowGrid := ⟨2, 3, [32, 64, 128, 16, 0, 1, 8, 4, 2], #[1, 1, 1, 128, 64, 0]⟩

theorem gEx_wf : WF gEx := ⟨by decide, by decide⟩

theorem gEx_allTerminate : AllTerminate gEx (fuelOf (capOf gEx (-1))) := allTerminate_of_B (by decide +kernel)

theorem gEx_noCycle : NoCycle gEx := noCycle_of_allTerminate gEx_allTerminate

theorem gEx_rows : (1 : Int) ≤ gEx.nrows := by decide

theorem gEx_cap : 1 ≤ capOf gEx (-1) := by decide

theorem gEx_valid1 : validCell gEx.nrows gEx.ncols 1 = true := by decide

theorem gEx_drains1 : 0 ≤ dn gEx 1 := by decide

/-- a rounding that is exact up to 100 and halves above: it meets the hypothesis of `accumulate_rounded_exact` with `B = 100` -/
def rndEx (x : ℚ) : ℚ := if |x| ≤ 100 then x else x / 2

theorem rndEx_int (z : Int) (hz : z.natAbs ≤ 100) : rndEx (z : ℚ) = (z : ℚ) := by
  refine if_pos ?_
  rw [← Int.cast_abs, ← Nat.cast_natAbs]
  exact_mod_cast hz

/-- a session on `gEx`: one field object, no result yet, default limit -/
def sEx : Sess Int := ⟨gEx, -1, #[⟨2, 3, #[5, 1, 7, 2, 3, 4], -9999⟩], some 0, none, -1⟩
/-- a history: call; the caller overwrites the result and feeds it back as the field; edits it; a wrong-shape
assignment and an out-of-range cell are rejected; the limit 0 makes the call raise; default limit again -/
def opsEx : List (Op Int) :=
  [.call, .rFill 1, .feedBack, .fSetCell 0 9, .fAssign 3 2 #[0, 0, 0, 0, 0, 0], .fSetCell 6 1, .setCap 0, .call, .setCap (-1)]

theorem sEx_inv : Inv sEx := Inv.of_checks (by decide) (by decide) (by decide) (by decide)

theorem run_sEx : run sEx opsEx =
    (⟨gEx, -1, #[⟨2, 3, #[5, 1, 7, 2, 3, 4], -9999⟩, ⟨2, 3, #[9, 1, 1, 1, 1, 1], -9999⟩], some 1, some 1, -1⟩,
     [.result ⟨2, 3, #[5, 11, -9999, 2, 3, -9999], -9999⟩, .done, .done, .done, .rejected, .rejected, .done,
      .rejected, .done]) := by
  rfl

/-- a session on the 2-cycle 0 ⇄ 1 with the limit 3 -/
def sCyc : Sess Int := ⟨⟨1, 2, gEx.codes, #[1, 16]⟩, -1, #[⟨1, 2, #[3, 4], -9999⟩], some 0, none, 3⟩

end HydroVerif.C11
