/-
C10 — the score `D = (Pearson(obs ranks, forecast ranks) + 1)/2`: observation ranks of distinct observations (any
ordinal ranking is the stable one), rank vectors of perfectly / inversely ordered forecasts, Pearson correlation of
affinely related vectors over ℝ (the facts about `ssd`, `scd`, `clip1` it needs are in `Lemmas/C04.lean`).
-/
import HydroVerif.Lemmas.C10Rank
import HydroVerif.Lemmas.C10TranscR

namespace HydroVerif.C10

open HydroVerif.C04 (mean ssd pearson clip1 ssd_pos_of_ne scd_affine)

section
variable {α : Type} [LinearOrder α]

theorem stableRanks_nodup_nat {obs : List α} (hnd : obs.Nodup) :
    stableRanks obs = obs.map fun a => (obs.filter fun b => decide (b < a)).length := by
  unfold stableRanks
  rw [← map_fst_zipIdx (fun a => (obs.filter fun b => decide (b < a)).length) obs 0]
  refine List.map_congr_left fun xi hxi => ?_
  conv_rhs => rw [← List.zipIdx_map_fst 0 obs, List.filter_map, List.length_map]
  congr 1
  apply List.filter_congr
  intro yk hyk
  by_cases h1 : yk.1 < xi.1
  · simp [h1]
  · by_cases h2 : xi.1 < yk.1
    · simp [h1, h2]
    · have he : yk = xi := List.inj_on_of_nodup_map (by rwa [List.zipIdx_map_fst]) hyk hxi
        (le_antisymm (not_lt.mp h2) (not_lt.mp h1))
      simp [he]

/-- what `np.argsort(np.argsort(obs))` returns whatever the sorting algorithm behind it: the ranks 0..n-1,
each used once, increasing with the observations -/
def ValidRanking (obs : List α) (r : List ℕ) : Prop :=
  r.length = obs.length ∧ r.Perm (List.range obs.length) ∧
    ∀ p ∈ obs.zip r, ∀ q ∈ obs.zip r, p.1 < q.1 → p.2 < q.2

theorem countP_lt_range (n k : ℕ) : (List.range n).countP (fun x => decide (x < k)) = min k n := by
  induction n with
  | zero => simp
  | succ n ih =>
    -- the last index counts exactly when it is below `k`
    rw [List.range_succ, List.countP_append, ih, List.countP_singleton]
    by_cases h : n < k
    · rw [if_pos (decide_eq_true h)]; omega
    · rw [if_neg (by rwa [decide_eq_true_eq])]; omega

/-- for pairwise distinct observations every ordinal ranking is the stable one: the unspecified tie-breaking of
numpy's argsort cannot matter -/
theorem validRanking_unique {obs : List α} (hnd : obs.Nodup) {r : List ℕ} (h : ValidRanking obs r) :
    r = stableRanks obs := by
  obtain ⟨hlen, hperm, hmono⟩ := h
  -- the rank of `p` = number of ranks below it (the ranks are a permutation of `range n`) = number of observations
  -- below `p` (the ranking preserves the order and the observations are distinct) = the stable rank
  set Z := obs.zip r with hZ
  have hfst : Z.map Prod.fst = obs := List.map_fst_zip hlen.ge
  have hsnd : Z.map Prod.snd = r := List.map_snd_zip hlen.le
  have hiff : ∀ p ∈ Z, ∀ q ∈ Z, (q.2 < p.2 ↔ q.1 < p.1) := by
    refine fun p hp q hq => ⟨fun hlt => ?_, hmono q hq p hp⟩
    rcases lt_trichotomy q.1 p.1 with h1 | h1 | h1
    · exact h1
    · rw [List.inj_on_of_nodup_map (hfst ▸ hnd) hq hp h1] at hlt
      exact absurd hlt (lt_irrefl _)
    · exact absurd (hmono p hp q hq h1) (lt_asymm hlt)
  rw [stableRanks_nodup_nat hnd]
  conv_lhs => rw [← hsnd]
  conv_rhs => rw [← hfst, List.map_map]
  refine List.map_congr_left fun p hp => ?_
  have hpn : p.2 < obs.length := by simpa using hperm.mem_iff.mp (hsnd ▸ List.mem_map_of_mem hp)
  simp only [Function.comp_def, List.filter_map, List.length_map]
  rw [← List.countP_eq_length_filter, ← min_eq_left hpn.le, ← countP_lt_range, ← hperm.countP_eq, ← hsnd,
    List.countP_map]
  exact List.countP_congr fun q hq => by simpa using hiff p hp q hq

end

section field

variable {α : Type} [Field α] [LinearOrder α]

/-- two ensembles that compare as the numbers `a`, `b` do: their `u` is the contribution of `b` to the mid-rank of `a` -/
theorem wmU_eq_ps {a b : α} {ea eb : List α} (hlt : b < a → wm eb ea < wm ea eb) (hgt : a < b → wm ea eb < wm eb ea)
    (heq : a = b → ea = eb) : wmU ea eb = ps a b := by
  rcases lt_trichotomy b a with h | h | h
  · rw [ps_of_lt h, wmU, if_neg (hlt h).not_gt, if_pos (hlt h)]
  · rw [heq h.symm, h, wmU_self, ps_self]
  · rw [ps_of_gt h, wmU, if_pos (hgt h)]

variable [IsStrictOrderedRing α]

theorem ps_mono {a b : α} (hab : a ≤ b) (c : α) : ps a c ≤ ps b c := by
  rcases lt_trichotomy c a with h | rfl | h
  · rw [ps_of_lt h, ps_of_lt (h.trans_le hab)]
  · rcases hab.lt_or_eq with h | rfl
    · rw [ps_self, ps_of_lt h]; norm_num
    · exact le_rfl
  · rw [ps_of_gt h]; exact ps_nonneg b c

theorem rowScore_strict {a b : α} (hab : a < b) (l : List α) (ha : a ∈ l) : rowScore a l < rowScore b l :=
  List.sum_lt_sum _ _ (fun c _ => ps_mono hab.le c) ⟨a, ha, by rw [ps_self, ps_of_lt hab]; norm_num⟩

theorem count_lt_eq {l : List α} (hnd : l.Nodup) {a : α} (ha : a ∈ l) :
    (((l.filter fun b => decide (b < a)).length : ℕ) : α) = rowScore a l - 1 / 2 := by
  rw [rowScore_eq_counts]
  have : (l.filter fun b => !decide (b < a) && !decide (a < b)) = l.filter fun b => decide (b = a) := by
    apply List.filter_congr
    intro b _
    rcases lt_trichotomy b a with h | h | h
    · simp [h, h.ne]
    · simp [h]
    · simp [h, h.ne', not_lt.mpr h.le]
  rw [this]
  have h1 : (l.filter fun b => decide (b = a)).length = l.count a := by
    rw [List.count, List.countP_eq_length_filter]
    congr 1
  rw [h1, List.count_eq_one_of_mem hnd ha]
  push_cast; ring

theorem stableRanks_nodup {obs : List α} (hnd : obs.Nodup) :
    (stableRanks obs).map (fun (r : ℕ) => (Nat.cast r : α)) = obs.map fun a => rowScore a obs - 1 / 2 := by
  rw [stableRanks_nodup_nat hnd, List.map_map]
  exact List.map_congr_left fun a ha => count_lt_eq hnd ha

/-- forecasts order the observations perfectly: the larger observation has the winning ensemble -/
def PerfectOrder (pairs : List (α × List α)) : Prop :=
  ∀ p ∈ pairs, ∀ q ∈ pairs, q.1 < p.1 → wm q.2 p.2 < wm p.2 q.2

/-- ... inversely: the larger observation has the losing ensemble -/
def InverseOrder (pairs : List (α × List α)) : Prop :=
  ∀ p ∈ pairs, ∀ q ∈ pairs, q.1 < p.1 → wm p.2 q.2 < wm q.2 p.2

/-- the forecast ranks are the observation ranks plus one; written `1 * v + 1` so that `dscoreOf_affine 1 1` applies as it stands -/
theorem wmRanks_perfect {pairs : List (α × List α)} (hnd : (pairs.map Prod.fst).Nodup)
    (h : PerfectOrder pairs) :
    wmRanks (pairs.map Prod.snd) = ((pairs.map Prod.fst).map fun a => rowScore a (pairs.map Prod.fst) - 1 / 2).map
      fun v => 1 * v + 1 := by
  rw [wmRanks_eq, List.map_map, List.map_map, List.map_map]
  refine List.map_congr_left fun p hp => ?_
  have key : (pairs.map fun q => wmU p.2 q.2).sum = (pairs.map fun q => ps p.1 q.1).sum :=
    sum_map_congr _ _ _ fun q hq => wmU_eq_ps (h p hp q hq) (h q hq p hp) fun e =>
      congrArg Prod.snd (List.inj_on_of_nodup_map hnd hp hq e)
  simp only [Function.comp_def, List.map_map, rowScore, key]
  ring

/-- … or `n` minus the observation ranks (`dscoreOf_affine (-1) n`) -/
theorem wmRanks_inverse {pairs : List (α × List α)} (hnd : (pairs.map Prod.fst).Nodup)
    (h : InverseOrder pairs) :
    wmRanks (pairs.map Prod.snd) = ((pairs.map Prod.fst).map fun a => rowScore a (pairs.map Prod.fst) - 1 / 2).map
      fun v => -1 * v + (pairs.length : α) := by
  rw [wmRanks_eq, List.map_map, List.map_map, List.map_map]
  refine List.map_congr_left fun p hp => ?_
  have key : (pairs.map fun q => wmU p.2 q.2).sum = (pairs.map fun q => ps q.1 p.1).sum :=
    sum_map_congr _ _ _ fun q hq => wmU_eq_ps (h q hq p hp) (h p hp q hq) fun e =>
      congrArg Prod.snd (List.inj_on_of_nodup_map hnd hp hq e.symm)
  have hcol := rowScore_add_col p.1 (pairs.map Prod.fst)
  rw [List.length_map, List.map_map] at hcol
  simp only [Function.comp_def, List.map_map, key, ← hcol]
  ring

theorem ssd_obs_ranks_pos {obs : List α} (hnd : obs.Nodup) (hn : 2 ≤ obs.length) :
    0 < ssd (mean (obs.map fun a => rowScore a obs - 1 / 2)) (obs.map fun a => rowScore a obs - 1 / 2) := by
  match obs, hnd, hn with
  | a :: b :: rest, hnd, _ =>
    have hab : a ≠ b := by
      intro he; subst he
      simp at hnd
    have ha : a ∈ a :: b :: rest := by simp
    have hb : b ∈ a :: b :: rest := by simp
    apply ssd_pos_of_ne _ (List.mem_map.mpr ⟨a, ha, rfl⟩) (List.mem_map.mpr ⟨b, hb, rfl⟩)
    intro he
    rcases lt_or_gt_of_ne hab with hlt | hgt
    · exact (rowScore_strict hlt _ ha).ne (sub_left_inj.mp he)
    · exact (rowScore_strict hgt _ hb).ne' (sub_left_inj.mp he)

end field

/-- the Pearson correlation of `x` and `a x + b` is `a / |a|`: the score is 1 for `a > 0`, 0 for `a < 0` -/
theorem dscoreOf_affine (a b : ℝ) (ha : a ≠ 0) (x : List ℝ) (h : 0 < ssd (mean x) x) :
    dscoreOf x (x.map fun v => a * v + b) = some (if 0 < a then 1 else 0) := by
  have hn := C04.two_le_length_of_ssd_pos x h
  have hne : x ≠ [] := by rintro rfl; simp at hn
  have hn1 : (0 : ℝ) < ((x.length - 1 : ℕ) : ℝ) := Nat.cast_pos.mpr (by omega)
  have hy : 0 < ssd (mean (x.map fun v => a * v + b)) (x.map fun v => a * v + b) := by
    rw [C04.mean_affine a b x hne, C04.ssd_affine]
    exact mul_pos (mul_self_pos.mpr ha) h
  unfold dscoreOf
  rw [if_pos ⟨h, hy⟩]
  unfold pearson
  simp only [C04.mean_affine a b x hne, scd_affine, C04.ssd_affine, sqrt_def]
  set q := ssd (mean x) x / ((x.length - 1 : ℕ) : ℝ) with hq
  have hqpos : 0 < q := div_pos h hn1
  have habs : |a| ≠ 0 := abs_ne_zero.mpr ha
  have hval : a * q / Real.sqrt q / (|a| * Real.sqrt q) = a / |a| := by
    rw [div_div, mul_comm (Real.sqrt q) (|a| * Real.sqrt q), mul_assoc, Real.mul_self_sqrt hqpos.le]
    field_simp
  rw [mul_div_assoc, mul_div_assoc (a * a), ← hq, Real.sqrt_mul (mul_self_nonneg a), Real.sqrt_mul_self_eq_abs, hval]
  by_cases hp : 0 < a
  · rw [abs_of_pos hp, div_self ha, if_pos hp]; unfold clip1; norm_num
  · rw [abs_of_neg (lt_of_le_of_ne (not_lt.mp hp) ha), if_neg hp, div_neg, div_self ha]; unfold clip1; norm_num

/-- by the clip of `np.corrcoef` at the end of `C04.pearson`, not by an inequality between sums -/
theorem dscoreOf_range (x y : List ℝ) (D : ℝ) (h : dscoreOf x y = some D) : 0 ≤ D ∧ D ≤ 1 := by
  unfold dscoreOf at h
  split at h
  · obtain ⟨h1, h2⟩ : -1 ≤ pearson x y ∧ pearson x y ≤ 1 := C04.clip1_mem _
    injection h with h
    rw [← h]
    constructor <;> linarith
  · cases h

end HydroVerif.C10
