/-
C06 — helper lemmas: the upstream / downstream pair of `Model/C06.lean` over any code table (that the two are
inverse needs `TableOK`, no code twice; the downstream cell alone, steps, lengths and the river do not), the refinement of the two-buffer loop of `c_delineate_area` to breadth-first layers and what a call
returns, walks spelled out along the downstream chain (`reaches_iff`), flow cycles on a finite grid (through
`Lemmas/Chain`), steps and lengths, the river table; in that order, one section each. Property statements are in
`Props/C06.lean`. C11 has a model of `c_downstream` of its own (the grid an array, the table a field of the grid, the last
position of a repeated code): nothing is shared with it but `Lemmas/Chain` and `Lemmas/C07Grid`.
-/
import HydroVerif.Model.C06
import HydroVerif.Lemmas.C07Grid
import HydroVerif.Lemmas.Chain
import HydroVerif.Lemmas.C06Table
import HydroVerif.Lemmas.C06Bfs
import Mathlib.Tactic.LinearCombination
import Mathlib.Data.List.Perm.Subperm

namespace HydroVerif.C06
open HydroVerif.C07

variable {codes : List Int} {g : FlowGrid} {inlets : List Int}

/-! ### the code table and the downstream cell of one cell -/

theorem esriPos_lt : ∀ m, m < 8 → esriPos m < 9 := by decide +kernel

theorem esri_nbDx : ∀ m, m < 8 → nbDx (esriPos m) = esriDx m := by decide +kernel

theorem esri_nbDy : ∀ m, m < 8 → nbDy (esriPos m) = esriDy m := by decide +kernel

theorem esri_not_centre : ∀ m, m < 8 → ¬ (esriDx m = 0 ∧ esriDy m = 0) := by decide +kernel

theorem code_pos_unique (ht : TableOK codes) {i j : Nat} {f : Int}
    (hi : codes[i]? = some f) (hj : codes[j]? = some f) : i = j := by
  have hil : i < codes.length := by
    by_contra h; rw [List.getElem?_eq_none (by omega)] at hi; cases hi
  exact (List.getElem?_inj hil ht.nodup).1 (hi.trans hj.symm)

theorem downstream_of_valid {u : Int} (h : validCell g.nrows g.ncols u = true) :
    downstream codes g u = .ok (downstreamCell codes g u) := if_pos h

/-- a guarded entry point answers `d` exactly when the guard holds and the body gives `d` -/
theorem ite_ok_eq_ok {ε β : Type} {c : Prop} [Decidable c] {x d : β} {e : ε} :
    (if c then Except.ok x else Except.error e) = .ok d ↔ c ∧ x = d := by
  split <;> simp [*]

theorem downstream_eq_ok {u d : Int} :
    downstream codes g u = .ok d ↔ validCell g.nrows g.ncols u = true ∧ downstreamCell codes g u = d :=
  ite_ok_eq_ok

theorem upstream_eq_ok {d : Int} {us : List Int} :
    upstream codes g d = .ok us ↔ validCell g.nrows g.ncols d = true ∧ upstreamCells codes g d = us :=
  ite_ok_eq_ok

theorem downstreamCell_sink {u : Int} (hf : g.fd u = 0) : downstreamCell codes g u = -2 := by
  unfold downstreamCell; simp [hf]

/-- the downstream cell of one cell, by the flow direction it holds: a sink, a code at none of the nine positions, or the
neighbour at a position that holds the code (any table: the last such position) -/
theorem downstreamCell_cases (u : Int) :
    (g.fd u = 0 ∧ downstreamCell codes g u = -2) ∨
    (g.fd u ≠ 0 ∧ (∀ j, j < 9 → codes[j]? ≠ some (g.fd u)) ∧ downstreamCell codes g u = -1) ∨
    (g.fd u ≠ 0 ∧ ∃ j, j < 9 ∧ codes[j]? = some (g.fd u) ∧
      downstreamCell codes g u = neighbour g.nrows g.ncols u j) := by
  by_cases hf : g.fd u = 0
  · exact Or.inl ⟨hf, downstreamCell_sink hf⟩
  · unfold downstreamCell
    simp only [hf, if_false]
    rcases foldl_ite_last (fun i => codes[i]? = some (g.fd u)) (neighbour g.nrows g.ncols u) (List.range 9) (-1)
      with ⟨hno, e⟩ | ⟨j, hj, hc, e⟩
    · exact Or.inr (Or.inl ⟨hf, fun j hj => hno j (List.mem_range.2 hj), e⟩)
    · exact Or.inr (Or.inr ⟨hf, j, List.mem_range.1 hj, hc, e⟩)

theorem downstreamCell_of_code (ht : TableOK codes) {u : Int} {j : Nat} (hj : j < 9)
    (hf : g.fd u ≠ 0) (hc : codes[j]? = some (g.fd u)) :
    downstreamCell codes g u = neighbour g.nrows g.ncols u j := by
  rcases downstreamCell_cases (codes := codes) (g := g) u with ⟨h0, _⟩ | ⟨_, hn, _⟩ | ⟨_, i, _, hi, h⟩
  · exact absurd h0 hf
  · exact absurd hc (hn j hj)
  · rw [h, code_pos_unique ht hi hc]

theorem downstreamCell_of_no_code {u : Int} (hf : g.fd u ≠ 0)
    (hn : ∀ j, j < 9 → codes[j]? ≠ some (g.fd u)) : downstreamCell codes g u = -1 := by
  rcases downstreamCell_cases (codes := codes) (g := g) u with ⟨h0, _⟩ | ⟨_, _, h⟩ | ⟨_, i, hi, hc, _⟩
  · exact absurd h0 hf
  · exact h
  · exact absurd hc (hn i hi)

theorem downstreamCell_nonneg_valid {u : Int}
    (h : 0 ≤ downstreamCell codes g u) : validCell g.nrows g.ncols (downstreamCell codes g u) = true := by
  rcases downstreamCell_cases (codes := codes) (g := g) u with ⟨_, h'⟩ | ⟨_, _, h'⟩ | ⟨_, j, _, _, h'⟩
  · omega
  · omega
  · exact h' ▸ neighbour_valid rfl fun hd => by omega

/-! ### the upstream cells of one cell: the inverse relation -/

theorem mem_upstreamCells {d u : Int} :
    u ∈ upstreamCells codes g d ↔
      ∃ j, j < 9 ∧ neighbour g.nrows g.ncols d j = u ∧ u ≠ -1 ∧ g.fd u ≠ 0 ∧
        codes[8 - j]? = some (g.fd u) := by
  unfold upstreamCells
  simp only [List.mem_filterMap, List.mem_range, Option.ite_none_left_eq_some, Option.ite_none_right_eq_some,
    Option.some.injEq]
  exact ⟨fun ⟨j, hj, h1, h2, h3, e⟩ => e ▸ ⟨j, hj, rfl, h1, h2, h3⟩,
    fun ⟨j, hj, e, h1, h2, h3⟩ => ⟨j, hj, e ▸ h1, e ▸ h2, e ▸ h3, e⟩⟩

/-- **upstream and downstream are inverse relations** (unguarded form, any table with `TableOK`) -/
theorem mem_upstreamCells_iff (ht : TableOK codes) (hc : 0 < g.ncols) {d : Int}
    (hd : validCell g.nrows g.ncols d = true) (u : Int) :
    u ∈ upstreamCells codes g d ↔
      validCell g.nrows g.ncols u = true ∧ downstreamCell codes g u = d := by
  rw [mem_upstreamCells]
  constructor
  · rintro ⟨j, hj, hn, h1, h2, h3⟩
    refine ⟨neighbour_valid hn h1, ?_⟩
    rw [downstreamCell_of_code ht (by omega : 8 - j < 9) h2 h3]
    exact neighbour_mirror hc hd hj hn h1
  · rintro ⟨hu, hdown⟩
    have hd0 : 0 ≤ d := (validCell_iff.1 hd).1
    have hu0 : 0 ≤ u := (validCell_iff.1 hu).1
    rcases downstreamCell_cases (codes := codes) (g := g) u with ⟨_, h⟩ | ⟨_, _, h⟩ | ⟨hf, j, hj, hcj, h⟩
    · omega
    · omega
    · have hn : neighbour g.nrows g.ncols u j = d := h.symm.trans hdown
      have hm := neighbour_mirror hc hu hj hn (by omega)
      refine ⟨8 - j, by omega, hm, by omega, hf, ?_⟩
      have : 8 - (8 - j) = j := by omega
      rw [this]; exact hcj

theorem upstreamCells_valid {d u : Int} (h : u ∈ upstreamCells codes g d) :
    validCell g.nrows g.ncols u = true := by
  obtain ⟨j, _, hn, h1, _, _⟩ := mem_upstreamCells.1 h
  exact neighbour_valid hn h1

theorem upstreamCells_nodup (d : Int) : (upstreamCells codes g d).Nodup := by
  unfold upstreamCells
  refine List.Nodup.filterMap ?_ List.nodup_range
  intro j j' u hj hj'
  simp only [Option.mem_def, Option.ite_none_left_eq_some, Option.ite_none_right_eq_some,
    Option.some.injEq] at hj hj'
  -- one neighbour, one position: the offsets of `j` and `j'` are the same
  have r1 := neighbour_rowcol hj.2.2.2 (hj.2.2.2 ▸ hj.1)
  have r2 := neighbour_rowcol hj'.2.2.2 (hj'.2.2.2 ▸ hj'.1)
  have p1 := nb_pos j
  have p2 := nb_pos j'
  omega

/-! ### one step up and one step down with the inlets removed; `Reaches` one step at a time -/

/-- cells draining into `d` that are not inlets (the candidates `c_delineate_area` stores) -/
def upF (codes : List Int) (g : FlowGrid) (inlets : List Int) (d : Int) : List Int :=
  (upstreamCells codes g d).filter (fun u => decide (u ∉ inlets))

/-- one step up, as the search makes it: the cells draining into `d` that are not inlets when `d` is a cell of the grid, none
otherwise; the inverse of `downStep` (`upStep_downStep_inv`) and the `up` of the breadth-first layers (`Bfs.layer`) -/
def upStep (codes : List Int) (g : FlowGrid) (inlets : List Int) (d : Int) : List Int :=
  if validCell g.nrows g.ncols d = true then upF codes g inlets d else []

theorem downStep_eq_some {u d : Int} :
    downStep codes g inlets u = some d ↔
      validCell g.nrows g.ncols u = true ∧ u ∉ inlets ∧ 0 ≤ d ∧ downstreamCell codes g u = d := by
  unfold downStep
  simp only [Option.ite_none_right_eq_some, Option.some.injEq]
  exact ⟨fun ⟨⟨a, b⟩, c, e⟩ => ⟨a, b, e ▸ c, e⟩, fun ⟨a, b, c, e⟩ => ⟨⟨a, b⟩, e ▸ c, e⟩⟩

theorem reaches_zero_iff {c o : Int} : Reaches codes g inlets 0 c o ↔ c = o := by
  unfold Reaches; simp [Bfs.walk]

theorem reaches_succ_iff {k : Nat} {c o : Int} :
    Reaches codes g inlets (k + 1) c o ↔
      validCell g.nrows g.ncols c = true ∧ c ∉ inlets ∧ 0 ≤ downstreamCell codes g c ∧
        Reaches codes g inlets k (downstreamCell codes g c) o := by
  unfold Reaches
  show (downStep codes g inlets c).bind (Bfs.walk (downStep codes g inlets) k) = some o ↔ _
  constructor
  · intro h
    cases hd : downStep codes g inlets c with
    | none => rw [hd] at h; simp at h
    | some d =>
      rw [hd] at h
      obtain ⟨a, b, c0, e⟩ := downStep_eq_some.1 hd
      subst e
      exact ⟨a, b, c0, by simpa using h⟩
  · rintro ⟨a, b, c0, h⟩
    rw [downStep_eq_some.2 ⟨a, b, c0, rfl⟩]; simpa using h

theorem upStep_downStep_inv (ht : TableOK codes) (hc : 0 < g.ncols) (inlets : List Int) (u d : Int) :
    u ∈ upStep codes g inlets d ↔ downStep codes g inlets u = some d := by
  rw [downStep_eq_some]
  unfold upStep upF
  by_cases hd : validCell g.nrows g.ncols d = true
  · rw [if_pos hd, List.mem_filter, mem_upstreamCells_iff ht hc hd, decide_eq_true_eq]
    exact ⟨fun ⟨⟨a, e⟩, b⟩ => ⟨a, b, (validCell_iff.1 hd).1, e⟩, fun ⟨a, b, _, e⟩ => ⟨⟨a, e⟩, b⟩⟩
  · rw [if_neg hd]
    exact ⟨fun h => absurd h List.not_mem_nil,
      fun ⟨_, _, c, e⟩ => absurd (e ▸ downstreamCell_nonneg_valid (e ▸ c)) hd⟩

theorem upStep_nodup (inlets : List Int) (d : Int) : (upStep codes g inlets d).Nodup := by
  unfold upStep upF
  split
  · exact (upstreamCells_nodup d).filter _
  · exact List.nodup_nil

theorem upStep_valid {d u : Int} (h : u ∈ upStep codes g inlets d) :
    validCell g.nrows g.ncols u = true := by
  unfold upStep upF at h
  split at h
  · exact upstreamCells_valid (List.mem_filter.1 h).1
  · simp at h

theorem layer_valid {o : Int} (ho : validCell g.nrows g.ncols o = true) :
    ∀ k c, c ∈ Bfs.layer (upStep codes g inlets) o k → validCell g.nrows g.ncols c = true := by
  intro k
  induction k with
  | zero => intro c hc; simp [Bfs.layer] at hc; exact hc ▸ ho
  | succ k _ =>
    intro c hc
    simp only [Bfs.layer, List.mem_flatMap] at hc
    obtain ⟨d, _, hcd⟩ := hc
    exact upStep_valid hcd

/-! ### the two-buffer loop of `c_delineate_area` stores the breadth-first layers -/

/-- the store loop over one `idxup` row, entered with `nbuffer2 ≤ i ≤ nval - 1`. When the entries do not fit it
leaves through `areaFull`: `bufferFull` cannot come first, the second buffer is the shorter one -/
theorem store_fold (nval : Int) (inlets : List Int) : ∀ (l : List Int) (st : Acc),
    st.buf2.length ≤ st.area.length → (st.area.length : Int) ≤ nval - 1 →
    l.foldlM (store nval inlets) st =
      if (st.area.length : Int) + (l.filter fun u => decide (u ∉ inlets)).length ≤ nval - 1 then
        .ok ⟨st.area ++ l.filter fun u => decide (u ∉ inlets), st.buf2 ++ l.filter fun u => decide (u ∉ inlets)⟩
      else .error .areaFull
  | [], st, _, h => by
    rw [List.filter_nil, List.append_nil, List.append_nil, if_pos (by simpa using h)]
    rfl
  | a :: l, st, hb, h => by
    rw [List.foldlM_cons]
    by_cases ha : a ∈ inlets
    · rw [List.filter_cons_of_neg (by simpa using ha), ← store_fold nval inlets l st hb h]
      exact congrArg (· >>= _) (if_pos ha)
    · rw [List.filter_cons_of_pos (by simpa using ha), List.length_cons]
      by_cases h1 : (st.area.length : Int) = nval - 1
      · rw [if_neg (by push_cast; omega)]
        exact congrArg (· >>= _) ((if_neg ha).trans (if_pos h1))
      · have hs : store nval inlets st a = .ok ⟨st.area ++ [a], st.buf2 ++ [a]⟩ :=
          (if_neg ha).trans ((if_neg h1).trans (if_neg (by omega)))
        rw [hs]
        refine (store_fold nval inlets l _ ?_ ?_).trans (if_congr ?_ ?_ rfl)
        · simp only [List.length_append, List.length_singleton]; omega
        · simp only [List.length_append, List.length_singleton]; push_cast; omega
        · simp only [List.length_append, List.length_singleton]; push_cast; omega
        · simp only [List.append_assoc, List.singleton_append]

theorem foldlM_flatMap {α β σ : Type} (f : α → List β) (step : σ → β → Except Err σ) : ∀ (l : List α) (s : σ),
    (l.flatMap f).foldlM step s = l.foldlM (fun s a => (f a).foldlM step s) s
  | [], _ => rfl
  | a :: l, s => by
    rw [List.flatMap_cons, List.foldlM_append, List.foldlM_cons]
    exact bind_congr fun s' => foldlM_flatMap f step l s'

theorem expandLayer_eq (nval : Int) (inlets : List Int) {area buf1 : List Int}
    (hv : ∀ c ∈ buf1, validCell g.nrows g.ncols c = true) (h : (area.length : Int) ≤ nval - 1) :
    expandLayer codes g nval inlets area buf1 =
      if (area.length : Int) + (buf1.flatMap (upStep codes g inlets)).length ≤ nval - 1 then
        .ok ⟨area ++ buf1.flatMap (upStep codes g inlets), buf1.flatMap (upStep codes g inlets)⟩
      else .error .areaFull := by
  have e : buf1.flatMap (upStep codes g inlets) = buf1.flatMap (upF codes g inlets) :=
    List.flatMap_congr fun c hc => by unfold upStep; exact if_pos (hv c hc)
  rw [e]
  unfold expandLayer expandCell upF
  rw [← foldlM_flatMap, store_fold nval inlets _ _ (Nat.zero_le _) h, List.filter_flatMap]
  rfl

theorem areaLoop_succ {o : Int} (ho : validCell g.nrows g.ncols o = true) (inlets : List Int) (nval : Int)
    (fuel k : Nat) {area : List Int} (h : (area.length : Int) ≤ nval - 1) :
    areaLoop codes g o inlets nval (fuel + 1) k area (Bfs.layer (upStep codes g inlets) o k) =
      if ¬ (area.length : Int) + (Bfs.layer (upStep codes g inlets) o (k + 1)).length ≤ nval - 1 then
        .error .areaFull
      else if Bfs.layer (upStep codes g inlets) o (k + 1) = [] then .ok area
      else if k = 0 ∧ (area.length : Int) + (Bfs.layer (upStep codes g inlets) o (k + 1)).length = nval - 1 then
        .error .outletFull
      else areaLoop codes g o inlets nval fuel (k + 1)
        (area ++ (Bfs.layer (upStep codes g inlets) o (k + 1) ++ if k = 0 then [o] else []))
        (Bfs.layer (upStep codes g inlets) o (k + 1)) := by
  rw [areaLoop, expandLayer_eq nval inlets (layer_valid ho k) h]
  rw [show (Bfs.layer (upStep codes g inlets) o k).flatMap (upStep codes g inlets) =
    Bfs.layer (upStep codes g inlets) o (k + 1) from rfl]
  by_cases hroom : (area.length : Int) + (Bfs.layer (upStep codes g inlets) o (k + 1)).length ≤ nval - 1
  · rw [if_pos hroom, if_neg (not_not.2 hroom)]
    by_cases hnil : Bfs.layer (upStep codes g inlets) o (k + 1) = []
    · simp only [hnil, List.append_nil, if_true]
    · by_cases hk : k = 0
      · subst hk
        simp only [hnil, if_false, if_true, true_and, List.length_append, Nat.cast_add, List.append_assoc]
      · simp only [hnil, hk, if_false, false_and, List.append_nil]
  · rw [if_neg hroom, if_pos hroom]

/-- **what the `while` loop of `c_delineate_area` does**, started at layer `k` with `buffer2 = layer k`: either it
returns `area` followed by all later layers up to the first empty one (the outlet inserted after layer 1), which then
fit below `nval`; or it leaves through a buffer-exhaustion exit, and then they do not fit, wherever the search
would stop. It never runs out of the model's fuel. -/
theorem areaLoop_outcome {o : Int} (ho : validCell g.nrows g.ncols o = true) (inlets : List Int) (nval : Int) :
    ∀ (fuel k : Nat) (area : List Int), (area.length : Int) ≤ nval - 1 → nval - area.length ≤ fuel →
      (∃ A n, areaLoop codes g o inlets nval fuel k area (Bfs.layer (upStep codes g inlets) o k) = .ok A ∧
          k ≤ n ∧ Bfs.layer (upStep codes g inlets) o (n + 1) = [] ∧
          (∀ m, k < m → m ≤ n → Bfs.layer (upStep codes g inlets) o m ≠ []) ∧
          A.Perm (area ++ ((if k = 0 ∧ 1 ≤ n then [o] else []) ++
                    Bfs.layersFrom (upStep codes g inlets) o k (n - k))) ∧ (A.length : Int) ≤ nval - 1) ∨
      (∃ e, areaLoop codes g o inlets nval fuel k area (Bfs.layer (upStep codes g inlets) o k) = .error e ∧
          (e = .areaFull ∨ e = .outletFull) ∧
          ∀ n, k ≤ n → Bfs.layer (upStep codes g inlets) o (n + 1) = [] →
            nval - 1 < area.length + ((if k = 0 ∧ 1 ≤ n then [o] else []) ++
              Bfs.layersFrom (upStep codes g inlets) o k (n - k)).length)
  | 0, k, area, h1, h2 => by exfalso; push_cast at h2; omega
  | fuel + 1, k, area, h1, h2 => by
    rw [areaLoop_succ ho inlets nval fuel k h1]
    -- a search that has a next layer stops later, and what it still has to store begins with that layer
    have hlt : ∀ n, k ≤ n → Bfs.layer (upStep codes g inlets) o (n + 1) = [] →
        Bfs.layer (upStep codes g inlets) o (k + 1) ≠ [] → k < n :=
      fun n hn hstop hnil => lt_of_le_of_ne hn fun e => hnil (e ▸ hstop)
    have hlen := fun n (hkn : k < n) =>
      (Bfs.outlet_layers_succ (upStep codes g inlets) o hkn).length_eq.trans List.length_append
    have hO : (k = 0 ∧ (Bfs.layer (upStep codes g inlets) o (k + 1) ++ if k = 0 then [o] else []).length =
          (Bfs.layer (upStep codes g inlets) o (k + 1)).length + 1) ∨
        (k ≠ 0 ∧ (Bfs.layer (upStep codes g inlets) o (k + 1) ++ if k = 0 then [o] else []).length =
          (Bfs.layer (upStep codes g inlets) o (k + 1)).length) := by
      by_cases hk : k = 0
      · exact Or.inl ⟨hk, by rw [if_pos hk]; exact List.length_append⟩
      · exact Or.inr ⟨hk, by rw [if_neg hk, List.append_nil]⟩
    by_cases hroom : (area.length : Int) + (Bfs.layer (upStep codes g inlets) o (k + 1)).length ≤ nval - 1
    · rw [if_neg (not_not.2 hroom)]
      by_cases hnil : Bfs.layer (upStep codes g inlets) o (k + 1) = []
      · rw [if_pos hnil]
        refine Or.inl ⟨area, k, rfl, le_refl k, hnil, fun m h3 h4 => absurd h4 (not_le.2 h3), ?_, h1⟩
        rw [Nat.sub_self, Bfs.layersFrom_zero, if_neg (by omega), List.append_nil, List.append_nil]
      · rw [if_neg hnil]
        have hpos := List.length_pos_iff.2 hnil
        by_cases hfull : k = 0 ∧ (area.length : Int) + (Bfs.layer (upStep codes g inlets) o (k + 1)).length = nval - 1
        · rw [if_pos hfull]
          refine Or.inr ⟨.outletFull, rfl, Or.inr rfl, fun n hn hstop => ?_⟩
          rw [hlen n (hlt n hn hstop hnil)]
          push_cast; omega
        · rw [if_neg hfull]
          rcases areaLoop_outcome ho inlets nval fuel (k + 1)
              (area ++ (Bfs.layer (upStep codes g inlets) o (k + 1) ++ if k = 0 then [o] else []))
              (by rw [List.length_append]; push_cast; omega)
              (by rw [List.length_append]; push_cast at h2 ⊢; omega) with
            ⟨A, n, e, hkn, hstop, hne, hperm, hA⟩ | ⟨e, he, hk, hno⟩
          · refine Or.inl ⟨A, n, e, by omega, hstop, fun m h3 h4 => ?_, ?_, hA⟩
            · by_cases hm : m = k + 1
              · exact hm ▸ hnil
              · exact hne m (by omega) h4
            · rw [List.append_assoc] at hperm
              exact hperm.trans ((Bfs.outlet_layers_succ _ o hkn).symm.append_left area)
          · refine Or.inr ⟨e, he, hk, fun n hn hstop => ?_⟩
            have := hno n (hlt n hn hstop hnil) hstop
            rw [List.length_append] at this
            rw [hlen n (hlt n hn hstop hnil)]
            push_cast at this ⊢; omega
    · rw [if_pos hroom]
      refine Or.inr ⟨.areaFull, rfl, Or.inl rfl, fun n hn hstop => ?_⟩
      have hnil : Bfs.layer (upStep codes g inlets) o (k + 1) ≠ [] := fun e => hroom (by rw [e]; simpa using h1)
      rw [hlen n (hlt n hn hstop hnil)]
      push_cast; omega

/-- `bufferFull` is listed among the exits here although the loop never takes it (`areaLoop_outcome`: only
`areaFull` / `outletFull`). -/
theorem areaLoop_spec {o : Int} (ho : validCell g.nrows g.ncols o = true)
    (inlets : List Int) (nval : Int) :
    ∀ (fuel k : Nat) (area : List Int), (area.length : Int) ≤ nval - 1 →
      nval - area.length ≤ fuel →
      (∃ A n, areaLoop codes g o inlets nval fuel k area (Bfs.layer (upStep codes g inlets) o k) = .ok A ∧
          k ≤ n ∧ Bfs.layer (upStep codes g inlets) o (n + 1) = [] ∧
          (∀ m, k < m → m ≤ n → Bfs.layer (upStep codes g inlets) o m ≠ []) ∧
          A.Perm (area ++ ((if k = 0 ∧ 1 ≤ n then [o] else []) ++
                    Bfs.layersFrom (upStep codes g inlets) o k (n - k)))) ∨
      (∃ e, areaLoop codes g o inlets nval fuel k area (Bfs.layer (upStep codes g inlets) o k) = .error e ∧
          (e = .areaFull ∨ e = .bufferFull ∨ e = .outletFull)) := by
  intro fuel k area h1 h2
  rcases areaLoop_outcome ho inlets nval fuel k area h1 h2 with ⟨A, n, e, a, b, c, d, -⟩ | ⟨e, he, hk, -⟩
  · exact Or.inl ⟨A, n, e, a, b, c, d⟩
  · exact Or.inr ⟨e, he, hk.elim Or.inl fun h => Or.inr (Or.inr h)⟩

/-! ### what a call of `delineateArea` returns -/

theorem delineateArea_guards (o : Int) (inlets : List Int) (nval : Int) :
    (nval < 1 ∧ delineateArea codes g o inlets nval = .error .badNval) ∨
    (1 ≤ nval ∧ validCell g.nrows g.ncols o = false ∧
      delineateArea codes g o inlets nval = .error .badOutlet) ∨
    (1 ≤ nval ∧ validCell g.nrows g.ncols o = true ∧ (∃ m ∈ inlets, validCell g.nrows g.ncols m = false) ∧
      delineateArea codes g o inlets nval = .error .badInlet) ∨
    (1 ≤ nval ∧ validCell g.nrows g.ncols o = true ∧ (∀ m ∈ inlets, validCell g.nrows g.ncols m = true) ∧
      delineateArea codes g o inlets nval = areaLoop codes g o inlets nval (nval.toNat + 1) 0 [] [o]) := by
  unfold delineateArea
  by_cases h1 : nval < 1
  · exact Or.inl ⟨h1, if_pos h1⟩
  · rw [if_neg h1]
    refine Or.inr ?_
    cases hv : validCell g.nrows g.ncols o
    · exact Or.inl ⟨not_lt.1 h1, rfl, if_pos rfl⟩
    · rw [Bool.not_true, if_neg Bool.false_ne_true]
      refine Or.inr ?_
      by_cases h3 : inlets.any (fun m => !validCell g.nrows g.ncols m) = true
      · obtain ⟨m, hm, hmv⟩ := List.any_eq_true.1 h3
        exact Or.inl ⟨not_lt.1 h1, rfl, ⟨m, hm, by simpa using hmv⟩, if_pos h3⟩
      · refine Or.inr ⟨not_lt.1 h1, rfl, fun m hm => ?_, if_neg h3⟩
        by_contra hmv
        exact h3 (List.any_eq_true.2 ⟨m, hm, by simpa using hmv⟩)

theorem delineateArea_of_valid {o nval : Int} (h1 : 1 ≤ nval)
    (ho : validCell g.nrows g.ncols o = true) (hin : ∀ m ∈ inlets, validCell g.nrows g.ncols m = true) :
    (∃ A n, delineateArea codes g o inlets nval = .ok A ∧
        Bfs.layer (upStep codes g inlets) o (n + 1) = [] ∧
        (∀ m, 0 < m → m ≤ n → Bfs.layer (upStep codes g inlets) o m ≠ []) ∧
        A.Perm (Bfs.found (upStep codes g inlets) o n) ∧
        (A.length : Int) + 1 ≤ nval) ∨
    (∃ e, delineateArea codes g o inlets nval = .error e ∧
        (e = .areaFull ∨ e = .outletFull) ∧
        ∀ n, Bfs.layer (upStep codes g inlets) o (n + 1) = [] →
          nval - 1 < (Bfs.found (upStep codes g inlets) o n).length) := by
  rcases delineateArea_guards (codes := codes) (g := g) o inlets nval with
    ⟨h, _⟩ | ⟨_, h, _⟩ | ⟨_, _, ⟨m, hm, hmv⟩, _⟩ | ⟨_, _, _, e⟩
  · omega
  · rw [ho] at h; cases h
  · rw [hin m hm] at hmv; cases hmv
  · rw [e]
    have hspec := areaLoop_outcome (codes := codes) ho inlets nval (nval.toNat + 1) 0 []
      (by simp; omega) (by simp; omega)
    simp only [true_and, Nat.sub_zero, List.nil_append, List.length_nil, Nat.cast_zero, Int.zero_add] at hspec
    rcases hspec with ⟨A, n, r1, -, r3, r4, r5, r6⟩ | ⟨e, r1, r2, r3⟩
    · exact Or.inl ⟨A, n, r1, r3, r4, r5, by omega⟩
    · exact Or.inr ⟨e, r1, r2, fun n => r3 n (Nat.zero_le n)⟩

/-- a call that returns has passed the three guards and returns, up to order, what the search that stops at its first
empty layer has found; one slot of the work array stays free (`len(area) + 1 ≤ nval`) -/
theorem delineateArea_ok {o nval : Int} {A : List Int}
    (h : delineateArea codes g o inlets nval = .ok A) :
    1 ≤ nval ∧ validCell g.nrows g.ncols o = true ∧ (∀ m ∈ inlets, validCell g.nrows g.ncols m = true) ∧
    ∃ n, Bfs.layer (upStep codes g inlets) o (n + 1) = [] ∧
      (∀ m, 0 < m → m ≤ n → Bfs.layer (upStep codes g inlets) o m ≠ []) ∧
      A.Perm (Bfs.found (upStep codes g inlets) o n) ∧
      (A.length : Int) + 1 ≤ nval := by
  rcases delineateArea_guards (codes := codes) (g := g) o inlets nval with
    ⟨_, e⟩ | ⟨_, _, e⟩ | ⟨_, _, _, e⟩ | ⟨h1, h2, h3, _⟩
  iterate 3 rw [e] at h; cases h
  rcases delineateArea_of_valid (codes := codes) h1 h2 h3 with ⟨A', n, e, r⟩ | ⟨_, e, _⟩
  all_goals rw [e] at h; cases h
  exact ⟨h1, h2, h3, n, r⟩

theorem delineateArea_ok_of_room {o : Int} {nval : Int} (n : Nat)
    (ho : validCell g.nrows g.ncols o = true) (hin : ∀ m ∈ inlets, validCell g.nrows g.ncols m = true)
    (hstop : Bfs.layer (upStep codes g inlets) o (n + 1) = [])
    (hroom : ((Bfs.found (upStep codes g inlets) o n).length : Int) ≤
      nval - 1) :
    ∃ A, delineateArea codes g o inlets nval = .ok A :=
  (delineateArea_of_valid (by omega) ho hin).elim (fun ⟨A, _, e, _⟩ => ⟨A, e⟩)
    fun ⟨_, _, _, hno⟩ => absurd hroom (not_le.2 (hno n hstop))

/-- the cells returned do not depend on the buffer size (the first empty layer does not) -/
theorem delineateArea_ok_perm {o nval nval' : Int} {A A' : List Int}
    (h : delineateArea codes g o inlets nval = .ok A) (h' : delineateArea codes g o inlets nval' = .ok A') :
    A.Perm A' := by
  obtain ⟨-, -, -, n, hstop, hne, hperm, -⟩ := delineateArea_ok h
  obtain ⟨-, -, -, n', hstop', hne', hperm', -⟩ := delineateArea_ok h'
  obtain rfl : n' = n := by
    rcases Nat.lt_trichotomy n' n with hlt | heq | hgt
    · exact absurd hstop' (hne (n' + 1) (by omega) (by omega))
    · exact heq
    · exact absurd hstop (hne' (n + 1) (by omega) (by omega))
  exact hperm.trans hperm'.symm

/-- the Python wrapper's `idxcells[idxcells >= 0]` -/
theorem keepCells_areaBuffer (nval : Int) (area : List Int) (h : ∀ c ∈ area, 0 ≤ c) :
    keepCells (areaBuffer nval area) = area := by
  unfold keepCells areaBuffer
  rw [List.filter_append]
  have h1 : area.filter (fun c => decide (0 ≤ c)) = area := by
    rw [List.filter_eq_self]; intro c hc; simpa using h c hc
  rw [h1, List.filter_replicate_of_neg (by decide), List.append_nil]

/-! ### the downstream chain: `chainCell` is an iterate; walks spelled out along it -/

theorem chainCell_eq_iterate (k : Nat) (c : Int) :
    chainCell codes g k c = (downstreamCell codes g)^[k] c := by
  induction k generalizing c with
  | zero => rfl
  | succ k ih => exact ih (downstreamCell codes g c)

theorem chainCell_succ (k : Nat) (c : Int) :
    chainCell codes g (k + 1) c = downstreamCell codes g (chainCell codes g k c) := by
  rw [chainCell_eq_iterate, chainCell_eq_iterate]
  exact Function.iterate_succ_apply' _ k c

theorem chainCell_succ_valid {c : Int} {i : Nat} (h : 0 ≤ chainCell codes g (i + 1) c) :
    validCell g.nrows g.ncols (chainCell codes g (i + 1) c) = true :=
  chainCell_succ i c ▸ downstreamCell_nonneg_valid (chainCell_succ i c ▸ h)

theorem chainCell_add (a b : Nat) (c : Int) :
    chainCell codes g (a + b) c = chainCell codes g b (chainCell codes g a c) := by
  rw [chainCell_eq_iterate, chainCell_eq_iterate, chainCell_eq_iterate, Nat.add_comm]
  exact Function.iterate_add_apply _ b a c

/-- a chain that stays on the grid for one cell more than the grid has repeats itself: what holds of its first
`nrows * ncols` cells holds of all of them, and every cell `k ≥ i` comes back after `p` steps -/
theorem chainCell_on_grid {c : Int}
    (hv : ∀ k, k ≤ (g.nrows * g.ncols).toNat → validCell g.nrows g.ncols (chainCell codes g k c) = true) :
    (∀ P : Int → Prop, (∀ k, k < (g.nrows * g.ncols).toNat → P (chainCell codes g k c)) →
      ∀ k, P (chainCell codes g k c)) ∧
    ∃ i p, 1 ≤ p ∧ i + p ≤ (g.nrows * g.ncols).toNat ∧
      ∀ k, i ≤ k → chainCell codes g (k + p) c = chainCell codes g k c := by
  simp only [chainCell_eq_iterate] at hv ⊢
  obtain ⟨i, p, hp, hip, e⟩ := Chain.exists_period (fun _ => C07.length_le_of_nodup_validCell) hv
  exact ⟨fun P hP => Chain.forall_iterate_of_period hp e fun k hk => hP k (Nat.lt_of_lt_of_le hk hip),
    i, p, hp, hip, fun k hk => Chain.iterate_add_period e hk⟩

theorem chainSteps_succ_last (diag : Int → Int → Bool) (k : Nat) (c : Int) :
    chainSteps codes g diag (k + 1) c =
      chainSteps codes g diag k c ++ [diag (chainCell codes g k c) (chainCell codes g (k + 1) c)] := by
  induction k generalizing c with
  | zero => rfl
  | succ k ih =>
    show diag c _ :: chainSteps codes g diag (k + 1) _ = _
    rw [ih (downstreamCell codes g c)]
    rfl

theorem chainSteps_length (diag : Int → Int → Bool) (k : Nat) (c : Int) :
    (chainSteps codes g diag k c).length = k := by
  induction k generalizing c with
  | zero => rfl
  | succ k ih => rw [chainSteps, List.length_cons, ih]

theorem reaches_iff : ∀ {k : Nat} {c o : Int},
    Reaches codes g inlets k c o ↔
      (∀ i, i < k → validCell g.nrows g.ncols (chainCell codes g i c) = true ∧ chainCell codes g i c ∉ inlets ∧
        0 ≤ chainCell codes g (i + 1) c) ∧ chainCell codes g k c = o := by
  intro k
  induction k with
  | zero => intro c o; rw [reaches_zero_iff]; simp [chainCell]
  | succ k ih =>
    intro c o
    rw [reaches_succ_iff, ih, Nat.forall_lt_succ_left]
    exact ⟨fun ⟨a, b, c0, h, e⟩ => ⟨⟨⟨a, b, c0⟩, h⟩, e⟩, fun ⟨⟨⟨a, b, c0⟩, h⟩, e⟩ => ⟨a, b, c0, h, e⟩⟩

theorem reaches_suffix {k i : Nat} {c o : Int} (h : Reaches codes g inlets k c o)
    (hi : i ≤ k) : Reaches codes g inlets (k - i) (chainCell codes g i c) o := by
  obtain ⟨hP, e⟩ := reaches_iff.1 h
  exact reaches_iff.2 ⟨fun i' hi' => by rw [← chainCell_add, ← chainCell_add]; exact hP (i + i') (by omega),
    by rw [← chainCell_add, ← e]; congr 1; omega⟩

theorem chainEnds_iff (n : Nat) (c : Int) :
    chainEnds codes g n c = true ↔ ∃ i, i < n ∧ downstreamCell codes g (chainCell codes g i c) < 0 := by
  induction n generalizing c with
  | zero => simp [chainEnds]
  | succ n ih =>
    rw [chainEnds, Nat.exists_lt_succ_left]
    by_cases h : downstreamCell codes g c < 0
    · rw [if_pos h]
      exact ⟨fun _ => Or.inl h, fun _ => rfl⟩
    · rw [if_neg h, ih]
      exact ⟨Or.inr, fun h' => h'.resolve_left h⟩

/-! ### flow cycles on a finite grid, the area by brute force, the first hit of the outlet from a cell of an area -/

theorem mem_gridCells {c : Int} : c ∈ gridCells g ↔ validCell g.nrows g.ncols c = true := by
  unfold gridCells
  simp only [List.mem_map, List.mem_range, validCell_iff_exists_nat]

theorem gridCells_nodup : (gridCells g).Nodup := List.nodup_range.map Int.ofNat_injective

theorem cycle_of_long_walk {o c : Int}
    (hw : Reaches codes g inlets ((g.nrows * g.ncols).toNat + 1) c o) :
    ∃ p, 1 ≤ p ∧ Reaches codes g inlets p o o := by
  obtain ⟨hP, e⟩ := reaches_iff.1 hw
  obtain ⟨hall, i, p, hp, hip, hper⟩ := chainCell_on_grid (codes := codes) (c := c)
    fun k hk => (hP k (Nat.lt_succ_of_le hk)).1
  -- every cell of the chain is left like one of the first `nrows * ncols`, and the outlet lies behind cell `i`
  have hQ := hall (fun d => validCell g.nrows g.ncols d = true ∧ d ∉ inlets ∧ 0 ≤ downstreamCell codes g d)
    fun k hk => chainCell_succ k c ▸ hP k (Nat.lt_succ_of_lt hk)
  refine ⟨p, hp, reaches_iff.2 ⟨fun i' _ => ?_, ?_⟩⟩
  · rw [chainCell_succ, ← e, ← chainCell_add]
    exact hQ _
  · rw [← e, ← chainCell_add]
    exact hper _ (by omega)

theorem exists_stop_of_no_cycle (ht : TableOK codes) (hc : 0 < g.ncols) {o : Int}
    (hno : ¬ ∃ p, 1 ≤ p ∧ Reaches codes g inlets p o o) :
    ∃ n, Bfs.layer (upStep codes g inlets) o (n + 1) = [] := by
  by_contra hall
  have hne : Bfs.layer (upStep codes g inlets) o ((g.nrows * g.ncols).toNat + 1) ≠ [] :=
    fun h => hall ⟨_, h⟩
  obtain ⟨c, hcm⟩ := List.exists_mem_of_ne_nil _ hne
  have inv := upStep_downStep_inv (g := g) ht hc inlets
  have hw := (Bfs.mem_layer_iff (upStep codes g inlets) (downStep codes g inlets) inv o _ c).1 hcm
  exact hno (cycle_of_long_walk hw)

/-- **`chainCyclic` (where the river's outcome is left open) is exactly "the chain from the start never ends"** —
it never reaches a sink, an exit or an invalid code, i.e. (finite grid) it runs into a flow cycle -/
theorem chainCyclic_iff_never_ends {start : Int}
    (hv : validCell g.nrows g.ncols start = true) :
    chainCyclic codes g start = true ↔ ∀ k, 0 ≤ chainCell codes g (k + 1) start := by
  unfold chainCyclic
  rw [hv, Bool.true_and, Bool.not_eq_true', ← Bool.not_eq_true, chainEnds_iff]
  constructor
  · intro hno
    have hstep : ∀ i, i < (g.nrows * g.ncols).toNat + 1 → 0 ≤ chainCell codes g (i + 1) start :=
      fun i hi => not_lt.1 fun h => hno ⟨i, hi, chainCell_succ i start ▸ h⟩
    have hall := (chainCell_on_grid (codes := codes) (c := start) fun i hi => by
      cases i with
      | zero => exact hv
      | succ i => exact chainCell_succ_valid (hstep i (by omega))).1
    intro k
    rw [chainCell_succ]
    exact hall (fun d => 0 ≤ downstreamCell codes g d) (fun i hi => chainCell_succ i start ▸ hstep i (by omega)) k
  · rintro hall ⟨i, _, hd⟩
    exact absurd (hall i) (not_le.2 (chainCell_succ i start ▸ hd))

theorem reachArea_nodup (o : Int) (inlets : List Int) : (reachArea codes g o inlets).Nodup := by
  unfold reachArea
  exact gridCells_nodup.filter _

theorem mem_reachArea {o c : Int} :
    c ∈ reachArea codes g o inlets ↔
      validCell g.nrows g.ncols c = true ∧
        ((c = o ∧ ∃ u, Reaches codes g inlets 1 u o) ∨
          ∃ k, 1 ≤ k ∧ k ≤ (g.nrows * g.ncols).toNat ∧ Reaches codes g inlets k c o) := by
  unfold reachArea
  simp only [List.mem_filter, mem_gridCells, Bool.or_eq_true, Bool.and_eq_true, decide_eq_true_eq,
    List.any_eq_true, List.mem_range]
  constructor
  · rintro ⟨hv, ⟨rfl, u, _, hu⟩ | ⟨k, hk, hr⟩⟩
    · exact ⟨hv, Or.inl ⟨rfl, u, hu⟩⟩
    · exact ⟨hv, Or.inr ⟨k + 1, by omega, by omega, hr⟩⟩
  · rintro ⟨hv, ⟨rfl, u, hu⟩ | ⟨k, hk1, hkN, hr⟩⟩
    · exact ⟨hv, Or.inl ⟨rfl, u, (reaches_succ_iff.1 hu).1, hu⟩⟩
    · obtain ⟨k', rfl⟩ : ∃ k', k = k' + 1 := ⟨k - 1, by omega⟩
      exact ⟨hv, Or.inr ⟨k', by omega, hr⟩⟩

/-- **the flow-path hypotheses hold on a delineated area**: a cell `c ≠ o` of a returned area `A` first meets the
outlet after `k+1` steps with `k+1 < A.length` — it sits in one of the layers `1 .. n`, no later than that layer's
number, and the area holds the outlet and at least one cell of each layer -/
theorem first_hit_of_mem_area (ht : TableOK codes) (hc : 0 < g.ncols) {o nval : Int} {A : List Int}
    (h : delineateArea codes g o inlets nval = .ok A) {c : Int} (hcA : c ∈ A) (hco : c ≠ o) :
    ∃ k, Reaches codes g [] (k + 1) c o ∧ (∀ j, 1 ≤ j → j ≤ k → ¬ Reaches codes g [] j c o) ∧
      k + 1 < A.length := by
  obtain ⟨-, -, -, n, hstop, hne, hperm, -⟩ := delineateArea_ok h
  obtain ⟨m, hm1, hmn, hcm⟩ : ∃ m, 0 < m ∧ m ≤ 0 + n ∧ c ∈ Bfs.layer (upStep codes g inlets) o m := by
    rcases List.mem_append.1 (hperm.mem_iff.1 hcA) with h | h
    · split at h
      · exact absurd (List.mem_singleton.1 h) hco
      · exact absurd h List.not_mem_nil
    · exact (Bfs.mem_layersFrom _ o 0 n c).1 h
  obtain ⟨hP, e⟩ := reaches_iff.1
    ((Bfs.mem_layer_iff _ _ (upStep_downStep_inv ht hc inlets) o m c).1 hcm : Reaches codes g inlets m c o)
  have hrm : Reaches codes g [] m c o :=
    reaches_iff.2 ⟨fun i hi => ⟨(hP i hi).1, List.not_mem_nil, (hP i hi).2.2⟩, e⟩
  have hex : ∃ j, 1 ≤ j ∧ Reaches codes g [] j c o := ⟨m, hm1, hrm⟩
  have hle := Nat.find_min' hex ⟨hm1, hrm⟩
  have hlen : n + 1 ≤ A.length := by
    have := Bfs.le_length_layersFrom (upStep codes g inlets) o n 0 fun m h1 h2 => hne m h1 (by omega)
    rw [hperm.length_eq, Bfs.found, List.length_append, if_pos (by omega : 1 ≤ n), List.length_singleton]
    omega
  refine ⟨Nat.find hex - 1, ?_, fun j hj1 hjk hr => Nat.find_min hex (by omega) ⟨hj1, hr⟩, by omega⟩
  rw [Nat.sub_add_cancel (Nat.find_spec hex).1]
  exact (Nat.find_spec hex).2

/-! ### the river table: cells and displacements (the distance column follows the step lengths below) -/

theorem delineateRiver_eq_ok {α : Type} [Add α] [Mul α] [OfNat α 0] [OfNat α 1] [IntCast α] [Transc α]
    {start nval : Int} {rows : List (RiverRow α)} :
    delineateRiver codes g start nval = .ok rows ↔
      validCell g.nrows g.ncols start = true ∧ riverLoop codes g nval.toNat start 0 0 0 = rows :=
  ite_ok_eq_ok

section River
variable {α : Type} [Add α] [Mul α] [IntCast α] [Transc α]

theorem river_cells : ∀ (n : Nat) (cur : Int) (dist : α) (dx dy : Int),
    (riverLoop codes g n cur dist dx dy).map (·.cell) = chainCells codes g n cur := by
  intro n
  induction n with
  | zero => intro cur dist dx dy; rfl
  | succ n ih =>
    intro cur dist dx dy
    simp only [riverLoop, chainCells]
    split
    · rfl
    · rw [List.map_cons, ih]

/-- the displacement columns: a row stores the displacement the PREVIOUS iteration computed (`dx, dy` on entry for the first
row), i.e. the column / row change between its own cell and the cell of the row before. Stated on the cell column of the
loop itself, zipped with its tail, so that `river_displacements` is this equation at the initial state -/
theorem river_disp : ∀ (n : Nat) (cur : Int) (dist : α) (dx dy : Int),
    (riverLoop codes g n cur dist dx dy).map (fun r => (r.dx, r.dy)) =
      if n = 0 then [] else
        (dx, dy) :: List.zipWith (fun a b => (colOf g.ncols a - colOf g.ncols b, rowOf g.ncols a - rowOf g.ncols b))
          ((riverLoop codes g n cur dist dx dy).map (·.cell))
          ((riverLoop codes g n cur dist dx dy).map (·.cell)).tail := by
  intro n
  induction n with
  | zero => intro cur dist dx dy; rfl
  | succ n ih =>
    intro cur dist dx dy
    rw [if_neg (by omega)]
    simp only [riverLoop]
    split
    · simp
    · have hrec := ih (downstreamCell codes g cur) (dist + hypot dx dy)
        (colOf g.ncols cur - colOf g.ncols (downstreamCell codes g cur))
        (rowOf g.ncols cur - rowOf g.ncols (downstreamCell codes g cur))
      simp only [List.map_cons, List.tail_cons]
      rw [hrec]
      cases n with
      | zero => simp [riverLoop]
      | succ n =>
        rw [if_neg (by omega)]
        -- the rest of the river starts with the downstream cell, which the zip pairs with `cur`
        have hhead : ∃ t, (riverLoop codes g (n + 1) (downstreamCell codes g cur) (dist + hypot dx dy)
            (colOf g.ncols cur - colOf g.ncols (downstreamCell codes g cur))
            (rowOf g.ncols cur - rowOf g.ncols (downstreamCell codes g cur))).map (·.cell) =
            downstreamCell codes g cur :: t := by
          rw [river_cells]; exact ⟨_, rfl⟩
        obtain ⟨t, ht⟩ := hhead
        rw [ht]
        simp

end River

/-! ### one step of the chain: row and column change, diagonal or not, its length; the distance column of the river -/

theorem step_rowcol {c : Int} (h0 : 0 ≤ downstreamCell codes g c) :
    ∃ dx dy : Int, (dx = -1 ∨ dx = 0 ∨ dx = 1) ∧ (dy = -1 ∨ dy = 0 ∨ dy = 1) ∧ ¬ (dx = 0 ∧ dy = 0) ∧
      colOf g.ncols c - colOf g.ncols (downstreamCell codes g c) = dx ∧
      rowOf g.ncols c - rowOf g.ncols (downstreamCell codes g c) = dy := by
  rcases downstreamCell_cases (codes := codes) (g := g) c with ⟨_, h⟩ | ⟨_, _, h⟩ | ⟨_, j, hj, _, h⟩
  · omega
  · omega
  · have hne : neighbour g.nrows g.ncols c j ≠ -1 := by rw [← h]; omega
    obtain ⟨hcen, -⟩ := neighbour_spec rfl hne
    obtain ⟨hr, hcl⟩ := neighbour_rowcol rfl hne
    have rx := nbDx_range j
    have ry := nbDy_range hj
    rw [h]
    exact ⟨-nbDx j, -nbDy j, by omega, by omega, by omega, by omega, by omega⟩

theorem isDiag_eq (ncols a b : Int) : isDiag ncols a b =
    ((colOf ncols a - colOf ncols b != 0) && (rowOf ncols a - rowOf ncols b != 0)) := by
  unfold isDiag
  rw [Bool.eq_iff_iff]
  simp only [Bool.and_eq_true, bne_iff_ne, ne_eq, sub_eq_zero]

theorem step_sqdist {c : Int} (h0 : 0 ≤ downstreamCell codes g c) :
    (colOf g.ncols c - colOf g.ncols (downstreamCell codes g c)) ^ 2 +
      (rowOf g.ncols c - rowOf g.ncols (downstreamCell codes g c)) ^ 2 =
    if isDiag g.ncols c (downstreamCell codes g c) then 2 else 1 := by
  obtain ⟨dx, dy, hx, hy, hcen, ex, ey⟩ := step_rowcol h0
  rw [isDiag_eq, ex, ey]
  revert hcen
  rcases hx with rfl | rfl | rfl <;> rcases hy with rfl | rfl | rfl <;> decide

/-- on every grid that does not have exactly 2 columns, `|Δidx| == 1 || |Δidx| == ncols` classifies the
steps of a chain like the row/column test does -/
theorem isDiagPinned_eq_isDiag (hc : 0 < g.ncols) (h2 : g.ncols ≠ 2) {c : Int}
    (hv : validCell g.nrows g.ncols c = true) (h0 : 0 ≤ downstreamCell codes g c) :
    isDiagPinned g.ncols c (downstreamCell codes g c) = isDiag g.ncols c (downstreamCell codes g c) := by
  obtain ⟨dx, dy, hx, hy, hcen, ex, ey⟩ := step_rowcol h0
  obtain ⟨-, -, -, -, hcc⟩ := valid_rowcol hc hv
  obtain ⟨-, -, -, -, hcd⟩ := valid_rowcol hc (downstreamCell_nonneg_valid h0)
  have e : downstreamCell codes g c - c = -(dy * g.ncols + dx) := by
    rw [← ex, ← ey]
    unfold cellOf at hcc hcd
    linear_combination hcc - hcd
  rw [isDiag_eq, ex, ey, isDiagPinned, e, Bool.eq_iff_iff]
  simp only [Bool.not_eq_true', Bool.or_eq_false_iff, decide_eq_false_iff_not, Bool.and_eq_true,
    bne_iff_ne, ne_eq]
  clear hcc hcd e ex ey hv h0
  generalize g.ncols = n at hc h2 ⊢
  -- the index difference of a diagonal step is `±n ± 1`: never `n`, and `1` only when `n = 2`
  rcases hx with rfl | rfl | rfl <;> rcases hy with rfl | rfl | rfl <;> omega

theorem pathLength_append {α : Type} [Add α] [Mul α] [OfNat α 0] [OfNat α 1] [IntCast α] [Transc α]
    (steps : List Bool) (d : Bool) : (pathLength (steps ++ [d]) : α) = pathLength steps + stepLen d := by
  unfold pathLength; rw [List.foldl_append]; rfl

section Lengths
variable {α : Type} [CommRing α] [Transc α]

theorem pathLength_nil : (pathLength [] : α) = 0 := rfl

/-- the Euclidean step length `sqrt(dx*dx+dy*dy)` of `c_delineate_river` along a step of the chain -/
theorem hypot_step {c : Int} (h0 : 0 ≤ downstreamCell codes g c) :
    (hypot (colOf g.ncols c - colOf g.ncols (downstreamCell codes g c))
        (rowOf g.ncols c - rowOf g.ncols (downstreamCell codes g c)) : α) =
      stepLen (isDiag g.ncols c (downstreamCell codes g c)) := by
  have h := congrArg (Int.cast (R := α)) (step_sqdist (g := g) h0)
  rw [Int.cast_add, Int.cast_pow, Int.cast_pow, pow_two, pow_two] at h
  unfold hypot stepLen
  rw [h]
  split <;> norm_num

theorem river_dists : ∀ (n : Nat) (cur : Int) (pre : List Bool) (dist : α) (dx dy : Int),
    dist + hypot dx dy = pathLength pre →
    (riverLoop codes g n cur dist dx dy).map (·.dist) =
      (List.range (riverLoop codes g n cur dist dx dy).length).map
        (fun i => pathLength (pre ++ chainSteps codes g (isDiag g.ncols) i cur)) := by
  intro n
  induction n with
  | zero => intro cur pre dist dx dy _; rfl
  | succ n ih =>
    intro cur pre dist dx dy hpre
    simp only [riverLoop]
    split
    · simp [chainSteps, hpre]
    · rename_i hneg
      have h0 : 0 ≤ downstreamCell codes g cur := by omega
      have hrec := ih (downstreamCell codes g cur) (pre ++ [isDiag g.ncols cur (downstreamCell codes g cur)])
        (dist + hypot dx dy) _ _ (by rw [pathLength_append, hypot_step h0, hpre])
      rw [List.map_cons, List.length_cons, List.range_succ_eq_map, List.map_cons, List.map_map, hrec]
      congr 1
      · simp [chainSteps, hpre]
      · apply List.map_congr_left
        intro i _
        simp [chainSteps]

end Lengths

end HydroVerif.C06
