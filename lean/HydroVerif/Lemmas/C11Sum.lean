/-
C11 — the commutative part: the left-to-right fold of the kernel as a finite sum over the cells draining
through a cell, the local recurrence over the direct upstream cells, and "no cycle ⇒ every walk ends
before the default cap" (pigeonhole).
-/
import HydroVerif.Lemmas.C11
import HydroVerif.Lemmas.Chain
import Mathlib.Algebra.BigOperators.Group.Finset.Basic
import Mathlib.Data.Finset.Card
import Mathlib.Algebra.Order.BigOperators.Group.Finset

namespace HydroVerif.C11
open HydroVerif.C07

theorem foldl_if_eq_sum {α : Type} [AddCommMonoid α] (p : Nat → Bool) (F : Nat → α) (a : α) (m : Nat) :
    (List.range m).foldl (fun s (i : Nat) => if p i then s + F i else s) a =
      a + ∑ i ∈ (Finset.range m).filter (fun i => p i = true), F i := by
  induction m with
  | zero => simp
  | succ m ih =>
    rw [List.range_succ, List.foldl_append, ih, Finset.range_add_one, Finset.filter_insert]
    simp only [List.foldl_cons, List.foldl_nil]
    by_cases hp : p m = true
    · rw [if_pos hp, if_pos hp, Finset.sum_insert (by simp), add_assoc, add_comm (F m)]
    · rw [if_neg hp, if_neg hp]

variable {g : FlowGrid}

/-! The sets and the hypothesis the sum theorems are stated with. They are finite sets (`Finset`), which the model files do
not import: their computable counterparts, which the driver runs, are `upClosure`, `directUpList` and `allTerminateB` of
`Model/C11.lean` (`mem_upClosure_iff`, `mem_directUpList_iff`, `noCycle_iff_allTerminate` in `Props/C11.lean`). -/

/-- the cells whose downstream chain passes through `c`, `c` itself included -/
noncomputable def drainsThrough (g : FlowGrid) (c : Int) : Finset Nat :=
  open Classical in (Finset.range g.ntot.toNat).filter fun u => ∃ k, iterDn g k (u : Int) = c

/-- the cells whose downstream cell is `c` -/
def directUp (g : FlowGrid) (c : Int) : Finset Nat :=
  (Finset.range g.ntot.toNat).filter fun u => dn g (u : Int) = c

/-- no cell of the grid comes back to itself after `m ≥ 1` downstream steps -/
def NoCycle (g : FlowGrid) : Prop :=
  ∀ c : Int, validCell g.nrows g.ncols c = true → ∀ m, 1 ≤ m → iterDn g m c ≠ c

theorem mem_drainsThrough {c : Int} {u : Nat} :
    u ∈ drainsThrough g c ↔ u < g.ntot.toNat ∧ ∃ k, iterDn g k (u : Int) = c := by
  unfold drainsThrough
  simp

theorem mem_directUp {c : Int} {u : Nat} :
    u ∈ directUp g c ↔ u < g.ntot.toNat ∧ dn g (u : Int) = c := by
  unfold directUp
  simp

theorem drainsThrough_subset (g : FlowGrid) (c : Int) : drainsThrough g c ⊆ Finset.range g.ntot.toNat :=
  fun _ hu => Finset.mem_range.2 (mem_drainsThrough.1 hu).1

theorem sum_drainsThrough_le {c : Int} (G : Nat → Nat) :
    ∑ u ∈ drainsThrough g c, G u ≤ ∑ u ∈ Finset.range g.ntot.toNat, G u :=
  Finset.sum_le_sum_of_subset (drainsThrough_subset g c)

theorem noCycle_of_allTerminate {f : Nat} (hT : AllTerminate g f) : NoCycle g :=
  fun c hv _ hm => no_cycle_of_ends (validCell_iff.1 hv).1 (hT c hv) hm

theorem drainsThrough_eq_insert {fuel : Nat} (hT : AllTerminate g fuel) {c : Int}
    (hv : validCell g.nrows g.ncols c = true) :
    drainsThrough g c =
      insert c.toNat ((Finset.range g.ntot.toNat).filter fun (i : Nat) => onPath g fuel (i : Int) c = true) ∧
    c.toNat ∉ (Finset.range g.ntot.toNat).filter fun (i : Nat) => onPath g fuel (i : Int) c = true := by
  have hc0 := (validCell_iff.1 hv).1
  obtain ⟨hlt, hc⟩ := lt_of_valid hv
  constructor
  · ext u
    rw [mem_drainsThrough, Finset.mem_insert, Finset.mem_filter, Finset.mem_range]
    constructor
    · rintro ⟨hu, k, hk⟩
      cases k with
      | zero => left; simp only [iterDn] at hk; omega
      | succ k =>
        right
        refine ⟨hu, ?_⟩
        rw [onPath_iff_exists (by omega) hc0 (hT _ (valid_of_lt hu))]
        exact ⟨k + 1, by omega, hk⟩
    · rintro (h | ⟨hu, h⟩)
      · subst h; exact ⟨hlt, 0, hc⟩
      · rw [onPath_iff_exists (by omega) hc0 (hT _ (valid_of_lt hu))] at h
        obtain ⟨m, -, hm⟩ := h
        exact ⟨hu, m, hm⟩
  · rw [Finset.mem_filter, not_and, Bool.not_eq_true, hc]
    intro _
    exact onPath_self_false hc0 (hT _ hv)

theorem foldl_onPath_eq_sum {α : Type} [AddCommMonoid α] {fuel : Nat} (hT : AllTerminate g fuel) {c : Int}
    (hv : validCell g.nrows g.ncols c = true) (G : Nat → α) :
    ((List.range g.ntot.toNat).filter fun (u : Nat) => onPath g fuel (u : Int) c).foldl
      (fun s (u : Nat) => s + G u) (G c.toNat) = ∑ u ∈ drainsThrough g c, G u := by
  obtain ⟨e1, e2⟩ := drainsThrough_eq_insert hT hv
  rw [List.foldl_filter, foldl_if_eq_sum, e1, Finset.sum_insert e2]

theorem foldl_onPath_count {fuel : Nat} (hT : AllTerminate g fuel) {c : Int}
    (hv : validCell g.nrows g.ncols c = true) :
    ((List.range g.ntot.toNat).filter fun (u : Nat) => onPath g fuel (u : Int) c).foldl
      (fun (n : Nat) (_ : Nat) => n + 1) 0 = (drainsThrough g c).card - 1 := by
  obtain ⟨e1, e2⟩ := drainsThrough_eq_insert hT hv
  rw [List.foldl_filter, foldl_if_eq_sum, e1, Finset.card_insert_of_notMem e2, ← Finset.card_eq_sum_ones,
    Nat.zero_add, Nat.add_sub_cancel]

theorem NoCycle.acyclic (hnc : NoCycle g) : Chain.Acyclic (dn g) fun c => validCell g.nrows g.ncols c = true :=
  fun c hv m hm => iterDn_eq_iterate g m c ▸ hnc c hv m hm

theorem iterDn_ne_of_lt (hnc : NoCycle g) {x : Int} {a b : Nat} (hab : a < b)
    (hv : validCell g.nrows g.ncols (iterDn g a x) = true) : iterDn g a x ≠ iterDn g b x := by
  rw [iterDn_eq_iterate] at hv
  rw [iterDn_eq_iterate, iterDn_eq_iterate]
  exact hnc.acyclic.iterate_ne hab hv

theorem iterDn_ne_of_ne (hnc : NoCycle g) {x : Int} {a b : Nat} (hab : a ≠ b)
    (hva : validCell g.nrows g.ncols (iterDn g a x) = true) (hvb : validCell g.nrows g.ncols (iterDn g b x) = true) :
    iterDn g a x ≠ iterDn g b x := by
  rcases Nat.lt_or_gt_of_ne hab with h | h
  · exact iterDn_ne_of_lt hnc h hva
  · exact (iterDn_ne_of_lt hnc h hvb).symm

theorem drainsThrough_eq_biUnion (hnc : NoCycle g) {c : Int}
    (hv : validCell g.nrows g.ncols c = true) :
    drainsThrough g c = insert c.toNat ((directUp g c).biUnion fun u => drainsThrough g (u : Int)) ∧
    c.toNat ∉ (directUp g c).biUnion (fun u => drainsThrough g (u : Int)) ∧
    ((directUp g c : Finset Nat) : Set Nat).PairwiseDisjoint (fun u => drainsThrough g (u : Int)) := by
  obtain ⟨hlt, hc⟩ := lt_of_valid hv
  have hc0 := (validCell_iff.1 hv).1
  refine ⟨?_, ?_, ?_⟩
  · ext x
    simp only [Finset.mem_insert, Finset.mem_biUnion, mem_drainsThrough, mem_directUp]
    constructor
    · rintro ⟨hx, k, hk⟩
      cases k with
      | zero => left; simp only [iterDn] at hk; omega
      | succ k =>
        -- the cell reached one step before `c` is a direct upstream cell of `c`
        rw [iterDn_succ] at hk
        obtain ⟨h1, h2⟩ := lt_of_valid (valid_of_dn_nonneg (g := g) (c := iterDn g k (x : Int)) (by rw [hk]; exact hc0))
        exact Or.inr ⟨(iterDn g k (x : Int)).toNat, ⟨h1, by rw [h2]; exact hk⟩, hx, k, by rw [h2]⟩
    · rintro (h | ⟨u, ⟨hu, hdu⟩, hx, k, hk⟩)
      · subst h; exact ⟨hlt, 0, hc⟩
      · exact ⟨hx, k + 1, by rw [iterDn_succ, hk, hdu]⟩
  · simp only [Finset.mem_biUnion, mem_drainsThrough, mem_directUp, not_exists, not_and]
    rintro u ⟨hu, hdu⟩ - k hk
    apply hnc c hv (k + 1) (Nat.succ_pos k)
    rw [hc] at hk
    rw [iterDn_succ, hk, hdu]
  · intro u1 hu1 u2 hu2 hne
    rw [Finset.mem_coe, mem_directUp] at hu1 hu2
    rw [Function.onFun, Finset.disjoint_left]
    intro x hx1 hx2
    obtain ⟨-, a, ha⟩ := mem_drainsThrough.1 hx1
    obtain ⟨-, b, hb⟩ := mem_drainsThrough.1 hx2
    -- both chains are at `c` one step later; without cycles that is the same step
    have hab : a = b := by
      by_contra hab
      refine iterDn_ne_of_ne hnc (x := (x : Int)) (a := a + 1) (b := b + 1) (by omega) ?_ ?_ ?_
      · rw [iterDn_succ, ha, hu1.2]; exact hv
      · rw [iterDn_succ, hb, hu2.2]; exact hv
      · rw [iterDn_succ, iterDn_succ, ha, hb, hu1.2, hu2.2]
    subst hab
    exact hne (Int.ofNat.inj (ha.symm.trans hb))

theorem sum_drainsThrough_eq {α : Type} [AddCommMonoid α] (hnc : NoCycle g)
    {c : Int} (hv : validCell g.nrows g.ncols c = true) (F : Nat → α) :
    ∑ x ∈ drainsThrough g c, F x = F c.toNat + ∑ u ∈ directUp g c, ∑ x ∈ drainsThrough g (u : Int), F x := by
  obtain ⟨e1, e2, e3⟩ := drainsThrough_eq_biUnion hnc hv
  rw [e1, Finset.sum_insert e2, Finset.sum_biUnion e3]

theorem endsAt_none_chain {f : Nat} {x : Int} (h : endsAt g f x = none) :
    ∀ k, k < f → 0 ≤ dn g (iterDn g k x) := by
  induction f generalizing x with
  | zero => intro k hk; omega
  | succ f ih =>
    unfold endsAt at h
    split at h
    · cases h
    · rename_i hd
      intro k hk
      cases k with
      | zero => simp only [iterDn]; omega
      | succ k => rw [iterDn]; exact ih h k (by omega)

/-- without cycles a chain leaves the grid within `ntot` steps (`Chain.Acyclic.exists_not`: pigeonhole), and a walk
that the cap stops has stayed on it -/
theorem allTerminate_of_noCycle (hg : WF g) (hnc : NoCycle g) {fuel : Nat}
    (hfuel : g.ntot.toNat ≤ fuel) : AllTerminate g fuel := by
  intro c hv
  by_contra hnone
  rw [Bool.not_eq_true, Option.isSome_eq_false_iff, Option.isNone_iff_eq_none] at hnone
  have hchain := endsAt_none_chain hnone
  obtain ⟨k, hk, hkv⟩ := hnc.acyclic.exists_not (fun _ => C07.length_le_of_nodup_validCell) c
  have hkf : k ≤ fuel := Nat.le_trans hk hfuel
  apply hkv
  rw [← iterDn_eq_iterate]
  cases k with
  | zero => exact hv
  | succ k =>
    rw [iterDn_succ]
    exact dn_nonneg_valid hg.size_eq (valid_of_dn_nonneg (hchain k hkf)) (hchain k hkf)

end HydroVerif.C11
