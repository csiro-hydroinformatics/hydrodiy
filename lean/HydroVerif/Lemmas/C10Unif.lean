/-
C10 — the uniformity tests over any ordered field: the Cramer-von Mises statistic against its textbook formula, the input
checks of `ADtest` on a sorted sample, `np.interp` into a table, the clamp of the Anderson-Darling p-value.
-/
import HydroVerif.Lemmas.C04
import HydroVerif.Lemmas.Ordered
import HydroVerif.Lemmas.C10List
import Mathlib.Data.List.Sort

namespace HydroVerif.C10

open HydroVerif.C04 (sumL_eq_sum)

section field

variable {α : Type} [Field α] [LinearOrder α]

/-- on a sorted sample the order check cannot fire: only the range error is left -/
theorem adGuards_sorted : ∀ (s : List α), s.Pairwise (· ≤ ·) → ∀ prev, (∀ v ∈ s, v < 0 ∨ prev ≤ v) →
    adGuards prev (s.map some) = if ∀ v ∈ s, 0 ≤ v ∧ v ≤ 1 then none else some .range
  | [], _, _, _ => by simp [adGuards]
  | v :: s, hs, prev, hp => by
    have hs' := List.pairwise_cons.mp hs
    rw [List.map_cons, adGuards]
    by_cases h1 : v < 0 ∨ 1 < v
    · rw [if_pos h1, if_neg]
      intro h
      have hv := h v List.mem_cons_self
      exact h1.elim (not_lt.mpr hv.1) (not_lt.mpr hv.2)
    · have hv : 0 ≤ v ∧ v ≤ 1 := by rwa [not_or, not_lt, not_lt] at h1
      rw [if_neg h1, if_neg ((hp v List.mem_cons_self).elim (fun h => absurd h (not_lt.mpr hv.1)) not_lt.mpr),
        adGuards_sorted s hs'.2 v fun w hw => Or.inr (hs'.1 w hw)]
      simp only [List.forall_mem_cons, hv, and_self, true_and]

variable [IsStrictOrderedRing α]

/-- what is assumed of `np.sort` / `qsort` on NaN-free data: the ascending permutation of the input -/
def SortsAscending (sort : List α → List α) : Prop :=
  ∀ l, (sort l).Perm l ∧ (sort l).Pairwise (· ≤ ·)

/-- textbook Cramér–von Mises statistic on the order statistics `s` (0-based `i`): `1/(12n) + Σ ((2i+1)/(2n) - x_(i))²` -/
def cvmTextbook (s : List α) : α :=
  1 / (12 * (s.length : α))
    + (s.zipIdx.map fun xi => ((2 * ((xi.2 : α) + 1) - 1) / (2 * (s.length : α)) - xi.1) ^ 2).sum

theorem plotPos_eq (n i : ℕ) : plotPos (α := α) n i = (2 * ((i : α) + 1) - 1) / (2 * (n : α)) := by
  unfold plotPos
  have h : 2 * (i + 1) - 1 = 2 * i + 1 := by omega
  rw [h, div_div]
  push_cast; ring

theorem cvmStat_eq {sort : List α → List α} {data : List α} (hlen : (sort data).length = data.length) :
    cvmStat sort data = cvmTextbook (sort data) := by
  unfold cvmStat cvmTextbook
  dsimp only
  rw [sumL_eq_sum, hlen, div_div]
  congr 1
  apply sum_map_congr
  intro xi _
  rw [plotPos_eq]; ring

/-- an entry `ADtest` refuses: NaN, or a number outside `[0, 1]` -/
def BadAD : Option α → Prop
  | none => True
  | some v => v < 0 ∨ 1 < v

/-- what is assumed of `qsort` in `c_ad_test`: a permutation of its input, ascending when no NaN is present -/
def ADSorts (sort : List (Option α) → List (Option α)) : Prop :=
  (∀ data, (sort data).Perm data) ∧
    ∀ xs : List α, ∃ s : List α, sort (xs.map some) = s.map some ∧ s.Perm xs ∧ s.Pairwise (· ≤ ·)

theorem adGuards_of_bad (prev : α) (l : List (Option α)) (h : ∃ x ∈ l, BadAD x) : adGuards prev l ≠ none := by
  fun_induction adGuards prev l with
  | case1 => simp at h
  | case2 => simp
  | case3 => simp
  | case4 => simp
  | case5 prev x rest h1 h2 ih =>
    obtain ⟨y, hy, hb⟩ := h
    rcases List.mem_cons.mp hy with rfl | hm
    · exact absurd hb h1
    · exact ih ⟨y, hm, hb⟩

theorem interpAux_range (x lo hi : α) : ∀ (xs fs : List α) (x0 f0 : α), x0 ≤ x → (lo ≤ f0 ∧ f0 ≤ hi) →
    (∀ f ∈ fs, lo ≤ f ∧ f ≤ hi) → (x0 :: xs).Pairwise (· < ·) →
    lo ≤ interpAux x x0 f0 xs fs ∧ interpAux x x0 f0 xs fs ≤ hi
  | [], _, _, _, _, h0, _, _ => h0
  | _ :: _, [], _, _, _, h0, _, _ => h0
  | x1 :: xs, f1 :: fs, x0, f0, hx, h0, hfs, hpw => by
    have hf1 := hfs f1 List.mem_cons_self
    have hpw' := List.pairwise_cons.mp hpw
    have hd : 0 < x1 - x0 := sub_pos.mpr (hpw'.1 x1 List.mem_cons_self)
    unfold interpAux
    split_ifs with hlt hle
    · exact h0
    · rw [div_mul_eq_mul_div, mul_div_assoc, mul_comm (f1 - f0), add_comm]
      exact Ordered.lerp_mem h0 hf1 (div_nonneg (sub_nonneg.mpr hx) hd.le)
        ((div_le_one hd).mpr (sub_le_sub_right hlt.le x0))
    · exact interpAux_range x lo hi xs fs x1 f1 (not_lt.mp hlt) hf1 (fun f hf => hfs f (List.mem_cons_of_mem _ hf)) hpw'.2

theorem clamp01_range (p : α) : 0 ≤ clamp01 p ∧ clamp01 p ≤ 1 := by
  unfold clamp01
  split_ifs with h1 h2
  · exact ⟨le_rfl, zero_le_one⟩
  · exact ⟨zero_le_one, le_rfl⟩
  · exact ⟨not_lt.mp h1, not_lt.mp h2⟩

end field

end HydroVerif.C10
