/-
C14 — the kernel on the caller's buffer (`loopInto`, `kernelInto`, `pyxVar2h`), call histories (`step`, `run`) and
the stored index (`wallSec`, `obsOfIndex`).  Nothing here uses a law of the arithmetic: the statements hold for
every instance of the model, the `Float` one included.
-/
import HydroVerif.Model.C14
import HydroVerif.Lemmas.History
import Mathlib.Tactic.Common

namespace HydroVerif.C14

section anyarith
variable {α : Type} [Add α] [Sub α] [Mul α] [Div α] [Neg α] [LT α] [DecidableLT α]
  [OfNat α 0] [OfNat α 2] [IntCast α]

/-- The `for` loop on a buffer against the loop as a function: same outcome; the buffer keeps its length; on success
the `n` cells from `i` on are replaced by the `n` values. -/
theorem loopInto_eq (c : Cfg α) (hstart : Int) :
    ∀ (n i : Nat) (suf : Obs α × List (Obs α)) (buf : List (Option α)),
      (loopInto c hstart n i suf buf).1.length = buf.length ∧
      match loop c hstart n i suf with
      | .ok out => out.length = n ∧ (loopInto c hstart n i suf buf).2 = none ∧
          ∀ pre mid post, buf = pre ++ mid ++ post → pre.length = i → mid.length = n →
            (loopInto c hstart n i suf buf).1 = pre ++ out ++ post
      | .error e => (loopInto c hstart n i suf buf).2 = some e := by
  intro n
  induction n with
  | zero =>
    intro i suf buf
    refine ⟨rfl, rfl, rfl, fun pre mid post hb _ hm => ?_⟩
    rw [hb, List.length_eq_zero_iff.1 hm]; rfl
  | succ n ih =>
    intro i suf buf
    rw [loopInto, loop]
    cases hp : period c hstart i suf with
    | error x => exact ⟨List.length_set, rfl⟩
    | ok r =>
      obtain ⟨o, suf'⟩ := r
      dsimp only
      have h := ih (i + 1) suf' (buf.set i o)
      rw [List.length_set] at h
      refine ⟨h.1, ?_⟩
      cases hl : loop c hstart n (i + 1) suf' with
      | error e => rw [hl] at h; exact h.2
      | ok hs =>
        rw [hl] at h
        refine ⟨congrArg (· + 1) h.2.1, h.2.2.1, fun pre mid post hb hpre hm => ?_⟩
        cases mid with
        | nil => cases hm
        | cons x mid =>
          rw [h.2.2.2 (pre ++ [o]) mid post
            (by rw [hb, ← hpre, List.append_assoc pre, List.set_append_right _ _ (Nat.le_refl _), Nat.sub_self]; simp)
            (by rw [List.length_append, hpre]; rfl) (Nat.succ.inj hm)]
          simp

/-- **`c_var2h` on the caller's buffer against the kernel as a function**: same return code; the buffer keeps its
length; on success `nvalh - 1` values are returned and written to `hvalues[0 .. nvalh-2]`, and nothing else is. -/
theorem kernelInto_eq (c : Cfg α) (hstart nvalh : Int) (obs : List (Obs α)) (buf : List (Option α)) :
    (kernelInto c hstart nvalh obs buf).1.length = buf.length ∧
    match kernel c hstart nvalh obs with
    | .ok out => out.length = (nvalh - 1).toNat ∧ (kernelInto c hstart nvalh obs buf).2 = none ∧
        ((nvalh - 1).toNat ≤ buf.length → (kernelInto c hstart nvalh obs buf).1 = out ++ buf.drop out.length)
    | .error e => (kernelInto c hstart nvalh obs buf).2 = some e := by
  rw [kernel, kernelInto]
  by_cases h1 : c.rain < 0 ∨ 1 < c.rain
  · rw [if_pos h1, if_pos h1]; exact ⟨rfl, rfl⟩
  rw [if_neg h1, if_neg h1]
  by_cases h2 : c.P ≠ 1800 ∧ c.P ≠ 3600
  · rw [if_pos h2, if_pos h2]; exact ⟨rfl, rfl⟩
  rw [if_neg h2, if_neg h2]
  cases startScan hstart obs with
  | none => exact ⟨rfl, rfl⟩
  | some suf =>
    dsimp only
    have h := loopInto_eq c hstart (nvalh - 1).toNat 0 suf buf
    refine ⟨h.1, ?_⟩
    cases hl : loop c hstart (nvalh - 1).toNat 0 suf with
    | error e => rw [hl] at h; exact h.2
    | ok out =>
      rw [hl] at h
      refine ⟨h.2.1, h.2.2.1, fun hlen => ?_⟩
      rw [h.2.1]
      exact h.2.2.2 [] (buf.take (nvalh - 1).toNat) (buf.drop (nvalh - 1).toNat)
        (List.take_append_drop _ _).symm rfl (List.length_take_of_le hlen)

theorem kernelInto_of_ok {c : Cfg α} {hstart nvalh : Int} {obs : List (Obs α)} {out : List (Option α)}
    (hk : kernel c hstart nvalh obs = .ok out) (buf : List (Option α)) :
    out.length = (nvalh - 1).toNat ∧ (kernelInto c hstart nvalh obs buf).2 = none ∧
      ((nvalh - 1).toNat ≤ buf.length → (kernelInto c hstart nvalh obs buf).1 = out ++ buf.drop out.length) := by
  have h := (kernelInto_eq c hstart nvalh obs buf).2
  rwa [hk] at h

theorem kernel_length {c : Cfg α} {hstart nvalh : Int} {obs : List (Obs α)} {out : List (Option α)}
    (hk : kernel c hstart nvalh obs = .ok out) : out.length = (nvalh - 1).toNat :=
  (kernelInto_of_ok hk []).1

theorem run_append (s : Bufs α) (l1 l2 : List (Op α)) :
    run s (l1 ++ l2) = ((run (run s l1).1 l2).1, (run s l1).2 ++ (run (run s l1).1 l2).2) :=
  (History.PairTrace.of_eqns (step := step) (fun _ => rfl) fun _ _ _ => rfl).run_append s l1 l2

end anyarith

/-- a wall-clock second `t`, stored in unit `u` as the UTC instant `(t - off) * perSec` with its offset, reads back as `t` -/
theorem wallSec_stored (u : TUnit) (t off : Int) : wallSec u ((t - off) * u.perSec) off = t := by
  unfold wallSec
  have hp : u.perSec ≠ 0 := by cases u <;> decide
  rw [← Int.add_mul, Int.sub_add_cancel, Int.mul_ediv_cancel _ hp]

/-- An index stored in any unit as UTC instants `(t - off) * perSec`, each stamp with its own UTC offset, hands the
kernel the wall-clock seconds `t`. -/
theorem obsOfIndex_stored {α : Type} (u : TUnit) (l : List (Int × Int × Option α)) :
    obsOfIndex u (l.map fun x => ((x.1 - x.2.1) * u.perSec, x.2.1, x.2.2)) = l.map fun x => (x.1, x.2.2) := by
  rw [obsOfIndex, List.map_map]
  exact List.map_congr_left fun x _ => by simp only [Function.comp, wallSec_stored]

end HydroVerif.C14
