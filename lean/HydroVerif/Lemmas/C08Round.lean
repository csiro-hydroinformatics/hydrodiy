/-
C08 — rounding.  Core `Float` is opaque, so statements "true of IEEE doubles" are made over an abstract carrier:

* any carrier whose addition satisfies `x + 0 = x` (no other law): the kernels compute exactly the left-to-right
  specification `red` / `cell` of `Model/C08Spec.lean` — this is the `Float`-evaluated specification the driver runs
  (`flush_accOf`, `hcells_eq` in `Lemmas/C08.lean`);
* `Fl R`: the representable numbers of a rounding operator `R.rnd` on an ordered field (monotone, idempotent,
  `rnd 0 = 0`), with `a + b := rnd (a + b)`, `a / b := rnd (a / b)`, `(n : Fl R) := rnd n` — round-to-nearest (and any
  directed rounding) of IEEE arithmetic is such an operator as long as nothing overflows.  Here are the steps about
  variables (`rnd_nonneg`, `le_rnd`, `Fl.foldl_add_val`) from which `Props/C08.lean` proves sign, domination,
  monotonicity and exactness of the rounded sum.  Its forward error bound `|fl(Σx) − Σx| ≤ ((1+u)^n − 1) Σ|x|` is
  recursive summation (`Round.foldl_rnd_add_err_sum` in `Lemmas/Round.lean`) read through `Fl.foldl_add_val`;
  `pow_one_add_sub_one_le` brings it within `n·2u·Σ|x|`, `abs_sum_map_sub_le` adds up the bounds of several groups
  (both about any ordered commutative ring).

Also here: the C float → int cast `truncQ` (monotone, identity on integers).
-/
import HydroVerif.Lemmas.C08
import Mathlib.Algebra.Order.Ring.Abs
import Mathlib.Data.Rat.Floor

namespace HydroVerif.C08

structure Rounding (α : Type) [Field α] [LinearOrder α] where
  rnd : α → α
  mono : ∀ a b, a ≤ b → rnd a ≤ rnd b
  idem : ∀ a, rnd (rnd a) = rnd a
  zero : rnd 0 = 0

structure Fl {α : Type} [Field α] [LinearOrder α] (R : Rounding α) where
  val : α
  rep : R.rnd val = val

section fl
variable {α : Type} [Field α] [LinearOrder α] {R : Rounding α}

instance : Add (Fl R) := ⟨fun a b => ⟨R.rnd (a.val + b.val), R.idem _⟩⟩
instance : Div (Fl R) := ⟨fun a b => ⟨R.rnd (a.val / b.val), R.idem _⟩⟩
instance : LT (Fl R) := ⟨fun a b => a.val < b.val⟩
instance : DecidableLT (Fl R) := fun a b => inferInstanceAs (Decidable (a.val < b.val))
instance : OfNat (Fl R) 0 := ⟨⟨0, R.zero⟩⟩
instance : NatCast (Fl R) := ⟨fun n => ⟨R.rnd (n : α), R.idem _⟩⟩

theorem Fl.ext {a b : Fl R} (h : a.val = b.val) : a = b := by
  cases a; cases b; simp_all

@[simp] theorem Fl.add_val (a b : Fl R) : (a + b).val = R.rnd (a.val + b.val) := rfl

/-- the one law the kernels' sums need: `rnd (x + 0) = rnd x = x` for a representable `x` -/
theorem Fl.add_zero (x : Fl R) : x + 0 = x := by
  apply Fl.ext
  show R.rnd (x.val + 0) = x.val
  rw [_root_.add_zero, x.rep]

end fl

section
-- stated over the ordered field although each is `rfl`
set_option linter.unusedSectionVars false
variable {α : Type} [Field α] [LinearOrder α] [IsStrictOrderedRing α] {R : Rounding α}
@[simp] theorem Fl.div_val (a b : Fl R) : (a / b).val = R.rnd (a.val / b.val) := rfl
@[simp] theorem Fl.zero_val : (0 : Fl R).val = 0 := rfl
@[simp] theorem Fl.natCast_val (n : Nat) : ((n : Fl R)).val = R.rnd (n : α) := rfl
end

section fl
variable {α : Type} [Field α] [LinearOrder α] {R : Rounding α}

theorem rnd_nonneg {a : α} (h : 0 ≤ a) : 0 ≤ R.rnd a :=
  R.zero ▸ R.mono 0 a h

theorem le_rnd (x : Fl R) {b : α} (h : x.val ≤ b) : x.val ≤ R.rnd b := by
  have := R.mono _ _ h
  rwa [x.rep] at this

theorem Fl.foldl_add_val (v : List (Fl R)) (x : Fl R) :
    (v.foldl (· + ·) x).val = v.foldl (fun s y => R.rnd (s + y.val)) x.val :=
  (List.foldl_hom Fl.val fun _ _ => rfl).symm

end fl

section ring
variable {α : Type} [CommRing α] [LinearOrder α] [IsStrictOrderedRing α]

theorem abs_sum_map_sub_le {ι : Type} (f g e : ι → α) : ∀ l : List ι, (∀ i ∈ l, |f i - g i| ≤ e i) →
    |(l.map f).sum - (l.map g).sum| ≤ (l.map e).sum
  | [], _ => by simp
  | i :: t, h => by
    simp only [List.map_cons, List.sum_cons, add_sub_add_comm]
    exact (abs_add_le _ _).trans (add_le_add (h i (List.mem_cons_self ..))
      (abs_sum_map_sub_le f g e t fun j hj => h j (List.mem_cons_of_mem _ hj)))

theorem abs_sum_map_le {β : Type} (f : β → α) (v : List β) : |(v.map f).sum| ≤ (v.map fun x => |f x|).sum := by
  simpa using abs_sum_map_sub_le f (fun _ => 0) (fun x => |f x|) v (by simp)

theorem pow_one_add_sub_one_le (u : α) (hu : 0 ≤ u) : ∀ (n : Nat), 2 * (n : α) * u ≤ 1 →
    (1 + u) ^ n - 1 ≤ 2 * (n : α) * u
  | 0, _ => by simp
  | n + 1, h => by
    have e : 2 * ((n + 1 : Nat) : α) * u = 2 * (n : α) * u + 2 * u := by rw [Nat.cast_succ]; ring
    rw [e] at h ⊢
    have hle : 2 * (n : α) * u ≤ 1 := le_trans (le_add_of_nonneg_right (mul_nonneg zero_le_two hu)) h
    calc (1 + u) ^ (n + 1) - 1 = ((1 + u) ^ n - 1) * (1 + u) + u := by rw [pow_succ]; ring
      _ ≤ 2 * (n : α) * u * (1 + u) + u :=
        add_le_add_left (mul_le_mul_of_nonneg_right (pow_one_add_sub_one_le u hu n hle) (add_nonneg zero_le_one hu)) u
      _ = 2 * (n : α) * u + 2 * u - u * (1 - 2 * (n : α) * u) := by ring
      _ ≤ _ := sub_le_self _ (mul_nonneg hu (sub_nonneg.mpr hle))

end ring

theorem truncQ_mono (p q : Rat) (h : p ≤ q) : truncQ p ≤ truncQ q := by
  have hf : ∀ r : Rat, r.floor = ⌊r⌋ := fun _ => rfl
  unfold truncQ
  by_cases hp : 0 ≤ p
  · have hq : 0 ≤ q := le_trans hp h
    rw [if_pos hp, if_pos hq, hf, hf]
    exact Int.floor_mono h
  · rw [if_neg hp]
    have hp' : 0 < -p := neg_pos.mpr (not_le.mp hp)
    have h1 : 0 ≤ ⌊-p⌋ := Int.floor_nonneg.mpr hp'.le
    by_cases hq : 0 ≤ q
    · rw [if_pos hq, hf, hf]
      have h2 : 0 ≤ ⌊q⌋ := Int.floor_nonneg.mpr hq
      omega
    · rw [if_neg hq, hf, hf]
      have : ⌊-q⌋ ≤ ⌊-p⌋ := Int.floor_mono (neg_le_neg h)
      omega

theorem truncQ_intCast (n : Int) : truncQ (n : Rat) = n := by
  have hf : ∀ r : Rat, r.floor = ⌊r⌋ := fun _ => rfl
  unfold truncQ
  split
  · rw [hf]; simp
  · rw [hf, ← Int.cast_neg, Int.floor_intCast]; omega

end HydroVerif.C08
