/-
C02 — helper lemmas (none of these is a property statement): "positive derivative on an interval ⇒ strictly
increasing", the `np.where` guard, the derivative `bc'` of the Box-Cox family `bc` of Lemmas/C01Real (BoxCox2 and the
two Yeo-Johnson formulas), `logit` and the `log sinh` of LogSinh (both of Lemmas/C01Real, as are the facts that put the
inner argument of each class in range) composed with an inner function (`logit` through the logarithm of a quotient,
`hasDerivAt_log_div`, which the Softmax coordinates of Lemmas/C02Softmax use too), the odd extension behind BoxCox2sym, `hypot` as
Model/C02 computes it (`Sinh.hypot1_eq`), and Yeo-Johnson on the shifted argument `w` (`YeoJohnson.w_lt`, the derivative and
monotonicity of `fwdW`, the gap at the junction `fwdW_lt_add`).
-/
import HydroVerif.Lemmas.C01Real
import HydroVerif.Lemmas.C01Sliver
import HydroVerif.Model.C02
import Mathlib.Analysis.SpecialFunctions.Pow.Deriv
import Mathlib.Analysis.SpecialFunctions.Log.Deriv
import Mathlib.Analysis.SpecialFunctions.ExpDeriv
import Mathlib.Analysis.SpecialFunctions.Arsinh
import Mathlib.Analysis.SpecialFunctions.Trigonometric.Deriv
import Mathlib.Analysis.Calculus.Deriv.MeanValue
import Mathlib.Analysis.Calculus.Deriv.Inv
import Mathlib.Analysis.Calculus.Deriv.Comp

namespace HydroVerif.C02
open HydroVerif.C01 Set Filter Topology

theorem strictMonoOn_of_hasDerivAt_pos {D : Set ℝ} (hD : Convex ℝ D) {f f' : ℝ → ℝ}
    (h : ∀ x ∈ D, HasDerivAt f (f' x) x) (hpos : ∀ x ∈ D, 0 < f' x) : StrictMonoOn f D :=
  strictMonoOn_of_hasDerivWithinAt_pos hD (fun x hx => (h x hx).continuousAt.continuousWithinAt)
    (fun x hx => (h x (interior_subset hx)).hasDerivWithinAt) (fun x hx => hpos x (interior_subset hx))

theorem guard_true {α : Type} {c : Bool} (h : c = true) (v : α) : C01.guard c v = some v := if_pos h

theorem guard_false {α : Type} {c : Bool} (h : c = false) (v : α) : C01.guard c v = none := by subst h; rfl

theorem guard_eq_some {α : Type} {c : Bool} {v j : α} (h : C01.guard c v = some j) : c = true ∧ v = j := by
  cases c
  · cases h
  · exact ⟨rfl, Option.some.inj h⟩

/-- the shape of every `X.jacobian_spec`: inside the guard the number returned is the positive derivative -/
theorem spec_of_guard {c : Bool} {f : ℝ → ℝ} {j x : ℝ} (hc : c = true) (hpos : 0 < j) (hd : HasDerivAt f j x) :
    ∃ j', C01.guard c j = some j' ∧ 0 < j' ∧ HasDerivAt f j' x :=
  ⟨j, guard_true hc j, hpos, hd⟩

noncomputable def bc' (c : Bool) (k s : ℝ) : ℝ := if c then 1 / s else s ^ (k - 1)

theorem hasDerivAt_bc {c : Bool} {k s : ℝ} (hk : c = false → k ≠ 0) (hs : 0 < s) :
    HasDerivAt (bc c k) (bc' c k s) s := by
  cases c
  · have h : HasDerivAt (fun t : ℝ => (t ^ k - 1) / k) (1 * k * s ^ (k - 1) / k) s :=
      (((hasDerivAt_id' s).rpow_const (Or.inl hs.ne')).sub_const 1).div_const k
    exact h.congr_deriv (by rw [one_mul, mul_div_cancel_left₀ _ (hk rfl)]; rfl)
  · exact (Real.hasDerivAt_log hs.ne').congr_deriv (one_div s).symm

theorem bc'_pos (c : Bool) (k : ℝ) {s : ℝ} (hs : 0 < s) : 0 < bc' c k s := by
  unfold bc'
  split_ifs
  · exact one_div_pos.mpr hs
  · exact Real.rpow_pos_of_pos hs _

theorem BoxCox2.jac_eq_bc' (p : BoxCox2.Params ℝ) (x : ℝ) :
    BoxCox2.jac p x = bc' (!lamBig p.lam) p.lam (x + p.nu) := by
  unfold BoxCox2.jac bc'
  cases lamBig p.lam <;> rfl

/-- the logarithm of a quotient: Logit below, and the coordinate functions of Softmax (Lemmas/C02Softmax) -/
theorem hasDerivAt_log_div {a b : ℝ → ℝ} {a' b' t : ℝ} (ha : HasDerivAt a a' t) (hb : HasDerivAt b b' t)
    (ha0 : a t ≠ 0) (hb0 : b t ≠ 0) : HasDerivAt (fun s => Real.log (a s / b s)) (a' / a t - b' / b t) t := by
  refine ((ha.fun_div hb hb0).log (div_ne_zero ha0 hb0)).congr_deriv ?_
  rw [div_sub_div _ _ ha0 hb0, div_div_eq_mul_div, sq, div_mul_eq_mul_div, mul_div_mul_right _ _ hb0, div_div,
    mul_comm (b t)]

/-- `logit v = log (v / (1 - v))` for `v < 1` (`logit_arg`), and `g'/g + g'/(1-g) = g'/g/(1-g)` -/
theorem hasDerivAt_logit {g : ℝ → ℝ} {g' x : ℝ} (hg : HasDerivAt g g' x) (h0 : 0 < g x) (h1 : g x < 1) :
    HasDerivAt (fun t => logit (g t)) (g' / g x / (1 - g x)) x := by
  have h1v : 1 - g x ≠ 0 := (sub_pos.mpr h1).ne'
  refine ((hasDerivAt_log_div hg (hg.const_sub 1) h0.ne' h1v).congr_deriv ?_).congr_of_eventuallyEq ?_
  · rw [neg_div, sub_neg_eq_add, div_add_div _ _ h0.ne' h1v, mul_comm (g x) g', ← mul_add, sub_add_cancel, mul_one,
      div_div]
  · filter_upwards [hg.continuousAt.eventually (gt_mem_nhds h1)] with t ht
    rw [logit, logit_arg ht]

theorem tanh_pos {w : ℝ} (hw : 0 < w) : 0 < Real.tanh w := by
  rw [Real.tanh_eq_sinh_div_cosh]
  exact div_pos (Real.sinh_pos_iff.mpr hw) (Real.cosh_pos w)

theorem hasDerivAt_logsinh_core {g : ℝ → ℝ} {g' x : ℝ} (hg : HasDerivAt g g' x) (hpos : 0 < g x) :
    HasDerivAt (fun t => lsF (g t)) (1 / Real.tanh (g x) * g') x := by
  refine ((hg.sinh.log (Real.sinh_pos_iff.mpr hpos).ne').congr_deriv ?_).congr_of_eventuallyEq ?_
  · rw [Real.tanh_eq_sinh_div_cosh, one_div_div, div_mul_eq_mul_div]
  · filter_upwards [hg.continuousAt.eventually (lt_mem_nhds hpos)] with t ht using logsinh_eq ht

/-! ### the odd extension `t ↦ sign t · (F |t| − F 0)` of a function on the non-negative half-line: `BoxCox2sym.fwd p`
is `oddExt (BoxCox2.fwd (toBC p))` -/
section OddExt
variable (F : ℝ → ℝ)

noncomputable def oddExt (t : ℝ) : ℝ := sign t * (F (absv t) - F 0)

theorem oddExt_zero : oddExt F 0 = 0 := by rw [oddExt, C01.sign_zero, zero_mul]

theorem oddExt_of_pos {t : ℝ} (ht : 0 < t) : oddExt F t = F t - F 0 := by
  rw [oddExt, C01.sign_pos ht, absv_eq, abs_of_pos ht, one_mul]

theorem oddExt_of_neg {t : ℝ} (ht : t < 0) : oddExt F t = -(F (-t) - F 0) := by
  rw [oddExt, C01.sign_neg ht, absv_eq, abs_of_neg ht, neg_one_mul]

theorem oddExt_of_nonneg {t : ℝ} (ht : 0 ≤ t) : oddExt F t = F t - F 0 := by
  rcases ht.eq_or_lt with rfl | h
  · rw [oddExt_zero, sub_self]
  · exact oddExt_of_pos F h

theorem oddExt_of_nonpos {t : ℝ} (ht : t ≤ 0) : oddExt F t = -(F (-t) - F 0) := by
  rcases ht.eq_or_lt with rfl | h
  · rw [oddExt_zero, neg_zero, sub_self, neg_zero]
  · exact oddExt_of_neg F h

variable {F} {F' x : ℝ}

theorem hasDerivAt_oddExt_of_pos (hx : 0 < x) (h : HasDerivAt F F' x) : HasDerivAt (oddExt F) F' x :=
  (h.sub_const (F 0)).congr_of_eventuallyEq ((eventually_gt_nhds hx).mono fun _ ht => oddExt_of_pos F ht)

theorem hasDerivAt_reflect (h : HasDerivAt F F' (-x)) : HasDerivAt (fun t => -(F (-t) - F 0)) F' x := by
  have h1 := ((h.comp x (hasDerivAt_neg' x)).sub_const (F 0)).neg
  rwa [mul_neg_one, neg_neg] at h1

theorem hasDerivAt_oddExt_of_neg (hx : x < 0) (h : HasDerivAt F F' (-x)) : HasDerivAt (oddExt F) F' x :=
  (hasDerivAt_reflect h).congr_of_eventuallyEq ((eventually_lt_nhds hx).mono fun _ ht => oddExt_of_neg F ht)

/-- at the junction both one-sided derivatives are `F' 0` -/
theorem hasDerivAt_oddExt_zero (h : HasDerivAt F F' 0) : HasDerivAt (oddExt F) F' 0 := by
  have hr : HasDerivWithinAt (oddExt F) F' (Ici 0) 0 :=
    (h.sub_const (F 0)).hasDerivWithinAt.congr (fun _ ht => oddExt_of_nonneg F ht) (oddExt_of_nonneg F le_rfl)
  have hl : HasDerivWithinAt (oddExt F) F' (Iic 0) 0 :=
    (hasDerivAt_reflect (x := 0) (by rwa [neg_zero])).hasDerivWithinAt.congr
      (fun _ ht => oddExt_of_nonpos F ht) (oddExt_of_nonpos F le_rfl)
  have hu := hl.union hr
  rwa [Iic_union_Ici, hasDerivWithinAt_univ] at hu

theorem strictMono_oddExt (hF : StrictMonoOn F (Ioi 0)) (h0 : ∀ t, 0 < t → F 0 < F t) : StrictMono (oddExt F) := by
  intro a b hab
  rcases lt_trichotomy a 0 with ha | rfl | ha
  · rw [oddExt_of_neg F ha]
    have han : -(F (-a) - F 0) < 0 := neg_neg_of_pos (sub_pos.mpr (h0 (-a) (neg_pos.mpr ha)))
    rcases lt_trichotomy b 0 with hb | rfl | hb
    · rw [oddExt_of_neg F hb]
      exact neg_lt_neg (sub_lt_sub_right (hF (neg_pos.mpr hb) (neg_pos.mpr ha) (neg_lt_neg hab)) _)
    · rwa [oddExt_zero]
    · rw [oddExt_of_pos F hb]
      exact han.trans (sub_pos.mpr (h0 b hb))
  · rw [oddExt_zero, oddExt_of_pos F hab]
    exact sub_pos.mpr (h0 b hab)
  · rw [oddExt_of_pos F ha, oddExt_of_pos F (ha.trans hab)]
    exact sub_lt_sub_right (hF ha (ha.trans hab) hab) _

end OddExt

theorem Sinh.hypot1_eq (u : ℝ) : C02.Sinh.hypot1 u = Real.sqrt (1 + u * u) := by
  simp only [C02.Sinh.hypot1, transc_sqrt, absv_eq]
  split_ifs with h
  · rw [one_div, ← mul_inv, ← sq, mul_sqrt_one_add_inv_sq (zero_lt_one.trans h), sq_abs, sq]
  · rfl

theorem YeoJohnson.w_lt (p : YeoJohnson.Params ℝ) (hp : YeoJohnson.admissible p) {x y : ℝ} (h : x < y) :
    p.nu + x * p.scale < p.nu + y * p.scale :=
  (add_lt_add_iff_left p.nu).mpr (mul_lt_mul_of_pos_right h (YeoJohnson.scale_pos p hp))

/-! ### Yeo-Johnson on the shifted argument `w`: the two formulas (`posF`, `negF` of Lemmas/C01Real) are the
kernel at `w + 1` and, reflected, at `-w + 1` -/
namespace YeoJohnson
open HydroVerif.C01.YeoJohnson

theorem jacW_eq (lam w : ℝ) : jacW lam w =
    if eps ≤ w then bc' (isclose0 lam) lam (w + 1) else bc' (isclose2 lam) (2 - lam) (-w + 1) := by
  unfold jacW bc'
  rw [show 2 - lam - 1 = 1 - lam by ring]
  rfl

theorem hasDerivAt_posF (lam w : ℝ) (hw : -1 < w) :
    HasDerivAt (posF lam) (bc' (isclose0 lam) lam (w + 1)) w :=
  HasDerivAt.comp_add_const (f := bc (isclose0 lam) lam) w 1 (hasDerivAt_bc isclose0_false (neg_lt_iff_pos_add.mp hw))

theorem hasDerivAt_negF (lam w : ℝ) (hw : w < 1) :
    HasDerivAt (negF lam) (bc' (isclose2 lam) (2 - lam) (-w + 1)) w := by
  have h := ((hasDerivAt_bc (isclose2_false (lam := lam)) (lt_neg_add_iff_lt.mpr hw)).comp w
    ((hasDerivAt_neg' w).add_const 1)).neg
  rw [mul_neg_one, neg_neg] at h
  exact h.congr_of_eventuallyEq (Eventually.of_forall (negF_eq lam))

/-- `fwdW` agrees with `posF` near every `w > EPS`, with `negF` near every `w < EPS` -/
theorem hasDerivAt_fwdW (lam : ℝ) {w : ℝ} (hw : w ≠ eps) : HasDerivAt (fwdW lam) (jacW lam w) w := by
  rw [jacW_eq]
  rcases lt_or_gt_of_ne hw with h | h
  · rw [if_neg h.not_ge]
    refine (hasDerivAt_negF lam w (h.trans eps_lt_one)).congr_of_eventuallyEq ?_
    filter_upwards [eventually_lt_nhds h] with t ht
    rw [fwdW_eq, if_neg ht.not_ge]
  · rw [if_pos h.le]
    refine (hasDerivAt_posF lam w (by linarith [eps_pos])).congr_of_eventuallyEq ?_
    filter_upwards [eventually_gt_nhds h] with t ht
    rw [fwdW_eq, if_pos ht.le]

theorem jacW_pos (lam w : ℝ) : 0 < jacW lam w := by
  rw [jacW_eq]
  split_ifs with h
  · exact bc'_pos _ _ (add_pos_of_nonneg_of_pos (eps_pos.le.trans h) one_pos)
  · exact bc'_pos _ _ (lt_neg_add_iff_lt.mpr ((not_le.mp h).trans eps_lt_one))

/-- across the junction `w = EPS` the two formulas differ by at most `3 EPS²`: for `w₁ < EPS ≤ w₂` the value can
drop by less than that (for `lam > 1` it does drop, by ≈ `(lam-1) EPS³/3`) -/
theorem fwdW_lt_add {lam : ℝ} (hl1 : -1 ≤ lam) (hl3 : lam ≤ 3) {w1 w2 : ℝ} (h : w1 < w2) :
    fwdW lam w1 < fwdW lam w2 + 3 * eps ^ 2 := by
  have he0 := eps_pos
  have he1 := eps_lt_one
  have hsq : (0 : ℝ) < 3 * eps ^ 2 := mul_pos three_pos (pow_pos he0 2)
  have hm1 : (-1 : ℝ) < eps := neg_one_lt_zero.trans he0
  rw [fwdW_eq, fwdW_eq]
  rcases lt_or_ge w1 eps with h1 | h1
  · rw [if_neg h1.not_ge]
    rcases lt_or_ge w2 eps with h2 | h2
    · rw [if_neg h2.not_ge]
      exact lt_add_of_lt_of_pos (negF_strictMonoOn lam (h1.trans he1) (h2.trans he1) h) hsq
    · rw [if_pos h2]
      have ha : negF lam w1 < negF lam eps := negF_strictMonoOn lam (h1.trans he1) he1 h1
      have hb : posF lam eps ≤ posF lam w2 :=
        (posF_strictMonoOn lam).monotoneOn hm1 (hm1.trans_le h2) h2
      have hc := negF_sub_posF_le hl1 hl3 he0.le (eps_small.trans (by norm_num))
      exact ha.trans_le ((sub_le_iff_le_add'.mp hc).trans ((add_le_add_iff_right _).mpr hb))
  · rw [if_pos h1, if_pos (h1.trans h.le)]
    exact lt_add_of_lt_of_pos (posF_strictMonoOn lam (hm1.trans_le h1) (hm1.trans_le (h1.trans h.le)) h) hsq

end YeoJohnson

end HydroVerif.C02
