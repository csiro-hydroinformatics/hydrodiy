/-
C13, the header text: tokens, `strip`, decimal integers and lines of what `Grid.save` writes; how `from_stream` classifies a
key and files its value; the hypotheses on a grid (`HeaderOK`, `GridOK`) and the edits that keep them. Tables of strings are
evaluated by the kernel alone (`decide +kernel`): the elaborator's evaluator is several times slower on the characters of a
string literal.
-/
import HydroVerif.Lemmas.C13
import HydroVerif.Lemmas.Strip

namespace HydroVerif.C13

abbrev NoBlank (s : Str) : Prop := ∀ c ∈ s, (c == ' ') = false
/-- no python white space in the string -/
abbrev NoSpace (s : Str) : Prop := ∀ c ∈ s, isSpace c = false
abbrev NoNL (s : Str) : Prop := ∀ c ∈ s, c ≠ '\n' ∧ c ≠ '\r'

theorem NoSpace.noBlank {s : Str} (h : NoSpace s) : NoBlank s := by
  intro c hc
  have := h c hc
  simp only [isSpace, Bool.or_eq_false_iff] at this
  exact this.1.1.1.1.1

theorem NoSpace.noNL {s : Str} (h : NoSpace s) : NoNL s := by
  intro c hc
  have := h c hc
  simp only [isSpace, Bool.or_eq_false_iff] at this
  refine ⟨?_, ?_⟩
  · intro e; subst e; exact absurd this.1.1.1.2 (by decide)
  · intro e; subst e; exact absurd this.1.1.2 (by decide)

theorem oneLineAux_noNL (b : Bool) (s : Str) : NoNL (oneLineAux b s) := by
  induction s generalizing b with
  | nil => intro c hc; simp [oneLineAux] at hc
  | cons c s ih =>
    unfold oneLineAux
    split
    · split
      · exact ih true
      · intro x hx
        rcases List.mem_cons.mp hx with rfl | h
        · exact ⟨by decide, by decide⟩
        · exact ih true x h
    · rename_i hc
      intro x hx
      rcases List.mem_cons.mp hx with rfl | h
      · simp only [Bool.or_eq_true, beq_iff_eq, not_or] at hc
        exact hc
      · exact ih false x h

theorem oneLine_noNL (s : Str) : NoNL (oneLine s) := oneLineAux_noNL false s

theorem splitRunsAux_ne_nil (b : Bool) (s : Str) : splitRunsAux b s ≠ [] := by
  induction s generalizing b with
  | nil => simp [splitRunsAux]
  | cons c s ih =>
    unfold splitRunsAux
    split
    · split
      · exact ih true
      · simp
    · split <;> simp

theorem splitRunsAux_token (k rest : Str) (hk : NoBlank k) :
    splitRunsAux false (k ++ ' ' :: rest) = k :: splitRunsAux true rest := by
  induction k with
  | nil => simp [splitRunsAux]
  | cons c k ih =>
    have hc : (c == ' ') = false := hk c (by simp)
    have hk' : NoBlank k := fun x hx => hk x (by simp [hx])
    simp only [List.cons_append, splitRunsAux, hc, Bool.false_eq_true, if_false, ih hk']

theorem splitRunsAux_skip (m : Nat) (rest : Str) :
    splitRunsAux true (List.replicate m ' ' ++ rest) = splitRunsAux true rest := by
  induction m with
  | zero => rfl
  | succ m ih => simp [List.replicate_succ, splitRunsAux, ih]

theorem splitRunsAux_single (s : Str) (hs : NoBlank s) (b : Bool) : splitRunsAux b s = [s] := by
  induction s generalizing b with
  | nil => rfl
  | cons c s ih =>
    have hc : (c == ' ') = false := hs c (by simp)
    have hs' : NoBlank s := fun x hx => hs x (by simp [hx])
    simp only [splitRunsAux, hc, Bool.false_eq_true, if_false, ih hs' false]

theorem replicate_append_cons {β : Type} (m : Nat) (a : β) (t : List β) :
    List.replicate m a ++ a :: t = a :: (List.replicate m a ++ t) := by
  induction m with
  | zero => rfl
  | succ m ih => simp [List.replicate_succ, ih]

theorem splitRuns_fmtLine_head (w : Nat) (key val : Str) (hk : NoBlank key) :
    splitRuns (fmtLine w key val) = key :: splitRunsAux true (val ++ ['\n']) := by
  unfold splitRuns fmtLine ljust
  rw [List.append_assoc, replicate_append_cons, splitRunsAux_token _ _ hk, splitRunsAux_skip]

theorem splitRuns_fmtLine (w : Nat) (key val : Str) (hk : NoBlank key) (hv : NoBlank val) :
    splitRuns (fmtLine w key val) = [key, val ++ ['\n']] := by
  rw [splitRuns_fmtLine_head w key val hk, splitRunsAux_single]
  intro c hc
  rcases List.mem_append.mp hc with h | h
  · exact hv c h
  · simp at h; subst h; decide

theorem strip_token_nl (v : Str) (hv : NoSpace v) : strip (v ++ ['\n']) = v := Strip.strip_concat isSpace hv rfl

theorem strip_noSpace (v : Str) (hv : NoSpace v) : strip v = v := Strip.strip_eq_self isSpace hv

theorem natStr_isDigit (n : Nat) : ∀ c ∈ natStr n, c.isDigit = true :=
  fun _ hc => Nat.isDigit_of_mem_toDigits (by decide) (by decide) hc

theorem natStr_ne_nil (n : Nat) : natStr n ≠ [] := Nat.toDigits_ne_nil

theorem not_isSpace_of_isDigit {c : Char} (h : c.isDigit = true) : isSpace c = false := by
  cases hs : isSpace c with
  | false => rfl
  | true =>
    simp only [isSpace, Bool.or_eq_true, beq_iff_eq] at hs
    rcases hs with ((((rfl | rfl) | rfl) | rfl) | rfl) | rfl <;> exact absurd h (by decide)

theorem parseNat?_natStr (n : Nat) : parseNat? (natStr n) = some n := by
  unfold parseNat?
  rw [if_pos ⟨natStr_ne_nil n, List.all_eq_true.mpr (natStr_isDigit n)⟩]
  simp [natStr]

theorem natStr_noSpace (n : Nat) : NoSpace (natStr n) :=
  fun c hc => not_isSpace_of_isDigit (natStr_isDigit n c hc)

theorem intStr_natCast (n : Nat) : intStr (n : Int) = natStr n := by
  unfold intStr
  rw [if_neg (by omega)]
  simp

theorem natStr_head (n : Nat) : ∃ d r, natStr n = d :: r ∧ d.isDigit = true := by
  cases h : natStr n with
  | nil => exact absurd h (natStr_ne_nil n)
  | cons d r => exact ⟨d, r, rfl, natStr_isDigit n d (by rw [h]; simp)⟩

theorem parseInt?_natStr (n : Nat) : parseInt? (natStr n) = some (n : Int) := by
  obtain ⟨d, r, hdr, hd⟩ := natStr_head n
  have h1 : d ≠ '-' := by rintro rfl; exact absurd hd (by decide)
  have h2 : d ≠ '+' := by rintro rfl; exact absurd hd (by decide)
  have hp := parseNat?_natStr n
  rw [hdr] at hp ⊢
  unfold parseInt?
  split
  · rename_i heq; simp at heq; exact absurd heq.1 h1
  · rename_i heq; simp at heq; exact absurd heq.1 h2
  · rw [hp]; rfl

theorem parseInt?_intStr (i : Int) : parseInt? (intStr i) = some i := by
  unfold intStr
  split
  · rename_i h
    simp [parseInt?, parseNat?_natStr]
    omega
  · rename_i h
    rw [parseInt?_natStr]
    congr 1; omega

theorem intStr_noSpace (i : Int) : NoSpace (intStr i) := by
  unfold intStr
  split
  · intro c hc
    rcases List.mem_cons.mp hc with rfl | h
    · decide
    · exact natStr_noSpace _ c h
  · exact natStr_noSpace _

theorem readlinesAux_step (cur s : Str) (c : Char) (h1 : c ≠ '\n') (h2 : c ≠ '\r') :
    readlinesAux cur (c :: s) = readlinesAux (c :: cur) s := by
  rw [readlinesAux]
  · intro h; exact h1 h
  · intro s' h; exact absurd h h2
  · intro h; exact h2 h

theorem readlinesAux_line (cur l rest : Str) (hl : NoNL l) :
    readlinesAux cur (l ++ '\n' :: rest) = (cur.reverse ++ l ++ ['\n']) :: readlinesAux [] rest := by
  induction l generalizing cur with
  | nil => simp [readlinesAux]
  | cons c l ih =>
    have hc := hl c (by simp)
    have hl' : NoNL l := fun x hx => hl x (by simp [hx])
    rw [List.cons_append, readlinesAux_step _ _ _ hc.1 hc.2, ih _ hl']
    simp

theorem readlines_fmtLine (w : Nat) (key val rest : Str) (hk : NoNL key) (hv : NoNL val) :
    readlines (fmtLine w key val ++ rest) = fmtLine w key val :: readlines rest := by
  unfold readlines
  have e : fmtLine w key val ++ rest = (ljust w key ++ ' ' :: val) ++ '\n' :: rest := by
    simp [fmtLine]
  rw [e, readlinesAux_line [] _ _ ?_]
  · simp [fmtLine]
  · intro c hc
    rcases List.mem_append.mp hc with h | h
    · unfold ljust at h
      rcases List.mem_append.mp h with h | h
      · exact hk c h
      · have := (List.mem_replicate.mp h).2; subst this; exact ⟨by decide, by decide⟩
    · rcases List.mem_cons.mp h with rfl | h
      · exact ⟨by decide, by decide⟩
      · exact hv c h

/-- what is assumed of the external float printing / reading -/
structure IOok {ν : Type} (io : NumIO ν) : Prop where
  showF_token : ∀ x, NoSpace (io.showF x)
  read_show : ∀ x, io.readF (io.showF x) = some x

/-! How `from_stream` classifies the key `K` of a written line (`K` holds no white space, so it is the first token and
takes no part in line splitting). `k` is the key in lower case, under which the value is filed. One proposition per class, so that one evaluation settles
a concrete key. -/

/-- read with `int()` -/
abbrev IntKey (K k : Str) : Prop := NoSpace K ∧ lower K = k ∧ textKeys.contains k = false ∧ isIntKey k = true
/-- read with `float()` -/
abbrev NumKey (K k : Str) : Prop :=
  NoSpace K ∧ lower K = k ∧ textKeys.contains k = false ∧ isIntKey k = false ∧ startsWith k "nodata".toList = false
/-- the rest of the line is kept as text -/
abbrev TextKey (K k : Str) : Prop := NoSpace K ∧ lower K = k ∧ textKeys.contains k = true
/-- read with `int()`, then with `float()` -/
abbrev NodataKey (K k : Str) : Prop :=
  NoSpace K ∧ lower K = k ∧ textKeys.contains k = false ∧ isIntKey k = false ∧ startsWith k "nodata".toList = true
/-- a parent attribute, whichever of `int()` / `float()` reads it -/
abbrev ParentKey (K k : Str) : Prop :=
  NoSpace K ∧ lower K = k ∧ textKeys.contains k = false ∧ startsWith k "parent".toList = true ∧
    startsWith k "nodata".toList = false

theorem parseLine_nodata {ν : Type} (io : NumIO ν) (c : Config ν) (w : Nat) (K s : Str) {k : Str}
    (hK : NodataKey K k) (hs : NoSpace s) :
    parseLine io c (fmtLine w K s) = .ok (match parseInt? s with
      | some n => c.setNodata k (.int n)
      | none => match io.readF s with
        | some x => c.setNodata k (.num x)
        | none => c) := by
  obtain ⟨hs', rfl, hK⟩ := hK
  unfold parseLine
  rw [splitRuns_fmtLine w K _ hs'.noBlank hs.noBlank]
  simp only [List.headD_cons, hK.1, Bool.false_eq_true, if_false, List.tail_cons, strip_token_nl _ hs, hK.2.1, hK.2.2,
    if_true]
  cases parseInt? s with
  | some n => rfl
  | none => cases io.readF s <;> rfl

theorem parseLine_parent {ν : Type} (io : NumIO ν) (c : Config ν) (w : Nat) (K v : Str) {k : Str}
    (hK : ParentKey K k) : ∃ p, parseLine io c (fmtLine w K v) = .ok { c with parent := p } := by
  obtain ⟨hs, rfl, htext, hp, hnd⟩ := hK
  unfold parseLine
  rw [splitRuns_fmtLine_head w K _ hs.noBlank]
  simp only [List.headD_cons, htext, Bool.false_eq_true, if_false, List.tail_cons]
  obtain ⟨t1, ts, hts⟩ : ∃ t1 ts, splitRunsAux true (v ++ ['\n']) = t1 :: ts := by
    cases h : splitRunsAux true (v ++ ['\n']) with
    | nil => exact absurd h (splitRunsAux_ne_nil _ _)
    | cons t1 ts => exact ⟨t1, ts, rfl⟩
  rw [hts]
  simp only [hnd, Bool.false_eq_true, if_false]
  split
  · split
    · rename_i n _; exact ⟨dictSet c.parent (lower K) (.int n), by simp only [Config.setInt, hp, if_true]⟩
    · exact ⟨c.parent, rfl⟩
  · split
    · rename_i x _; exact ⟨dictSet c.parent (lower K) (.num x), by simp only [Config.setNum, hp, if_true]⟩
    · exact ⟨c.parent, rfl⟩

theorem parseLine_cases {ν : Type} (io : NumIO ν) (c c' : Config ν) (l : Str) (h : parseLine io c l = .ok c') :
    c' = c ∨ (∃ k v, c' = c.setText k v) ∨ (∃ k n, c' = c.setInt k n) ∨ (∃ k v, c' = c.setNodata k v) ∨
      ∃ k x, c' = c.setNum k x := by
  unfold parseLine at h
  generalize splitRuns l = toks at h
  dsimp only at h
  split at h
  · exact .inr (.inl ⟨_, _, (Except.ok.inj h).symm⟩)
  · split at h
    · cases h
    · split at h
      · split at h
        · exact .inr (.inr (.inl ⟨_, _, (Except.ok.inj h).symm⟩))
        · exact .inl (Except.ok.inj h).symm
      · split at h
        · split at h
          · exact .inr (.inr (.inr (.inl ⟨_, _, (Except.ok.inj h).symm⟩)))
          · split at h
            · exact .inr (.inr (.inr (.inl ⟨_, _, (Except.ok.inj h).symm⟩)))
            · exact .inl (Except.ok.inj h).symm
        · split at h
          · exact .inr (.inr (.inr (.inr ⟨_, _, (Except.ok.inj h).symm⟩)))
          · exact .inl (Except.ok.inj h).symm

theorem parseLines_line {ν : Type} (io : NumIO ν) {c c' : Config ν} {w : Nat} {K v rest : Str} (hK : NoNL K) (hv : NoNL v)
    (h : parseLine io c (fmtLine w K v) = .ok c') :
    parseLines io c (readlines (fmtLine w K v ++ rest)) = parseLines io c' (readlines rest) := by
  rw [readlines_fmtLine w K v rest hK hv]
  simp only [parseLines, h]

theorem parseLines_int {ν : Type} (io : NumIO ν) {c : Config ν} {w : Nat} {K k : Str} {n : Int} {rest : Str}
    (hK : IntKey K k) :
    parseLines io c (readlines (fmtLine w K (intStr n) ++ rest)) = parseLines io (c.setInt k n) (readlines rest) := by
  refine parseLines_line io hK.1.noNL (intStr_noSpace n).noNL ?_
  obtain ⟨hs, rfl, hK⟩ := hK
  unfold parseLine
  rw [splitRuns_fmtLine w K _ hs.noBlank (intStr_noSpace n).noBlank]
  simp only [List.headD_cons, hK.1, Bool.false_eq_true, if_false, List.tail_cons,
    strip_token_nl _ (intStr_noSpace n), hK.2, if_true, parseInt?_intStr]

theorem parseLines_num {ν : Type} (io : NumIO ν) (hio : IOok io) {c : Config ν} {w : Nat} {K k : Str} {x : ν} {rest : Str}
    (hK : NumKey K k) :
    parseLines io c (readlines (fmtLine w K (io.showF x) ++ rest)) = parseLines io (c.setNum k x) (readlines rest) := by
  refine parseLines_line io hK.1.noNL (hio.showF_token x).noNL ?_
  obtain ⟨hs, rfl, hK⟩ := hK
  unfold parseLine
  rw [splitRuns_fmtLine w K _ hs.noBlank (hio.showF_token x).noBlank]
  simp only [List.headD_cons, hK.1, Bool.false_eq_true, if_false, List.tail_cons,
    strip_token_nl _ (hio.showF_token x), hK.2.1, hK.2.2, hio.read_show]

theorem parseLines_text {ν : Type} (io : NumIO ν) {c : Config ν} {w : Nat} {K v rest k : Str}
    (hK : TextKey K k) (hv : NoNL v) :
    parseLines io c (readlines (fmtLine w K v ++ rest)) =
      parseLines io (c.setText k (lower (strip (joinSp (splitRunsAux true (v ++ ['\n'])))))) (readlines rest) := by
  refine parseLines_line io hK.1.noNL hv ?_
  obtain ⟨hs, rfl, hK⟩ := hK
  unfold parseLine
  rw [splitRuns_fmtLine_head w K _ hs.noBlank]
  simp only [List.headD_cons, hK, if_true, List.tail_cons]

/-- the last summand of `writeHeaderBO`, with the list of attributes as a parameter to induct on -/
def parentBlock {ν : Type} (io : NumIO ν) (parent : List (Str × PVal ν)) (as : List Str) : Str :=
  as.flatMap fun a =>
    match lookup parent a with
    | some v => fmtLine 22 (upper a) (v.str io)
    | none => []

/-- every parent attribute `save` writes is read back as a parent key -/
theorem parentAttrs_ok : ∀ a ∈ parentAttrs, ParentKey (upper a) (lower (upper a)) := by
  decide +kernel

theorem parseLines_parentBlock {ν : Type} (io : NumIO ν) (parent : List (Str × PVal ν))
    (as : List Str) (hv : ∀ a ∈ as, ∀ v, lookup parent a = some v → NoNL (v.str io))
    (has : ∀ a ∈ as, ParentKey (upper a) (lower (upper a))) (c : Config ν) :
    ∃ p, parseLines io c (readlines (parentBlock io parent as)) = .ok { c with parent := p } := by
  induction as generalizing c with
  | nil => exact ⟨c.parent, rfl⟩
  | cons a as ih =>
    have hK := has a (by simp)
    have has' := fun x hx => has x (List.mem_cons_of_mem a hx)
    have hv' := fun x hx => hv x (List.mem_cons_of_mem a hx)
    unfold parentBlock
    rw [List.flatMap_cons]
    cases hl : lookup parent a with
    | none => exact ih hv' has' c
    | some v =>
      obtain ⟨p, hp⟩ := parseLine_parent io c 22 (upper a) (v.str io) hK
      obtain ⟨p', hp'⟩ := ih hv' has' { c with parent := p }
      exact ⟨p', (parseLines_line io hK.1.noNL (hv a (by simp) v hl) hp).trans hp'⟩

/-- the pixel type `save` finds for a dtype, by kind: `pixelTypeOfName (stripTrailingDigits (dtypeName t))` (`header_dtype_table`) -/
def pixOf : Kind → Str
  | .int => "signedint".toList | .uint => "unsignedint".toList | .float => "float".toList

theorem headerKeys_ok : IntKey "NROWS".toList "nrows".toList ∧ IntKey "NCOLS".toList "ncols".toList ∧
    NumKey "XLLCORNER".toList "xllcorner".toList ∧ NumKey "YLLCORNER".toList "yllcorner".toList ∧
    NumKey "CELLSIZE".toList "cellsize".toList ∧ IntKey "NBITS".toList "nbits".toList ∧
    TextKey "PIXELTYPE".toList "pixeltype".toList ∧ TextKey "BYTEORDER".toList "byteorder".toList ∧
    TextKey "NAME".toList "name".toList ∧ TextKey "COMMENT".toList "comment".toList := by
  decide +kernel

/-- the value `from_stream` stores for the BYTEORDER letter -/
def boKey : ByteOrder → Str
  | .big => "m".toList
  | .little => "i".toList

theorem byteorder_line (bo : ByteOrder) :
    lower (strip (joinSp (splitRunsAux true (boLetter bo ++ ['\n'])))) = boKey bo := by
  cases bo <;> decide +kernel

/-- what is assumed of numpy about a float no-data value: it prints without white space, not as an integer literal, and
`floatN(float(str(s))) == s`. Nothing is assumed for the integer types (the hypothesis is void there: their text is produced
and parsed by the model, see `nodata_line`) -/
def NodataPrintable {ν : Type} (io : NumIO ν) (t : DType) (w : Nat) : Prop :=
  t.kind = .float → NoSpace (io.showW t w) ∧ parseInt? (io.showW t w) = none ∧
    ∃ y, io.readF (io.showW t w) = some y ∧ io.castW t y = some w

structure HeaderOK {ν : Type} (io : NumIO ν) (g : Grid ν) : Prop where
  supported : g.dtype ∈ allDTypes
  nodata_lt : g.nodata < wordBound g.dtype
  nrows_nonneg : 0 ≤ g.nrows
  ncols_nonneg : 0 ≤ g.ncols
  /-- a text-valued attribute among those `save` writes (none is created by this module: `set_parent_attributes` stores
  numbers under these eight names; the parent's NAME is not written) is a single line -/
  parent_text : ∀ a ∈ parentAttrs, ∀ s, lookup g.parent a = some (.text s) → NoNL s
  nodata_printable : NodataPrintable io g.dtype g.nodata

theorem nodata_line {ν : Type} (io : NumIO ν) (t : DType) (w : Nat) (hw : w < wordBound t)
    (hp : NodataPrintable io t w) :
    ∃ v, (∀ c : Config ν, parseLine io c (fmtLine 14 "NODATA_VALUE".toList (nodataStr io t w)) =
        .ok { c with nodataValue := some v }) ∧
      nodataWord io t v = .ok w ∧ NoNL (nodataStr io t w) := by
  have hK : NodataKey "NODATA_VALUE".toList "nodata_value".toList := by decide +kernel
  have hset : ∀ (c : Config ν) v, c.setNodata "nodata_value".toList v = { c with nodataValue := some v } := fun c v => by
    rw [Config.setNodata, if_neg (by decide +kernel), if_pos rfl]
  by_cases hk : t.kind = .float
  · obtain ⟨n1, n2, y, n3, n4⟩ := hp hk
    have hs : nodataStr io t w = io.showW t w := by simp only [nodataStr, hk]
    rw [hs]
    exact ⟨.num y, fun c => by simp only [parseLine_nodata io c 14 _ _ hK n1, n2, n3, hset],
      by simp only [nodataWord, n4], n1.noNL⟩
  · have hs : nodataStr io t w = intStr (toInt t w) := by
      unfold nodataStr
      cases h : t.kind <;> first | rfl | exact absurd h hk
    have hword : nodataWord io t (.int (toInt t w)) = .ok w := by
      unfold nodataWord
      cases h : t.kind <;>
        first | exact absurd h hk | simp only [intInRange_toInt t w hw, if_true, ofInt_toInt t w hw]
    rw [hs]
    exact ⟨.int (toInt t w), fun c => by simp only [parseLine_nodata io c 14 _ _ hK (intStr_noSpace _), parseInt?_intStr, hset],
      hword, (intStr_noSpace _).noNL⟩

section SetLemmas
variable {ν : Type} (c : Config ν)

theorem setText_parent (k v : Str) : (c.setText k v).parent = c.parent := by
  simp only [Config.setText, apply_ite Config.parent, ite_self]
theorem setNodata_parent (k : Str) (v : NVal ν) : (c.setNodata k v).parent = c.parent := by
  simp only [Config.setNodata, apply_ite Config.parent, ite_self]
theorem setInt_parent (k : Str) (n : Int) :
    (c.setInt k n).parent = if startsWith k "parent".toList then dictSet c.parent k (.int n) else c.parent := by
  simp only [Config.setInt, apply_ite Config.parent, ite_self]
theorem setNum_parent (k : Str) (x : ν) :
    (c.setNum k x).parent = if startsWith k "parent".toList then dictSet c.parent k (.num x) else c.parent := by
  simp only [Config.setNum, apply_ite Config.parent, ite_self]

theorem setInt_nrows (n : Int) : c.setInt "nrows".toList n = { c with nrows := some n } := by
  rw [Config.setInt, if_neg (by decide +kernel), if_pos rfl]
theorem setInt_ncols (n : Int) : c.setInt "ncols".toList n = { c with ncols := some n } := by
  rw [Config.setInt, if_neg (by decide +kernel), if_neg (by decide +kernel), if_pos rfl]
theorem setInt_nbits (n : Int) : c.setInt "nbits".toList n = { c with nbits := n } := by
  rw [Config.setInt, if_neg (by decide +kernel), if_neg (by decide +kernel), if_neg (by decide +kernel), if_pos rfl]
theorem setNum_xll (x : ν) : c.setNum "xllcorner".toList x = { c with xll := x } := by
  rw [Config.setNum, if_neg (by decide +kernel), if_pos rfl]
theorem setNum_yll (x : ν) : c.setNum "yllcorner".toList x = { c with yll := x } := by
  rw [Config.setNum, if_neg (by decide +kernel), if_neg (by decide +kernel), if_pos rfl]
theorem setNum_csz (x : ν) : c.setNum "cellsize".toList x = { c with csz := x } := by
  rw [Config.setNum, if_neg (by decide +kernel), if_neg (by decide +kernel), if_neg (by decide +kernel), if_pos rfl]
theorem setText_pixeltype (v : Str) : c.setText "pixeltype".toList v = { c with pixeltype := v } := by
  rw [Config.setText, if_pos rfl]
theorem setText_byteorder (v : Str) : c.setText "byteorder".toList v = { c with byteorder := v } := by
  rw [Config.setText, if_neg (by decide +kernel), if_pos rfl]
theorem setText_comment (v : Str) : c.setText "comment".toList v = { c with comment := v } := by
  rw [Config.setText, if_neg (by decide +kernel), if_neg (by decide +kernel), if_pos rfl]
theorem setText_name (v : Str) : c.setText "name".toList v = { c with name := v } := by
  rw [Config.setText, if_neg (by decide +kernel), if_neg (by decide +kernel), if_neg (by decide +kernel), if_pos rfl]
end SetLemmas

/-- a grid as the property quantifies over it: admissible header fields, an `nrows × ncols` array of words of the
grid's dtype (any `mindata/maxdata`) -/
structure GridOK {ν : Type} (io : NumIO ν) (g : Grid ν) : Prop where
  header : HeaderOK io g
  rows : (g.data.length : Int) = g.nrows
  cols : ∀ r ∈ g.data, (r.length : Int) = g.ncols
  words : ∀ r ∈ g.data, ∀ w ∈ r, w < wordBound g.dtype

theorem setFlat_length (rows : List (List Nat)) (idx w : Nat) : (setFlat rows idx w).length = rows.length := by
  induction rows generalizing idx with
  | nil => rfl
  | cons r rs ih =>
    unfold setFlat
    split
    · simp
    · simp [ih]

theorem setFlat_rows (rows : List (List Nat)) (idx w : Nat) (P : List Nat → Prop)
    (hP : ∀ r ∈ rows, P r) (hset : ∀ r i, P r → P (r.set i w)) : ∀ r ∈ setFlat rows idx w, P r := by
  induction rows generalizing idx with
  | nil => intro r hr; simp [setFlat] at hr
  | cons r0 rs ih =>
    have h0 := hP r0 (by simp)
    have hrs : ∀ r ∈ rs, P r := fun r hr => hP r (by simp [hr])
    unfold setFlat
    split
    · intro r hr
      rcases List.mem_cons.mp hr with rfl | h
      · exact hset _ _ h0
      · exact hrs r h
    · intro r hr
      rcases List.mem_cons.mp hr with rfl | h
      · exact h0
      · exact ih _ hrs r h

/-- an edit the property's quantifier allows on grid `g`: words of the grid's dtype, arrays of the grid's shape,
a no-data value representable (and printable) in the dtype; anything for name, comment and georeferencing. A data
re-assignment is admissible only on a grid with the default bounds (`g.lo = g.hi = none`): then the setter stores the array as
given, and the edit-level theorems need nothing about `_clipdata` (histories with `mindata`/`maxdata` calls are those of `Op`/`run`) -/
def EditOK {ν : Type} (io : NumIO ν) (g : Grid ν) : Edit ν → Prop
  | .item _ w => w < wordBound g.dtype
  | .fill w => w < wordBound g.dtype
  | .data rows => g.lo = none ∧ g.hi = none ∧ (rows.length : Int) = g.nrows ∧ (∀ r ∈ rows, (r.length : Int) = g.ncols) ∧
      ∀ r ∈ rows, ∀ w ∈ r, w < wordBound g.dtype
  | .nodata w => w < wordBound g.dtype ∧ NodataPrintable io g.dtype w
  | _ => True

/-- what no edit changes: dtype, shape, bounds and parent attributes (so `EditOK` transfers along a history) -/
def SameFrame {ν : Type} (g g' : Grid ν) : Prop :=
  g'.dtype = g.dtype ∧ g'.nrows = g.nrows ∧ g'.ncols = g.ncols ∧ g'.lo = g.lo ∧ g'.hi = g.hi ∧ g'.parent = g.parent

theorem editOK_frame {ν : Type} (io : NumIO ν) (g g' : Grid ν) (h : SameFrame g g') (e : Edit ν) (he : EditOK io g e) :
    EditOK io g' e := by
  obtain ⟨h1, h2, h3, h4, h5, _⟩ := h
  cases e <;> simp only [EditOK, h1, h2, h3, h4, h5] at he ⊢ <;> exact he

theorem header_of {ν : Type} {io : NumIO ν} {g g' : Grid ν} (h : HeaderOK io g) (h1 : g'.dtype = g.dtype := by rfl)
    (h2 : g'.nodata = g.nodata := by rfl) (h3 : g'.nrows = g.nrows := by rfl) (h4 : g'.ncols = g.ncols := by rfl)
    (h5 : g'.parent = g.parent := by rfl) :
    HeaderOK io g' :=
  ⟨by rw [h1]; exact h.supported, by rw [h1, h2]; exact h.nodata_lt, by rw [h3]; exact h.nrows_nonneg,
   by rw [h4]; exact h.ncols_nonneg, by rw [h5]; exact h.parent_text, by rw [h1, h2]; exact h.nodata_printable⟩

theorem gridOK_mapData {ν : Type} (io : NumIO ν) (g : Grid ν) (hg : GridOK io g) (f : Nat → Nat)
    (hf : ∀ w, w < wordBound g.dtype → f w < wordBound g.dtype) :
    GridOK io { g with data := g.data.map fun r => r.map f } := by
  refine ⟨header_of hg.header, ?_, ?_, ?_⟩
  · simpa using hg.rows
  · intro r hr
    obtain ⟨r0, h0, rfl⟩ := List.mem_map.mp hr
    simpa using hg.cols r0 h0
  · intro r hr x hx
    obtain ⟨r0, h0, rfl⟩ := List.mem_map.mp hr
    obtain ⟨x0, hx0, rfl⟩ := List.mem_map.mp hx
    exact hf x0 (hg.words r0 h0 x0 hx0)

theorem applyEdit_ok {ν : Type} (io : NumIO ν) (g : Grid ν) (hg : GridOK io g) (e : Edit ν) (he : EditOK io g e) :
    ∃ g', applyEdit g e = .ok g' ∧ GridOK io g' ∧ SameFrame g g' := by
  obtain ⟨hh, hr, hc, hw⟩ := hg
  cases e with
  | item idx w =>
    refine ⟨_, rfl, ⟨header_of hh, ?_, ?_, ?_⟩,
      rfl, rfl, rfl, rfl, rfl, rfl⟩
    · show ((setFlat g.data idx w).length : Int) = g.nrows
      rw [setFlat_length]; exact hr
    · exact setFlat_rows g.data idx w (fun r => (r.length : Int) = g.ncols) hc (by intro r i h; simpa using h)
    · exact setFlat_rows g.data idx w (fun r => ∀ x ∈ r, x < wordBound g.dtype) hw (by
        intro r i h x hx
        rcases List.mem_or_eq_of_mem_set hx with h1 | h1
        · exact h x h1
        · rw [h1]; exact he)
  | fill w =>
    exact ⟨_, rfl, gridOK_mapData io g ⟨hh, hr, hc, hw⟩ (fun _ => w) (fun _ _ => he), rfl, rfl, rfl, rfl, rfl, rfl⟩
  | data rows =>
    obtain ⟨e1, e2, e3, e4, e5⟩ := he
    refine ⟨{ g with data := rows }, setData_id' g rows ⟨e1, e2⟩ e3 e4,
      ⟨header_of hh, e3, e4, e5⟩,
      rfl, rfl, rfl, rfl, rfl, rfl⟩
  | name _ | comment _ | georef _ _ _ =>
    exact ⟨_, rfl, ⟨header_of hh, hr, hc, hw⟩, rfl, rfl, rfl, rfl, rfl, rfl⟩
  | nodata w =>
    exact ⟨_, rfl, ⟨⟨hh.supported, he.1, hh.nrows_nonneg, hh.ncols_nonneg, hh.parent_text, he.2⟩, hr, hc, hw⟩,
      rfl, rfl, rfl, rfl, rfl, rfl⟩

end HydroVerif.C13
