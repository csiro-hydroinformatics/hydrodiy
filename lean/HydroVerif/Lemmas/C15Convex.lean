/-
C15 — lemmas for the convex-polygon theorem: for a strictly convex polygon the even-odd answer is
"strictly on the inner side of every edge". A point strictly inside meets exactly one edge going up and one going down at
its level; a point not strictly left of some edge is separated from the polygon by the line of that edge
(`evenOdd_false_of_side`).
-/
import HydroVerif.Lemmas.C15Direction

namespace HydroVerif.C15

theorem parity_at_most_one {β : Type} {g : β → Bool} {l : List β} {e : β} (hnd : l.Nodup) (he : e ∈ l)
    (huniq : ∀ b ∈ l, g b = true → b = e) : parity (l.map g) = g e := by
  obtain ⟨l1, l2, rfl⟩ := List.append_of_mem he
  have hnot : e ∉ l1 ++ l2 := (List.nodup_cons.mp (List.nodup_middle.mp hnd)).1
  have hfalse : ∀ b ∈ l1 ++ l2, g b = false := fun b hb => Bool.eq_false_iff.mpr fun hg =>
    hnot (huniq b (by simp only [List.mem_append, List.mem_cons] at hb ⊢; tauto) hg ▸ hb)
  rw [List.map_append, parity_append, List.map_cons, parity,
    parity_map_false fun b hb => hfalse b (List.mem_append_left _ hb),
    parity_map_false fun b hb => hfalse b (List.mem_append_right _ hb), Bool.xor_false, Bool.false_xor]

theorem parity_and_unique {β : Type} {g h : β → Bool} {l : List β} {e : β} (hnd : l.Nodup) (he : e ∈ l)
    (huniq : ∀ b ∈ l, g b = true → b = e) : parity (l.map fun b => g b && h b) = (g e && h e) :=
  parity_at_most_one hnd he fun b hb hgb => huniq b hb (by rw [Bool.and_eq_true] at hgb; exact hgb.1)

/-! lists: the edges of distinct vertices are distinct; a list rotated to start at a given member; a member where a key is least -/

section lists
variable {β : Type}

theorem edges_nodup {poly : List (β × β)} (h : poly.Nodup) : (edges poly).Nodup :=
  List.Nodup.of_map Prod.fst (by rw [edges_fst]; exact h)


theorem exists_rotate_head {γ : Type} {l : List γ} {v : γ} (hv : v ∈ l) :
    ∃ (k : Nat) (t : List γ), l.rotate k = v :: t := by
  obtain ⟨a, b, rfl⟩ := List.append_of_mem hv
  exact ⟨a.length, b ++ a, List.rotate_append_length_eq a (v :: b)⟩

theorem exists_min_mem {γ : Type} [LinearOrder γ] (f : β → γ) : ∀ {l : List β}, l ≠ [] →
    ∃ v ∈ l, ∀ w ∈ l, f v ≤ f w
  | [], h => absurd rfl h
  | [a], _ => ⟨a, by simp, by simp⟩
  | a :: b :: t, _ => by
    obtain ⟨v, hv, hmin⟩ := exists_min_mem f (l := b :: t) (by simp)
    rcases le_total (f a) (f v) with h | h
    · exact ⟨a, List.mem_cons_self, List.forall_mem_cons.mpr ⟨le_rfl, fun w hw => h.trans (hmin w hw)⟩⟩
    · exact ⟨v, List.mem_cons_of_mem _ hv, List.forall_mem_cons.mpr ⟨h, hmin⟩⟩

end lists

/-! along the closed cycle a vertex predicate that takes both values switches on some edge -/

section walk
variable {β : Type} (s : β × β → Bool)

theorem exists_switch_from {l : List (β × β)} : ∀ {p : β × β}, s p = true → (∃ q ∈ l, s q = false) →
    ∃ e ∈ edgesFrom p l, s e.1 = true ∧ s e.2 = false := by
  induction l with
  | nil => intro p _ ⟨q, hq, _⟩; simp at hq
  | cons c t ih =>
    intro p hp ⟨q, hq, hsq⟩
    cases hc : s c
    · exact ⟨(p, c), by simp [edgesFrom], hp, hc⟩
    · rcases List.mem_cons.mp hq with rfl | hqt
      · rw [hc] at hsq; cases hsq
      · obtain ⟨e, he, h⟩ := ih hc ⟨q, hqt, hsq⟩
        exact ⟨e, by simp [edgesFrom, he], h⟩

theorem exists_switch_cycle {poly : List (β × β)} (h1 : ∃ v ∈ poly, s v = true) (h2 : ∃ w ∈ poly, s w = false) :
    ∃ e ∈ edges poly, s e.1 = true ∧ s e.2 = false := by
  obtain ⟨v, hv, hsv⟩ := h1
  obtain ⟨w, hw, hsw⟩ := h2
  obtain ⟨k, t, hk⟩ := exists_rotate_head hv
  have hwt : w ∈ t := by
    have : w ∈ v :: t := by rw [← hk]; exact List.mem_rotate.mpr hw
    rcases List.mem_cons.mp this with rfl | h
    · rw [hsv] at hsw; cases hsw
    · exact h
  obtain ⟨e, he, h⟩ := exists_switch_from s hsv ⟨w, List.mem_append_left _ hwt, hsw⟩
  exact ⟨e, (edges_rotate_perm poly k).subset (by rw [hk]; exact he), h⟩

end walk

section order
variable {α : Type} [LinearOrder α]

theorem exists_up_down {poly : List (α × α)} {y : α} (hv : ∃ v ∈ poly, below y v.2 = true)
    (hw : ∃ w ∈ poly, below y w.2 = false) :
    ∃ e ∈ edges poly, ∃ f ∈ edges poly, isUp y e.1 e.2 = true ∧ isDown y f.1 f.2 = true := by
  obtain ⟨e, he, h1, h2⟩ := exists_switch_cycle (fun q : α × α => below y q.2) hv hw
  obtain ⟨f, hf, h3, h4⟩ := exists_switch_cycle (fun q : α × α => !below y q.2)
    (hw.imp fun w h => ⟨h.1, by simp [h.2]⟩) (hv.imp fun v h => ⟨h.1, by simp [h.2]⟩)
  exact ⟨e, he, f, hf, by simpa [isUp] using And.intro h1 h2, by simpa [isDown] using And.intro h3 h4⟩

end order

section identities
variable {α : Type} [Field α]

theorem cross_affine (p1 p2 a b : α × α) (t : α) :
    cross p1 p2 (a.1 + t * (b.1 - a.1), a.2 + t * (b.2 - a.2)) =
      (1 - t) * cross p1 p2 a + t * cross p1 p2 b := by
  unfold cross; ring

/-- the heights of `u` and `w` over the corner vertex `v`, weighted by the signed areas of `P` with the two sides, give the
height of `P` over `v` times the signed area of the corner: the identity behind `corner_low` / `corner_high` -/
theorem corner_identity (u v w P : α × α) :
    (u.2 - v.2) * cross v w P + (w.2 - v.2) * cross u v P = (P.2 - v.2) * cross u v w := by
  unfold cross; ring

end identities

variable {α : Type} [Field α] [LinearOrder α]

/-- every vertex other than the end points of an edge lies strictly left of it: strictly convex, counter-clockwise -/
def StrictConvexCCW (poly : List (α × α)) : Prop :=
  ∀ e ∈ edges poly, ∀ v ∈ poly, v ≠ e.1 → v ≠ e.2 → 0 < cross e.1 e.2 v

/-- strictly on the inner (left) side of every edge -/
def LeftOfAll (poly : List (α × α)) (pt : α × α) : Prop := ∀ e ∈ edges poly, 0 < cross e.1 e.2 pt

theorem convex_nonneg {poly : List (α × α)} (hcv : StrictConvexCCW poly) {e : (α × α) × (α × α)}
    (he : e ∈ edges poly) {v : α × α} (hv : v ∈ poly) : 0 ≤ cross e.1 e.2 v := by
  by_cases h1 : v = e.1
  · rw [h1]; unfold cross; ring_nf; rfl
  by_cases h2 : v = e.2
  · rw [h2]; unfold cross; ring_nf; rfl
  exact (hcv e he v hv h1 h2).le

theorem crossR_split (x y : α) (p1 p2 : α × α) :
    crossR x y p1 p2 = xor (isUp y p1 p2 && decide (x < xint y p1 p2)) (isDown y p1 p2 && decide (x < xint y p1 p2)) := by
  unfold crossR straddle isUp isDown
  cases below y p1.2 <;> cases below y p2.2 <;> cases decide (x < xint y p1 p2) <;> rfl

theorem edge_ne_of_convex {poly : List (α × α)} (hn : 2 ≤ poly.length) (hnd : poly.Nodup)
    (hcv : StrictConvexCCW poly) {g : (α × α) × (α × α)} (hg : g ∈ edges poly) : g.1 ≠ g.2 := fun h => by
  -- a degenerate edge has every vertex on it
  have hz : ∀ v ∈ poly, v = g.1 := fun v hv => by
    by_contra hv1
    have := hcv g hg v hv hv1 (h ▸ hv1)
    rw [← h] at this
    unfold cross at this
    rw [sub_self, sub_self, zero_mul, zero_mul, sub_self] at this
    exact lt_irrefl 0 this
  match poly, hn, hnd, hz with
  | a :: b :: t, _, hnd, hz =>
    exact (List.nodup_cons.mp hnd).1
      (by rw [hz a List.mem_cons_self, ← hz b (List.mem_cons_of_mem _ List.mem_cons_self)]; exact List.mem_cons_self)

variable [IsStrictOrderedRing α]

/-- the level point of another straddled edge `e'` is a convex combination of its two end points, both left of `e`
(strictly, unless shared with `e`); `h12`, `h21` exclude the two shared-vertex cases in which the weight of the strict
one could vanish -/
theorem level_point_pos {poly : List (α × α)} (hnd : poly.Nodup) (hcv : StrictConvexCCW poly) {y : α}
    {e e' : (α × α) × (α × α)} (he : e ∈ edges poly) (he' : e' ∈ edges poly) (hne : e ≠ e') (h12 : e'.1 ≠ e.2)
    (h21 : e'.2 ≠ e.1) (hs' : straddle y e'.1 e'.2 = true) : 0 < cross e.1 e.2 (xint y e'.1 e'.2, y) := by
  obtain ⟨t0, t1⟩ := tpar_mem hs'
  have c1 := hcv e he e'.1 (mem_edges he').1 (fun h => hne (List.inj_on_of_nodup_map (by rw [edges_fst]; exact hnd) he he' h.symm)) h12
  have c2 := hcv e he e'.2 (mem_edges he').2 h21 (fun h => hne (List.inj_on_of_nodup_map (by rw [edges_snd]; exact List.nodup_rotate.mpr hnd) he he' h.symm))
  rw [level_point hs', cross_affine]
  rcases t0.eq_or_lt with h | h
  · rw [← h, sub_zero, one_mul, zero_mul, add_zero]; exact c1
  · exact add_pos_of_nonneg_of_pos (mul_nonneg (sub_nonneg.mpr t1) c1.le) (mul_pos h c2)

/-- two edges going up through the same level would each have its level point strictly left of the other -/
theorem up_edge_unique {poly : List (α × α)} (hnd : poly.Nodup) (hcv : StrictConvexCCW poly) {y : α}
    {e e' : (α × α) × (α × α)} (he : e ∈ edges poly) (he' : e' ∈ edges poly)
    (hu : isUp y e.1 e.2 = true) (hu' : isUp y e'.1 e'.2 = true) : e = e' := by
  by_contra hne
  obtain ⟨a1, a2⟩ := isUp_iff.mp hu
  obtain ⟨b1, b2⟩ := isUp_iff.mp hu'
  have q' := level_point_pos hnd hcv he he' hne (fun h => not_lt.mpr a2 (h ▸ b1 : e.2.2 < y))
    (fun h => not_lt.mpr (h ▸ b2 : y ≤ e.1.2) a1) (isUp_straddle hu')
  have q := level_point_pos hnd hcv he' he (Ne.symm hne) (fun h => not_lt.mpr b2 (h ▸ a1 : e'.2.2 < y))
    (fun h => not_lt.mpr (h ▸ a2 : y ≤ e'.1.2) b1) (isUp_straddle hu)
  rw [cross_pos_up hu] at q'
  rw [cross_pos_up hu'] at q
  exact lt_asymm q q'

/-- the same with the inequalities mirrored -/
theorem down_edge_unique {poly : List (α × α)} (hnd : poly.Nodup) (hcv : StrictConvexCCW poly) {y : α}
    {e e' : (α × α) × (α × α)} (he : e ∈ edges poly) (he' : e' ∈ edges poly)
    (hu : isDown y e.1 e.2 = true) (hu' : isDown y e'.1 e'.2 = true) : e = e' := by
  by_contra hne
  obtain ⟨a1, a2⟩ := isDown_iff.mp hu
  obtain ⟨b1, b2⟩ := isDown_iff.mp hu'
  have q' := level_point_pos hnd hcv he he' hne (fun h => not_lt.mpr (h ▸ b2 : y ≤ e.2.2) a1)
    (fun h => not_lt.mpr a2 (h ▸ b1 : e.1.2 < y)) (isDown_straddle hu')
  have q := level_point_pos hnd hcv he' he (Ne.symm hne) (fun h => not_lt.mpr (h ▸ a2 : y ≤ e'.2.2) b1)
    (fun h => not_lt.mpr b2 (h ▸ a1 : e'.1.2 < y)) (isDown_straddle hu)
  rw [cross_pos_down hu] at q'
  rw [cross_pos_down hu'] at q
  exact lt_asymm q q'

/-- a point strictly inside the corner `u v w` (left of both sides) cannot lie at or below its vertex `v` when `v` is the
lowest of the three: by `corner_identity` the left side would be positive, the right side not. Hence a point left of
all edges has a vertex strictly below it (`exists_below_of_leftOfAll`) -/
theorem corner_low {u v w P : α × α} (A : 0 < cross v w P) (B : 0 < cross u v P) (C : 0 < cross u v w)
    (hu : v.2 ≤ u.2) (hw : v.2 ≤ w.2) (hP : P.2 ≤ v.2) : False := by
  -- `u` and `w` are not both level with `v`: the corner would be flat
  have hne : u.2 ≠ v.2 ∨ w.2 ≠ v.2 := by
    by_contra h
    push Not at h
    apply C.ne'
    unfold cross; rw [h.1, h.2]; ring
  have hL : 0 < (u.2 - v.2) * cross v w P + (w.2 - v.2) * cross u v P := by
    rcases hne with h | h
    · exact add_pos_of_pos_of_nonneg (mul_pos (sub_pos.mpr (lt_of_le_of_ne hu h.symm)) A)
        (mul_nonneg (sub_nonneg.mpr hw) B.le)
    · exact add_pos_of_nonneg_of_pos (mul_nonneg (sub_nonneg.mpr hu) A.le)
        (mul_pos (sub_pos.mpr (lt_of_le_of_ne hw h.symm)) B)
  rw [corner_identity] at hL
  exact not_lt.mpr (mul_nonpos_of_nonpos_of_nonneg (sub_nonpos.mpr hP) C.le) hL

/-- … nor strictly above `v` when `v` is the highest: some vertex is not below the point (`exists_notBelow_of_leftOfAll`) -/
theorem corner_high {u v w P : α × α} (A : 0 < cross v w P) (B : 0 < cross u v P) (C : 0 < cross u v w)
    (hu : u.2 ≤ v.2) (hw : w.2 ≤ v.2) (hP : v.2 < P.2) : False := by
  have h := mul_pos (sub_pos.mpr hP) C
  rw [← corner_identity] at h
  exact not_lt.mpr (add_nonpos (mul_nonpos_of_nonpos_of_nonneg (sub_nonpos.mpr hu) A.le)
    (mul_nonpos_of_nonpos_of_nonneg (sub_nonpos.mpr hw) B.le)) h

theorem exists_corner {poly : List (α × α)} {pt v : α × α} (hcv : StrictConvexCCW poly)
    (hleft : LeftOfAll poly pt) (hv : v ∈ poly) : ∃ u ∈ poly, ∃ w ∈ poly,
      0 < cross v w pt ∧ 0 < cross u v pt ∧ 0 < cross u v w := by
  obtain ⟨e1, he1, rfl⟩ : ∃ e1 ∈ edges poly, e1.2 = v :=
    List.mem_map.mp (by rw [edges_snd]; exact List.mem_rotate.mpr hv)
  obtain ⟨e2, he2, h2⟩ : ∃ e2 ∈ edges poly, e2.1 = e1.2 := List.mem_map.mp (by rw [edges_fst]; exact hv)
  have A := hleft e2 he2
  have B := hleft e1 he1
  rw [h2] at A
  refine ⟨e1.1, (mem_edges he1).1, e2.2, (mem_edges he2).2, A, B, hcv e1 he1 _ (mem_edges he2).2 (fun h => ?_) (fun h => ?_)⟩
  · rw [h, cross_swap] at A; exact lt_asymm B (neg_pos.mp A)
  · rw [h] at A; unfold cross at A; simp at A

theorem exists_below_of_leftOfAll {poly : List (α × α)} {pt : α × α} (hne : poly ≠ [])
    (hcv : StrictConvexCCW poly) (hleft : LeftOfAll poly pt) : ∃ v ∈ poly, below pt.2 v.2 = true := by
  by_contra hc
  push Not at hc
  obtain ⟨v, hv, hmin⟩ := exists_min_mem (fun q : α × α => q.2) hne
  obtain ⟨u, hu, w, hw, A, B, C⟩ := exists_corner hcv hleft hv
  exact corner_low A B C (hmin u hu) (hmin w hw) (by simpa [below] using hc v hv)

theorem exists_notBelow_of_leftOfAll {poly : List (α × α)} {pt : α × α} (hne : poly ≠ [])
    (hcv : StrictConvexCCW poly) (hleft : LeftOfAll poly pt) : ∃ v ∈ poly, below pt.2 v.2 = false := by
  by_contra hc
  push Not at hc
  obtain ⟨v, hv, hmax⟩ := exists_min_mem (fun q : α × α => -q.2) hne
  obtain ⟨u, hu, w, hw, A, B, C⟩ := exists_corner hcv hleft hv
  exact corner_high A B C (neg_le_neg_iff.mp (hmax u hu)) (neg_le_neg_iff.mp (hmax w hw))
    (by simpa [below] using hc v hv)

theorem evenOdd_eq_xor_up_down {poly : List (α × α)} {pt : α × α} (hnd : poly.Nodup) (hcv : StrictConvexCCW poly)
    {e f : (α × α) × (α × α)} (he : e ∈ edges poly) (hf : f ∈ edges poly) (hup : isUp pt.2 e.1 e.2 = true)
    (hdn : isDown pt.2 f.1 f.2 = true) :
    evenOdd poly pt = xor (decide (pt.1 < xint pt.2 e.1 e.2)) (decide (pt.1 < xint pt.2 f.1 f.2)) := by
  unfold evenOdd
  rw [parity_map_congr (fun e' _ => crossR_split pt.1 pt.2 e'.1 e'.2), parity_map_xor,
    parity_and_unique (edges_nodup hnd) he (fun b hb hgb => up_edge_unique hnd hcv hb he hgb hup),
    parity_and_unique (edges_nodup hnd) hf (fun b hb hgb => down_edge_unique hnd hcv hb hf hgb hdn),
    hup, hdn, Bool.true_and, Bool.true_and]

theorem evenOdd_of_leftOfAll {poly : List (α × α)} {pt : α × α} (hne : poly ≠ []) (hnd : poly.Nodup)
    (hcv : StrictConvexCCW poly) (hleft : LeftOfAll poly pt) : evenOdd poly pt = true := by
  obtain ⟨e, he, f, hf, hup, hdn⟩ := exists_up_down (exists_below_of_leftOfAll hne hcv hleft)
    (exists_notBelow_of_leftOfAll hne hcv hleft)
  rw [evenOdd_eq_xor_up_down hnd hcv he hf hup hdn, decide_eq_true ((cross_pos_up hup).mp (hleft e he)),
    decide_eq_false (not_lt.mpr ((cross_pos_down hdn).mp (hleft f hf)).le)]
  rfl

/-- a point not strictly left of an edge is separated from the polygon by the line of that edge -/
theorem leftOfAll_of_evenOdd {poly : List (α × α)} {pt : α × α} (hn : 2 ≤ poly.length) (hnd : poly.Nodup)
    (hcv : StrictConvexCCW poly) (hfar : Far 0 poly pt) (hin : evenOdd poly pt = true) : LeftOfAll poly pt := by
  intro g hg
  by_contra hle
  rw [evenOdd_false_of_side (edge_ne_of_convex hn hnd hcv hg) hfar
    fun v hv => (not_lt.mp hle).trans (convex_nonneg hcv hg hv)] at hin
  cases hin

theorem leftOfAll_reverse {poly : List (α × α)} {pt : α × α} :
    LeftOfAll poly.reverse pt ↔ ∀ e ∈ edges poly, cross e.1 e.2 pt < 0 := by
  have hperm := edges_reverse_perm poly
  constructor
  · intro h e he
    have := h _ (hperm.symm.subset (List.mem_map.mpr ⟨e, he, rfl⟩))
    rwa [Prod.fst_swap, Prod.snd_swap, cross_swap, neg_pos] at this
  · intro h e he
    obtain ⟨e', he', rfl⟩ := List.mem_map.mp (hperm.subset he)
    rw [Prod.fst_swap, Prod.snd_swap, cross_swap, neg_pos]
    exact h e' he'

end HydroVerif.C15
