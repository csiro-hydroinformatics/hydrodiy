/-
C10 — the pairwise comparison of Weigel and Mason (2011): the contribution `ps a b` of one member to the mid-rank of
another, the score of a member against an ensemble, the comparison `wm` of two ensembles. `wm` is unchanged by permutations
of the members and by strictly increasing maps; exchanging the two ensembles gives the complement
(`wm_add_swap : wm e1 e2 + wm e2 e1 = |e1| · |e2|`).
-/
import HydroVerif.Model.C10
import HydroVerif.Lemmas.C10List
import Mathlib.Algebra.BigOperators.Group.List.Basic
import Mathlib.Algebra.BigOperators.Group.List.Lemmas
import Mathlib.Algebra.Order.BigOperators.Group.List
import Mathlib.Data.List.Perm.Basic
import Mathlib.Tactic.Ring
import Mathlib.Tactic.NormNum.Basic
import Mathlib.Tactic.NormNum.Ineq
import Mathlib.Tactic.NormNum.Pow
import Mathlib.Tactic.NormNum.Inv
import Mathlib.Tactic.NormNum.Eq
import Mathlib.Tactic.NormNum.DivMod

namespace HydroVerif.C10

variable {α : Type} [Field α] [LinearOrder α]

/-- contribution of `b` to the mid-rank of `a`: 1 if below, ½ if tied, 0 if above -/
def ps (a b : α) : α := if b < a then 1 else if a = b then 1 / 2 else 0

theorem ps_self (a : α) : ps a a = 1 / 2 := by simp [ps]

theorem ps_of_lt {a b : α} (h : b < a) : ps a b = 1 := by simp [ps, h]

theorem ps_of_gt {a b : α} (h : a < b) : ps a b = 0 := by
  simp [ps, not_lt.mpr h.le, h.ne]

def rowScore (a : α) (l : List α) : α := (l.map (ps a)).sum

/-- pairwise comparison of two ensembles: Σ_{a ∈ e1} Σ_{b ∈ e2} ([b<a] + ½[a=b]) -/
def wm (e1 e2 : List α) : α := (e1.map fun a => rowScore a e2).sum

@[simp] theorem rowScore_cons (a b : α) (l : List α) : rowScore a (b :: l) = ps a b + rowScore a l := by
  simp [rowScore]

theorem rowScore_append (a : α) (l1 l2 : List α) : rowScore a (l1 ++ l2) = rowScore a l1 + rowScore a l2 := by
  simp [rowScore]

@[simp] theorem wm_cons_left (a : α) (e1 e2 : List α) : wm (a :: e1) e2 = rowScore a e2 + wm e1 e2 := by
  simp [wm]

theorem rowScore_perm (a : α) {l1 l2 : List α} (h : l1.Perm l2) : rowScore a l1 = rowScore a l2 :=
  (h.map _).sum_eq

theorem wm_perm {e1 e1' e2 e2' : List α} (h1 : e1.Perm e1') (h2 : e2.Perm e2') : wm e1 e2 = wm e1' e2' := by
  unfold wm
  rw [(h1.map _).sum_eq]
  apply sum_map_congr
  intro a _
  exact rowScore_perm a h2

theorem ps_map {f : α → α} (hf : StrictMono f) (a b : α) : ps (f a) (f b) = ps a b := by
  unfold ps
  simp only [hf.lt_iff_lt, hf.injective.eq_iff]

theorem rowScore_map {f : α → α} (hf : StrictMono f) (a : α) (l : List α) :
    rowScore (f a) (l.map f) = rowScore a l := by
  simp [rowScore, List.map_map, Function.comp_def, ps_map hf]

theorem wm_map {f : α → α} (hf : StrictMono f) (e1 e2 : List α) : wm (e1.map f) (e2.map f) = wm e1 e2 := by
  simp [wm, List.map_map, Function.comp_def, rowScore_map hf]

theorem wm_cons_right (l : List α) (a : α) (e : List α) :
    wm l (a :: e) = (l.map fun b => ps b a).sum + wm l e := by
  induction l with
  | nil => exact (add_zero (0 : α)).symm
  | cons b l ih => rw [wm_cons_left, wm_cons_left, ih, rowScore_cons, List.map_cons, List.sum_cons]; ring

variable [IsStrictOrderedRing α]

-- stated over the ordered field of the file, whose order axioms it does not use
set_option linter.unusedSectionVars false in
@[simp] theorem rowScore_nil (a : α) : rowScore a [] = 0 := rfl

-- stated over the ordered field of the file, whose order axioms it does not use
set_option linter.unusedSectionVars false in
@[simp] theorem wm_nil_left (e2 : List α) : wm [] e2 = 0 := rfl

theorem ps_nonneg (a b : α) : 0 ≤ ps a b := by
  unfold ps; split_ifs <;> norm_num

theorem ps_add_swap (a b : α) : ps a b + ps b a = 1 := by
  rcases lt_trichotomy a b with h | h | h
  · rw [ps_of_gt h, ps_of_lt h]; ring
  · subst h; rw [ps_self]; ring
  · rw [ps_of_lt h, ps_of_gt h]; ring

theorem rowScore_nonneg (a : α) (l : List α) : 0 ≤ rowScore a l :=
  List.sum_nonneg fun _ h => by obtain ⟨b, _, rfl⟩ := List.mem_map.mp h; exact ps_nonneg a b

theorem wm_nonneg (e1 e2 : List α) : 0 ≤ wm e1 e2 :=
  List.sum_nonneg fun _ h => by obtain ⟨a, _, rfl⟩ := List.mem_map.mp h; exact rowScore_nonneg a e2

theorem rowScore_add_col (a : α) (l : List α) :
    rowScore a l + (l.map fun b => ps b a).sum = (l.length : α) := by
  induction l with
  | nil => simp
  | cons b l ih =>
    rw [rowScore_cons, List.map_cons, List.sum_cons, add_add_add_comm, ps_add_swap, ih, List.length_cons,
      Nat.cast_succ, add_comm]

theorem wm_nil_right (l : List α) : wm l [] = 0 := by
  induction l with
  | nil => rfl
  | cons b l ih => rw [wm_cons_left, ih, rowScore_nil, add_zero]

theorem wm_add_swap (e1 e2 : List α) : wm e1 e2 + wm e2 e1 = (e1.length : α) * (e2.length : α) := by
  induction e1 with
  | nil => simp [wm_nil_right]
  | cons a e1 ih =>
    rw [wm_cons_left, wm_cons_right, add_add_add_comm, rowScore_add_col, ih, List.length_cons, Nat.cast_succ]
    ring

theorem wm_self (l : List α) : wm l l = (l.length : α) * (l.length : α) / 2 := by
  rw [eq_div_iff two_ne_zero, mul_two]
  exact wm_add_swap l l

end HydroVerif.C10
