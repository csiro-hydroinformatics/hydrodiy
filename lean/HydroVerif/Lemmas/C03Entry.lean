/-
C03 — the entry point `metrics.crps` (wrapper filtering + kernel) on data with missing observations: it is the
kernel on the kept forecasts (`wrapper_eq_kernel_kept`; `keptPairs`, and `shape_kept`: `EntryShape` gives the kernel its
`Shape`); and facts that hold over ANY carrier (no algebraic law: also IEEE doubles): the loop sees the members through
the sorted rows only (`loop_congr`), and what a call that answers went through (`kernel_ok`, `wrapper_ok`, `wrapperNd_ok`).
-/
import HydroVerif.Model.C03
import HydroVerif.Lemmas.C03
import HydroVerif.Lemmas.AllSome

set_option linter.unusedSectionVars false
namespace HydroVerif.C03

section AnyCarrier
variable {β : Type} [Add β] [Sub β] [Mul β] [Div β] [LT β] [DecidableLT β] [LE β] [DecidableLE β]
  [BEq β] [OfNat β 0] [OfNat β 1] [NatCast β]

theorem loop_congr (sort : List β → List β) (w : β) :
    ∀ (F F' : List (β × List β)) (prev : List β) (s : Acc β),
      (F.map fun p => (p.1, sort p.2)) = (F'.map fun p => (p.1, sort p.2)) →
      loop sort w prev F s = loop sort w prev F' s
  | [], [], _, _, _ => rfl
  | [], _ :: _, _, _, h => by simp at h
  | _ :: _, [], _, _, h => by simp at h
  | (y, row) :: F, (y', row') :: F', prev, s, h => by
    simp only [List.map_cons, List.cons.injEq, Prod.mk.injEq] at h
    obtain ⟨⟨rfl, hr⟩, ht⟩ := h
    unfold loop
    simp only [hr]
    split
    · rfl
    · split
      · exact loop_congr sort w F F' _ _ ht
      · rfl

theorem zip_map_sort (sort : List β → List β) (obs : List β) (e : List (List β)) :
    ((obs.zip e).map fun p => (p.1, sort p.2)) = obs.zip (e.map sort) := by
  rw [List.zip_map_right]; rfl

/-! what a call that answers went through (the error exits of the model, inverted) -/

theorem kernel_ok {sort : List β → List β} {m : ℕ} {obs : List β} {ens : List (List β)} {res : Result β}
    (h : kernel sort m obs ens = .ok res) :
    ∃ s, loop sort (1 / (obs.length : β)) [] (obs.zip ens) (init m) = .ok s ∧ res = finish m s := by
  unfold kernel at h
  split at h
  · cases h
  · dsimp only at h
    split at h
    · cases h
    · rename_i s hs
      exact ⟨s, hs, (Except.ok.inj h).symm⟩

theorem wrapper_ok {sort : List β → List β} {m : ℕ} {obs : List (Option β)} {ens : List (List (Option β))}
    {res : Result β} (h : wrapper sort m obs ens = .ok res) :
    ∃ rows : List (β × List β), kernel sort m (rows.map (·.1)) (rows.map (·.2)) = .ok res := by
  unfold wrapper at h
  split at h
  · cases h
  · dsimp only at h
    split at h
    · cases h
    · split at h
      · cases h
      · exact ⟨_, h⟩

theorem wrapperNd_ok {sort : List β → List β} {oshape eshape : List ℕ} {obs ens : List (Option β)}
    {res : Result β} (h : wrapperNd sort oshape obs eshape ens = .ok res) :
    ∃ m ys rows, kernel sort m ys rows = .ok res := by
  unfold wrapperNd at h
  split at h
  · cases h
  · split at h
    · cases h
    · obtain ⟨rows, hk⟩ := wrapper_ok h
      exact ⟨_, _, _, hk⟩

end AnyCarrier

section Kept
variable {β : Type}

theorem optAll_map_some {β : Type} (l : List β) : optAll (l.map some) = some l :=
  AllSome.map_some rfl (fun _ => rfl) (fun _ _ => rfl) l

/-- the forecasts `metrics.crps` keeps when every member is finite: those whose observation is present -/
def keptPairs (obs : List (Option β)) (rows : List (List β)) : List (β × List β) :=
  (obs.zip rows).filterMap fun p => p.1.map fun y => (y, p.2)

theorem zip_fst_snd : ∀ l : List (β × List β), (l.map Prod.fst).zip (l.map Prod.snd) = l
  | [] => rfl
  | p :: t => by simp [zip_fst_snd t]

theorem map_fst_map_both {γ : Type} (f : β → γ) (l : List (β × List β)) :
    (l.map fun p => (f p.1, p.2.map f)).map Prod.fst = (l.map Prod.fst).map f := by
  rw [List.map_map, List.map_map]; rfl

theorem map_snd_map_both {γ : Type} (f : β → γ) (l : List (β × List β)) :
    (l.map fun p => (f p.1, p.2.map f)).map Prod.snd = (l.map Prod.snd).map (List.map f) := by
  rw [List.map_map, List.map_map]; rfl

theorem keptPairs_map_some : ∀ (ys : List β) (rows : List (List β)), keptPairs (ys.map some) rows = ys.zip rows
  | [], _ => rfl
  | _ :: _, [] => rfl
  | y :: ys, r :: rows => congrArg ((y, r) :: ·) (keptPairs_map_some ys rows)

theorem keptPairs_map {γ : Type} (f : β → γ) : ∀ (obs : List (Option β)) (rows : List (List β)),
    keptPairs (obs.map (Option.map f)) (rows.map (List.map f))
      = (keptPairs obs rows).map fun p => (f p.1, p.2.map f)
  | [], _ => by simp [keptPairs]
  | _ :: _, [] => by simp [keptPairs]
  | o :: obs, r :: rows => by
    have ih := keptPairs_map f obs rows
    unfold keptPairs at ih ⊢
    cases o <;> simp [ih]

theorem keptPairs_forall₂_perm : ∀ (obs : List (Option β)) {rows rows' : List (List β)},
    List.Forall₂ List.Perm rows' rows →
    (keptPairs obs rows').map Prod.fst = (keptPairs obs rows).map Prod.fst ∧
    List.Forall₂ List.Perm ((keptPairs obs rows').map Prod.snd) ((keptPairs obs rows).map Prod.snd)
  | [], _, _, _ => by simp [keptPairs]
  | _ :: _, _, _, .nil => by simp [keptPairs]
  | o :: obs, _, _, .cons hab ht => by
    obtain ⟨h1, h2⟩ := keptPairs_forall₂_perm obs ht
    unfold keptPairs at h1 h2 ⊢
    cases o with
    | none =>
      simp only [List.zip_cons_cons, List.filterMap_cons, Option.map_none]
      exact ⟨h1, h2⟩
    | some y =>
      simp only [List.zip_cons_cons, List.filterMap_cons, Option.map_some, List.map_cons]
      exact ⟨by rw [h1], .cons hab h2⟩

theorem keptPairs_ne_nil : ∀ (obs : List (Option β)) (rows : List (List β)), rows.length = obs.length →
    (∃ y, some y ∈ obs) → keptPairs obs rows ≠ []
  | [], _, _, ⟨_, hy⟩ => nomatch hy
  | _ :: _, [], hl, _ => nomatch hl
  | some _ :: _, _ :: _, _, _ => List.cons_ne_nil _ _
  | none :: obs, _ :: rows, hl, ⟨y, hy⟩ =>
    keptPairs_ne_nil obs rows (Nat.succ.inj hl) ⟨y, (List.mem_cons.mp hy).resolve_left (Option.some_ne_none y)⟩

end Kept

section Field
variable {α : Type} [Field α] [LinearOrder α] [IsStrictOrderedRing α]

structure EntryShape (m : ℕ) (obs : List (Option α)) (rows : List (List α)) : Prop where
  len : rows.length = obs.length
  m_pos : 1 ≤ m
  row_len : ∀ r ∈ rows, r.length = m
  some_obs : keptPairs obs rows ≠ []

theorem shape_kept {m : ℕ} {obs : List (Option α)} {rows : List (List α)} (h : EntryShape m obs rows) :
    Shape m ((keptPairs obs rows).map Prod.fst) ((keptPairs obs rows).map Prod.snd) := by
  refine ⟨by simp, h.m_pos, ?_, ?_⟩
  · rw [List.length_map]; exact List.length_pos_iff.mpr h.some_obs
  · intro r hr
    obtain ⟨p, hp, rfl⟩ := List.mem_map.mp hr
    obtain ⟨⟨o, r⟩, hq, hqp⟩ := List.mem_filterMap.mp hp
    cases o with
    | none => cases hqp
    | some y =>
      cases hqp
      exact h.row_len r (List.of_mem_zip hq).2

theorem entryShape_of_shape {m : ℕ} {ys : List α} {rows : List (List α)} (h : Shape m ys rows) :
    EntryShape m (ys.map some) rows := by
  refine ⟨by rw [List.length_map, h.len], h.m_pos, h.rows, ?_⟩
  rw [keptPairs_map_some]
  exact List.ne_nil_of_length_pos (by rw [List.length_zip, h.len, Nat.min_self]; exact h.n_pos)

theorem filter_keep_finite : ∀ (L : List (Option α × List α)), (∀ p ∈ L, p.2 ≠ []) →
    ((L.map fun p => (p.1, p.2.map some)).filter keep).map finiteRow
      = (L.filterMap fun p => p.1.map fun y => (y, p.2)).map some
  | [], _ => rfl
  | (o, r) :: L, h => by
    have ih := filter_keep_finite L (fun p hp => h p (List.mem_cons_of_mem _ hp))
    have hr : r ≠ [] := h (o, r) List.mem_cons_self
    obtain ⟨a, t, rfl⟩ := List.exists_cons_of_ne_nil hr
    cases o with
    | none => simpa [List.filter_cons, keep, List.filterMap_cons] using ih
    | some y =>
      have hk : keep ((some y : Option α), (a :: t).map some) = true := by simp [keep]
      have hf : finiteRow ((some y : Option α), (a :: t).map some) = some (y, a :: t) := by
        simp only [finiteRow, optAll_map_some]
      simp only [List.map_cons] at hk hf
      simp only [List.map_cons, List.filter_cons, hk, if_true, List.filterMap_cons, Option.map_some, hf, ih]

theorem wrapper_eq_kernel_kept (sort : List α → List α) {m : ℕ} {obs : List (Option α)} {rows : List (List α)}
    (h : EntryShape m obs rows) :
    wrapper sort m obs (rows.map fun r => r.map some)
      = kernel sort m ((keptPairs obs rows).map Prod.fst) ((keptPairs obs rows).map Prod.snd) := by
  have hne : ∀ p ∈ obs.zip rows, p.2 ≠ [] := fun p hp =>
    List.ne_nil_of_length_pos (by rw [h.row_len p.2 (List.of_mem_zip hp).2]; exact h.m_pos)
  have hz : obs.zip (rows.map fun r => r.map some) = (obs.zip rows).map fun p => (p.1, p.2.map some) := by
    rw [List.zip_map_right]; rfl
  have hfk := filter_keep_finite (obs.zip rows) hne
  unfold wrapper
  simp only [List.length_map, h.len, ne_eq, not_true_eq_false, if_false, hz]
  have hemp : (((obs.zip rows).map fun p => (p.1, p.2.map some)).filter keep).isEmpty = false := by
    rw [List.isEmpty_eq_false_iff]
    intro h0
    rw [h0] at hfk
    have : keptPairs obs rows = [] := by
      unfold keptPairs
      exact List.map_eq_nil_iff.mp hfk.symm
    exact h.some_obs this
  simp only [hemp, Bool.false_eq_true, if_false, hfk, optAll_map_some]
  rfl

end Field
end HydroVerif.C03
