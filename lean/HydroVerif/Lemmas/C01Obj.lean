/-
C01 — lemmas about the object model (`Model/C01Obj.lean`) over ℝ; the property theorems that use them are in `Props/C01.lean`.
In this order: clipping lands inside the bounds and fixes what is inside (`clipv_mem`, `clipv_eq_self`, also for `clip` of
Model/C02Hist); what `okVals` says of a value list; the setters keep it (`VSpec.setValues_ok`, `VSpec.setName_ok`); what one
operation can do (`TObj.Outcome`, `TObj.stepWith_outcome`), from which the invariant and the unchanged specification follow
for any history (`TObj.runWith_inv`, `TObj.run_state`); calls on arrays (`TObj.call_roundtrip`); the constructors
(`SlotSpec.Good`, `TObj.inv_of_good`).
-/
import HydroVerif.Model.C01Obj
import HydroVerif.Lemmas.History
import HydroVerif.Lemmas.C01Real

namespace HydroVerif.C01

/-! ### clipping -/

/-- python `min(max(v, lo), hi)` lands inside non-empty bounds (its two tests read as the library's `max` and `min`); `clip` of
Model/C02Hist is the same function -/
theorem clipv_mem {lo hi : Option ℝ} (hok : ∀ l h, lo = some l → hi = some h → l ≤ h) (v : ℝ) :
    (∀ l, lo = some l → l ≤ clipv lo hi v) ∧ (∀ h, hi = some h → clipv lo hi v ≤ h) := by
  rcases lo with _ | l <;> rcases hi with _ | h <;> simp only [clipv, ← max_def_lt, ← min_def_lt]
  · exact ⟨nofun, nofun⟩
  · exact ⟨nofun, fun _ e => Option.some.inj e ▸ min_le_left h v⟩
  · exact ⟨fun _ e => Option.some.inj e ▸ le_max_right v l, nofun⟩
  · exact ⟨fun _ e => Option.some.inj e ▸ le_min (hok l h rfl rfl) (le_max_right v l),
      fun _ e => Option.some.inj e ▸ min_le_left h _⟩

theorem clipv_eq_self {lo hi : Option ℝ} {v : ℝ} (h1 : ∀ l, lo = some l → l ≤ v) (h2 : ∀ h, hi = some h → v ≤ h) :
    clipv lo hi v = v := by
  rcases lo with _ | l <;> rcases hi with _ | h <;> simp only [clipv]
  · exact if_neg (not_lt.mpr (h2 h rfl))
  · exact if_neg (not_lt.mpr (h1 l rfl))
  · rw [if_neg (not_lt.mpr (h1 l rfl)), if_neg (not_lt.mpr (h2 h rfl))]

theorem clipOpt_ok (nanOk : Bool) (s : SlotSpec ℝ) (hwf : ∀ l h, s.lo = some l → s.hi = some h → l ≤ h)
    (v : Option ℝ) (hn : nanOk = false → v ≠ none) : okSlot nanOk s (clipOpt s v) := by
  cases v with
  | none =>
    cases nanOk with
    | true => rfl
    | false => exact absurd rfl (hn rfl)
  | some x => exact clipv_mem hwf x

theorem clipAll_ok (nanOk : Bool) : ∀ (slots : List (SlotSpec ℝ)) (vs : List (Option ℝ)),
    (∀ s ∈ slots, ∀ l h, s.lo = some l → s.hi = some h → l ≤ h) → vs.length = slots.length →
    (nanOk = false → ∀ v ∈ vs, v ≠ none) → okVals nanOk slots (clipAll slots vs)
  | [], [], _, _, _ => trivial
  | [], _ :: _, _, hl, _ => by simp at hl
  | _ :: _, [], _, hl, _ => by simp at hl
  | s :: ss, v :: vs, hwf, hl, hn => by
    refine ⟨clipOpt_ok nanOk s (hwf s (List.mem_cons_self ..)) v (fun h => hn h v (List.mem_cons_self ..)), ?_⟩
    exact clipAll_ok nanOk ss vs (fun s' hs' => hwf s' (List.mem_cons_of_mem _ hs')) (by simpa using hl)
      (fun h v' hv' => hn h v' (List.mem_cons_of_mem _ hv'))

theorem clipAll_id (nanOk : Bool) : ∀ (slots : List (SlotSpec ℝ)) (vs : List (Option ℝ)),
    okVals nanOk slots vs → clipAll slots vs = vs
  | [], [], _ => rfl
  | [], _ :: _, h => by simp [okVals] at h
  | _ :: _, [], h => by simp [okVals] at h
  | s :: ss, v :: vs, h => by
    obtain ⟨h1, h2⟩ := h
    simp only [clipAll, clipAll_id nanOk ss vs h2]
    congr 1
    cases v with
    | none => rfl
    | some x => simp only [clipOpt, Option.map_some]; rw [clipv_eq_self h1.1 h1.2]

/-! ### `okVals`: one value per slot; a parameter list holds numbers, a constant list numbers or NaN -/

theorem okVals_length (nanOk : Bool) : ∀ (slots : List (SlotSpec ℝ)) (vs : List (Option ℝ)),
    okVals nanOk slots vs → vs.length = slots.length
  | [], [], _ => rfl
  | [], _ :: _, h => by simp [okVals] at h
  | _ :: _, [], h => by simp [okVals] at h
  | _ :: ss, _ :: vs, h => by simp [okVals_length nanOk ss vs h.2]

theorem okVals_noNaN : ∀ (slots : List (SlotSpec ℝ)) (vs : List (Option ℝ)),
    okVals false slots vs → ∀ v ∈ vs, v ≠ none
  | [], [], _ => by simp
  | [], _ :: _, h => by simp [okVals] at h
  | _ :: _, [], h => by simp [okVals] at h
  | _ :: ss, v :: vs, h => by
    intro v' hv'
    rcases List.mem_cons.mp hv' with rfl | hm
    · intro h0; subst h0; exact absurd h.1 (by simp [okSlot])
    · exact okVals_noNaN ss vs h.2 v' hm

theorem okVals_nil {nanOk : Bool} {vs : List (Option ℝ)} (h : okVals nanOk [] vs) : vs = [] := by
  cases vs with
  | nil => rfl
  | cons _ _ => exact h.elim

theorem okVals_cons_num {s : SlotSpec ℝ} {ss : List (SlotSpec ℝ)} {vs : List (Option ℝ)}
    (h : okVals false (s :: ss) vs) : ∃ x rest, vs = some x :: rest ∧ inBounds s x ∧ okVals false ss rest := by
  match vs, h with
  | some x :: rest, h => exact ⟨x, rest, rfl, h.1, h.2⟩
  | none :: _, h => exact absurd h.1 (by simp [okSlot])

theorem okVals_cons_opt {s : SlotSpec ℝ} {ss : List (SlotSpec ℝ)} {vs : List (Option ℝ)}
    (h : okVals true (s :: ss) vs) :
    ∃ v rest, vs = v :: rest ∧ (∀ x, v = some x → inBounds s x) ∧ okVals true ss rest := by
  match vs, h with
  | v :: rest, h => exact ⟨v, rest, rfl, fun x hx => by subst hx; exact h.1, h.2⟩

/-! ### the setters keep the stored values admissible -/

theorem setAt_ok (nanOk : Bool) (k : String) (x : Option ℝ) (hn : nanOk = false → x ≠ none) :
    ∀ (slots : List (SlotSpec ℝ)) (vals l : List (Option ℝ)),
    (∀ s ∈ slots, ∀ l h, s.lo = some l → s.hi = some h → l ≤ h) → okVals nanOk slots vals →
    setAt slots vals k x = some l → okVals nanOk slots l
  | [], [], _, _, _, h => by simp [setAt] at h
  | [], _ :: _, _, _, _, h => by simp [setAt] at h
  | _ :: _, [], _, _, _, h => by simp [setAt] at h
  | s :: ss, v :: vs, l, hwf, hok, h => by
    simp only [setAt] at h
    split_ifs at h with hk
    · cases h
      exact ⟨clipOpt_ok nanOk s (hwf s (List.mem_cons_self ..)) x hn, hok.2⟩
    · obtain ⟨l', hr, rfl⟩ := Option.map_eq_some_iff.mp h
      exact ⟨hok.1, setAt_ok nanOk k x hn ss vs l' (fun s' hs' => hwf s' (List.mem_cons_of_mem _ hs')) hok.2 hr⟩

theorem VSpec.setValues_ok (sp : VSpec ℝ) (hwf : sp.WF) (vs l : List (Option ℝ)) (h : sp.setValues vs = .ok l) :
    sp.Ok l := by
  unfold VSpec.setValues at h
  split_ifs at h with h1 h2
  cases h
  refine clipAll_ok sp.acceptNan sp.slots vs hwf (by simpa using h1) ?_
  intro hf v hv h0
  apply h2
  subst h0
  simp only [hf, Bool.not_false, Bool.true_and, List.any_eq_true]
  exact ⟨none, hv, rfl⟩

theorem VSpec.setName_eq_ok {sp : VSpec ℝ} {vals l : List (Option ℝ)} {k : String} {x : Option ℝ}
    (h : sp.setName vals k x = .ok l) :
    sp.names.contains k = true ∧ (sp.acceptNan = false → x ≠ none) ∧ setAt sp.slots vals k x = some l := by
  unfold VSpec.setName at h
  split_ifs at h with h1 h2
  split at h
  · rename_i hr
    cases h
    exact ⟨by simpa using h1, fun hf h0 => h2 (by simp [hf, h0]), hr⟩
  · cases h

theorem VSpec.setName_ok (sp : VSpec ℝ) (hwf : sp.WF) (vals l : List (Option ℝ)) (k : String) (x : Option ℝ)
    (hok : sp.Ok vals) (h : sp.setName vals k x = .ok l) : sp.Ok l :=
  have ⟨_, hn, hr⟩ := VSpec.setName_eq_ok h
  setAt_ok sp.acceptNan k x hn sp.slots vals l hwf hok hr

theorem VSpec.setValues_of_ok (sp : VSpec ℝ) (vs : List (Option ℝ)) (hok : sp.Ok vs) (hn : ∀ v ∈ vs, v ≠ none) :
    sp.setValues vs = .ok vs := by
  unfold VSpec.setValues
  have hl := okVals_length _ _ _ hok
  rw [if_neg (by simpa using hl)]
  have : (vs.any Option.isNone) = false := by
    rw [List.any_eq_false]
    intro v hv
    cases v with
    | none => exact absurd rfl (hn none hv)
    | some _ => simp
  rw [this]
  simp only [Bool.and_false, Bool.false_eq_true, if_false]
  rw [clipAll_id _ _ _ hok]

/-! ### one operation (`TObj.Outcome`) and histories -/

theorem TObj.setP_done {o : TObj ℝ} {r : Except SetErr (List (Option ℝ))} (h : (o.setP r).2 = .done) :
    ∃ l, r = .ok l ∧ (o.setP r).1 = { o with pvals := l } := by
  cases r with
  | ok l => exact ⟨l, rfl, rfl⟩
  | error e => cases h

theorem TObj.setC_done {o : TObj ℝ} {r : Except SetErr (List (Option ℝ))} (h : (o.setC r).2 = .done) :
    ∃ l, r = .ok l ∧ (o.setC r).1 = { o with cvals := l } := by
  cases r with
  | ok l => exact ⟨l, rfl, rfl⟩
  | error e => cases h

section
variable (cens : (ℝ → Option ℝ) → (ℝ → Option ℝ) → ℝ → ℝ → Option ℝ)

theorem TObj.evalWith_cases (o : TObj ℝ) (m : Method)
    (c : ℝ) (xs : List ℝ) :
    (o.evalWith cens m c xs).1 = o ∨
    ∃ vs iv vals, o.ispec.setValues vs = .ok iv ∧ o.evalWith cens m c xs = ({ o with ivals := iv }, .values vals) := by
  unfold TObj.evalWith
  -- right: BoxCox1lam, BoxCox1nu, BoxCox2sym when the inner assignment is accepted; every other branch returns `o`
  repeat' split
  all_goals first
    | (left; rfl)
    | (right; exact ⟨_, _, _, ‹_›, rfl⟩)

theorem TObj.evalWith_frame (o : TObj ℝ) (m : Method)
    (c : ℝ) (xs : List ℝ) : (o.evalWith cens m c xs).1.pvals = o.pvals ∧ (o.evalWith cens m c xs).1.cvals = o.cvals := by
  rcases TObj.evalWith_cases cens o m c xs with h1 | ⟨vs, iv, vals, _, he⟩
  · rw [h1]; exact ⟨rfl, rfl⟩
  · rw [he]; exact ⟨rfl, rfl⟩

/-- an assignment answers `done`; a call of a delegating class re-assigns the inner Vector and answers with values;
anything else leaves the object as it is -/
def TObj.Outcome (o : TObj ℝ) (res : TObj ℝ × Reply ℝ) : Prop :=
  (∃ l, res = ({ o with pvals := l }, .done) ∧ (o.Inv → o.pspec.Ok l)) ∨
  (∃ l, res = ({ o with cvals := l }, .done) ∧ (o.Inv → o.cspec.Ok l)) ∨
  (∃ iv vals, res = ({ o with ivals := iv }, .values vals) ∧ (o.Inv → o.ispec.Ok iv)) ∨
  ∃ r, res = (o, r)

theorem TObj.setP_outcome (o : TObj ℝ) (r : Except SetErr (List (Option ℝ)))
    (hr : o.Inv → ∀ l, r = .ok l → o.pspec.Ok l) : o.Outcome (o.setP r) := by
  cases r with
  | ok l => exact .inl ⟨l, rfl, fun h => hr h l rfl⟩
  | error e => exact .inr (.inr (.inr ⟨_, rfl⟩))

theorem TObj.setC_outcome (o : TObj ℝ) (r : Except SetErr (List (Option ℝ)))
    (hr : o.Inv → ∀ l, r = .ok l → o.cspec.Ok l) : o.Outcome (o.setC r) := by
  cases r with
  | ok l => exact .inr (.inl ⟨l, rfl, fun h => hr h l rfl⟩)
  | error e => exact .inr (.inr (.inr ⟨_, rfl⟩))

theorem TObj.stepWith_outcome (o : TObj ℝ) (op : TOp ℝ) :
    o.Outcome (o.stepWith cens op) := by
  have pn : ∀ k v, o.Inv → ∀ l, o.pspec.setName o.pvals k v = .ok l → o.pspec.Ok l :=
    fun k v h l hl => VSpec.setName_ok _ h.1 _ _ _ _ h.2.2.2.1 hl
  have cn : ∀ k v, o.Inv → ∀ l, o.cspec.setName o.cvals k v = .ok l → o.cspec.Ok l :=
    fun k v h l hl => VSpec.setName_ok _ h.2.1 _ _ _ _ h.2.2.2.2.1 hl
  have pv : ∀ vs, o.Inv → ∀ l, o.pspec.setValues vs = .ok l → o.pspec.Ok l :=
    fun vs h l hl => VSpec.setValues_ok _ h.1 _ _ hl
  cases op with
  | setAttr k v =>
    simp only [TObj.stepWith]
    split_ifs
    exacts [o.setP_outcome _ (pn k v), o.setC_outcome _ (cn k v), .inr (.inr (.inr ⟨_, rfl⟩))]
  | setItem k v =>
    simp only [TObj.stepWith]
    split_ifs
    exacts [o.setP_outcome _ (pn k v), o.setP_outcome _ (pn k v), o.setC_outcome _ (cn k v)]
  | setPItem k v => exact o.setP_outcome _ (pn k v)
  | setCItem k v => exact o.setC_outcome _ (cn k v)
  | setPValues vs => exact o.setP_outcome _ (pv vs)
  | setCValues vs => exact o.setC_outcome _ fun h l hl => VSpec.setValues_ok _ h.2.1 _ _ hl
  | reset => exact o.setP_outcome _ (pv _)
  | call m c xs =>
    rcases TObj.evalWith_cases cens o m c xs with h1 | ⟨vs, iv, vals, hs, he⟩
    exacts [.inr (.inr (.inr ⟨_, Prod.ext h1 rfl⟩)),
      .inr (.inr (.inl ⟨iv, vals, he, fun h => VSpec.setValues_ok _ h.2.2.1 _ _ hs⟩))]

theorem TObj.Outcome.inv {o : TObj ℝ} {res : TObj ℝ × Reply ℝ} (h : o.Outcome res) (hi : o.Inv) : res.1.Inv := by
  have ⟨a, b, c, d, e, f⟩ := hi
  rcases h with ⟨l, rfl, hl⟩ | ⟨l, rfl, hl⟩ | ⟨iv, vals, rfl, hl⟩ | ⟨r, rfl⟩
  exacts [⟨a, b, c, hl hi, e, f⟩, ⟨a, b, c, d, hl hi, f⟩, ⟨a, b, c, d, e, hl hi⟩, hi]

theorem TObj.Outcome.spec {o : TObj ℝ} {res : TObj ℝ × Reply ℝ} (h : o.Outcome res) : o.sameSpec res.1 := by
  rcases h with ⟨l, rfl, -⟩ | ⟨l, rfl, -⟩ | ⟨iv, vals, rfl, -⟩ | ⟨r, rfl⟩
  all_goals exact ⟨rfl, rfl, rfl, rfl, rfl, rfl⟩

theorem TObj.Outcome.refused {o : TObj ℝ} {res : TObj ℝ × Reply ℝ} (h : o.Outcome res) (h1 : res.2 ≠ .done)
    (h2 : ∀ vals, res.2 ≠ .values vals) : res.1 = o := by
  rcases h with ⟨l, rfl, -⟩ | ⟨l, rfl, -⟩ | ⟨iv, vals, rfl, -⟩ | ⟨r, rfl⟩
  exacts [absurd rfl h1, absurd rfl h1, absurd rfl (h2 vals), rfl]

theorem TObj.sameSpec_trans {a b c : TObj ℝ} (h1 : a.sameSpec b) (h2 : b.sameSpec c) : a.sameSpec c := by
  obtain ⟨a1, a2, a3, a4, a5, a6⟩ := h1
  obtain ⟨b1, b2, b3, b4, b5, b6⟩ := h2
  exact ⟨b1.trans a1, b2.trans a2, b3.trans a3, b4.trans a4, b5.trans a5, b6.trans a6⟩

theorem TObj.runWith_trace : History.PairTrace (TObj.stepWith cens) (TObj.runWith cens) :=
  .of_eqns (fun _ => rfl) fun _ _ _ => rfl

theorem TObj.runWith_inv (ops : List (TOp ℝ)) (o : TObj ℝ) (h : o.Inv) :
    (TObj.runWith cens o ops).1.Inv ∧ o.sameSpec (TObj.runWith cens o ops).1 :=
  (TObj.runWith_trace cens).preserves_rel TObj.Inv TObj.sameSpec (fun _ => ⟨rfl, rfl, rfl, rfl, rfl, rfl⟩)
    (fun _ _ _ => TObj.sameSpec_trans)
    (fun t op _ ht _ => ⟨(TObj.stepWith_outcome cens t op).inv ht, (TObj.stepWith_outcome cens t op).spec⟩) h

end

theorem TObj.run_state (o : TObj ℝ) (ops : List (TOp ℝ)) (h : o.Inv) :
    ∃ pv cv iv, (o.run ops).1 = { o with pvals := pv, cvals := cv, ivals := iv } ∧
      o.pspec.Ok pv ∧ o.cspec.Ok cv ∧ o.ispec.Ok iv := by
  obtain ⟨⟨-, -, -, hp, hc, hi⟩, h1, h2, h3, h4, h5, h6⟩ := TObj.runWith_inv backwardCensored ops o h
  unfold TObj.run
  generalize (TObj.runWith backwardCensored o ops).1 = o' at *
  obtain ⟨_, _, _, pv, cv, _, iv, _, _⟩ := o'
  dsimp only at h1 h2 h3 h4 h5 h6 hp hc hi
  subst h1 h2 h3 h4 h5 h6
  exact ⟨pv, cv, iv, rfl, hp, hc, hi⟩

/-! ### a call on an array, and the round trip on the object -/

theorem onArray_some {f : ℝ → Option ℝ} {g : ℝ → ℝ} {xs : List ℝ} (h : ∀ x ∈ xs, f x = some (g x)) :
    onArray f xs = (xs.map g).map some := by
  unfold onArray
  rw [List.map_map]
  exact List.map_congr_left h

theorem onArray_map {b : ℝ → Option ℝ} {g : ℝ → ℝ} {xs : List ℝ} (h : ∀ x ∈ xs, b (g x) = some x) :
    onArray b (xs.map g) = xs.map some := by
  unfold onArray
  rw [List.map_map]
  exact List.map_congr_left h

/-- `hcall` is what every `X.history` concludes for a class without hidden state: a call returns the object and the class's
methods on the array. Then forward followed by backward on the object is the round trip of the formulas, element by element -/
theorem TObj.call_roundtrip (o : TObj ℝ) {f b j : ℝ → Option ℝ} {g : ℝ → ℝ}
    (hcall : ∀ m c xs, o.step (.call m c xs) = (o, .values (applyM backwardCensored m f b j c xs))) (xs : List ℝ)
    (hf : ∀ x ∈ xs, f x = some (g x)) (hb : ∀ x ∈ xs, b (g x) = some x) :
    ∃ ys, o.step (.call .fwd 0 xs) = (o, .values (ys.map some)) ∧
      o.step (.call .bwd 0 ys) = (o, .values (xs.map some)) := by
  refine ⟨xs.map g, ?_, ?_⟩
  · rw [hcall]; exact congrArg (fun r => (o, Reply.values r)) (onArray_some hf)
  · rw [hcall]; exact congrArg (fun r => (o, Reply.values r)) (onArray_map hb)

/-! ### the constructors: every slot of every class is `Good`, hence `TObj.Inv` (`TObj.inv_of_good`, used row by row in `mkObj_inv`) -/

/-- the constructor test of the four Box-Cox classes says `minilam ∈ [-3, 1 + EPS]` (`bcGuard_ok` of Lemmas/C02Hist for the
other object model) -/
theorem lamBoundsOk_iff {m : ℝ} : lamBoundsOk m = true ↔ -3 ≤ m ∧ m ≤ 1 + eps := by
  unfold lamBoundsOk
  rw [Bool.and_eq_true, Bool.not_eq_true', Bool.not_eq_true', decide_eq_false_iff_not, decide_eq_false_iff_not, not_lt,
    not_lt, sub_le_iff_le_add]
  norm_num

theorem lamBoundsOk_zero : lamBoundsOk (0 : ℝ) = true := by
  unfold lamBoundsOk eps
  norm_num

theorem ofScientific_three : (3.0 : ℝ) = 3 := by norm_num

/-- what `Vector.__init__` needs of a slot for the fresh object to be well-formed: bounds non-empty, and the default inside
them (or NaN where the Vector accepts NaN) -/
def SlotSpec.Good (nanOk : Bool) (s : SlotSpec ℝ) : Prop :=
  (∀ l h, s.lo = some l → s.hi = some h → l ≤ h) ∧ okSlot nanOk s s.dflt

theorem SlotSpec.Good.between {nanOk : Bool} {n : String} {d l h : ℝ} (h1 : l ≤ d) (h2 : d ≤ h) :
    SlotSpec.Good nanOk ⟨n, some d, some l, some h⟩ := by
  refine ⟨?_, ?_, ?_⟩
  · rintro _ _ ⟨⟩ ⟨⟩; exact h1.trans h2
  · rintro _ ⟨⟩; exact h1
  · rintro _ ⟨⟩; exact h2

theorem SlotSpec.Good.above {nanOk : Bool} {n : String} {d l : ℝ} (h1 : l ≤ d) :
    SlotSpec.Good nanOk ⟨n, some d, some l, none⟩ := by
  refine ⟨?_, ?_, ?_⟩
  · rintro _ _ _ ⟨⟩
  · rintro _ ⟨⟩; exact h1
  · rintro _ ⟨⟩

theorem SlotSpec.Good.free {nanOk : Bool} {n : String} {d : ℝ} : SlotSpec.Good nanOk ⟨n, some d, none, none⟩ := by
  refine ⟨?_, ?_, ?_⟩
  · rintro _ _ ⟨⟩
  · rintro _ ⟨⟩
  · rintro _ ⟨⟩

theorem SlotSpec.Good.unset {n : String} {lo hi : Option ℝ} (hw : ∀ l h, lo = some l → hi = some h → l ≤ h) :
    SlotSpec.Good true ⟨n, none, lo, hi⟩ := ⟨hw, rfl⟩

theorem SlotSpec.Good.clip {nanOk : Bool} {n : String} {l h : ℝ} (hlh : l ≤ h) (x : ℝ) :
    SlotSpec.Good nanOk ⟨n, some (clipv (some l) (some h) x), some l, some h⟩ := by
  have hw : ∀ l' h', some l = some l' → some h = some h' → l' ≤ h' := by rintro _ _ ⟨⟩ ⟨⟩; exact hlh
  exact ⟨hw, clipv_mem hw x⟩

theorem VSpec.good_dflts (nanOk : Bool) : ∀ ss : List (SlotSpec ℝ), ss.Forall (SlotSpec.Good nanOk) →
    VSpec.WF ⟨ss, nanOk⟩ ∧ VSpec.Ok ⟨ss, nanOk⟩ (ss.map (·.dflt))
  | [], _ => ⟨fun _ hs => (nomatch hs), trivial⟩
  | s :: ss, h => by
    obtain ⟨hs, hss⟩ := (List.forall_cons _ _ _).mp h
    obtain ⟨hw, ho⟩ := VSpec.good_dflts nanOk ss hss
    exact ⟨fun s' hs' => by rcases List.mem_cons.mp hs' with rfl | hm; exacts [hs.1, hw s' hm], hs.2, ho⟩

theorem TObj.inv_of_good {c : Cls} {ps cs is : List (SlotSpec ℝ)} {cn : Bool} {mn : ℝ} {b : Option ℝ}
    (hp : ps.Forall (SlotSpec.Good false)) (hc : cs.Forall (SlotSpec.Good cn)) (hi : is.Forall (SlotSpec.Good false)) :
    (⟨c, ⟨ps, false⟩, ⟨cs, cn⟩, ps.map (·.dflt), cs.map (·.dflt), ⟨is, false⟩, is.map (·.dflt), mn, b⟩ : TObj ℝ).Inv :=
  have P := VSpec.good_dflts false ps hp
  have C := VSpec.good_dflts cn cs hc
  have I := VSpec.good_dflts false is hi
  ⟨P.1, C.1, I.1, P.2, C.2, I.2⟩

end HydroVerif.C01
