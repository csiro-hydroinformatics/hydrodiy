/-
C01 — quantitative bounds for the Yeo-Johnson "sliver": the forward transform selects its branch from
`w = nu + scale*x ≥ EPS`, the backward from `y ≥ EPS`. For `lam ≠ 1` the two tests disagree on a set of width
~`EPS²` next to `w = EPS`; there the other branch's inverse is applied. Both branches are increasing and agree with the
identity to second order (`|f(w) - w| ≤ 2w²` for `lam ∈ [-1, 3]`, `bc_quad`), so an argument with a small value is small
and the round trip through the other branch moves it by at most `36 EPS²`.
Helper lemmas only (the property statements are in Props/C01.lean).
-/
import HydroVerif.Lemmas.C01Real

namespace HydroVerif.C01
open Real

theorem one_sub_inv_le_log {s : ℝ} (hs : 0 < s) : 1 - 1 / s ≤ Real.log s :=
  one_div s ▸ Real.one_sub_inv_le_log_of_pos hs

/-- `3 log s = log s³ ≤ s³ - 1` -/
theorem log_le_cube {s : ℝ} (hs : 0 < s) : Real.log s ≤ (s ^ 3 - 1) / 3 := by
  have h := Real.log_le_sub_one_of_pos (pow_pos hs 3)
  rw [Real.log_pow, Nat.cast_ofNat] at h
  exact (le_div_iff₀' three_pos).mpr h

theorem add_one_le_rpow {k s : ℝ} (hs : 0 < s) : Real.log s * k + 1 ≤ s ^ k := by
  rw [Real.rpow_def_of_pos hs]
  exact Real.add_one_le_exp _

/-- `k < 0`: Bernoulli for the exponent `-k ∈ [0, 1]` at `1/s`; `k > 0`: `s^k ≥ 1 + k log s` and the logarithm's bound -/
theorem bc_lower {lg : Bool} {k s : ℝ} (hk : lg = false → k ≠ 0) (hk1 : -1 ≤ k) (hs : 0 < s) :
    1 - 1 / s ≤ bc lg k s := by
  unfold bc
  cases lg with
  | true => exact one_sub_inv_le_log hs
  | false =>
    show 1 - 1 / s ≤ (s ^ k - 1) / k
    rcases lt_or_gt_of_ne (hk rfl) with hneg | hpos
    · rw [le_div_iff_of_neg hneg]
      have hb := rpow_one_add_le_one_add_mul_self (s := s⁻¹ - 1) (by have := inv_pos.mpr hs; linarith)
        (by linarith : 0 ≤ -k) (by linarith)
      rw [show 1 + (s⁻¹ - 1) = s⁻¹ by ring, Real.inv_rpow hs.le, ← Real.rpow_neg hs.le, neg_neg] at hb
      rw [one_div]
      nlinarith
    · rw [le_div_iff₀ hpos]
      nlinarith [add_one_le_rpow (k := k) hs, one_sub_inv_le_log hs]

/-- `k < 0`: below the logarithm; `k > 0`: Bernoulli for the exponent `k/3 ∈ [0, 1]` at `s³` -/
theorem bc_upper {lg : Bool} {k s : ℝ} (hk : lg = false → k ≠ 0) (hk3 : k ≤ 3) (hs : 0 < s) :
    bc lg k s ≤ (s ^ 3 - 1) / 3 := by
  unfold bc
  cases lg with
  | true => exact log_le_cube hs
  | false =>
    show (s ^ k - 1) / k ≤ (s ^ 3 - 1) / 3
    rcases lt_or_gt_of_ne (hk rfl) with hneg | hpos
    · refine le_trans ?_ (log_le_cube hs)
      rw [div_le_iff_of_neg hneg]
      linarith [add_one_le_rpow (k := k) hs]
    · have ht : 0 < s ^ 3 := by positivity
      have e : s ^ k = (s ^ 3) ^ (k / 3) := by
        rw [← Real.rpow_natCast s 3, ← Real.rpow_mul hs.le]
        congr 1; push_cast; ring
      have hb := rpow_one_add_le_one_add_mul_self (s := s ^ 3 - 1) (by linarith) (p := k / 3)
        (by positivity) (by rw [div_le_one (by norm_num)]; exact hk3)
      rw [show 1 + (s ^ 3 - 1) = s ^ 3 by ring, ← e] at hb
      rw [div_le_iff₀ hpos]
      linarith [show k / 3 * (s ^ 3 - 1) = (s ^ 3 - 1) / 3 * k by ring]

/-- the kernel is the identity to second order at `s = 1`, on both sides of `1` and for every exponent in `[-1, 3]`; on the
right the lower bound is sharper -/
theorem bc_quad {lg : Bool} {k t : ℝ} (hk : lg = false → k ≠ 0) (hk1 : -1 ≤ k) (hk3 : k ≤ 3) (ht : |t| ≤ 1 / 2) :
    |bc lg k (t + 1) - t| ≤ 2 * t ^ 2 ∧ (0 ≤ t → t - t ^ 2 ≤ bc lg k (t + 1)) := by
  obtain ⟨t1, t2⟩ := abs_le.mp ht
  have hs : 0 < t + 1 := by linarith only [t1]
  have hlo := bc_lower hk hk1 hs
  have hup := bc_upper hk hk3 hs
  have h2 : 0 ≤ t ^ 2 := sq_nonneg t
  refine ⟨abs_le.mpr ⟨?_, ?_⟩, fun h0 => ?_⟩
  · -- `(1 - t + 2t²)(t + 1) = 1 + t²(1 + 2t)`
    have h1 : 1 / (t + 1) ≤ 1 - t + 2 * t ^ 2 := by
      rw [div_le_iff₀ hs]
      linarith only [mul_nonneg h2 (by linarith only [t1] : 0 ≤ 1 + 2 * t)]
    linarith only [h1, hlo]
  · -- `((t+1)³ - 1)/3 = t + t² + t·t²/3` and `t ≤ 1/2`
    linarith only [hup, mul_le_mul_of_nonneg_right t2 h2, h2]
  · -- `(1 - t + t²)(t + 1) = 1 + t·t²`
    have h1 : 1 / (t + 1) ≤ 1 - t + t ^ 2 := by
      rw [div_le_iff₀ hs]
      linarith only [mul_nonneg h0 h2]
    linarith only [h1, hlo]

/-- within `2t²` of the identity near `0` -/
def NearId (F : ℝ → ℝ) : Prop := ∀ t, |t| ≤ 1 / 2 → |F t - t| ≤ 2 * t ^ 2

/-- two points of `[0, 3e]` whose images under two such maps coincide -/
theorem near_of_quad {a b y e : ℝ} (ha0 : 0 ≤ a) (hac : a ≤ 3 * e) (hb0 : 0 ≤ b) (hbc : b ≤ 3 * e)
    (ha : |y - a| ≤ 2 * a ^ 2) (hb : |y - b| ≤ 2 * b ^ 2) : |a - b| ≤ 36 * e ^ 2 := by
  have h1 : a ^ 2 ≤ (3 * e) ^ 2 := pow_le_pow_left₀ ha0 hac 2
  have h2 : b ^ 2 ≤ (3 * e) ^ 2 := pow_le_pow_left₀ hb0 hbc 2
  have := abs_sub_le a y b
  rw [abs_sub_comm a y] at this
  linarith [show (3 * e) ^ 2 = 9 * e ^ 2 by ring]

/-! Everything below holds for any branch threshold `e ∈ (0, 1/100]`; the code's `EPS` enters in the last two theorems. -/
section
variable {e : ℝ} (he : e ≤ 1 / 100)
include he

theorem small_arg_pos {k y : ℝ} (hk1 : -3 ≤ k) (hy0 : 0 ≤ y) (hy : y ≤ 3 * e) : 0 < k * y + 1 := by
  have h1 : -3 * y ≤ k * y := mul_le_mul_of_nonneg_right hk1 hy0
  linarith

theorem abs_le_half {t : ℝ} (ht0 : 0 ≤ t) (ht : t ≤ 3 * e) : |t| ≤ 1 / 2 := by
  rw [abs_of_nonneg ht0]; linarith

/-- the two maps at the same small argument -/
theorem near_same {F G : ℝ → ℝ} {u : ℝ} (hF : NearId F) (hG : NearId G) (hu0 : 0 ≤ u) (hu : u ≤ 3 * e) :
    |G u - F u| ≤ 36 * e ^ 2 := by
  have hh := abs_le_half he hu0 hu
  have h := abs_sub_le (G u) u (F u)
  rw [abs_sub_comm u (F u)] at h
  have h1 : u ^ 2 ≤ (3 * e) ^ 2 := pow_le_pow_left₀ hu0 hu 2
  linarith [hF u hh, hG u hh, show (3 * e) ^ 2 = 9 * e ^ 2 by ring]

end

section
variable {e : ℝ} (he0 : 0 < e) (he : e ≤ 1 / 100)
include he0 he

/-- an increasing map near the identity is not small at a large argument: `F (3e) ≥ 3e - 18e² > 2e` -/
theorem small_of_quad {F : ℝ → ℝ} {t : ℝ} (hF : NearId F) (hmono : 3 * e < t → F (3 * e) < F t) (hy : F t ≤ 2 * e) :
    t ≤ 3 * e := by
  by_contra hc
  have hq := hF (3 * e) (abs_le_half he (by linarith) le_rfl)
  linarith only [hmono (not_le.mp hc), (abs_le.mp hq).1, mul_le_mul_of_nonneg_right he he0.le, hy, he0]

/-- forward through `F`, back through an inverse of `G`: `v` with `G v = F w` is within `36e²` of `w` once `F w` is small -/
theorem near_comp {F G : ℝ → ℝ} {w v : ℝ} (hF : NearId F) (hG : NearId G) (hFm : 3 * e < w → F (3 * e) < F w)
    (hGm : 3 * e < v → G (3 * e) < G v) (hw0 : 0 ≤ w) (hv0 : 0 ≤ v) (hvw : G v = F w) (hy : F w ≤ 2 * e) :
    |v - w| ≤ 36 * e ^ 2 := by
  have hw := small_of_quad he0 he hF hFm hy
  have hv := small_of_quad he0 he hG hGm (hvw.trans_le hy)
  exact near_of_quad hv0 hv hw0 hw (hvw ▸ hG v (abs_le_half he hv0 hv)) (hF w (abs_le_half he hw0 hw))

end

namespace YeoJohnson

theorem posF_nearId {lam : ℝ} (hl1 : -1 ≤ lam) (hl3 : lam ≤ 3) : NearId (posF lam) :=
  fun _ ht => (bc_quad isclose0_false hl1 hl3 ht).1

/-- the negative branch is the reflection `v ↦ -bc (2 - lam) (1 - v)` of a positive one -/
theorem negF_nearId {lam : ℝ} (hl1 : -1 ≤ lam) (hl3 : lam ≤ 3) : NearId (negF lam) := fun t ht => by
  have h := (bc_quad (lg := isclose2 lam) (t := -t) isclose2_false (by linarith : -1 ≤ 2 - lam) (by linarith)
    (by rwa [abs_neg])).1
  rw [sub_neg_eq_add, neg_sq] at h
  rwa [negF_eq, ← abs_neg, neg_sub, sub_neg_eq_add, add_comm]

/-- at the junction the negative formula exceeds the positive one by at most `3u²` -/
theorem negF_sub_posF_le {lam u : ℝ} (hl1 : -1 ≤ lam) (hl3 : lam ≤ 3) (hu0 : 0 ≤ u) (hu : u ≤ 1 / 2) :
    negF lam u - posF lam u ≤ 3 * u ^ 2 := by
  have hh : |u| ≤ 1 / 2 := by rwa [abs_of_nonneg hu0]
  linarith [(abs_le.mp (negF_nearId hl1 hl3 u hh)).2, (bc_quad (lg := isclose0 lam) isclose0_false hl1 hl3 hh).2 hu0,
    posF_eq lam u]

theorem posF_lt {lam a b : ℝ} (ha : 0 ≤ a) (h : a < b) : posF lam a < posF lam b :=
  posF_strictMonoOn lam (Set.mem_Ioi.mpr (by linarith)) (Set.mem_Ioi.mpr (by linarith)) h

theorem negF_lt {lam a b : ℝ} (hb : b < 1) (h : a < b) : negF lam a < negF lam b :=
  negF_strictMonoOn lam (Set.mem_Iio.mpr (h.trans hb)) (Set.mem_Iio.mpr hb) h

section
variable {e : ℝ} (he0 : 0 < e) (he : e ≤ 1 / 100)
include he0 he

/-- `backward ∘ forward`, forward on the positive branch (`e ≤ w`) with a value below the threshold: backward inverts the negative one -/
theorem sliver_A {lam w : ℝ} (hl1 : -1 ≤ lam) (hl3 : lam ≤ 3) (hw : e ≤ w) (hy : posF lam w < e) :
    |negB lam (posF lam w) - w| ≤ 36 * e ^ 2 := by
  have hw0 : 0 ≤ w := he0.le.trans hw
  have hy0 : 0 ≤ posF lam w := (bc_nonneg_iff isclose0_false (by linarith)).mpr (by linarith)
  have hq : isclose2 lam = false → 0 < -(2 - lam) * posF lam w + 1 := fun _ =>
    small_arg_pos he (by linarith) hy0 (by linarith)
  exact near_comp he0 he (posF_nearId hl1 hl3) (negF_nearId hl1 hl3) (posF_lt (by linarith))
    (negF_lt (negB_lt_one hq)) hw0 (negB_nonneg hy0 hq) (negF_negB hq) (by linarith)

/-- `backward ∘ forward`, forward on the negative branch (`w < e`) with a value at or above the threshold: backward inverts the
positive one; only possible for `0 ≤ w` (`negF_nonpos`) -/
theorem sliver_B {lam w : ℝ} (hl1 : -1 ≤ lam) (hl3 : lam ≤ 3) (hw : w < e) (hy : e ≤ negF lam w) :
    |posB lam (negF lam w) - w| ≤ 36 * e ^ 2 := by
  have hw0 : 0 ≤ w := by
    by_contra hc
    linarith [negF_nonpos (lam := lam) (not_le.mp hc).le]
  have hN := negF_nearId hl1 hl3 w (abs_le_half he hw0 (by linarith))
  have hy2 : negF lam w ≤ 2 * e := by
    have : w * w ≤ 1 / 100 * w := mul_le_mul_of_nonneg_right (by linarith) hw0
    linarith [(abs_le.mp hN).2]
  have hq : isclose0 lam = false → 0 < lam * negF lam w + 1 := fun _ =>
    small_arg_pos he (by linarith) (by linarith) (by linarith)
  exact near_comp he0 he (negF_nearId hl1 hl3) (posF_nearId hl1 hl3) (negF_lt (by linarith)) (posF_lt (by linarith))
    hw0 (posB_nonneg (by linarith) hq) (posF_posB hq) hy2

/-- `forward ∘ backward`, backward on the positive branch (`e ≤ y`) landing below the threshold: forward applies the negative one -/
theorem sliver_A' {lam y : ℝ} (hl1 : -1 ≤ lam) (hl3 : lam ≤ 3) (hy : e ≤ y)
    (hq : isclose0 lam = false → 0 < lam * y + 1) (hu : posB lam y < e) :
    |negF lam (posB lam y) - y| ≤ 36 * e ^ 2 := by
  have h := near_same he (posF_nearId hl1 hl3) (negF_nearId hl1 hl3) (posB_nonneg (by linarith) hq) (by linarith)
  rwa [posF_posB hq] at h

/-- `forward ∘ backward`, backward on the negative branch (`y < e`) landing at or above the threshold: forward applies the positive one -/
theorem sliver_B' {lam y : ℝ} (hl1 : -1 ≤ lam) (hl3 : lam ≤ 3) (hy : y < e)
    (hq : isclose2 lam = false → 0 < -(2 - lam) * y + 1) (hv : e ≤ negB lam y) :
    |posF lam (negB lam y) - y| ≤ 36 * e ^ 2 := by
  have hvc := small_of_quad he0 he (negF_nearId hl1 hl3) (negF_lt (lam := lam) (negB_lt_one hq))
    (by rw [negF_negB hq]; linarith)
  have h := near_same he (negF_nearId hl1 hl3) (posF_nearId hl1 hl3) (he0.le.trans hv) hvc
  rwa [negF_negB hq] at h

end

theorem eps_small : (eps : ℝ) ≤ 1 / 100 := by unfold eps; norm_num

theorem eps_sq_bound : 36 * (eps : ℝ) ^ 2 ≤ 1e-18 := by unfold eps; norm_num

theorem bwdW_fwdW_near {lam : ℝ} (hl1 : -1 ≤ lam) (hl3 : lam ≤ 3) (w : ℝ) :
    |bwdW lam (fwdW lam w) - w| ≤ 1e-18 := by
  rw [bwdW_eq, fwdW_eq]
  by_cases hw : eps ≤ w
  · rw [if_pos hw]
    by_cases hy : eps ≤ posF lam w
    · rw [if_pos hy, posB_posF (by linarith [eps_pos]), sub_self, abs_zero]; norm_num
    · rw [if_neg hy]; exact (sliver_A eps_pos eps_small hl1 hl3 hw (not_le.mp hy)).trans eps_sq_bound
  · rw [if_neg hw]
    by_cases hy : eps ≤ negF lam w
    · rw [if_pos hy]; exact (sliver_B eps_pos eps_small hl1 hl3 (not_le.mp hw) hy).trans eps_sq_bound
    · rw [if_neg hy, negB_negF (by linarith [eps_lt_one]), sub_self, abs_zero]; norm_num

theorem fwdW_bwdW_near {lam : ℝ} (hl1 : -1 ≤ lam) (hl3 : lam ≤ 3) (y : ℝ)
    (hpos : eps ≤ y → isclose0 lam = false → 0 < lam * y + 1)
    (hneg : ¬ eps ≤ y → isclose2 lam = false → 0 < -(2 - lam) * y + 1) :
    |fwdW lam (bwdW lam y) - y| ≤ 1e-18 := by
  rw [fwdW_eq, bwdW_eq]
  by_cases hy : eps ≤ y
  · rw [if_pos hy]
    by_cases hw : eps ≤ posB lam y
    · rw [if_pos hw, posF_posB (hpos hy), sub_self, abs_zero]; norm_num
    · rw [if_neg hw]; exact (sliver_A' eps_pos eps_small hl1 hl3 hy (hpos hy) (not_le.mp hw)).trans eps_sq_bound
  · rw [if_neg hy]
    by_cases hw : eps ≤ negB lam y
    · rw [if_pos hw]; exact (sliver_B' eps_pos eps_small hl1 hl3 (not_le.mp hy) (hneg hy) hw).trans eps_sq_bound
    · rw [if_neg hw, negF_negB (hneg hy), sub_self, abs_zero]; norm_num

end YeoJohnson

end HydroVerif.C01
