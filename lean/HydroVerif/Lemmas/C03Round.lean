/-
C03 — every rounded arithmetic satisfies `SignArith` (Lemmas/C03Signs.lean): `Fl R`, the numbers of an ordered
field `F` representable for a rounding `R` (monotone, idempotent, fixing 0 and 1), with EVERY operation rounded;
and one such rounding of `ℚ` that is not the identity (`ceilQuarter`). The instance is the statement; `Fl.rnd_nonneg` is
its one lemma.
-/
import HydroVerif.Lemmas.C03Signs
import Mathlib.Order.Monotone.Basic
import Mathlib.Data.Rat.Floor
import Mathlib.Tactic.Linarith.Frontend

set_option linter.unusedSectionVars false
namespace HydroVerif.C03

/-- covers round-to-nearest and the directed roundings, with or without gradual underflow, at any precision -/
structure Rounding (F : Type) [Field F] [LinearOrder F] where
  rnd : F → F
  mono : Monotone rnd
  idem : ∀ x, rnd (rnd x) = rnd x
  zero : rnd 0 = 0
  one : rnd 1 = 1

structure Fl {F : Type} [Field F] [LinearOrder F] (R : Rounding F) where
  val : F
  rep : R.rnd val = val

namespace Fl
variable {F : Type} [Field F] [LinearOrder F] {R : Rounding F}

def mk' (R : Rounding F) (x : F) : Fl R := ⟨R.rnd x, R.idem x⟩

instance : Add (Fl R) := ⟨fun a b => mk' R (a.val + b.val)⟩
instance : Sub (Fl R) := ⟨fun a b => mk' R (a.val - b.val)⟩
instance : Mul (Fl R) := ⟨fun a b => mk' R (a.val * b.val)⟩
instance : Div (Fl R) := ⟨fun a b => mk' R (a.val / b.val)⟩
instance : LT (Fl R) := ⟨fun a b => a.val < b.val⟩
instance : LE (Fl R) := ⟨fun a b => a.val ≤ b.val⟩
instance : DecidableLT (Fl R) := fun a b => inferInstanceAs (Decidable (a.val < b.val))
instance : DecidableLE (Fl R) := fun a b => inferInstanceAs (Decidable (a.val ≤ b.val))
instance : BEq (Fl R) := ⟨fun a b => decide (a.val = b.val)⟩
instance : OfNat (Fl R) 0 := ⟨⟨0, R.zero⟩⟩
instance : OfNat (Fl R) 1 := ⟨⟨1, R.one⟩⟩
instance : NatCast (Fl R) := ⟨fun n => mk' R (n : F)⟩

theorem rnd_nonneg {x : F} (h : 0 ≤ x) : 0 ≤ R.rnd x := by
  have := R.mono h
  rwa [R.zero] at this

instance [IsStrictOrderedRing F] : SignArith (Fl R) where
  le_refl := fun a => _root_.le_refl a.val
  le_of_lt := fun {a b} (h : a.val < b.val) => (_root_.le_of_lt h : a.val ≤ b.val)
  le_of_not_lt := fun {a b} (h : ¬ a.val < b.val) => (not_lt.mp h : b.val ≤ a.val)
  zero_le_one := (_root_.zero_le_one : (0 : F) ≤ 1)
  natCast_nonneg := fun n => (rnd_nonneg (Nat.cast_nonneg n) : (0 : F) ≤ R.rnd (n : F))
  add_nonneg := fun {a b} (ha : (0 : F) ≤ a.val) (hb : (0 : F) ≤ b.val) =>
    (rnd_nonneg (_root_.add_nonneg ha hb) : (0 : F) ≤ R.rnd (a.val + b.val))
  mul_nonneg := fun {a b} (ha : (0 : F) ≤ a.val) (hb : (0 : F) ≤ b.val) =>
    (rnd_nonneg (_root_.mul_nonneg ha hb) : (0 : F) ≤ R.rnd (a.val * b.val))
  mul_self_nonneg := fun a => (rnd_nonneg (_root_.mul_self_nonneg a.val) : (0 : F) ≤ R.rnd (a.val * a.val))
  div_nonneg := fun {a b} (ha : (0 : F) ≤ a.val) (hb : (0 : F) ≤ b.val) =>
    (rnd_nonneg (_root_.div_nonneg ha hb) : (0 : F) ≤ R.rnd (a.val / b.val))
  sub_nonneg := fun {a b} (h : a.val ≤ b.val) =>
    (rnd_nonneg (_root_.sub_nonneg.mpr h) : (0 : F) ≤ R.rnd (b.val - a.val))
  div_add_le_one := fun {a b} (ha : (0 : F) ≤ a.val) (hb : (0 : F) ≤ b.val) => by
    show R.rnd (b.val / R.rnd (a.val + b.val)) ≤ 1
    have hg : b.val ≤ R.rnd (a.val + b.val) := by
      have := R.mono (show b.val ≤ a.val + b.val from le_add_of_nonneg_left ha)
      rwa [b.rep] at this
    have h1 : b.val / R.rnd (a.val + b.val) ≤ 1 := by
      rcases (rnd_nonneg (R := R) (_root_.add_nonneg ha hb)).eq_or_lt' with h | h
      · rw [h, div_zero]; exact _root_.zero_le_one
      · rw [div_le_one h]; exact hg
    have := R.mono h1
    rwa [R.one] at this
  not_pos_of_beq_zero := fun {a} h => by
    have h0 : a.val = 0 := by
      have : decide (a.val = (0 : Fl R).val) = true := h
      have h2 : a.val = (0 : Fl R).val := by simpa using this
      exact h2
    show ¬ (0 : F) < a.val
    rw [h0]; exact lt_irrefl _

end Fl

def ceilQuarter : Rounding ℚ where
  rnd x := (⌈x * 4⌉ : ℚ) / 4
  mono := fun a b h => by
    have : ⌈a * 4⌉ ≤ ⌈b * 4⌉ := Int.ceil_mono (by linarith)
    have h2 : ((⌈a * 4⌉ : ℤ) : ℚ) ≤ ((⌈b * 4⌉ : ℤ) : ℚ) := by exact_mod_cast this
    show (⌈a * 4⌉ : ℚ) / 4 ≤ (⌈b * 4⌉ : ℚ) / 4
    linarith
  idem := fun x => by
    show ((⌈(⌈x * 4⌉ : ℚ) / 4 * 4⌉ : ℤ) : ℚ) / 4 = (⌈x * 4⌉ : ℚ) / 4
    rw [div_mul_cancel₀ _ (by norm_num : (4 : ℚ) ≠ 0), Int.ceil_intCast]
  zero := by simp
  one := by
    show ((⌈(1 : ℚ) * 4⌉ : ℤ) : ℚ) / 4 = 1
    rw [show ((1 : ℚ) * 4) = ((4 : ℤ) : ℚ) by norm_num, Int.ceil_intCast]; norm_num


end HydroVerif.C03
