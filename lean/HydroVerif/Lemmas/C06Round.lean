/-
C06 — what survives rounding. The length theorems of `Props/C06.lean` are exact, over a commutative ring.
IEEE doubles are not a ring; but the accumulated lengths are sums of NON-NEGATIVE terms formed with a MONOTONE
addition (rounding to nearest is monotone: `a ≤ b → c ≤ d → fl(a+c) ≤ fl(b+d)`), and that is enough for the
order / range part of the clause: lengths are non-negative, the distance column of a river never decreases,
a walk of `n` steps is at least "n counted in the same arithmetic" and at most "2n counted in the same
arithmetic", and a chain without diagonal steps has EXACTLY the counted length (in IEEE double the count
`0+1+1+…+1` is the integer `n` itself for `n < 2^53`).

`FloatLike F` lists the facts used; they hold for IEEE binary64 restricted to the finite non-negative values
that occur here, for `ℝ` with `Real.sqrt` (`floatLike_real`) and for a toy arithmetic that really rounds
(`Sat`, `floatLike_sat` below).
-/
import HydroVerif.Lemmas.C06Real

set_option linter.unusedSectionVars false

namespace HydroVerif.C06

section
variable {F : Type} [Add F] [Mul F] [OfNat F 0] [OfNat F 1] [IntCast F] [Transc F] [LinearOrder F]

structure FloatLike (F : Type) [Add F] [Mul F] [OfNat F 0] [OfNat F 1] [IntCast F] [Transc F] [LinearOrder F] :
    Prop where
  add_mono : ∀ a b c d : F, a ≤ b → c ≤ d → a + c ≤ b + d
  add_zero : ∀ a : F, a + 0 = a
  zero_le_one : (0 : F) ≤ 1
  one_le_two : (1 : F) ≤ 1 + 1
  sqrt_one : Transc.sqrt (1 : F) = 1
  one_le_sqrt_two : (1 : F) ≤ Transc.sqrt (1 + 1)
  sqrt_two_le_two : Transc.sqrt (1 + 1 : F) ≤ 1 + 1
  sqrt_nonneg : ∀ x : F, 0 ≤ x → 0 ≤ Transc.sqrt x
  sumsq_nonneg : ∀ a b : Int, (0 : F) ≤ (a : F) * (a : F) + (b : F) * (b : F)

theorem FloatLike.le_add (h : FloatLike F) (a : F) {b : F} (hb : 0 ≤ b) : a ≤ a + b := by
  have := h.add_mono a a 0 b (le_refl a) hb
  rwa [h.add_zero] at this

theorem stepLen_bounds (h : FloatLike F) (d : Bool) :
    (1 : F) ≤ stepLen d ∧ (stepLen d : F) ≤ 1 + 1 := by
  cases d
  · show (1 : F) ≤ Transc.sqrt 1 ∧ Transc.sqrt (1 : F) ≤ 1 + 1
    rw [h.sqrt_one]; exact ⟨le_refl _, h.one_le_two⟩
  · exact ⟨h.one_le_sqrt_two, h.sqrt_two_le_two⟩

theorem pathLength_rounded (h : FloatLike F) (steps : List Bool) :
    (0 : F) ≤ pathLength steps ∧
    (countBy (1 : F) steps.length ≤ pathLength steps ∧ (pathLength steps : F) ≤ countBy (1 + 1) steps.length) ∧
    ∀ d : Bool, (pathLength steps : F) ≤ pathLength (steps ++ [d]) := by
  have key : ∀ steps : List Bool, (0 : F) ≤ pathLength steps ∧
      countBy (1 : F) steps.length ≤ pathLength steps ∧ (pathLength steps : F) ≤ countBy (1 + 1) steps.length := by
    intro steps
    induction steps using List.reverseRecOn with
    | nil => exact ⟨le_refl _, le_refl _, le_refl _⟩
    | append_singleton l d ih =>
      obtain ⟨i0, i1, i2⟩ := ih
      obtain ⟨b1, b2⟩ := stepLen_bounds h d
      rw [pathLength_append, List.length_append, List.length_singleton]
      exact ⟨i0.trans (h.le_add _ (h.zero_le_one.trans b1)), h.add_mono _ _ _ _ i1 b1, h.add_mono _ _ _ _ i2 b2⟩
  refine ⟨(key steps).1, (key steps).2, fun d => ?_⟩
  rw [pathLength_append]
  exact h.le_add _ (h.zero_le_one.trans (stepLen_bounds h d).1)

theorem riverLoop_dist_mono (h : FloatLike F) (codes : List Int) (g : FlowGrid) :
    ∀ (n : Nat) (cur : Int) (dist : F) (dx dy : Int),
      (∀ r ∈ riverLoop codes g n cur dist dx dy, dist ≤ r.dist) ∧
      ((riverLoop codes g n cur dist dx dy).map (·.dist)).Pairwise (· ≤ ·) := by
  intro n
  induction n with
  | zero => intro cur dist dx dy; simp [riverLoop]
  | succ n ih =>
    intro cur dist dx dy
    have hstep : dist ≤ dist + hypot dx dy := h.le_add dist (h.sqrt_nonneg _ (h.sumsq_nonneg dx dy))
    simp only [riverLoop]
    split
    · simp [hstep]
    · obtain ⟨i1, i2⟩ := ih (downstreamCell codes g cur) (dist + hypot dx dy)
        (C07.colOf g.ncols cur - C07.colOf g.ncols (downstreamCell codes g cur))
        (C07.rowOf g.ncols cur - C07.rowOf g.ncols (downstreamCell codes g cur))
      constructor
      · intro r hr
        rcases List.mem_cons.1 hr with rfl | hr
        · exact hstep
        · exact hstep.trans (i1 r hr)
      · rw [List.map_cons, List.pairwise_cons]
        refine ⟨?_, i2⟩
        intro x hx
        obtain ⟨r, hr, rfl⟩ := List.mem_map.1 hx
        exact i1 r hr

end

theorem floatLike_real : letI := realTransc; FloatLike ℝ := by
  let _ := realTransc
  refine
    { add_mono := fun a b c d h1 h2 => add_le_add h1 h2
      add_zero := fun a => add_zero a
      zero_le_one := zero_le_one
      one_le_two := by norm_num
      sqrt_one := Real.sqrt_one
      one_le_sqrt_two := ?_
      sqrt_two_le_two := ?_
      sqrt_nonneg := fun x _ => Real.sqrt_nonneg x
      sumsq_nonneg := fun a b => add_nonneg (mul_self_nonneg _) (mul_self_nonneg _) }
  · show (1 : ℝ) ≤ Real.sqrt (1 + 1)
    rw [show (1 : ℝ) = Real.sqrt 1 from Real.sqrt_one.symm]
    exact Real.sqrt_le_sqrt (by norm_num)
  · show Real.sqrt (1 + 1) ≤ 1 + 1
    rw [Real.sqrt_le_left (by norm_num)]
    norm_num

/-! ### a toy arithmetic that really rounds: `0 .. 8` with saturating operations

Not a ring (`8 + 1 = 8`): the exact theorem `length = #orth + √2 #diag` fails in it, the order theorems
hold — the hypotheses of `FloatLike` do not smuggle exactness in. -/

def Sat := Fin 9

namespace Sat
def mk (n : Nat) : Sat := ⟨min n 8, by omega⟩
instance : LinearOrder Sat := inferInstanceAs (LinearOrder (Fin 9))
instance : Add Sat := ⟨fun a b => mk (a.val + b.val)⟩
instance : Mul Sat := ⟨fun a b => mk (a.val * b.val)⟩
instance : OfNat Sat 0 := ⟨mk 0⟩
instance : OfNat Sat 1 := ⟨mk 1⟩
instance : IntCast Sat := ⟨fun z => mk z.natAbs⟩
instance : Transc Sat where
  exp := id
  log := id
  sqrt := fun x => mk (if x.val ≤ 1 then x.val else 2)
  sinh := id
  cosh := id
  tanh := id
  asinh := id
  pow := fun x _ => x

theorem le_iff (a b : Sat) : a ≤ b ↔ a.val ≤ b.val := Fin.le_def
theorem add_val (a b : Sat) : (a + b).val = min (a.val + b.val) 8 := rfl
theorem zero_val : (0 : Sat).val = 0 := rfl
theorem one_val : (1 : Sat).val = 1 := rfl
end Sat

theorem floatLike_sat : FloatLike Sat where
  add_mono := by
    intro a b c d h1 h2
    rw [Sat.le_iff] at h1 h2 ⊢
    rw [Sat.add_val, Sat.add_val]; omega
  add_zero := by
    intro a
    apply Fin.ext
    rw [Sat.add_val, Sat.zero_val]
    have := a.isLt
    omega
  zero_le_one := by decide
  one_le_two := by decide
  sqrt_one := by decide
  one_le_sqrt_two := by decide
  sqrt_two_le_two := by decide
  sqrt_nonneg := fun x _ => by rw [Sat.le_iff]; exact Nat.zero_le _
  sumsq_nonneg := fun a b => by rw [Sat.le_iff]; exact Nat.zero_le _

/-- in the toy arithmetic 12 orthogonal steps have length 8 (the count `0+1+…+1` saturates): the exact
statement over a ring is false there, `length_orthogonal_exact` of `Props/C06.lean` (length = count in the same arithmetic) holds -/
example : (pathLength (List.replicate 12 false) : Sat) = countBy 1 12 ∧
    (pathLength (List.replicate 12 false) : Sat) = Sat.mk 8 := by decide

end HydroVerif.C06
