/-
C03 — the SIGNS of the decomposition, over any carrier whose arithmetic satisfies `SignArith`.

`SignArith β` lists what the sign argument uses of the arithmetic of the carrier. Every law in it survives
rounding: it holds in every linearly ordered field (exact arithmetic, instance below) and in every arithmetic that
rounds EVERY operation monotonically (`Fl R` of `Lemmas/C03Round.lean`) — which is what IEEE-754 arithmetic is
as long as nothing overflows. No associativity, distributivity or cancellation law is in the list (those are
false for doubles). The sign theorems are read off `NN_loop` (under the kernel's EDOM guard the forecast loop keeps every
accumulator `≥ 0`: the invariant `NN`) and `finish_nn` (on such a state reliability, potential and uncertainty are numbers `≥ 0`).
Also here, shared with the exact theorems: the walks over the rows of the table (`mids_forall`, `table_forall`) and
`head_last_of_ne_nil`.
-/
import HydroVerif.Model.C03
import Mathlib.Algebra.Order.Field.Basic

set_option linter.unusedSectionVars false
namespace HydroVerif.C03

class SignArith (β : Type) [Add β] [Sub β] [Mul β] [Div β] [LT β] [LE β] [BEq β] [OfNat β 0] [OfNat β 1]
    [NatCast β] : Prop where
  le_refl : ∀ a : β, a ≤ a
  le_of_lt : ∀ {a b : β}, a < b → a ≤ b
  le_of_not_lt : ∀ {a b : β}, ¬ a < b → b ≤ a
  zero_le_one : (0 : β) ≤ 1
  natCast_nonneg : ∀ n : ℕ, (0 : β) ≤ (n : β)
  add_nonneg : ∀ {a b : β}, 0 ≤ a → 0 ≤ b → 0 ≤ a + b
  mul_nonneg : ∀ {a b : β}, 0 ≤ a → 0 ≤ b → 0 ≤ a * b
  mul_self_nonneg : ∀ a : β, 0 ≤ a * a
  div_nonneg : ∀ {a b : β}, 0 ≤ a → 0 ≤ b → 0 ≤ a / b
  sub_nonneg : ∀ {a b : β}, a ≤ b → 0 ≤ b - a
  /-- a part is at most the (rounded) whole: `b / fl(a + b) ≤ 1` -/
  div_add_le_one : ∀ {a b : β}, 0 ≤ a → 0 ≤ b → b / (a + b) ≤ 1
  not_pos_of_beq_zero : ∀ {a : β}, (a == 0) = true → ¬ 0 < a

instance {α : Type} [Field α] [LinearOrder α] [IsStrictOrderedRing α] : SignArith α where
  le_refl := _root_.le_refl
  le_of_lt := _root_.le_of_lt
  le_of_not_lt := fun h => not_lt.mp h
  zero_le_one := _root_.zero_le_one
  natCast_nonneg := Nat.cast_nonneg
  add_nonneg := _root_.add_nonneg
  mul_nonneg := _root_.mul_nonneg
  mul_self_nonneg := _root_.mul_self_nonneg
  div_nonneg := _root_.div_nonneg
  sub_nonneg := fun h => _root_.sub_nonneg.mpr h
  div_add_le_one := fun {a b} ha hb => by
    rcases (_root_.add_nonneg ha hb).eq_or_lt' with h | h
    · rw [h, div_zero]; exact _root_.zero_le_one
    · rw [div_le_one h]; exact le_add_of_nonneg_left ha
  not_pos_of_beq_zero := fun {a} h => by
    have : a = 0 := by simpa using h
    rw [this]; exact lt_irrefl _

section Table
variable {β : Type} [Add β] [Sub β] [Mul β] [Div β] [LT β] [DecidableLT β] [LE β] [DecidableLE β]
  [BEq β] [OfNat β 0] [OfNat β 1] [NatCast β]

theorem head_last_of_ne_nil {e : List β} (h : e ≠ []) : ∃ f l, e.head? = some f ∧ e.getLast? = some l :=
  ⟨_, _, List.head?_eq_some_head h, List.getLast?_eq_some_getLast h⟩

theorem mids_forall {m : ℕ} {Q : β × β → Prop} {P : Row β → Prop} (h : ∀ j ab, Q ab → P (rowMid m j ab)) :
    ∀ (ab : List (β × β)) (k : ℕ), (∀ p ∈ ab, Q p) → ∀ r ∈ mids m k ab, P r
  | [], _, _, _, hr => nomatch hr
  | q :: t, k, hq, r, hr => by
    rcases List.mem_cons.mp hr with rfl | hr
    · exact h k q (hq q List.mem_cons_self)
    · exact mids_forall h t (k + 1) (fun p hp => hq p (List.mem_cons_of_mem _ hp)) r hr

theorem table_forall {m : ℕ} {s : Acc β} {P : Row β → Prop} (h0 : P (row0 m s)) (hmid : ∀ r ∈ mids m 1 s.ab, P r)
    (hN : P (rowN m s)) : ∀ r ∈ table m s, P r := by
  intro r hr
  rcases List.mem_cons.mp hr with rfl | hr
  · exact h0
  rcases List.mem_append.mp hr with hr | hr
  · exact hmid r hr
  · rw [List.mem_singleton.mp hr]; exact hN

end Table

section Signs
variable {β : Type} [Add β] [Sub β] [Mul β] [Div β] [LT β] [DecidableLT β] [LE β] [DecidableLE β]
  [BEq β] [OfNat β 0] [OfNat β 1] [NatCast β] [SignArith β]

-- the laws are cited as `SignArith.…`: opened, each name would be ambiguous with Mathlib's and elaborated twice

theorem absv_nonneg (d : β) : 0 ≤ absv d := by
  unfold absv
  split
  · rename_i h; exact SignArith.sub_nonneg (SignArith.le_of_lt h)
  · rename_i h; exact SignArith.le_of_not_lt h

theorem ite_add_nonneg {x d : β} (c : Prop) [Decidable c] (hx : 0 ≤ x) (hd : c → 0 ≤ d) :
    0 ≤ if c then x + d else x := by
  split
  · rename_i h; exact SignArith.add_nonneg hx (hd h)
  · exact hx

theorem binStep_nonneg {w y l r : β} {ab : β × β} (hw : 0 ≤ w) (hlr : l ≤ r) (ha : 0 ≤ ab.1) (hb : 0 ≤ ab.2) :
    0 ≤ (binStep w y l r ab).1 ∧ 0 ≤ (binStep w y l r ab).2 := by
  have hd : (0 : β) ≤ (r - l) * w := SignArith.mul_nonneg (SignArith.sub_nonneg hlr) hw
  have ha1 := ite_add_nonneg (r ≤ y) ha fun _ => hd
  have hb1 := ite_add_nonneg (y ≤ l) hb fun _ => hd
  unfold binStep
  simp only
  split
  · rename_i h
    exact ⟨SignArith.add_nonneg ha1 (SignArith.mul_nonneg (SignArith.sub_nonneg (SignArith.le_of_lt h.1)) hw),
      SignArith.add_nonneg hb1 (SignArith.mul_nonneg (SignArith.sub_nonneg (SignArith.le_of_lt h.2)) hw)⟩
  · exact ⟨ha1, hb1⟩

/-- the guard `ensemb[j+1] < ensemb[j] → EDOM` is what makes every bin width non-negative -/
theorem binsStep_nonneg {w y : β} (hw : 0 ≤ w) : ∀ (e : List β) (ab : List (β × β)), unsortedAt e = false →
    (∀ p ∈ ab, 0 ≤ p.1 ∧ 0 ≤ p.2) → ∀ p ∈ binsStep w y e ab, 0 ≤ p.1 ∧ 0 ≤ p.2
  | [], _, _, h => h
  | [_], _, _, h => h
  | _ :: _ :: _, [], _, h => h
  | l :: r :: es, q :: rest, hu, h => by
    obtain ⟨hlr, hu⟩ := Bool.or_eq_false_iff.mp hu
    show ∀ p ∈ binStep w y l r q :: binsStep w y (r :: es) rest, _
    exact List.forall_mem_cons.mpr ⟨binStep_nonneg hw (SignArith.le_of_not_lt (of_decide_eq_false hlr)) (h q List.mem_cons_self).1
        (h q List.mem_cons_self).2,
      binsStep_nonneg hw (r :: es) rest hu fun p hp => h p (List.mem_cons_of_mem _ hp)⟩

theorem uncStep_nonneg {w y : β} (hw : 0 ≤ w) : ∀ (prev : List β) (u : β), 0 ≤ u → 0 ≤ uncStep w y prev u
  | [], _, h => h
  | yk :: prev, _, h =>
    uncStep_nonneg hw prev _ (SignArith.add_nonneg h (SignArith.mul_nonneg (SignArith.mul_nonneg hw hw) (absv_nonneg (yk - y))))

/-- the sign invariant of the forecast loop: every accumulator of the state is `≥ 0` -/
structure NN (s : Acc β) : Prop where
  ab : ∀ p ∈ s.ab, 0 ≤ p.1 ∧ 0 ≤ p.2
  b0 : 0 ≤ s.b0
  aN : 0 ≤ s.aN
  o0 : 0 ≤ s.o0
  oN : 0 ≤ s.oN
  unc : 0 ≤ s.unc

theorem NN_init (m : ℕ) : NN (init m : Acc β) := by
  refine ⟨?_, SignArith.le_refl _, SignArith.le_refl _, SignArith.le_refl _, SignArith.le_refl _, SignArith.le_refl _⟩
  intro p hp
  rw [init, List.mem_replicate] at hp
  rw [hp.2]; exact ⟨SignArith.le_refl _, SignArith.le_refl _⟩

theorem NN_step {w : β} (hw : 0 ≤ w) (prev : List β) (y : β) (e : List β) (f l : β) (s : Acc β)
    (hu : unsortedAt e = false) (h : NN s) : NN (step w prev y e f l s) where
  ab := binsStep_nonneg hw e s.ab hu h.ab
  b0 := ite_add_nonneg _ h.b0 fun hlt => SignArith.mul_nonneg (SignArith.sub_nonneg (SignArith.le_of_lt hlt)) hw
  aN := ite_add_nonneg _ h.aN fun hle => SignArith.mul_nonneg (SignArith.sub_nonneg hle) hw
  o0 := ite_add_nonneg _ h.o0 fun _ => hw
  oN := ite_add_nonneg _ h.oN fun _ => hw
  unc := uncStep_nonneg hw prev s.unc h.unc

theorem NN_loop (sort : List β → List β) {w : β} (hw : 0 ≤ w) :
    ∀ (F : List (β × List β)) (prev : List β) (s s' : Acc β), loop sort w prev F s = .ok s' → NN s → NN s'
  | [], _, s, s', h, hs => by
    simp only [loop] at h
    cases h; exact hs
  | (y, row) :: rest, prev, s, s', h, hs => by
    unfold loop at h
    simp only at h
    split at h
    · cases h
    · rename_i hu
      split at h
      · exact NN_loop sort hw rest _ _ s' h (NN_step hw prev y _ _ _ s (by simpa using hu) hs)
      · cases h

/-- what `accRow` needs of a row to keep the totals numbers `≥ 0`: a row it sums (`0 < g`) has numbers `≥ 0` in its
reliability and potential columns (a row with `g = 0` may hold NaN there: it is skipped) -/
def RowNN (r : Row β) : Prop := 0 < r.g → ∃ rr cc, r.r = some rr ∧ r.c = some cc ∧ 0 ≤ rr ∧ 0 ≤ cc

theorem mkRow_nn (p a b g o : β) (hg : 0 ≤ g) (ho0 : 0 ≤ o) (ho1 : o ≤ 1) : RowNN (mkRow p a b g (some o)) :=
  fun _ => ⟨g * sq (o - p), g * o * (1 - o), rfl, rfl, SignArith.mul_nonneg hg (SignArith.mul_self_nonneg _),
    SignArith.mul_nonneg (SignArith.mul_nonneg hg ho0) (SignArith.sub_nonneg ho1)⟩

theorem rowMid_nn (m j : ℕ) (ab : β × β) (h : 0 ≤ ab.1 ∧ 0 ≤ ab.2) : RowNN (rowMid m j ab) := by
  unfold rowMid
  simp only
  split
  · rename_i hz
    exact fun hpos => absurd hpos (SignArith.not_pos_of_beq_zero hz)
  · exact mkRow_nn _ _ _ _ _ (SignArith.add_nonneg h.1 h.2) (SignArith.div_nonneg h.2 (SignArith.add_nonneg h.1 h.2)) (SignArith.div_add_le_one h.1 h.2)

/-- after the cut `if(o > 1.0) o = 1.0` both outlier frequencies are in `[0, 1]` -/
theorem clampFreq_bounds (s : Acc β) (h : NN s) :
    NN (clampFreq s) ∧ (clampFreq s).o0 ≤ 1 ∧ (clampFreq s).oN ≤ 1 := by
  have cut : ∀ o : β, 0 ≤ o → 0 ≤ (if 1 < o then (1 : β) else o) ∧ (if 1 < o then (1 : β) else o) ≤ 1 := by
    intro o ho
    split
    · exact ⟨SignArith.zero_le_one, SignArith.le_refl _⟩
    · rename_i hh; exact ⟨ho, SignArith.le_of_not_lt hh⟩
  exact ⟨⟨h.ab, h.b0, h.aN, (cut _ h.o0).1, (cut _ h.oN).1, h.unc⟩, (cut _ h.o0).2, (cut _ h.oN).2⟩

theorem accRow_nn (t : Tot β) (r : Row β) (hr : RowNN r)
    (h : ∃ x z, t.reli = some x ∧ t.pot = some z ∧ 0 ≤ x ∧ 0 ≤ z) :
    ∃ x z, (accRow t r).reli = some x ∧ (accRow t r).pot = some z ∧ 0 ≤ x ∧ 0 ≤ z := by
  obtain ⟨x, z, hx, hz, hx0, hz0⟩ := h
  unfold accRow
  split
  · rename_i hpos
    obtain ⟨rr, cc, h1, h2, h3, h4⟩ := hr hpos
    rw [hx, hz, h1, h2]
    exact ⟨x + rr, z + cc, rfl, rfl, SignArith.add_nonneg hx0 h3, SignArith.add_nonneg hz0 h4⟩
  · exact ⟨x, z, hx, hz, hx0, hz0⟩

theorem finish_nn (m : ℕ) (s : Acc β) (h : NN s) :
    (∃ x, (finish m s).reli = some x ∧ 0 ≤ x) ∧ (∃ z, (finish m s).pot = some z ∧ 0 ≤ z) ∧ 0 ≤ (finish m s).unc := by
  obtain ⟨hc, h0, hN⟩ := clampFreq_bounds s h
  have hrows : ∀ r ∈ table m (clampFreq s), RowNN r := by
    apply table_forall _ (mids_forall (rowMid_nn m) _ 1 hc.ab)
    · apply mkRow_nn _ _ _ _ _ _ hc.oN hN
      split
      · exact SignArith.div_nonneg hc.aN (SignArith.sub_nonneg hN)
      · exact SignArith.le_refl _
    · apply mkRow_nn _ _ _ _ _ _ hc.o0 h0
      split
      · exact SignArith.div_nonneg hc.b0 hc.o0
      · exact SignArith.le_refl _
  obtain ⟨x, z, hx, hz, hx0, hz0⟩ := List.foldlRecOn (table m (clampFreq s)) accRow
    (b := ({ crps := 0, reli := some 0, pot := some 0 } : Tot β))
    ⟨0, 0, rfl, rfl, SignArith.le_refl _, SignArith.le_refl _⟩ fun t ht r hr => accRow_nn t r (hrows r hr) ht
  exact ⟨⟨x, hx, hx0⟩, ⟨z, hz, hz0⟩, hc.unc⟩

end Signs
end HydroVerif.C03
