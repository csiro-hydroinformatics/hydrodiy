/-
C11 (flow accumulation): the walk along a downstream chain described pointwise (`endsAt` / `hitCount`), the loop
invariant of the acyclic case, the two-buffer memory model, the pinned kernel and the `nprint` loop. Generic over the value type
(`[Add α]` only): no algebraic law of `+` is used here.
The way of the proofs: a buffer is replaced by the function `Nat → α` it represents (`Rep`), one walk and the loop over
the sources by what they do to that function (`walkFn`, `loopFn`), and the value of a cell is then read off pointwise.
C06 has a model of `c_downstream` of its own (the grid a function, the table a separate argument with `TableOK`): the
two agree on 9-entry tables only and nothing is shared with it but `Lemmas/Chain` (used in `Lemmas/C11Sum`).
-/
import HydroVerif.Model.C11
import HydroVerif.Lemmas.C07Grid
import Mathlib.Logic.Function.Iterate

namespace HydroVerif.C11
open HydroVerif.C07

/-- the flow-direction grids the value theorems speak of: every row has cells (the property's "grids of r x c cells";
the code does not test it, `cAccumulate_zero_cols`) and the data has `nrows*ncols` entries (what the wrapper guarantees:
the dimensions are read off `flowdir.shape`) -/
structure WF (g : FlowGrid) : Prop where
  ncols_pos : 0 < g.ncols
  size_eq : g.flowdir.size = g.ntot.toNat

variable {g : FlowGrid}

theorem downScan_not_mem {nrows ncols idx fd : Int} {l : List Int} {j : Nat} {d : Int} (h : fd ∉ l) :
    downScan nrows ncols idx fd l j d = d := by
  induction l generalizing j d with
  | nil => rfl
  | cons code rest ih =>
    unfold downScan
    rw [List.mem_cons, not_or] at h
    rw [if_neg h.1]
    exact ih h.2

/-- the LAST position holding the code decides -/
theorem downScan_last {nrows ncols idx fd : Int} {l : List Int} {j : Nat} {d : Int} {k : Nat}
    (hk : l[k]? = some fd) (hlast : ∀ k', k < k' → l[k']? ≠ some fd) :
    downScan nrows ncols idx fd l j d = neighbour nrows ncols idx (j + k) := by
  induction l generalizing j d k with
  | nil => cases hk
  | cons code rest ih =>
    unfold downScan
    cases k with
    | zero =>
      obtain rfl : code = fd := Option.some.inj hk
      rw [if_pos rfl, downScan_not_mem]
      · rfl
      · intro hmem
        obtain ⟨i, hi⟩ := List.getElem?_of_mem hmem
        exact hlast (i + 1) (Nat.succ_pos i) hi
    | succ k =>
      rw [ih hk fun k' hk' => hlast (k' + 1) (Nat.succ_lt_succ hk'), Nat.add_right_comm, Nat.add_assoc]

theorem exists_last_index {l : List Int} {x : Int} (h : x ∈ l) :
    ∃ k : Nat, l[k]? = some x ∧ ∀ k' : Nat, k < k' → l[k']? ≠ some x := by
  induction l with
  | nil => cases h
  | cons y rest ih =>
    by_cases hr : x ∈ rest
    · obtain ⟨k, h1, h2⟩ := ih hr
      refine ⟨k + 1, h1, fun k' hk' => ?_⟩
      obtain ⟨k'', rfl⟩ := Nat.exists_eq_succ_of_ne_zero (Nat.ne_of_gt (Nat.zero_lt_of_lt hk'))
      exact h2 k'' (Nat.lt_of_succ_lt_succ hk')
    · obtain rfl : x = y := (List.mem_cons.1 h).resolve_right hr
      refine ⟨0, rfl, fun k' hk' hc => hr ?_⟩
      obtain ⟨k'', rfl⟩ := Nat.exists_eq_succ_of_ne_zero (Nat.ne_of_gt hk')
      exact List.mem_of_getElem? hc

theorem downScan_cases (nrows ncols idx fd : Int) (l : List Int) (j : Nat) (d : Int) :
    downScan nrows ncols idx fd l j d = d ∨
      ∃ k, j ≤ k ∧ k < j + l.length ∧ downScan nrows ncols idx fd l j d = neighbour nrows ncols idx k := by
  by_cases h : fd ∈ l
  · obtain ⟨k, hk, hlast⟩ := exists_last_index h
    obtain ⟨hlt, -⟩ := List.getElem?_eq_some_iff.1 hk
    exact Or.inr ⟨j + k, Nat.le_add_right _ _, by omega, downScan_last hk hlast⟩
  · exact Or.inl (downScan_not_mem h)

theorem valid_of_lt {i : Nat} (hi : i < g.ntot.toNat) :
    validCell g.nrows g.ncols (i : Int) = true :=
  validCell_iff_exists_nat.2 ⟨i, hi, rfl⟩

theorem lt_of_valid {c : Int} (hv : validCell g.nrows g.ncols c = true) :
    c.toNat < g.ntot.toNat ∧ ((c.toNat : Nat) : Int) = c := by
  obtain ⟨n, hn, rfl⟩ := validCell_iff_exists_nat.1 hv
  exact ⟨hn, rfl⟩

theorem valid_toNat_lt (hsz : g.flowdir.size = g.ntot.toNat)
    {c : Int} (hv : validCell g.nrows g.ncols c = true) : c.toNat < g.flowdir.size :=
  hsz ▸ (lt_of_valid hv).1

theorem downstream_ok (hsz : g.flowdir.size = g.ntot.toNat)
    {c : Int} (hv : validCell g.nrows g.ncols c = true) :
    downstream g c = .ok (dn g c) := by
  unfold dn downstream
  rw [if_pos hv, Array.getElem?_eq_getElem (valid_toNat_lt hsz hv)]

theorem dn_eq {c fd : Int} (hv : validCell g.nrows g.ncols c = true)
    (hfd : g.flowdir[c.toNat]? = some fd) :
    dn g c = if fd = 0 then -2 else downScan g.nrows g.ncols c fd g.codes 0 (-1) := by
  unfold dn downstream
  rw [if_pos hv, hfd]

theorem dn_of_invalid {c : Int} (hv : validCell g.nrows g.ncols c = false) : dn g c = -1 := by
  unfold dn downstream
  simp [hv]

theorem dn_neg_or_neighbour (hsz : g.flowdir.size = g.ntot.toNat)
    {c : Int} (hv : validCell g.nrows g.ncols c = true) :
    dn g c = -2 ∨ dn g c = -1 ∨ (validCell g.nrows g.ncols (dn g c) = true ∧
      ∃ k, k < g.codes.length ∧ k ≠ 4 ∧ neighbour g.nrows g.ncols c k = dn g c) := by
  have hlt := valid_toNat_lt hsz hv
  rw [dn_eq hv (Array.getElem?_eq_getElem hlt)]
  split
  · exact Or.inl rfl
  · right
    rcases downScan_cases g.nrows g.ncols c g.flowdir[c.toNat] g.codes 0 (-1) with h | ⟨k, -, hk, h⟩
    · exact Or.inl h
    · rw [h]
      by_cases hd : neighbour g.nrows g.ncols c k = -1
      · exact Or.inl hd
      · refine Or.inr ⟨neighbour_valid rfl hd, k, by omega, ?_, rfl⟩
        rintro rfl
        exact hd (neighbour_eq_neg_one_iff.2 (Or.inl (by decide)))

theorem dn_nonneg_valid (hsz : g.flowdir.size = g.ntot.toNat)
    {c : Int} (hv : validCell g.nrows g.ncols c = true)
    (h : 0 ≤ dn g c) : validCell g.nrows g.ncols (dn g c) = true := by
  rcases dn_neg_or_neighbour hsz hv with h1 | h1 | h1
  · omega
  · omega
  · exact h1.1

theorem valid_of_dn_nonneg {c : Int} (h : 0 ≤ dn g c) : validCell g.nrows g.ncols c = true := by
  by_contra hv
  rw [Bool.not_eq_true] at hv
  rw [dn_of_invalid hv] at h
  omega

theorem iterDn_eq_iterate (g : FlowGrid) (k : Nat) (c : Int) : iterDn g k c = (dn g)^[k] c := by
  induction k generalizing c with
  | zero => rfl
  | succ k ih => exact ih (dn g c)

theorem iterDn_succ (g : FlowGrid) (k : Nat) (c : Int) : iterDn g (k + 1) c = dn g (iterDn g k c) := by
  rw [iterDn_eq_iterate, iterDn_eq_iterate]
  exact Function.iterate_succ_apply' _ k c

theorem iterDn_add (g : FlowGrid) (a b : Nat) (c : Int) : iterDn g (a + b) c = iterDn g b (iterDn g a c) := by
  rw [iterDn_eq_iterate, iterDn_eq_iterate, iterDn_eq_iterate, Nat.add_comm]
  exact Function.iterate_add_apply _ b a c

theorem iterDn_neg {c : Int} (h : c < 0) (k : Nat) : iterDn g k c < 0 := by
  induction k generalizing c with
  | zero => exact h
  | succ k ih => exact ih (by rw [dn_of_invalid (validCell_eq_false_iff.2 (Or.inl h))]; decide)

theorem iterDn_neg_mono {c : Int} {k k' : Nat} (h : iterDn g k c < 0) (hk : k ≤ k') :
    iterDn g k' c < 0 := by
  obtain ⟨d, rfl⟩ := Nat.exists_eq_add_of_le hk
  rw [iterDn_add]
  exact iterDn_neg h d

theorem iterDn_nonneg_of_le {g : FlowGrid} {c : Int} {k k' : Nat} (h : 0 ≤ iterDn g k' c) (hk : k ≤ k') :
    0 ≤ iterDn g k c := by
  by_contra hn
  have := iterDn_neg_mono (g := g) (c := c) (k := k) (k' := k') (by omega) hk
  omega

theorem iterDn_period {x : Int} {m : Nat} (h : iterDn g m x = x) (q : Nat) :
    iterDn g (m * q) x = x := by
  rw [iterDn_eq_iterate] at h ⊢
  rw [Function.iterate_mul]
  exact Function.iterate_fixed h q

theorem endsAt_dn_neg {f : Nat} {x t : Int} (h : endsAt g f x = some t) : dn g t < 0 := by
  induction f generalizing x with
  | zero => simp [endsAt] at h
  | succ f ih =>
    unfold endsAt at h
    split at h
    · rename_i hd
      cases h; exact hd
    · exact ih h

theorem endsAt_self {f : Nat} {x : Int} (hd : dn g x < 0) (h : (endsAt g f x).isSome = true) :
    endsAt g f x = some x := by
  cases f with
  | zero => cases h
  | succ f => exact if_pos hd

theorem endsAt_eq_some_iff {f : Nat} {x t : Int} (hx : 0 ≤ x) :
    endsAt g f x = some t ↔ ∃ k, k < f ∧ iterDn g k x = t ∧ 0 ≤ t ∧ dn g t < 0 := by
  induction f generalizing x with
  | zero => simp [endsAt]
  | succ f ih =>
    unfold endsAt
    split
    · rename_i hd
      constructor
      · intro h
        cases h
        exact ⟨0, Nat.succ_pos _, rfl, hx, hd⟩
      · rintro ⟨k, _, hk, ht, _⟩
        cases k with
        | zero => rw [← hk]; rfl
        | succ k =>
          rw [iterDn] at hk
          have := iterDn_neg (g := g) hd k
          omega
    · rename_i hd
      rw [ih (Int.not_lt.1 hd)]
      constructor
      · rintro ⟨k, hk, h1, h2, h3⟩
        exact ⟨k + 1, Nat.succ_lt_succ hk, h1, h2, h3⟩
      · rintro ⟨k, hk, h1, h2, h3⟩
        cases k with
        | zero =>
          rw [iterDn] at h1
          subst h1
          exact absurd h3 hd
        | succ k => exact ⟨k, Nat.lt_of_succ_lt_succ hk, h1, h2, h3⟩

theorem onPath_iff {f : Nat} {x j : Int} (hj : 0 ≤ j) :
    onPath g f x j = true ↔ ∃ m, 1 ≤ m ∧ m ≤ f ∧ iterDn g m x = j := by
  induction f generalizing x with
  | zero =>
    simp only [onPath, Bool.false_eq_true, false_iff]
    rintro ⟨m, h1, h2, -⟩
    omega
  | succ f ih =>
    unfold onPath
    split
    · rename_i hd
      simp only [Bool.false_eq_true, false_iff]
      rintro ⟨m, h1, h2, h3⟩
      cases m with
      | zero => omega
      | succ m =>
        rw [iterDn] at h3
        have := iterDn_neg (g := g) hd m
        omega
    · rw [Bool.or_eq_true, decide_eq_true_eq, ih]
      constructor
      · rintro (h | ⟨m, h1, h2, h3⟩)
        · exact ⟨1, Nat.le_refl _, Nat.succ_pos f, h⟩
        · exact ⟨m + 1, Nat.succ_pos m, Nat.succ_le_succ h2, h3⟩
      · rintro ⟨m, h1, h2, h3⟩
        cases m with
        | zero => exact absurd h1 (Nat.not_succ_le_zero 0)
        | succ m =>
          cases m with
          | zero => exact Or.inl h3
          | succ m => exact Or.inr ⟨m + 1, Nat.succ_pos m, Nat.le_of_succ_le_succ h2, h3⟩

theorem iterDn_neg_of_ends {f : Nat} {x : Int} (hx : 0 ≤ x)
    (h : (endsAt g f x).isSome = true) : iterDn g f x < 0 := by
  obtain ⟨t, ht⟩ := Option.isSome_iff_exists.1 h
  obtain ⟨k, hkf, hk, -, hneg⟩ := (endsAt_eq_some_iff hx).1 ht
  refine iterDn_neg_mono (k := k + 1) ?_ hkf
  rw [iterDn_succ, hk]
  exact hneg

/-- a period would keep the chain on the grid for ever -/
theorem no_cycle_of_ends {f : Nat} {x : Int} (hx : 0 ≤ x)
    (h : (endsAt g f x).isSome = true) {m : Nat} (hm : 1 ≤ m) : iterDn g m x ≠ x := by
  intro hcyc
  have h5 := iterDn_neg_mono (iterDn_neg_of_ends hx h) (Nat.le_mul_of_pos_left f hm)
  rw [iterDn_period hcyc] at h5
  exact absurd hx (Int.not_le.2 h5)

theorem onPath_self_false {f f' : Nat} {x : Int} (hx : 0 ≤ x)
    (h : (endsAt g f x).isSome = true) : onPath g f' x x = false := by
  rw [← Bool.not_eq_true, onPath_iff hx]
  rintro ⟨m, h1, -, h3⟩
  exact no_cycle_of_ends hx h h1 h3

/-- a second visit would be a cycle (`onPath_self_false`) -/
theorem hitCount_eq {f : Nat} {x : Int} (j : Int) (hx : 0 ≤ x)
    (h : (endsAt g f x).isSome = true) : hitCount g f x j = if onPath g f x j then 1 else 0 := by
  induction f generalizing x with
  | zero => rfl
  | succ f ih =>
    unfold endsAt at h
    unfold hitCount onPath
    split
    · rfl
    · rename_i hd
      rw [if_neg hd] at h
      rw [ih (Int.not_lt.1 hd) h]
      by_cases hdj : dn g x = j
      · subst hdj
        rw [onPath_self_false (Int.not_lt.1 hd) h, if_pos rfl, decide_eq_true rfl]
        rfl
      · rw [if_neg hdj, decide_eq_false hdj, Bool.false_or, Nat.zero_add]

theorem endsAt_of_hit {f : Nat} {x t j : Int} (h : endsAt g f x = some t)
    (hj : dn g j < 0) (hh : 0 < hitCount g f x j) : t = j := by
  induction f generalizing x with
  | zero => simp [endsAt] at h
  | succ f ih =>
    unfold endsAt at h
    unfold hitCount at hh
    split at hh
    · exact absurd hh (Nat.lt_irrefl 0)
    · rename_i hd
      rw [if_neg hd] at h
      by_cases hdj : dn g x = j
      · rw [hdj] at h
        exact Option.some.inj (h.symm.trans (endsAt_self hj (by rw [h]; rfl)))
      · rw [if_neg hdj, Nat.zero_add] at hh
        exact ih h hh

theorem onPath_iff_exists {f : Nat} {x j : Int} (hx : 0 ≤ x) (hj : 0 ≤ j)
    (h : (endsAt g f x).isSome = true) : onPath g f x j = true ↔ ∃ m, 1 ≤ m ∧ iterDn g m x = j := by
  rw [onPath_iff hj]
  constructor
  · rintro ⟨m, h1, -, h3⟩; exact ⟨m, h1, h3⟩
  · rintro ⟨m, h1, h3⟩
    refine ⟨m, h1, Nat.le_of_not_lt fun hm => ?_, h3⟩
    have := iterDn_neg_mono (iterDn_neg_of_ends hx h) (Nat.le_of_lt hm)
    rw [h3] at this
    exact absurd hj (Int.not_le.2 this)

theorem allTerminate_of_B {g : FlowGrid} {fuel : Nat} (h : allTerminateB g fuel = true) : AllTerminate g fuel := by
  intro c hv
  obtain ⟨h1, h2⟩ := lt_of_valid hv
  exact h2 ▸ List.all_eq_true.1 h c.toNat (List.mem_range.2 h1)

section Walk
variable {α : Type} [Add α]

/-- the buffer `a` has `n` entries, and entry `j` is `A j` -/
def Rep (n : Nat) (a : Array α) (A : Nat → α) : Prop := a.size = n ∧ ∀ j, j < n → a[j]? = some (A j)

omit [Add α] in
theorem Rep.congr {n : Nat} {a : Array α} {A B : Nat → α} (h : Rep n a A) (hAB : ∀ j, j < n → A j = B j) :
    Rep n a B := ⟨h.1, fun j hj => by rw [h.2 j hj, hAB j hj]⟩

omit [Add α] in
theorem Rep.unique {n : Nat} {a : Array α} {A B : Nat → α} (h : Rep n a A) (h' : Rep n a B) {j : Nat}
    (hj : j < n) : A j = B j :=
  Option.some.inj ((h.2 j hj).symm.trans (h'.2 j hj))

omit [Add α] in
theorem rep_self (a : Array α) (d : α) : Rep a.size a (fun j => a[j]?.getD d) :=
  ⟨rfl, fun j hj => by simp [hj]⟩

omit [Add α] in
theorem Rep.set {n : Nat} {a : Array α} {A : Nat → α} (hA : Rep n a A) {i : Int} (h0 : 0 ≤ i)
    (hlt : i.toNat < a.size) (x : α) : Rep n (a.set i.toNat x hlt) (fun j => if i = (j : Int) then x else A j) := by
  refine ⟨(Array.size_set ..).trans hA.1, fun j hj => ?_⟩
  rw [Array.getElem?_set, hA.2 j hj]
  beta_reduce
  by_cases hij : i = (j : Int)
  · rw [if_pos (by rw [hij, Int.toNat_natCast]), if_pos hij]
  · rw [if_neg fun h => hij (by rw [← h, Int.toNat_of_nonneg h0]), if_neg hij]

omit [Add α] in
theorem Rep.writeAt {n : Nat} {a : Array α} {A : Nat → α} (hA : Rep n a A) {i : Int} (h0 : 0 ≤ i)
    (hn : i.toNat < n) (x : α) :
    ∃ a', writeAt a i x = .ok a' ∧ Rep n a' (fun j => if i = (j : Int) then x else A j) := by
  have hlt : i.toNat < a.size := hA.1 ▸ hn
  exact ⟨_, dif_pos ⟨h0, hlt⟩, hA.set h0 hlt x⟩

theorem Rep.addAt {n : Nat} {a : Array α} {A : Nat → α} (hA : Rep n a A) {i : Int} (h0 : 0 ≤ i)
    (hn : i.toNat < n) (v : α) :
    ∃ a', addAt a i v = .ok a' ∧ Rep n a' (fun j => if i = (j : Int) then A j + v else A j) := by
  have hlt : i.toNat < a.size := hA.1 ▸ hn
  refine ⟨_, dif_pos ⟨h0, hlt⟩, (hA.set h0 hlt _).congr fun j _ => ?_⟩
  split
  · rename_i hij
    have := hA.2 i.toNat hn
    rw [Array.getElem?_eq_getElem hlt] at this
    rw [Option.some.inj this, show i.toNat = j by omega]
  · rfl

omit [Add α] in
theorem rep_replicate (n : Nat) (v : α) : Rep n (Array.replicate n v) (fun _ => v) :=
  ⟨Array.size_replicate, fun j hj => by rw [Array.getElem?_replicate, if_pos hj]⟩

omit [Add α] in
theorem getD_of_forall {P : α → Prop} {a : Array α} {d : α} (hd : P d) (ha : ∀ x ∈ a.toList, P x) (j : Nat) :
    P (a[j]?.getD d) := by
  cases h : a[j]? with
  | none => exact hd
  | some x => exact ha x (Array.mem_toList_iff.2 (Array.mem_of_getElem? h))

/-- what ONE walk from `cur` with the contribution `v` does to the represented buffer: the cell where the walk ends gets the
no-data value, every other cell `j` gets `v` added as many times as the walk steps on it (`hitCount`; once, without cycles) -/
def walkFn (g : FlowGrid) (nodata v : α) (fuel : Nat) (cur : Int) (A : Nat → α) : Nat → α :=
  fun j => if endsAt g fuel cur = some (j : Int) then nodata else addN (hitCount g fuel cur (j : Int)) v (A j)

theorem walk_spec (hsz : g.flowdir.size = g.ntot.toNat) {field : Array α} {nodata v : α} {src : Nat}
    (hsrc : field[src]? = some v) (fuel : Nat) {cur : Int} (hv : validCell g.nrows g.ncols cur = true)
    {acc : Array α} {A : Nat → α} (hA : Rep g.ntot.toNat acc A) :
    ∃ acc', walk g field nodata src fuel cur acc = .ok acc' ∧
      Rep g.ntot.toNat acc' (walkFn g nodata v fuel cur A) := by
  induction fuel generalizing cur acc A with
  | zero => exact ⟨acc, rfl, hA⟩
  | succ fuel ih =>
    unfold walk
    rw [downstream_ok hsz hv]
    simp only []  -- reduces the `match` on the scrutinee just rewritten
    by_cases hd : dn g cur < 0
    · obtain ⟨acc', h1, h2⟩ := hA.writeAt (validCell_iff.1 hv).1 (lt_of_valid hv).1 nodata
      rw [if_pos hd]
      refine ⟨acc', h1, h2.congr fun j _ => ?_⟩
      unfold walkFn endsAt hitCount
      rw [if_pos hd, if_pos hd]
      simp only [Option.some.injEq]
      rfl
    · -- one `addAt` at the downstream cell, then the rest of the walk on the updated function; `endsAt` and `hitCount`
      -- unfold by exactly that step
      have hdv := dn_nonneg_valid hsz hv (by omega)
      obtain ⟨acc1, h1, h2⟩ := hA.addAt (validCell_iff.1 hdv).1 (lt_of_valid hdv).1 v
      obtain ⟨acc', h3, h4⟩ := ih hdv h2
      rw [if_neg hd, hsrc]
      simp only []
      rw [h1]
      refine ⟨acc', h3, h4.congr fun j _ => ?_⟩
      unfold walkFn
      conv => rhs; unfold endsAt hitCount  -- one step on the right only: the left is about `fuel`, not `fuel + 1`
      rw [if_neg hd, if_neg hd]
      split
      · rfl
      · beta_reduce
        split
        · rw [Nat.add_comm]; rfl
        · rw [Nat.zero_add]

/-- the outer loop over the sources `l`: the walks one after the other, source `i` contributing `F i` -/
def loopFn (g : FlowGrid) (nodata : α) (F : Nat → α) (fuel : Nat) (l : List Nat) (A : Nat → α) : Nat → α :=
  l.foldl (fun A i => walkFn g nodata (F i) fuel (i : Int) A) A

theorem accLoop_spec (hsz : g.flowdir.size = g.ntot.toNat) {field : Array α} {nodata : α} {F : Nat → α}
    (hF : Rep g.ntot.toNat field F) (fuel : Nat) (l : List Nat) (hl : ∀ i ∈ l, i < g.ntot.toNat)
    {acc : Array α} {A : Nat → α} (hA : Rep g.ntot.toNat acc A) :
    ∃ acc', accLoop g field nodata fuel l acc = .ok acc' ∧
      Rep g.ntot.toNat acc' (loopFn g nodata F fuel l A) := by
  induction l generalizing acc A with
  | nil => exact ⟨acc, rfl, hA⟩
  | cons i rest ih =>
    have hi := hl i (List.mem_cons_self)
    obtain ⟨acc1, h1, h2⟩ := walk_spec hsz (nodata := nodata) (hF.2 i hi) fuel (valid_of_lt hi) hA
    obtain ⟨acc2, h3, h4⟩ := ih (fun k hk => hl k (List.mem_cons_of_mem _ hk)) h2
    refine ⟨acc2, ?_, h4⟩
    unfold accLoop
    rw [h1]
    exact h3

theorem cAccumulate_spec (hsz : g.flowdir.size = g.ntot.toNat) {m : Int} (hm : 1 ≤ m)
    (hr : 1 ≤ g.nrows) {field acc0 : Array α} {nodata : α} {F A0 : Nat → α}
    (hF : Rep g.ntot.toNat field F) (hA : Rep g.ntot.toNat acc0 A0) :
    ∃ acc, cAccumulate g m nodata field acc0 = .ok acc ∧
      Rep g.ntot.toNat acc (loopFn g nodata F (fuelOf m) (List.range g.ntot.toNat) A0) := by
  unfold cAccumulate
  rw [if_neg (by omega), if_neg (by omega)]
  exact accLoop_spec hsz hF _ _ (fun i hi => List.mem_range.1 hi) hA

theorem cAccumulate_guards {m : Int} {field acc0 acc : Array α} {nodata : α}
    (h : cAccumulate g m nodata field acc0 = .ok acc) : 1 ≤ m ∧ 1 ≤ g.nrows := by
  unfold cAccumulate at h
  split at h
  · cases h
  · split at h
    · cases h
    · omega

theorem cAccumulate_rep (hsz : g.flowdir.size = g.ntot.toNat) {m : Int}
    {field acc0 acc : Array α} {nodata : α} {F A0 : Nat → α}
    (hF : Rep g.ntot.toNat field F) (hA : Rep g.ntot.toNat acc0 A0)
    (hacc : cAccumulate g m nodata field acc0 = .ok acc) :
    Rep g.ntot.toNat acc (loopFn g nodata F (fuelOf m) (List.range g.ntot.toNat) A0) := by
  obtain ⟨hm, hr⟩ := cAccumulate_guards hacc
  obtain ⟨acc', h1, h2⟩ := cAccumulate_spec hsz hm hr (nodata := nodata) hF hA
  rw [hacc] at h1
  cases h1
  exact h2

/-- invariant of the outer loop after the walks from the sources `0 .. m-1`: a draining cell holds its initial value
plus the contributions of those sources upstream of it; a terminal cell `j < m` holds the no-data value (its own walk
wrote it, and a later walk writes only the cell where it ends and adds only to draining cells) -/
theorem loopFn_range_spec {fuel : Nat} (hT : AllTerminate g fuel)
    (nodata : α) (F A0 : Nat → α) (j : Nat) (m : Nat) (hm : m ≤ g.ntot.toNat) :
    (0 ≤ dn g (j : Int) →
      loopFn g nodata F fuel (List.range m) A0 j = (List.range m).foldl
        (fun s (i : Nat) => if onPath g fuel (i : Int) (j : Int) then s + F i else s) (A0 j)) ∧
    (dn g (j : Int) < 0 → j < m → loopFn g nodata F fuel (List.range m) A0 j = nodata) := by
  induction m with
  | zero => exact ⟨fun _ => rfl, fun _ h => absurd h (Nat.not_lt_zero j)⟩
  | succ m ih =>
    have ihm := ih (Nat.le_of_succ_le hm)
    have hTm := hT _ (valid_of_lt hm)
    have hm0 : (0 : Int) ≤ (m : Int) := Int.natCast_nonneg m
    rw [loopFn, List.range_succ, List.foldl_append]
    refine ⟨fun hd => ?_, fun hd hjm => ?_⟩
    · -- a draining cell is not where the walk from `m` ends; it receives `F m` once if it is on that walk
      show walkFn g nodata (F m) fuel (m : Int) (loopFn g nodata F fuel (List.range m) A0) j = _
      unfold walkFn
      rw [List.foldl_append, if_neg (fun h => Int.not_lt.2 hd (endsAt_dn_neg h)), hitCount_eq _ hm0 hTm, ihm.1 hd]
      simp only [List.foldl_cons, List.foldl_nil]
      split <;> rfl
    · -- a terminal cell is reset by its own walk, and no later walk that ends elsewhere adds to it
      show walkFn g nodata (F m) fuel (m : Int) (loopFn g nodata F fuel (List.range m) A0) j = _
      unfold walkFn
      split
      · rfl
      · rename_i hne
        obtain ⟨t, ht⟩ := Option.isSome_iff_exists.1 hTm
        have hzero : hitCount g fuel (m : Int) (j : Int) = 0 := by
          by_contra hpos
          rw [ht, endsAt_of_hit ht hd (Nat.pos_of_ne_zero hpos)] at hne
          exact hne rfl
        have hjm' : j < m := by
          refine Nat.lt_of_le_of_ne (Nat.le_of_lt_succ hjm) fun hjeq => hne ?_
          subst hjeq
          exact endsAt_self hd hTm
        rw [hzero, ihm.2 hd hjm']
        rfl

theorem cAccumulate_value (hsz : g.flowdir.size = g.ntot.toNat) {m : Int}
    (hT : AllTerminate g (fuelOf m)) {nodata : α} {field acc0 acc : Array α} {F A0 : Nat → α}
    (hF : Rep g.ntot.toNat field F) (hA : Rep g.ntot.toNat acc0 A0)
    (hacc : cAccumulate g m nodata field acc0 = .ok acc) {c : Int} (hv : validCell g.nrows g.ncols c = true) :
    acc[c.toNat]? = some (if dn g c < 0 then nodata
      else (List.range g.ntot.toNat).foldl
        (fun s (u : Nat) => if onPath g (fuelOf m) (u : Int) c then s + F u else s) (A0 c.toNat)) := by
  obtain ⟨h1, h2⟩ := lt_of_valid hv
  have := loopFn_range_spec hT nodata F A0 c.toNat g.ntot.toNat (Nat.le_refl _)
  rw [h2] at this
  rw [(cAccumulate_rep hsz hF hA hacc).2 _ h1]
  split
  · rename_i hd; rw [this.2 hd h1]
  · rename_i hd; rw [this.1 (Int.not_lt.1 hd)]

theorem capOf_pos (hg : WF g) (hr : 1 ≤ g.nrows) {m : Int} (hm : m = -1 ∨ 1 ≤ m) :
    1 ≤ capOf g m := by
  unfold capOf
  split
  · exact Int.mul_pos (Int.lt_of_lt_of_le Int.zero_lt_one hr) hg.ncols_pos
  · rename_i h
    exact hm.resolve_left h


theorem walkS_unaliased (g : FlowGrid) (nodata : α) (src : Nat) (fuel : Nat) (cur : Int)
    (f a : Array α) :
    walkS g nodata src fuel cur ⟨f, a, false⟩ =
      (walk g f nodata src fuel cur a).map (fun a' => (⟨f, a', false⟩ : Store α)) := by
  induction fuel generalizing cur a with
  | zero => rfl
  | succ fuel ih =>
    unfold walkS walk
    cases downstream g cur with
    | error e => rfl
    | ok d =>
      simp only [Store.accArr, Store.setAcc, Bool.false_eq_true, if_false]
      split
      · cases writeAt a cur nodata <;> rfl
      · cases f[src]? with
        | none => rfl
        | some v =>
          simp only []
          cases addAt a d v with
          | error e => rfl
          | ok a' => exact ih d a'

theorem accLoopS_unaliased (g : FlowGrid) (nodata : α) (fuel : Nat) (l : List Nat)
    (f a : Array α) :
    accLoopS g nodata fuel l ⟨f, a, false⟩ =
      (accLoop g f nodata fuel l a).map (fun a' => (⟨f, a', false⟩ : Store α)) := by
  induction l generalizing a with
  | nil => rfl
  | cons i rest ih =>
    unfold accLoopS accLoop
    rw [walkS_unaliased]
    cases walk g f nodata i fuel (i : Int) a with
    | error e => rfl
    | ok a' => exact ih a'

theorem cAccumulateS_unaliased_eq (g : FlowGrid) (m : Int) (nodata : α) (f a : Array α) :
    cAccumulateS g m nodata ⟨f, a, false⟩ =
      (cAccumulate g m nodata f a).map (fun a' => (⟨f, a', false⟩ : Store α)) := by
  unfold cAccumulateS cAccumulate
  split
  · rfl
  · split
    · rfl
    · exact accLoopS_unaliased g nodata _ _ f a

theorem walkPinned_eq_walk (hsz : g.flowdir.size = g.ntot.toNat)
    {field : Array α} {v nodata : α}
    (hF : Rep g.ntot.toNat field (fun _ => v)) {src : Nat} (hsrc : src < g.ntot.toNat) (fuel : Nat)
    {cur : Int} (hv : validCell g.nrows g.ncols cur = true) (acc : Array α) :
    walkPinned g field nodata fuel cur acc = walk g field nodata src fuel cur acc := by
  induction fuel generalizing cur acc with
  | zero => rfl
  | succ fuel ih =>
    unfold walkPinned walk
    rw [downstream_ok hsz hv]
    simp only []
    by_cases hd : dn g cur < 0
    · rw [if_pos hd, if_pos hd]
    · rw [if_neg hd, if_neg hd]
      have hdv := dn_nonneg_valid hsz hv (by omega)
      rw [hF.2 _ (lt_of_valid hdv).1, hF.2 _ hsrc]
      simp only []
      cases addAt acc (dn g cur) v with
      | error e => rfl
      | ok acc' => exact ih hdv acc'

theorem accLoopPinned_eq_accLoop (hsz : g.flowdir.size = g.ntot.toNat)
    {field : Array α} {v nodata : α}
    (hF : Rep g.ntot.toNat field (fun _ => v)) (fuel : Nat) (l : List Nat) (hl : ∀ i ∈ l, i < g.ntot.toNat)
    (acc : Array α) : accLoopPinned g field nodata fuel l acc = accLoop g field nodata fuel l acc := by
  induction l generalizing acc with
  | nil => rfl
  | cons i rest ih =>
    have hi := hl i List.mem_cons_self
    unfold accLoopPinned accLoop
    rw [walkPinned_eq_walk hsz hF hi fuel (valid_of_lt hi)]
    cases walk g field nodata i fuel (i : Int) acc with
    | error e => rfl
    | ok acc' => exact ih (fun k hk => hl k (List.mem_cons_of_mem _ hk)) acc'

/-! `nprint`: the loop with the progress lines is the loop without them, and a count -/

theorem accLoopP_fst (g : FlowGrid) (field : Array α) (nodata : α) (fuel : Nat) (nprint : Int) (l : List Nat)
    (a : Array α) (n : Nat) :
    (accLoopP g field nodata fuel nprint l (a, n)).map (·.1) = accLoop g field nodata fuel l a := by
  induction l generalizing a n with
  | nil => rfl
  | cons i rest ih =>
    unfold accLoopP accLoop
    cases walk g field nodata i fuel (i : Int) a with
    | error e => rfl
    | ok a1 => exact ih a1 _

theorem accLoopP_snd {g : FlowGrid} {field : Array α} {nodata : α} {fuel : Nat} {nprint : Int} {l : List Nat}
    {a : Array α} {n : Nat} {r : Array α × Nat} (h : accLoopP g field nodata fuel nprint l (a, n) = .ok r) :
    r.2 = n + (l.filter (progressAt nprint)).length := by
  induction l generalizing a n with
  | nil => cases h; rfl
  | cons i rest ih =>
    unfold accLoopP at h
    cases hw : walk g field nodata i fuel (i : Int) a with
    | error e => rw [hw] at h; cases h
    | ok a1 =>
      rw [hw] at h
      rw [ih h, List.filter_cons]
      split
      · rw [List.length_cons, Nat.add_assoc, Nat.add_comm 1]
      · rfl

omit [Add α] in
theorem progressAt_of_nonpos {nprint : Int} (h : nprint ≤ 0) (i : Nat) : progressAt nprint i = false := by
  unfold progressAt
  rw [decide_eq_false (Int.not_lt.2 h), Bool.false_and]

end Walk

end HydroVerif.C11
