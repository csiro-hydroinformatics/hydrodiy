/-
C10 — the PIT formulas: the plotting position `(count + ½ − cst)/(1 − cst + m)` of the random branch and its count
under jitter, scipy's `percentileofscore` for the four values of `kind`, the rounding hypothesis of the rounded formulas.
-/
import HydroVerif.Model.C10Entry
import HydroVerif.Lemmas.Round
import Mathlib.Algebra.Order.Field.Basic
import Mathlib.Tactic.Ring
import Mathlib.Tactic.Linarith.Frontend
import Mathlib.Tactic.NormNum.Ineq
import Mathlib.Tactic.NormNum.Inv

namespace HydroVerif.C10

section Counts
/-! counting: no arithmetic on the values -/
variable {α : Type} [LinearOrder α]

/-- `percentileofscore(…, kind)/100` is this natural number over `2·nens` -/
def pctNum : PctKind → ℕ → ℕ → ℕ
  | .rank, l, r => l + r + (if l < r then 1 else 0)
  | .strict, l, _ => 2 * l
  | .weak, _, r => 2 * r
  | .mean, l, r => l + r

theorem pctNum_le (k : PctKind) (left right nens : ℕ) (hlr : left ≤ right) (hr : right ≤ nens) :
    pctNum k left right ≤ 2 * nens := by
  cases k <;> simp only [pctNum] <;> (try split) <;> omega

theorem pctNum_strict (k : PctKind) (left left' ties : ℕ) (h : left < left') :
    pctNum k left (left + ties) < pctNum k left' (left' + ties) := by
  cases k <;> simp only [pctNum] <;> (try split) <;> (try split) <;> omega

theorem ite_one_le_of_imp {P Q : Prop} [Decidable P] [Decidable Q] (h : P → Q) :
    (if P then 1 else 0 : ℕ) ≤ if Q then 1 else 0 := by
  by_cases hp : P
  · rw [if_pos hp, if_pos (h hp)]
  · rw [if_neg hp]; exact Nat.zero_le _

theorem filter_length_mono {β : Type} {p q : β → Bool} (l : List β) (h : ∀ x ∈ l, p x = true → q x = true) :
    (l.filter p).length ≤ (l.filter q).length := by
  rw [← List.countP_eq_length_filter, ← List.countP_eq_length_filter]
  exact List.countP_mono_left h

theorem filter_lt_le_length (obs : α) (ens : List α) :
    (ens.filter fun a => decide (a < obs)).length ≤ (ens.filter fun a => decide (a ≤ obs)).length :=
  filter_length_mono ens fun _ _ hx => decide_eq_true (of_decide_eq_true hx).le

end Counts

section Model
/-! the functions of the model unfolded: no order axiom of the field is used -/
variable {α : Type} [Field α] [LinearOrder α]

theorem clampCst_le_half (cst : α) : clampCst cst ≤ 1 / 2 := by
  unfold clampCst
  split_ifs with h
  exacts [h.le, le_rfl]

theorem belowJitO_le (obs dobs : α) (ens : List (Option α)) (dens : List α) :
    belowJitO obs dobs ens dens ≤ ens.length := by
  fun_induction belowJitO obs dobs ens dens with
  | case1 e es d ds ih => simp only [List.length_cons]; split <;> (try split) <;> omega
  | case2 => exact Nat.zero_le _

theorem belowJitO_some (obs dobs : α) : ∀ (ens dens : List α),
    belowJitO obs dobs (ens.map some) dens = belowJit obs dobs ens dens
  | [], _ => rfl
  | _ :: _, [] => rfl
  | _ :: es, _ :: ds => congrArg _ (belowJitO_some obs dobs es ds)

theorem belowJit_le (obs dobs : α) (ens dens : List α) : belowJit obs dobs ens dens ≤ ens.length := by
  rw [← belowJitO_some, ← List.length_map (f := some)]
  exact belowJitO_le obs dobs _ dens

theorem pitRandom_eq (cst obs dobs : α) (ens dens : List α) :
    pitRandom cst obs dobs ens dens = pitFormula (clampCst cst) (belowJit obs dobs ens dens) ens.length := rfl

theorem isSudoO_some (eps censor obs : α) (ens : List α) :
    isSudoO eps censor obs (ens.map some) = isSudo eps censor obs ens := by
  unfold isSudoO isSudo
  congr 2
  rw [List.filter_map, List.length_map]
  rfl

end Model

section OrderedField
variable {α : Type} [Field α] [LinearOrder α] [IsStrictOrderedRing α]

theorem clampCst_nonneg (cst : α) (h : 0 ≤ cst) : 0 ≤ clampCst cst := by
  unfold clampCst
  split_ifs
  exacts [h, by norm_num]

theorem pitFormula_den_pos {c : α} (hc : c ≤ 1 / 2) (n : ℕ) : 0 < 1 - c + (n : α) :=
  add_pos_of_pos_of_nonneg (sub_pos.mpr (hc.trans_lt one_half_lt_one)) (Nat.cast_nonneg n)

theorem pitFormula_num_lt_den (c : α) {cnt n : ℕ} (h : cnt ≤ n) : (cnt : α) + 1 / 2 - c < 1 - c + (n : α) := by
  linarith [(Nat.cast_le (α := α)).mpr h]

theorem pitFormula_range {c : α} (hc : c ≤ 1 / 2) {cnt n : ℕ} (h : cnt ≤ n) :
    0 ≤ pitFormula c cnt n ∧ pitFormula c cnt n ≤ 1 :=
  ⟨div_nonneg (sub_nonneg.mpr (hc.trans (le_add_of_nonneg_left (Nat.cast_nonneg cnt)))) (pitFormula_den_pos hc n).le,
    (div_le_one (pitFormula_den_pos hc n)).mpr (pitFormula_num_lt_den c h).le⟩

theorem pitFormula_open {c : α} (hc : c < 1 / 2) {cnt n : ℕ} (h : cnt ≤ n) :
    0 < pitFormula c cnt n ∧ pitFormula c cnt n < 1 :=
  ⟨div_pos (sub_pos.mpr (hc.trans_le (le_add_of_nonneg_left (Nat.cast_nonneg cnt)))) (pitFormula_den_pos hc.le n),
    (div_lt_one (pitFormula_den_pos hc.le n)).mpr (pitFormula_num_lt_den c h)⟩

theorem pitFormula_lt {c : α} (hc : c ≤ 1 / 2) (n : ℕ) {cnt cnt' : ℕ} (h : cnt < cnt') :
    pitFormula c cnt n < pitFormula c cnt' n :=
  div_lt_div_of_pos_right (sub_lt_sub_right ((add_lt_add_iff_right _).mpr (Nat.cast_lt.mpr h)) c) (pitFormula_den_pos hc n)

theorem pitRandomAll_open (cst : α) (hc : cst < 1 / 2) (obs dobs : List α) (ens dens : List (List α)) :
    ∀ p ∈ pitRandomAll cst obs dobs ens dens, 0 < p ∧ p < 1 := by
  fun_induction pitRandomAll cst obs dobs ens dens with
  | case1 o os d ds e es de des ih =>
    intro p hp
    rcases List.mem_cons.mp hp with rfl | hp
    · rw [pitRandom_eq, clampCst, if_pos hc]
      exact pitFormula_open hc (belowJit_le o d e de)
    · exact ih p hp
  | case2 => simp

/-- one member under jitter of at most `e` on both sides: a member below `obs - 2e` is counted as below the observation, and a
member that is counted lies at or below `obs + 2e` -/
theorem jit_member (e obs dobs a d : α) (hd : |dobs| ≤ e) (hda : |d| ≤ e) :
    (a < obs - 2 * e → a + d - (obs + dobs) < 0) ∧ (a + d - (obs + dobs) < 0 → a ≤ obs + 2 * e) := by
  have h1 := abs_le.mp hd
  have h2 := abs_le.mp hda
  constructor <;> intro h <;> linarith [h1.1, h1.2, h2.1, h2.2]

theorem pctFormula_eq (k : PctKind) (left right nens : ℕ) :
    pctFormula (α := α) k left right nens / 100 = (pctNum k left right : α) / ((2 * nens : ℕ) : α) := by
  cases k <;> simp only [pctFormula, pctNum] <;> push_cast <;> ring

theorem pctFormula_range (k : PctKind) (left right nens : ℕ) (hn : 0 < nens) (hlr : left ≤ right)
    (hr : right ≤ nens) :
    0 ≤ pctFormula (α := α) k left right nens / 100 ∧ pctFormula (α := α) k left right nens / 100 ≤ 1 := by
  rw [pctFormula_eq]
  have hnpos : (0 : α) < ((2 * nens : ℕ) : α) := Nat.cast_pos.mpr (Nat.mul_pos two_pos hn)
  exact ⟨div_nonneg (Nat.cast_nonneg _) hnpos.le,
    (div_le_one hnpos).mpr (Nat.cast_le.mpr (pctNum_le k left right nens hlr hr))⟩

/-- what is assumed of the rounding operator for counts up to `n`: monotone, exact on the naturals and the
half-integers up to `n + 1` (true of IEEE double precision for `n < 2^52`) -/
structure RoundsCounts (rnd : α → α) (n : ℕ) : Prop where
  mono : Monotone rnd
  nat : ∀ k : ℕ, k ≤ n + 1 → rnd (k : α) = (k : α)
  half : ∀ k : ℕ, k ≤ n + 1 → rnd ((k : α) + 1 / 2) = (k : α) + 1 / 2

theorem pitR_den {rnd : α → α} {n : ℕ} (hr : RoundsCounts rnd n) {c : α} (hc : c ≤ 1 / 2) :
    (n : α) + 1 / 2 ≤ rnd (rnd (1 - c) + (n : α)) := by
  have h0 := hr.half 0 (Nat.zero_le _)
  rw [Nat.cast_zero, zero_add] at h0
  have hh : (1 : α) / 2 ≤ rnd (1 - c) := h0.symm.trans_le
    (hr.mono (le_sub_iff_add_le.mpr ((add_le_add le_rfl hc).trans_eq (add_halves 1))))
  rw [← hr.half n (Nat.le_succ n), add_comm]
  exact hr.mono (add_le_add hh le_rfl)

theorem pitR_num {rnd : α → α} {n : ℕ} (hr : RoundsCounts rnd n) {c : α} (hc0 : 0 ≤ c) (hc : c ≤ 1 / 2)
    {cnt : ℕ} (hcnt : cnt ≤ n) :
    (cnt : α) ≤ rnd (rnd ((cnt : α) + 1 / 2) - c) ∧ rnd (rnd ((cnt : α) + 1 / 2) - c) ≤ (cnt : α) + 1 / 2 := by
  have hk : cnt ≤ n + 1 := Nat.le_succ_of_le hcnt
  rw [hr.half cnt hk]
  exact Round.rnd_mem hr.mono (hr.nat cnt hk) (hr.half cnt hk) (le_sub_iff_add_le.mpr (add_le_add le_rfl hc))
    (sub_le_self _ hc0)

end OrderedField

section Identity
/- with `kind = "rank"` and with the identity as rounding the parametrised functions are the plain ones, by definition (`rfl`):
stated over the ordered field although no order axiom is involved -/
set_option linter.unusedSectionVars false
variable {α : Type} [Field α] [LinearOrder α] [IsStrictOrderedRing α]

theorem pitKind_rank (obs : α) (ens : List α) : pitKind .rank obs ens = pitRank obs ens := rfl

theorem isSudoR_id (eps censor obs : α) (ens : List α) : isSudoR id eps censor obs ens = isSudo eps censor obs ens :=
  rfl

theorem pitFormulaR_id (c : α) (cnt nens : ℕ) : pitFormulaR id c cnt nens = pitFormula c cnt nens := rfl

end Identity

end HydroVerif.C10
