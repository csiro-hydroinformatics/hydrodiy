/-
C13, basic lemmas: words and bytes, items of a file and rows of an array, integer words, the default data path, association
lists, the array store behind clone independence, catchment histories.
-/
import HydroVerif.Model.C13
import HydroVerif.Lemmas.Assoc
import Mathlib.Tactic.Linarith.Frontend
import Mathlib.Tactic.Ring

namespace HydroVerif.C13

theorem encodeLE_length (n w : Nat) : (encodeLE n w).length = n := by
  induction n generalizing w with
  | zero => rfl
  | succ n ih => simp [encodeLE, ih]

theorem decodeLE_encodeLE (n w : Nat) (h : w < 256 ^ n) : decodeLE (encodeLE n w) = w := by
  induction n generalizing w with
  | zero => simp at h; simp [encodeLE, decodeLE, h]
  | succ n ih =>
    have h2 : w / 256 < 256 ^ n := by
      rw [Nat.div_lt_iff_lt_mul (by norm_num)]
      calc w < 256 ^ (n + 1) := h
        _ = 256 ^ n * 256 := by ring
    simp only [encodeLE, decodeLE, ih _ h2]
    have : (UInt8.ofNat (w % 256)).toNat = w % 256 := by
      simp [UInt8.toNat_ofNat']
    rw [this]
    omega

theorem decodeLE_lt (bs : List UInt8) : decodeLE bs < 256 ^ bs.length := by
  induction bs with
  | nil => simp [decodeLE]
  | cons b bs ih =>
    simp only [decodeLE, List.length_cons]
    have hb : b.toNat < 256 := b.toNat_lt
    calc b.toNat + 256 * decodeLE bs < 256 + 256 * decodeLE bs := by omega
      _ = 256 * (decodeLE bs + 1) := by ring
      _ ≤ 256 * 256 ^ bs.length := Nat.mul_le_mul_left _ ih
      _ = 256 ^ (bs.length + 1) := by ring

theorem encodeLE_decodeLE (bs : List UInt8) : encodeLE bs.length (decodeLE bs) = bs := by
  induction bs with
  | nil => rfl
  | cons b bs ih =>
    have hb : b.toNat < 256 := b.toNat_lt
    simp only [decodeLE, List.length_cons, encodeLE]
    have h1 : (b.toNat + 256 * decodeLE bs) % 256 = b.toNat := by omega
    have h2 : (b.toNat + 256 * decodeLE bs) / 256 = decodeLE bs := by omega
    rw [h1, h2, ih]
    congr 1
    exact UInt8.ofNat_toNat

theorem decodeLE_injective {a b : List UInt8} (hl : a.length = b.length) (h : decodeLE a = decodeLE b) : a = b := by
  rw [← encodeLE_decodeLE a, ← encodeLE_decodeLE b, hl, h]

theorem chunksAux_flatten {β : Type} (n : Nat) (hn : 0 < n) (blocks : List (List β))
    (hb : ∀ b ∈ blocks, b.length = n) (fuel : Nat) (hf : blocks.flatten.length ≤ fuel) :
    chunksAux n fuel blocks.flatten = blocks := by
  induction blocks generalizing fuel with
  | nil =>
    cases fuel with
    | zero => rfl
    | succ f => simp [chunksAux]
  | cons b bs ih =>
    have hbl : b.length = n := hb b (by simp)
    have hbs : ∀ b ∈ bs, b.length = n := fun x hx => hb x (by simp [hx])
    simp only [List.flatten_cons, List.length_append] at hf ⊢
    cases fuel with
    | zero => omega
    | succ f =>
      have hc : ¬ (n = 0 ∨ (b ++ bs.flatten).length < n) := by
        simp only [List.length_append]; omega
      simp only [chunksAux, if_neg hc]
      have ht : (b ++ bs.flatten).take n = b := by rw [← hbl]; simp
      have hd : (b ++ bs.flatten).drop n = bs.flatten := by rw [← hbl]; simp
      rw [ht, hd, ih hbs f (by omega)]

theorem chunks_flatten {β : Type} (n : Nat) (hn : 0 < n) (blocks : List (List β))
    (hb : ∀ b ∈ blocks, b.length = n) : chunks n blocks.flatten = blocks :=
  chunksAux_flatten n hn blocks hb _ (Nat.le_refl _)

theorem reshape_flatten {β : Type} (ncols : Nat) (rows : List (List β)) (h : ∀ r ∈ rows, r.length = ncols) :
    reshape rows.length ncols rows.flatten = rows := by
  induction rows with
  | nil => rfl
  | cons r rs ih =>
    have hr : r.length = ncols := h r (by simp)
    have hrs : ∀ x ∈ rs, x.length = ncols := fun x hx => h x (by simp [hx])
    simp only [List.length_cons, reshape, List.flatten_cons]
    have ht : (r ++ rs.flatten).take ncols = r := by rw [← hr]; simp
    have hd : (r ++ rs.flatten).drop ncols = rs.flatten := by rw [← hr]; simp
    rw [ht, hd, ih hrs]

theorem length_flatten_uniform {β : Type} (ncols : Nat) (rows : List (List β)) (h : ∀ r ∈ rows, r.length = ncols) :
    rows.flatten.length = rows.length * ncols := by
  rw [List.length_flatten, List.map_congr_left h, List.map_const', List.sum_replicate_nat]

theorem ofInt_toInt (t : DType) (w : Nat) (h : w < wordBound t) : ofInt t (toInt t w) = w := by
  unfold ofInt toInt
  have hB : (0 : Int) < (wordBound t : Int) := by
    have : 0 < wordBound t := Nat.lt_of_le_of_lt (Nat.zero_le _) h
    exact_mod_cast this
  have hw : ((w : Int)) < (wordBound t : Int) := by exact_mod_cast h
  cases t.kind <;> simp only
  · split
    · rw [Int.emod_eq_of_lt (by omega) hw]; simp
    · rw [Int.sub_emod_right, Int.emod_eq_of_lt (by omega) hw]; simp
  · rw [Int.emod_eq_of_lt (by omega) hw]; simp
  · rw [Int.emod_eq_of_lt (by omega) hw]; simp

theorem intInRange_toInt (t : DType) (w : Nat) (h : w < wordBound t) : intInRange t (toInt t w) = true := by
  unfold intInRange toInt
  have hw : ((w : Int)) < (wordBound t : Int) := by exact_mod_cast h
  cases t.kind <;> simp only
  · split
    · rename_i h2
      have : (2 * (w : Int)) < (wordBound t : Int) := by exact_mod_cast h2
      simp; omega
    · rename_i h2
      have : ¬ (2 * (w : Int)) < (wordBound t : Int) := by
        intro hh; apply h2; exact_mod_cast hh
      simp; omega
  · simp; omega
  · simp; omega

theorem map_rows_id {f : Nat → Nat} (hf : ∀ w, f w = w) (rows : List (List Nat)) :
    rows.map (fun r => r.map f) = rows := by
  obtain rfl : f = id := funext hf
  simp

theorem clipData_default' (t : DType) (rows : List (List Nat)) : clipData t none none rows = rows :=
  map_rows_id (fun w => by unfold clipWord; cases t.kind <;> simp [clipLoF, clipHiF]) rows

theorem setData_id' {ν : Type} (g : Grid ν) (rows : List (List Nat)) (hb : g.lo = none ∧ g.hi = none)
    (hr : (rows.length : Int) = g.nrows) (hc : ∀ r ∈ rows, (r.length : Int) = g.ncols) :
    setData g rows = .ok { g with data := rows } := by
  unfold setData
  rw [if_neg (by simpa [hr] using hc)]
  rw [hb.1, hb.2, clipData_default']

theorem setData_eq_ok {ν : Type} {g g' : Grid ν} {rows : List (List Nat)} (h : setData g rows = .ok g') :
    g' = { g with data := clipData g.dtype g.lo g.hi rows } ∧ (rows.length : Int) = g.nrows ∧
      ∀ r ∈ rows, (r.length : Int) = g.ncols := by
  unfold setData at h
  split at h
  · cases h
  · rename_i hc
    rw [not_or] at hc
    refine ⟨(Except.ok.inj h).symm, not_not.mp hc.1, fun r hr => ?_⟩
    by_contra hne
    exact hc.2 (List.any_eq_true.mpr ⟨r, hr, by simpa using hne⟩)

theorem lookup_mem {β : Type} {d : List (Str × β)} {k : Str} {v : β} (h : lookup d k = some v) : (k, v) ∈ d := by
  unfold lookup at h
  obtain ⟨e, he, rfl⟩ := Option.map_eq_some_iff.mp h
  have hk : e.1 = k := by simpa using List.find?_some he
  exact hk ▸ List.mem_of_find?_eq_some he

/-- the model's own `lookup` is `List.lookup`, its `dictSet` the assignment of `Lemmas/Assoc.lean` -/
theorem lookup_eq {β : Type} (d : List (Str × β)) (k : Str) : lookup d k = d.lookup k := by
  induction d with
  | nil => rfl
  | cons e d ih =>
    obtain ⟨a, b⟩ := e
    rw [Assoc.lookup_cons_if, ← ih, lookup, lookup, List.find?_cons, BEq.comm]
    cases k == a <;> rfl

theorem dictSet_eq {β : Type} (d : List (Str × β)) (k : Str) (v : β) : dictSet d k v = Assoc.upsert d k v := rfl

theorem read_set_ne (s : Store) (a : Handle) (i : Nat) (v : List (List Nat)) (h : a.arr ≠ i) :
    Store.read (s.set i v) a = Store.read s a := by
  unfold Store.read
  simp [List.getD_eq_getElem?_getD, List.getElem?_set_ne (Ne.symm h)]

theorem read_append (s : Store) (a : Handle) (x : List (List Nat)) (h : a.arr < s.length) :
    Store.read (s ++ [x]) a = Store.read s a := by
  unfold Store.read
  simp [List.getD_eq_getElem?_getD, List.getElem?_append_left h]

theorem read_append_new (s : Store) (x : List (List Nat)) : Store.read (s ++ [x]) ⟨s.length⟩ = x := by
  unfold Store.read
  simp [List.getD_eq_getElem?_getD]

theorem apply_other (s : Store) (a b : Handle) (ha : a.arr < s.length) (hb : b.arr < s.length) (hne : a.arr ≠ b.arr)
    (op : SOp) :
    (op.apply s b).1.read a = s.read a ∧ a.arr < (op.apply s b).1.length ∧
      (op.apply s b).2.arr < (op.apply s b).1.length ∧ a.arr ≠ (op.apply s b).2.arr := by
  cases op with
  | setItem idx w => simp only [SOp.apply]; exact ⟨read_set_ne _ _ _ _ hne, by simpa using ha, by simpa using hb, hne⟩
  | fill w => simp only [SOp.apply]; exact ⟨read_set_ne _ _ _ _ hne, by simpa using ha, by simpa using hb, hne⟩
  | setData rows =>
    simp only [SOp.apply]
    split
    · exact ⟨read_append _ _ _ ha, by simp; omega, by simp, by simp; omega⟩
    · exact ⟨rfl, ha, hb, hne⟩

theorem applyAll_other (ops : List SOp) : ∀ (s : Store) (a b : Handle), a.arr < s.length → b.arr < s.length →
    a.arr ≠ b.arr → (applyAll s b ops).1.read a = s.read a := by
  induction ops with
  | nil => intro s a b _ _ _; rfl
  | cons op ops ih =>
    intro s a b ha hb hne
    obtain ⟨h1, h2, h3, h4⟩ := apply_other s a b ha hb hne op
    simp only [applyAll]
    rw [ih _ a _ h2 h3 h4, h1]

/-- a grid that is given a NEW array `x` (what `clone`, `clone(dtype)` and an accepted data assignment do) and a grid
that holds an old one see the same cells they saw before, whatever is written through the other -/
theorem fresh_independent (s : Store) (a : Handle) (ha : a.arr < s.length) (x : List (List Nat)) (ops : List SOp) :
    (s ++ [x]).read ⟨s.length⟩ = x ∧ (applyAll (s ++ [x]) ⟨s.length⟩ ops).1.read a = s.read a ∧
      (applyAll (s ++ [x]) a ops).1.read ⟨s.length⟩ = x := by
  have hb : (⟨s.length⟩ : Handle).arr < (s ++ [x]).length := by simp
  have ha' : a.arr < (s ++ [x]).length := by simp; omega
  have hne : a.arr ≠ (⟨s.length⟩ : Handle).arr := Nat.ne_of_lt ha
  refine ⟨read_append_new s x, ?_, ?_⟩
  · rw [applyAll_other ops _ a _ ha' hb hne, read_append _ _ _ ha]
  · rw [applyAll_other ops _ _ a hb ha' hne.symm, read_append_new]

theorem crun_inv {ν : Type} (ops : List COp) : ∀ c : Catchment ν, c.area.isSome = c.filled.isSome →
    (crun c ops).flowdir = c.flowdir ∧ (crun c ops).area.isSome = (crun c ops).filled.isSome := by
  induction ops with
  | nil => exact fun c h => ⟨rfl, h⟩
  | cons op ops ih =>
    intro c _
    obtain ⟨o, inl, res⟩ := op
    cases res <;> exact ih _ rfl

theorem bytes_pos_of_mem {t : DType} (h : t ∈ allDTypes) : 0 < t.bytes := by
  revert t; decide

/-! words, items and rows as far as the state machine needs them: ranges and lengths -/

theorem ofInt_lt (t : DType) (i : Int) : ofInt t i < wordBound t := by
  unfold ofInt
  have hB : (0 : Int) < (wordBound t : Int) := Int.natCast_pos.mpr (Nat.pow_pos (by decide))
  have h1 := Int.emod_nonneg i (ne_of_gt hB)
  have h2 := Int.emod_lt_of_pos i hB
  omega

theorem chunksAux_length {β : Type} (n fuel : Nat) (l : List β) : ∀ c ∈ chunksAux n fuel l, c.length = n := by
  induction fuel generalizing l with
  | zero => intro c hc; simp [chunksAux] at hc
  | succ f ih =>
    intro c hc
    unfold chunksAux at hc
    split at hc
    · simp at hc
    · rename_i hcond
      rcases List.mem_cons.mp hc with rfl | h
      · rw [List.length_take]; omega
      · exact ih _ c h

theorem decode_lt (bo : ByteOrder) (bs : List UInt8) : decode bo bs < 256 ^ bs.length := by
  cases bo
  · exact decodeLE_lt bs
  · have := decodeLE_lt bs.reverse
    simpa [decode] using this

theorem fromfile_lt (bo : ByteOrder) (t : DType) (bytes : List UInt8) : ∀ w ∈ fromfile bo t bytes, w < wordBound t := by
  intro w hw
  unfold fromfile at hw
  obtain ⟨c, hc, rfl⟩ := List.mem_map.mp hw
  have hl := chunksAux_length t.bytes _ _ c hc
  have := decode_lt bo c
  rw [hl] at this
  exact this

theorem reshape_spec {β : Type} (ncols : Nat) : ∀ (nrows : Nat) (data : List β), data.length = nrows * ncols →
    (reshape nrows ncols data).length = nrows ∧ (∀ r ∈ reshape nrows ncols data, r.length = ncols) ∧
    (∀ r ∈ reshape nrows ncols data, ∀ x ∈ r, x ∈ data) := by
  intro nrows
  induction nrows with
  | zero => intro data _; simp [reshape]
  | succ n ih =>
    intro data hd
    have hlen : ncols ≤ data.length := by rw [hd]; exact Nat.le_mul_of_pos_left _ (Nat.succ_pos _)
    have hdrop : (data.drop ncols).length = n * ncols := by
      rw [List.length_drop, hd, Nat.succ_mul]; omega
    obtain ⟨h1, h2, h3⟩ := ih (data.drop ncols) hdrop
    simp only [reshape]
    refine ⟨by simp [h1], ?_, ?_⟩
    · intro r hr
      rcases List.mem_cons.mp hr with rfl | h
      · rw [List.length_take]; omega
      · exact h2 r h
    · intro r hr x hx
      rcases List.mem_cons.mp hr with rfl | h
      · exact List.mem_of_mem_take hx
      · exact List.mem_of_mem_drop (h3 r h x hx)

theorem setFlat_flatten (rows : List (List Nat)) (i w : Nat) : (setFlat rows i w).flatten = rows.flatten.set i w := by
  induction rows generalizing i with
  | nil => simp [setFlat]
  | cons r rs ih =>
    unfold setFlat
    split
    · rename_i h
      simp only [List.flatten_cons]
      rw [List.set_append_left _ _ h]
    · rename_i h
      simp only [List.flatten_cons, ih]
      rw [List.set_append_right _ _ (by omega)]

theorem flatIndex_lt {size : Nat} {idx : Int} {i : Nat} (h : flatIndex size idx = some i) : i < size := by
  unfold flatIndex at h
  split at h
  · cases h; omega
  · split at h
    · cases h; omega
    · cases h

end HydroVerif.C13
