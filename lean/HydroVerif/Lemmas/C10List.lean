/-
C10 — facts about lists and array layouts that involve no arithmetic: `zipIdx` and `Pairwise`, columns of single members,
the shape of the upper triangle, `allSome` against `List.map some`, the layouts and the NaN filter in front of `pit` and
`alpha`, writing into / reading from the caller's `fmat`, and sums of lists mapped by functions that agree on the list.
Stated over any type; besides the model only the shared `Lemmas/AllSome.lean` is imported.
-/
import HydroVerif.Model.C10Entry
import HydroVerif.Lemmas.AllSome
import Mathlib.Logic.Basic
import Mathlib.Tactic.SplitIfs

namespace HydroVerif.C10

variable {β : Type}

theorem sum_map_congr {α : Type} [Add α] [Zero α] (l : List β) (f g : β → α) (h : ∀ x ∈ l, f x = g x) :
    (l.map f).sum = (l.map g).sum := by
  rw [List.map_congr_left h]

theorem upperF_congr {F G : List β → List β → β} {rows : List (List β)}
    (h : rows.Pairwise fun e1 e2 => F e1 e2 = G e1 e2) : upperF F rows = upperF G rows := by
  induction rows with
  | nil => rfl
  | cons e rest ih =>
    have h1 := List.pairwise_cons.mp h
    simp only [upperF]
    rw [ih h1.2, List.map_congr_left h1.1]

theorem pairwise_zipIdx {R : β → β → Prop} {l : List β} (h : l.Pairwise R)
    {x y : β × Nat} (hx : x ∈ l.zipIdx) (hy : y ∈ l.zipIdx) (hlt : x.2 < y.2) : R x.1 y.1 := by
  rw [List.mem_zipIdx_iff_getElem?] at hx hy
  rw [List.pairwise_iff_getElem] at h
  obtain ⟨hx1, hx2⟩ := List.getElem?_eq_some_iff.mp hx
  obtain ⟨hy1, hy2⟩ := List.getElem?_eq_some_iff.mp hy
  rw [← hx2, ← hy2]
  exact h x.2 y.2 hx1 hy1 hlt

theorem map_fst_zipIdx {γ : Type} (g : β → γ) (l : List β) (k : Nat) :
    ((l.zipIdx k).map fun x => g x.1) = l.map g :=
  (List.map_map (f := Prod.fst) (g := g) (l := l.zipIdx k)).symm.trans (congrArg (List.map g) (List.zipIdx_map_fst k l))

theorem flatten_singletons (l : List β) : (l.map fun a => [a]).flatten = l :=
  List.flatMap_singleton' l

theorem singletons_eq (rows : List (List β)) (h : ∀ e ∈ rows, e.length = 1) :
    rows = rows.flatten.map fun a => [a] := by
  induction rows with
  | nil => rfl
  | cons e rest ih =>
    have he := h e (by simp)
    match e, he with
    | [a], _ =>
      simp only [List.flatten_cons, List.singleton_append, List.map_cons]
      rw [← ih (fun e' he' => h e' (by simp [he']))]

theorem upperF_length (F : List β → List β → β) (rows : List (List β)) : (upperF F rows).length = rows.length := by
  induction rows with
  | nil => rfl
  | cons e t ih => simp [upperF, ih]

/-- the rows of the upper triangle of a `k × k` matrix: the first has `k - 1` entries, each next one one less -/
def UpperShape : Nat → List (List β) → Prop
  | _, [] => True
  | k, u :: us => u.length + 1 = k ∧ UpperShape (k - 1) us

theorem upperF_shape (F : List β → List β → β) (rows : List (List β)) : UpperShape rows.length (upperF F rows) := by
  induction rows with
  | nil => trivial
  | cons e t ih => exact ⟨by simp, by simpa using ih⟩

theorem zipIdx_pairwise_snd (l : List β) (k : Nat) : (l.zipIdx k).Pairwise fun x y => x.2 < y.2 :=
  List.pairwise_map.mp (List.zipIdx_map_snd k l ▸ List.pairwise_lt_range')

theorem allSome_map_some (s : List β) : allSome (s.map some) = some s :=
  AllSome.map_some rfl (fun _ => rfl) (fun _ _ => rfl) s

theorem eq_map_some_of_allSome {data : List (Option β)} {xs : List β} (h : allSome data = some xs) :
    data = xs.map some :=
  (AllSome.eq_some_iff rfl (fun _ => rfl) fun _ _ => rfl).1 h

theorem exists_map_some_or_none_mem (data : List (Option β)) : (∃ xs : List β, data = xs.map some) ∨ none ∈ data := by
  cases h : allSome data with
  | some xs => exact .inl ⟨xs, eq_map_some_of_allSome h⟩
  | none => exact .inr ((AllSome.eq_none_iff rfl (fun _ => rfl) fun _ _ => rfl).1 h)

theorem normObs_error_iff (x : ArrIn β) :
    (∃ e, normObs x = .error e) ↔ ∃ c rows, x = .mat c rows ∧ rows.length ≠ 1 ∧ c ≠ 1 := by
  cases x with
  | scalar a => simp [normObs]
  | vec l => simp [normObs]
  | mat c rows =>
    by_cases h : rows.length = 1 ∨ c = 1
    · simp only [normObs, if_pos h]
      constructor
      · rintro ⟨e, he⟩; cases he
      · rintro ⟨c', rows', hx, h1, h2⟩
        injection hx with hc hr
        subst hc; subst hr
        rcases h with h | h
        · exact absurd h h1
        · exact absurd h h2
    · simp only [normObs, if_neg h]
      rw [not_or] at h
      exact ⟨fun _ => ⟨c, rows, rfl, h.1, h.2⟩, fun _ => ⟨_, rfl⟩⟩

theorem keepRows_spec : ∀ (obs : List (Option β)) (ens : List (List (Option β))),
    keepRows obs ens = (obs.zip ens).filterMap fun p =>
      match p.1 with
      | some o => if p.2.any Option.isSome then some (o, p.2) else none
      | none => none
  | [], _ => by rw [List.zip_nil_left]; rfl
  | none :: _, [] => rfl
  | some _ :: _, [] => rfl
  | none :: os, _ :: es => by rw [keepRows, keepRows_spec os es]; rfl
  | some o :: os, e :: es => by
    rw [keepRows, keepRows_spec os es, List.zip_cons_cons, List.filterMap_cons]
    split_ifs with h <;> simp only

theorem keepRows_any (obs : List (Option β)) (ens : List (List (Option β))) :
    ∀ p ∈ keepRows obs ens, p.2.any Option.isSome = true := by
  intro p hp
  rw [keepRows_spec, List.mem_filterMap] at hp
  obtain ⟨⟨o, e⟩, _, h⟩ := hp
  cases o with
  | none => cases h
  | some v =>
    simp only at h
    split_ifs at h with ha
    injection h with h
    rw [← h]; exact ha

/-- `alpha` filters, then `pit` filters again -/
theorem keepRows_idem {k : List (β × List (Option β))} (hk : ∀ p ∈ k, p.2.any Option.isSome = true) :
    keepRows (k.map fun p => some p.1) (k.map Prod.snd) = k := by
  induction k with
  | nil => rfl
  | cons p t ih =>
    have hp := hk p (by simp)
    simp only [List.map_cons, keepRows, if_pos hp]
    rw [ih (fun q hq => hk q (by simp [hq]))]

theorem keepRows_complete {os : List β} {rows : List (List β)} (hlen : rows.length = os.length)
    (hne : ∀ r ∈ rows, r ≠ []) :
    keepRows (os.map some) (rows.map fun r => r.map some) = os.zip (rows.map fun r => r.map some) := by
  have h := keepRows_idem (k := os.zip (rows.map fun r => r.map some)) fun p hp => by
    obtain ⟨r, hr, hp2⟩ := List.mem_map.mp (List.of_mem_zip hp).2
    rw [← hp2]
    cases r with
    | nil => exact absurd rfl (hne _ hr)
    | cons x xs => simp
  rwa [show (fun p : β × List (Option β) => some p.1) = some ∘ Prod.fst from rfl, ← List.map_map,
    List.map_fst_zip (by simp [hlen]), List.map_snd_zip (by simp [hlen])] at h

theorem checkEnsemble_ok_iff {obs : List (Option β)} {ens : List (List (Option β))} {k : List (β × List (Option β))} :
    checkEnsemble obs ens = .ok k ↔ ens.length = obs.length ∧ keepRows obs ens = k ∧ k ≠ [] := by
  unfold checkEnsemble
  simp only
  split_ifs with h1 h2
  · simp [h1]
  · rw [List.isEmpty_iff] at h2
    simp only [h2, false_iff, not_and, not_not]
    exact fun _ h => h.symm
  · rw [List.isEmpty_iff] at h2
    simp only [Except.ok.injEq, not_not.mp h1, true_and]
    exact ⟨fun h => ⟨h, h ▸ h2⟩, fun h => h.1⟩

theorem checkEnsemble_error_iff (obs : List (Option β)) (ens : List (List (Option β))) :
    (∃ e, checkEnsemble obs ens = .error e) ↔ ens.length ≠ obs.length ∨ keepRows obs ens = [] := by
  unfold checkEnsemble
  simp only
  split_ifs with h1 h2
  · simp [h1]
  · simp [List.isEmpty_iff.mp h2]
  · simp [h1, mt List.isEmpty_iff.mpr h2]

theorem checkEnsembleIn_ok {obs ens : ArrIn (Option β)} {k : List (β × List (Option β))}
    (h : checkEnsembleIn obs ens = .ok k) : k ≠ [] ∧ ∀ p ∈ k, p.2.any Option.isSome = true := by
  unfold checkEnsembleIn at h
  split at h
  · cases h
  · obtain ⟨_, hk, hne⟩ := checkEnsemble_ok_iff.mp h
    exact ⟨hne, hk ▸ keepRows_any _ _⟩

theorem writeUpper_spec (n : Nat) : ∀ (fm up : List (List β)) (i : Nat), fm.length = up.length → i + fm.length = n →
    (∀ r ∈ fm, r.length = n) → UpperShape fm.length up →
    readUpper i (writeUpper i fm up) = up ∧ (writeUpper i fm up).length = fm.length ∧
      ∀ r ∈ writeUpper i fm up, r.length = n
  | [], [], _, _, _, _, _ => ⟨rfl, rfl, fun r hr => by simp [writeUpper] at hr⟩
  | [], _ :: _, _, hl, _, _, _ => by simp at hl
  | _ :: _, [], _, hl, _, _, _ => by simp at hl
  | row :: rest, u :: us, i, hl, hi, hr, hs => by
    simp only [List.length_cons] at hi hs hl
    obtain ⟨h1, h2, h3⟩ := writeUpper_spec n rest us (i + 1) (by omega) (by omega)
      (fun r h => hr r (List.mem_cons_of_mem _ h)) (by simpa using hs.2)
    have hrow : row.length = n := hr row List.mem_cons_self
    have htake : (row.take (i + 1)).length = i + 1 := by rw [List.length_take]; omega
    refine ⟨?_, by simp [writeUpper, h2], fun r hmem => ?_⟩
    · simp only [writeUpper, readUpper]
      rw [List.drop_append_of_le_length (by omega), List.drop_of_length_le (by omega), List.nil_append, h1]
    · simp only [writeUpper, List.mem_cons] at hmem
      rcases hmem with rfl | hmem
      · have hu : u.length + 1 = rest.length + 1 := hs.1
        rw [List.length_append, htake]; omega
      · exact h3 r hmem

theorem shapesOK_iff (b : Bufs β) (n : Nat) :
    shapesOK b n = true ↔ b.ranks.length = n ∧ b.fmat.length = n ∧ ∀ r ∈ b.fmat, r.length = n := by
  simp [shapesOK, and_assoc]

end HydroVerif.C10
