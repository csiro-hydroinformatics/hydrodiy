/-
C17 — helper lemmas, exact arithmetic.  In a commutative ring the accumulator of the inner loops (`Lemmas/C17Loops.lean`)
is the dot product with the lag buffer (`*_cons`).  Also: what simulating the residuals gives back (`fill`), the lags
the recursion sees (`glag`), the guards (`validate_*`, then `sim` / `residual` behind them), and for the
wrappers the default mean (`resolveMean_eq`) and the data mean without data (`dataMean_of_no_data`).
-/
import HydroVerif.Lemmas.C17Loops
import HydroVerif.Lemmas.AllSome
import Mathlib.Algebra.BigOperators.Fin
import Mathlib.Algebra.BigOperators.Intervals
import Mathlib.Tactic.Ring

namespace HydroVerif.C17

open Finset

variable {α : Type} [CommRing α] {p : Nat}

/-- term `j` of the dot product; 0 from `p` on, so that sums may run over `range k` -/
def term (ps buf : Vector α p) (j : Nat) : α := if h : j < p then ps[j] * buf[j] else 0

/-- the terms below `k`: what an inner loop, running down from lag `k-1`, adds to (subtracts from) its accumulator
(`acc_add`, `acc_sub`) -/
def dotUpTo (ps buf : Vector α p) (k : Nat) : α := ∑ j ∈ range k, term ps buf j

/-- `Σ_{j<p} φ_j buf_j` (`dot_eq_sum_fin`): the AR prediction from the lag buffer -/
def dot (ps buf : Vector α p) : α := dotUpTo ps buf p

theorem term_lt (ps buf : Vector α p) {j : Nat} (h : j < p) : term ps buf j = ps[j] * buf[j] := by
  simp [term, h]

theorem dotUpTo_succ (ps buf : Vector α p) (k : Nat) :
    dotUpTo ps buf (k+1) = dotUpTo ps buf k + term ps buf k := by
  simp [dotUpTo, sum_range_succ]

theorem dot_eq_sum_fin (ps buf : Vector α p) : dot ps buf = ∑ j : Fin p, ps[j.val] * buf[j.val] := by
  unfold dot dotUpTo
  rw [Finset.sum_range]
  exact sum_congr rfl fun j _ => term_lt ps buf j.isLt

theorem acc_add (ps buf : Vector α p) : ∀ (k : Nat) (hk : k ≤ p) (t : α),
    acc (· + ·) ps buf k hk t = t + dotUpTo ps buf k := by
  intro k; induction k with
  | zero => intro hk t; simp [acc, dotUpTo]
  | succ k ih => intro hk t; rw [acc, ih, dotUpTo_succ, term_lt ps buf hk]; ring

theorem acc_sub (ps buf : Vector α p) : ∀ (k : Nat) (hk : k ≤ p) (t : α),
    acc (· - ·) ps buf k hk t = t - dotUpTo ps buf k := by
  intro k; induction k with
  | zero => intro hk t; simp [acc, dotUpTo]
  | succ k ih => intro hk t; rw [acc, ih, dotUpTo_succ, term_lt ps buf hk]; ring

theorem predLoop_gen (ps buf : Vector α p) : ∀ (n : Nat) (hn : n ≤ p) (v : α),
    predLoop ps buf n hn v = v + ∑ j ∈ Ico (p - n) p, term ps buf j := by
  intro n
  induction n with
  | zero => intro hn v; simp [predLoop]
  | succ n ih =>
    intro hn v
    simp only [predLoop]
    rw [ih]
    have h1 : p - (n + 1) < p := by omega
    rw [Finset.sum_eq_sum_Ico_succ_bot h1, show p - (n + 1) + 1 = p - n by omega, term_lt ps buf h1]
    ring

theorem predLoop_full (ps buf : Vector α p) : predLoop ps buf p (Nat.le_refl p) 0 = dot ps buf := by
  rw [predLoop_gen]
  simp [dot, dotUpTo]



@[simp] theorem zeroNaN_none : zeroNaN (none : Option α) = 0 := rfl
@[simp] theorem zeroNaN_some (x : α) : zeroNaN (some x) = x := rfl

/-- the centred value the residual kernel works with: `x - m`, or the AR prediction when `x` is missing -/
def cval (ps buf : Vector α p) (m : α) : Option α → α
  | none => dot ps buf
  | some x => x - m

theorem centred_eq (ps buf : Vector α p) (m : α) (x : Option α) :
    centred nf ps buf m x = cval ps buf m x := by
  cases x <;> simp [centred, cval, predLoop_full, nf]

@[simp] theorem simRun_nil (ps : Vector α p) (m : α) (buf : Vector α p) : simRun nf ps m buf [] = [] := rfl
@[simp] theorem resRun_nil (ps : Vector α p) (m : α) (buf : Vector α p) : resRun nf ps m buf [] = [] := rfl

theorem simRun_cons (ps : Vector α p) (m : α) (buf : Vector α p) (e : Option α) (es : List (Option α)) :
    simRun nf ps m buf (e :: es) =
      (zeroNaN e + dot ps buf + m) :: simRun nf ps m (shift (zeroNaN e + dot ps buf) buf) es := by
  rw [simRun_cons_acc, acc_add]; rfl

theorem resRun_cons (ps : Vector α p) (m : α) (buf : Vector α p) (x : Option α) (xs : List (Option α)) :
    resRun nf ps m buf (x :: xs) =
      (cval ps buf m x - dot ps buf) :: resRun nf ps m (shift (cval ps buf m x) buf) xs := by
  rw [resRun_cons_acc, acc_sub, centred_eq]; rfl

theorem simBuf_cons (ps : Vector α p) (buf : Vector α p) (e : Option α) (es : List (Option α)) :
    simBuf nf ps buf (e :: es) = simBuf nf ps (shift (zeroNaN e + dot ps buf) buf) es := by
  rw [simBuf_cons_acc, acc_add]; rfl

theorem resBuf_cons (ps : Vector α p) (m : α) (buf : Vector α p) (x : Option α) (xs : List (Option α)) :
    resBuf nf ps m buf (x :: xs) = resBuf nf ps m (shift (cval ps buf m x) buf) xs := by
  simp only [resBuf, resLoop_eq, shiftBelow_full, centred_eq]

theorem resRun_length (ps : Vector α p) (m : α) : ∀ (xs : List (Option α)) (buf : Vector α p),
    (resRun nf ps m buf xs).length = xs.length :=
  fun xs buf => (resTrace nf ps m).outs_length buf xs

/-- the series the residuals stand for: present inputs as they are, missing inputs replaced by the AR
prediction from the (filled) past -/
def fill (ps : Vector α p) (m : α) : Vector α p → List (Option α) → List α
  | _, [] => []
  | buf, x :: xs => (cval ps buf m x + m) :: fill ps m (shift (cval ps buf m x) buf) xs


theorem cval_sim (ps buf : Vector α p) (m v : α) : cval ps buf m (some (v + m)) = v :=
  add_sub_cancel_right v m

theorem simRun_resRun (ps : Vector α p) (m : α) : ∀ (xs : List (Option α)) (buf : Vector α p),
    simRun nf ps m buf ((resRun nf ps m buf xs).map some) = fill ps m buf xs := by
  intro xs; induction xs with
  | nil => intro buf; rfl
  | cons x xs ih =>
    intro buf
    rw [resRun_cons, List.map_cons, simRun_cons, zeroNaN_some, sub_add_cancel, ih]
    rfl

theorem fill_present (ps : Vector α p) (m : α) : ∀ (ys : List α) (buf : Vector α p),
    fill ps m buf (ys.map some) = ys := by
  intro ys; induction ys with
  | nil => intro buf; rfl
  | cons y ys ih => intro buf; simp [fill, cval, ih]


theorem glag_cons (tmp m : α) (ys : List α) (buf : Vector α p) (t k : Nat) (hk : k < p) :
    glag ((tmp + m) :: ys) buf m (t + 1) k hk = glag ys (shift tmp buf) m t k hk := by
  unfold glag
  rcases Nat.lt_trichotomy k t with h | rfl | h
  · rw [if_pos h, if_pos (Nat.lt_succ_of_lt h), show t + 1 - 1 - k = (t - 1 - k) + 1 by omega, List.getD_cons_succ]
  · rw [if_pos (Nat.lt_succ_self k), if_neg (Nat.lt_irrefl k), shift_getElem, if_pos (Nat.sub_self k),
      Nat.add_sub_cancel, Nat.sub_self, List.getD_cons_zero, add_sub_cancel_right]
  · rw [if_neg (by omega), if_neg (Nat.lt_asymm h), shift_getElem, if_neg (by omega)]
    rfl

theorem glag_replicate (ys : List α) (ini m : α) (t k : Nat) (hk : k < p) (ht : t ≤ ys.length) :
    glag ys (Vector.replicate p (ini - m)) m t k hk = past ys ini t k - m := by
  unfold glag past
  by_cases h1 : k < t
  · rw [if_pos h1, dif_pos ⟨h1, by omega⟩, List.getD_eq_getElem?_getD, List.getElem?_eq_getElem, Option.getD_some]
  · rw [if_neg h1, dif_neg (fun h => h1 h.1), Vector.getElem_replicate]


/-- the model writes the `some` case with a `match`: it is `Option.map`, the third equation of `Lemmas/AllSome.lean` -/
theorem allSome_cons {β : Type} (a : β) (t : List (Option β)) : allSome (some a :: t) = (allSome t).map (a :: ·) := by
  rw [allSome]; cases allSome t <;> rfl

theorem allSome_map_some {β : Type} (ps : List β) : allSome (ps.map some) = some ps :=
  AllSome.map_some rfl (fun _ => rfl) allSome_cons ps

theorem allSome_eq_some {β : Type} (l : List (Option β)) (ps : List β) (h : allSome l = some ps) : l = ps.map some :=
  (AllSome.eq_some_iff rfl (fun _ => rfl) allSome_cons).1 h

theorem allSome_eq_none {β : Type} (l : List (Option β)) : allSome l = none ↔ none ∈ l :=
  AllSome.eq_none_iff rfl (fun _ => rfl) allSome_cons

/-- the order test `nparams > ARMODEL_NPARAMSMAX || nparams <= 0` of the C text, as the model writes it for a length
(`== 0`) -/
theorem order_guard (n : Nat) : (decide (nparamsMax < n) || n == 0) = true ↔ (n = 0 ∨ 10 < n) := by
  rw [Bool.or_eq_true, decide_eq_true_iff, beq_iff_eq, or_comm]; rfl

omit [CommRing α] in
theorem validate_ok (ps : List α) (m i : α) (h1 : 1 ≤ ps.length) (h10 : ps.length ≤ 10) :
    validate (ps.map some) (some m) (some i) = .ok (ps, m, i) := by
  have : ¬ (10 < ps.length) := by omega
  have h0 : ps.length ≠ 0 := by omega
  simp [validate, nparamsMax, allSome_map_some, this, h0]

omit [CommRing α] in
theorem validate_eq_ok (params : List (Option α)) (mean ini : Option α) (ps : List α) (m i : α)
    (h : validate params mean ini = .ok (ps, m, i)) :
    params = ps.map some ∧ mean = some m ∧ ini = some i ∧ 1 ≤ ps.length ∧ ps.length ≤ 10 := by
  unfold validate at h
  split at h
  · cases h
  · rename_i hlen
    rw [order_guard] at hlen
    cases hp : allSome params with
    | none => rw [hp] at h; cases h
    | some ps' =>
      rw [hp] at h
      cases mean <;> cases ini <;> cases h
      obtain rfl := allSome_eq_some params ps hp
      rw [List.length_map] at hlen
      exact ⟨rfl, rfl, rfl, by omega, by omega⟩

omit [CommRing α] in
theorem validate_isOk_iff (params : List (Option α)) (mean ini : Option α) :
    (∃ r, validate params mean ini = .ok r) ↔
      (1 ≤ params.length ∧ params.length ≤ 10 ∧ none ∉ params ∧ mean ≠ none ∧ ini ≠ none) := by
  constructor
  · rintro ⟨⟨ps, m, i⟩, h⟩
    obtain ⟨rfl, rfl, rfl, h1, h10⟩ := validate_eq_ok params mean ini ps m i h
    simp [h1, h10]
  · rintro ⟨h1, h10, hp, hm, hi⟩
    cases hps : allSome params with
    | none => exact absurd ((allSome_eq_none params).mp hps) hp
    | some ps =>
      have := allSome_eq_some params ps hps
      subst this
      obtain ⟨m, rfl⟩ := Option.ne_none_iff_exists'.mp hm
      obtain ⟨i, rfl⟩ := Option.ne_none_iff_exists'.mp hi
      simp only [List.length_map] at h1 h10
      exact ⟨_, validate_ok ps m i h1 h10⟩

omit [CommRing α] in
/-- which guard speaks, in the order of the C text -/
theorem validate_error (params : List (Option α)) (mean ini : Option α) :
    (validate params mean ini = .error .badOrder ↔ (params.length = 0 ∨ 10 < params.length)) ∧
    (validate params mean ini = .error .nanParam ↔
      (1 ≤ params.length ∧ params.length ≤ 10 ∧ none ∈ params)) ∧
    (validate params mean ini = .error .nanMean ↔
      (1 ≤ params.length ∧ params.length ≤ 10 ∧ none ∉ params ∧ mean = none)) ∧
    (validate params mean ini = .error .nanIni ↔
      (1 ≤ params.length ∧ params.length ≤ 10 ∧ none ∉ params ∧ mean ≠ none ∧ ini = none)) := by
  unfold validate
  by_cases hb : params.length = 0 ∨ 10 < params.length
  · rw [if_pos ((order_guard _).mpr hb)]
    exact ⟨iff_of_true rfl hb, iff_of_false nofun (by omega), iff_of_false nofun (by omega),
      iff_of_false nofun (by omega)⟩
  · rw [if_neg (mt (order_guard _).mp hb)]
    have hl : 1 ≤ params.length ∧ params.length ≤ 10 := by omega
    cases hps : allSome params with
    | none =>
      have hin := (allSome_eq_none params).mp hps
      exact ⟨iff_of_false nofun hb, iff_of_true rfl ⟨hl.1, hl.2, hin⟩, iff_of_false nofun fun h => h.2.2.1 hin,
        iff_of_false nofun fun h => h.2.2.1 hin⟩
    | some ps =>
      have hnot : none ∉ params := fun h => by rw [(allSome_eq_none params).mpr h] at hps; cases hps
      cases mean with
      | none =>
        exact ⟨iff_of_false nofun hb, iff_of_false nofun fun h => hnot h.2.2,
          iff_of_true rfl ⟨hl.1, hl.2, hnot, rfl⟩, iff_of_false nofun fun h => h.2.2.2.1 rfl⟩
      | some m =>
        cases ini with
        | none =>
          exact ⟨iff_of_false nofun hb, iff_of_false nofun fun h => hnot h.2.2, iff_of_false nofun nofun,
            iff_of_true rfl ⟨hl.1, hl.2, hnot, nofun, rfl⟩⟩
        | some i =>
          exact ⟨iff_of_false nofun hb, iff_of_false nofun fun h => hnot h.2.2, iff_of_false nofun nofun,
            iff_of_false nofun nofun⟩

omit [CommRing α] in
theorem validate_none_mean (params : List (Option α)) (ini : Option α) :
    ∃ e, validate params none ini = .error e := by
  unfold validate
  split
  · exact ⟨_, rfl⟩
  · cases allSome params <;> exact ⟨_, rfl⟩


-- From here to `error_of_validate` no ring law is used; the four facts carry `[CommRing α]` because `sim` / `residual` take
-- their `+ - * 0` from it (over the bare operations every use in `Props/C17.lean` has to find the four instances again,
-- which is dearer to check than the facts themselves).
theorem ok_of_valid (nan : α → Bool) (ps : List α) (m i : α) (series : List (Option α))
    (h1 : 1 ≤ ps.length) (h10 : ps.length ≤ 10) :
    sim nan (ps.map some) (some m) (some i) series =
      .ok (simRun nan (toVec ps) m (Vector.replicate ps.length (i - m)) series) ∧
    residual nan (ps.map some) (some m) (some i) series =
      .ok (resRun nan (toVec ps) m (Vector.replicate ps.length (i - m)) series) := by
  unfold sim residual
  rw [validate_ok ps m i h1 h10]
  exact ⟨rfl, rfl⟩

theorem sim_eq_ok (nan : α → Bool) (params : List (Option α)) (mean ini : Option α)
    (innov : List (Option α)) (ys : List α) (h : sim nan params mean ini innov = .ok ys) :
    ∃ (ps : List α) (m i : α), ys = simRun nan (toVec ps) m (Vector.replicate ps.length (i - m)) innov ∧
      params = ps.map some ∧ mean = some m ∧ ini = some i ∧ 1 ≤ ps.length ∧ ps.length ≤ 10 := by
  unfold sim at h
  split at h
  · cases h
  · next ps m i hv => exact ⟨ps, m, i, (Except.ok.inj h).symm, validate_eq_ok params mean ini ps m i hv⟩

theorem residual_eq_ok (nan : α → Bool) (params : List (Option α)) (mean ini : Option α)
    (inputs : List (Option α)) (rs : List α) (h : residual nan params mean ini inputs = .ok rs) :
    ∃ (ps : List α) (m i : α), rs = resRun nan (toVec ps) m (Vector.replicate ps.length (i - m)) inputs ∧
      params = ps.map some ∧ mean = some m ∧ ini = some i ∧ 1 ≤ ps.length ∧ ps.length ≤ 10 := by
  unfold residual at h
  split at h
  · cases h
  · next ps m i hv => exact ⟨ps, m, i, (Except.ok.inj h).symm, validate_eq_ok params mean ini ps m i hv⟩

theorem error_of_validate (nan : α → Bool) (params : List (Option α)) (mean ini : Option α)
    (series : List (Option α)) (e : Err) (h : validate params mean ini = .error e) :
    sim nan params mean ini series = .error e ∧ residual nan params mean ini series = .error e := by
  unfold sim residual
  rw [h]
  exact ⟨rfl, rfl⟩

/-- `some 0`: the mean `armodel_sim` falls back to -/
theorem resolveMean_eq (meanArg : Option (Option α)) (μ : Option α) (hm : meanArg ≠ none ∨ μ = some 0) :
    resolveMean μ meanArg = resolveMean (some 0) meanArg := by
  cases meanArg with
  | some m => rfl
  | none => exact hm.resolve_left (fun h => h rfl)

omit [CommRing α] in
theorem toVec_getElem (ps : List α) (k : Nat) (hk : k < ps.length) : (toVec ps)[k] = ps[k] := by
  simp [toVec]

omit [CommRing α] in
theorem dataCount_eq_zero_iff (xs : List (Option α)) : dataCount xs = 0 ↔ ∀ x ∈ xs, x = none := by
  unfold dataCount
  rw [List.length_eq_zero_iff, List.filter_eq_nil_iff]
  constructor
  · intro h x hx
    have := h x hx
    cases x with
    | none => rfl
    | some v => simp at this
  · intro h x hx
    rw [h x hx]; simp

theorem dataMean_of_no_data {F : Type} [Field F] (nan : F → Bool) (xs : List (Option F))
    (hx : ∀ x ∈ xs, x = none) : dataMean nan xs = none := by
  unfold dataMean
  rw [if_pos ((dataCount_eq_zero_iff xs).mpr hx)]

end HydroVerif.C17
