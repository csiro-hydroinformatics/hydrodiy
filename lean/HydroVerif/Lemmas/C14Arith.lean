/-
C14 — from an arbitrary arithmetic with exact whole seconds (`ExactInt`) to the exact rationals: a stand-in series
over ℚ with the same stamps and the same validity classes has the same `marks`, hence (Lemmas/C14Skel) the same
missing pattern; the theorems proved over ordered fields then describe the missing pattern of the kernel in the
arbitrary arithmetic.  At the end: `Rnd8`, an arithmetic that rounds every operation to a multiple of 1/8, with
`Rnd8.exactInt` (it satisfies `ExactInt` although `1/3 * 3 ≠ 1` in it).
-/
import HydroVerif.Lemmas.C14
import HydroVerif.Lemmas.C14Skel
import Mathlib.Data.Rat.Floor
import Mathlib.Tactic.NormNum

namespace HydroVerif.C14

theorem exactInt_rat : ExactInt ℚ (fun _ => True) where
  lt_iff := fun _ _ _ _ => Int.cast_lt
  add_cast := fun x y _ _ _ => (Int.cast_add x y).symm
  sub_cast := fun x y _ _ _ => (Int.cast_sub x y).symm

section anyarith
variable {α : Type}

theorem cfgQ_ok (c : Cfg α) (hP : c.P = 1800 ∨ c.P = 3600) (hrain : c.rain = 0 ∨ c.rain = 1) : CfgOK (cfgQ c) :=
  ⟨hP, hrain, by norm_num [cfgQ], by norm_num [cfgQ]⟩

variable [Neg α] [LT α] [DecidableLT α]

@[simp] theorem toQ_fst (c : Cfg α) (x : Obs α) : (toQ c x).1 = x.1 := rfl

variable [Sub α] [IntCast α]

theorem marksFrom_eq (c : Cfg α) : ∀ (l : List (Obs α)) (a : Obs α),
    marksFrom c a l = (pairs (a :: l)).map fun p => (p.2.1, invalid c p.1 p.2)
  | [], _ => rfl
  | b :: r, a => by rw [marksFrom, marksFrom_eq c r b]; rfl

variable [Add α]

/-- the stand-in (`toQ`: −1 for a value below `-c.eps`, else 0; `cfgQ`: tolerance 1e-8) falls on the same side of the
value test, and the gap test compares whole seconds in both arithmetics (the one use of `ExactInt.sub_cast`; it is
why `InRange` has the field `diff`) -/
theorem invalid_toQ {R : Int → Prop} (hx : ExactInt α R) (c : Cfg α) (a b : Obs α) (hRa : R a.1) (hRb : R b.1)
    (hRg : R c.maxgap) (hRd : R (b.1 - a.1)) :
    invalid (cfgQ c) (toQ c a) (toQ c b) = invalid c a b := by
  obtain ⟨ta, va⟩ := a
  obtain ⟨tb, vb⟩ := b
  cases va with
  | none => rfl
  | some v1 =>
    cases vb with
    | none => rfl
    | some v2 =>
      have e1 : ∀ v : α, ((if v < -c.eps then (-1 : ℚ) else 0) < -(1 / 100000000)) ↔ v < -c.eps := fun v => by
        split_ifs with h <;> simp only [h] <;> norm_num
      have hgap : ((c.maxgap : ℚ) < (tb : ℚ) - (ta : ℚ)) ↔ ((c.maxgap : α) < (tb : α) - (ta : α)) := by
        rw [hx.sub_cast tb ta hRb hRa hRd, hx.lt_iff _ _ hRg hRd, ← Int.cast_sub, Int.cast_lt]
      simp only [invalid, toQ, cfgQ, Option.map_some, e1, hgap]

theorem marks_toQ {R : Int → Prop} (hx : ExactInt α R) (c : Cfg α) (hRg : R c.maxgap) (obs : List (Obs α))
    (hRobs : ∀ x ∈ obs, R x.1) (hRd : ∀ p ∈ pairs obs, R (p.2.1 - p.1.1)) :
    marks (cfgQ c) (obs.map (toQ c)) = marks c obs := by
  cases obs with
  | nil => rfl
  | cons a l =>
    rw [List.map_cons, marks, marks, marksFrom_eq, marksFrom_eq, ← List.map_cons, pairs_map, List.map_map]
    exact congrArg _ (List.map_congr_left fun p hp => congrArg _
      (invalid_toQ hx c p.1 p.2 (hRobs _ (mem_pairs hp).1) (hRobs _ (mem_pairs hp).2) hRg (hRd p hp)))

variable [Mul α] [Div α] [OfNat α 0] [OfNat α 2]

/-- every whole second the kernel casts lies in the range `R` of exact arithmetic -/
structure InRange (R : Int → Prop) (c : Cfg α) (hstart nvalh : Int) (obs : List (Obs α)) : Prop where
  stamps : ∀ x ∈ obs, R x.1
  diff : ∀ p ∈ pairs obs, R (p.2.1 - p.1.1)
  period : R c.P
  gap : R c.maxgap
  per : ∀ k : Nat, (k : Int) < nvalh - 1 → R (hstart + (k : Int) * c.P) ∧ R (hstart + (k : Int) * c.P + c.P)

theorem kernel_pattern_toQ {R : Int → Prop} (hx : ExactInt α R) {c : Cfg α} {hstart nvalh : Int} {obs : List (Obs α)}
    (hr : InRange R c hstart nvalh obs) :
    Except.map (List.map Option.isNone) (kernel c hstart nvalh obs) =
      Except.map (List.map Option.isNone) (kernel (cfgQ c) hstart nvalh (obs.map (toQ c))) := by
  rw [kernel_marks hx c hstart nvalh obs hr.stamps hr.period hr.per,
    kernel_marks exactInt_rat (cfgQ c) hstart nvalh (obs.map (toQ c)) (fun _ _ => trivial) trivial
      (fun _ _ => ⟨trivial, trivial⟩),
    marks_toQ hx c hr.gap obs hr.stamps hr.diff]
  rfl

/-- What the theorems over ordered fields say about which periods are missing holds of the kernel run in `α`, with
the validity test evaluated in `α`: the exact kernel on the stand-in series has the same pattern and the same
validity of every interval. -/
theorem pattern_any_arith {R : Int → Prop} (hx : ExactInt α R) {c : Cfg α} (hP : c.P = 1800 ∨ c.P = 3600)
    (hrain : c.rain = 0 ∨ c.rain = 1) {hstart nvalh : Int} {a b : Obs α} {rest : List (Obs α)}
    (hs : Sorted (a :: b :: rest)) (ha : a.1 ≤ hstart) (hr : InRange R c hstart nvalh (a :: b :: rest))
    {out : List (Option α)} (hk : kernel c hstart nvalh (a :: b :: rest) = .ok out)
    {i : Nat} {o : Option α} (hi : out[i]? = some o) :
    (o = none → lastTime (a :: b :: rest) < perE c.P hstart i ∨
      ∃ p ∈ pairs (a :: b :: rest), p.1.1 < perE c.P hstart i ∧ perS c.P hstart i ≤ p.2.1 ∧
        invalid c p.1 p.2 = true) ∧
    (o ≠ none → perE c.P hstart i ≤ lastTime (a :: b :: rest) ∧
      ∀ p ∈ pairs (a :: b :: rest), p.1.1 < perE c.P hstart i → perS c.P hstart i < p.2.1 →
        invalid c p.1 p.2 = false) := by
  obtain ⟨outQ, hkQ, _, hall⟩ := kernel_spec (cfgQ_ok c hP hrain) nvalh (hs.map (toQ_fst c)) ha
  have hpat := kernel_pattern_toQ hx hr
  rw [hk, List.map_cons, List.map_cons, hkQ] at hpat
  have hi' := congrArg (·[i]?) (Except.ok.inj hpat)
  simp only [List.getElem?_map, hi, Option.map_some] at hi'
  obtain ⟨y, hy, hyn⟩ := Option.map_eq_some_iff.1 hi'.symm
  have hok : PeriodOK (cfgQ c) ((a :: b :: rest).map (toQ c)) (perS c.P hstart i) (perE c.P hstart i) y :=
    hall i y hy
  have hinv : ∀ p ∈ pairs (a :: b :: rest), invalid (cfgQ c) (toQ c p.1) (toQ c p.2) = invalid c p.1 p.2 :=
    fun p hp => invalid_toQ hx c _ _ (hr.stamps _ (mem_pairs hp).1) (hr.stamps _ (mem_pairs hp).2) hr.gap (hr.diff p hp)
  cases y with
  | none =>
    cases o with
    | some v => cases hyn
    | none =>
      refine ⟨fun _ => ?_, fun h => absurd rfl h⟩
      unfold PeriodOK at hok
      rw [lastTime_map (toQ_fst c), pairs_map] at hok
      refine hok.imp_right ?_
      rintro ⟨_, hp, h1, h2, h3⟩
      obtain ⟨q, hq, rfl⟩ := List.mem_map.1 hp
      exact ⟨q, hq, h1, h2, hinv q hq ▸ h3⟩
  | some w =>
    cases o with
    | none => cases hyn
    | some v =>
      refine ⟨nofun, fun _ => ?_⟩
      unfold PeriodOK at hok
      rw [lastTime_map (toQ_fst c), pairs_map] at hok
      exact ⟨hok.2.1, fun p hp h1 h2 => hinv p hp ▸ hok.2.2 _ (List.mem_map_of_mem hp) h1 h2⟩

end anyarith

/-- Witness that `ExactInt` holds beyond fields: rationals in which every `+ − × ÷` is rounded down to a multiple
of 1/8. -/
structure Rnd8 where
  val : ℚ
  deriving DecidableEq

namespace Rnd8
def rnd (x : ℚ) : ℚ := (⌊x * 8⌋ : ℚ) / 8
instance : Add Rnd8 := ⟨fun a b => ⟨rnd (a.val + b.val)⟩⟩
instance : Sub Rnd8 := ⟨fun a b => ⟨rnd (a.val - b.val)⟩⟩
instance : Mul Rnd8 := ⟨fun a b => ⟨rnd (a.val * b.val)⟩⟩
instance : Div Rnd8 := ⟨fun a b => ⟨rnd (a.val / b.val)⟩⟩
instance : Neg Rnd8 := ⟨fun a => ⟨-a.val⟩⟩
instance : LT Rnd8 := ⟨fun a b => a.val < b.val⟩
instance : DecidableLT Rnd8 := fun a b => inferInstanceAs (Decidable (a.val < b.val))
instance : OfNat Rnd8 0 := ⟨⟨0⟩⟩
instance : OfNat Rnd8 2 := ⟨⟨2⟩⟩
instance : IntCast Rnd8 := ⟨fun n => ⟨(n : ℚ)⟩⟩

theorem rnd_int (n : Int) : rnd (n : ℚ) = (n : ℚ) := by
  unfold rnd
  rw [show (n : ℚ) * 8 = ((n * 8 : Int) : ℚ) by push_cast; ring, Int.floor_intCast]
  push_cast; ring

theorem exactInt : ExactInt Rnd8 (fun _ => True) where
  lt_iff := fun x y _ _ => by
    show ((x : ℚ) < (y : ℚ)) ↔ x < y
    exact Int.cast_lt
  add_cast := fun x y _ _ _ => by
    show (⟨rnd ((x : ℚ) + (y : ℚ))⟩ : Rnd8) = ⟨((x + y : Int) : ℚ)⟩
    rw [← Int.cast_add, rnd_int]
  sub_cast := fun x y _ _ _ => by
    show (⟨rnd ((x : ℚ) - (y : ℚ))⟩ : Rnd8) = ⟨((x - y : Int) : ℚ)⟩
    rw [← Int.cast_sub, rnd_int]

example : ((1 : Int) : Rnd8) / ((3 : Int) : Rnd8) * ((3 : Int) : Rnd8) = ⟨3 / 4⟩ := by
  show (⟨rnd (rnd (((1 : Int) : ℚ) / ((3 : Int) : ℚ)) * ((3 : Int) : ℚ))⟩ : Rnd8) = ⟨3 / 4⟩
  congr 1
  unfold rnd
  norm_num
end Rnd8

end HydroVerif.C14
