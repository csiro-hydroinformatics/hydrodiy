/-
C12 — the arithmetic of the second instance of `EpsOk` (the margin arithmetic of `__checkvalues__`): `+` / `-` of an ordered
additive group followed by any monotone rounding onto the representable values (`Rounding`, `Rounding.Fl`). The two instances
themselves (`epsOk_of_nonneg`, `epsOk_of_rounding`) are in `Props/C12.lean`; they are the only part of C12 that needs an ordered
group, everything else rests on a linear order of the values.
-/
import HydroVerif.Lemmas.C12
import Mathlib.Algebra.Order.Group.Defs
import Mathlib.Algebra.Order.Monoid.Defs

namespace HydroVerif.C12

/-- `zero` serves only the instance `OfNat R.Fl 0` (the constructor's default `np.zeros`); `epsOk_of_rounding` (`Props/C12.lean`) uses `mono`
and that representable values are fixed -/
structure Rounding (β : Type) [LinearOrder β] [AddCommGroup β] where
  rnd : β → β
  mono : ∀ x y, x ≤ y → rnd x ≤ rnd y
  idem : ∀ x, rnd (rnd x) = rnd x
  zero : rnd 0 = 0

def Rounding.Fl {β : Type} [LinearOrder β] [AddCommGroup β] (R : Rounding β) : Type := { x : β // R.rnd x = x }

namespace Rounding
variable {β : Type} [LinearOrder β] [AddCommGroup β] (R : Rounding β)
instance : LinearOrder R.Fl := inferInstanceAs (LinearOrder { x : β // R.rnd x = x })
instance : Add R.Fl := ⟨fun a b => ⟨R.rnd (a.1 + b.1), R.idem _⟩⟩
instance : Sub R.Fl := ⟨fun a b => ⟨R.rnd (a.1 - b.1), R.idem _⟩⟩
instance : OfNat R.Fl 0 := ⟨⟨0, R.zero⟩⟩
def toFl (x : β) (h : R.rnd x = x) : R.Fl := ⟨x, h⟩
theorem Fl.le_def (a b : R.Fl) : a ≤ b ↔ a.1 ≤ b.1 := Iff.rfl
theorem Fl.add_val (a b : R.Fl) : (a + b).1 = R.rnd (a.1 + b.1) := rfl
theorem Fl.sub_val (a b : R.Fl) : (a - b).1 = R.rnd (a.1 - b.1) := rfl
end Rounding

end HydroVerif.C12
