/-
C14 — the worked samples that several `example`s of `Props/C14.lean` look at: the real-valued series 0, 4, 8 at 00:00,
01:00, 02:00 (its configuration is admissible, it is sorted, the kernel returns 6 for 01:00–02:00) and the series in
the rounded arithmetic `Rnd8` with what the kernel returns on it.  Each is evaluated once here.
-/
import HydroVerif.Lemmas.C14Real
import HydroVerif.Lemmas.C14Arith

namespace HydroVerif.C14

theorem exCfgR_ok : CfgOK (⟨3600, 0, 432000, 1 / 100000000⟩ : Cfg ℝ) :=
  ⟨Or.inr rfl, Or.inl rfl, by norm_num, by norm_num⟩

theorem exObsR_sorted : Sorted ([(0, some 0), (3600, some 4), (7200, some 8)] : List (Obs ℝ)) := by
  unfold Sorted; decide

/-- the worked case of the theorems over ℝ: on the data 0, 4, 8 at 00:00, 01:00, 02:00 the kernel returns 6 for
01:00–02:00 -/
theorem kernel_three_hourly : kernel (⟨3600, 0, 432000, 1 / 100000000⟩ : Cfg ℝ) 3600 2
    [(0, some 0), (3600, some 4), (7200, some 8)] = .ok [some 6] := by
  simp [kernel, startScan, scanFrom, loop, period, walk, pStart, pEnd, invalid, piece, clipLo, clipHi, addPiece]
  norm_num

/-- the worked series in the rounded arithmetic `Rnd8` (the series `exObs` of `Props/C14.lean` with two more observations, so that the last periods have values) -/
def exObs8 : List (Obs Rnd8) :=
  [(0, some ⟨0⟩), (1800, some ⟨2⟩), (3600, some ⟨4⟩), (7200, some ⟨8⟩), (7200, some ⟨6⟩), (10800, some ⟨6⟩),
   (21600, some ⟨6⟩), (25200, none), (28800, some ⟨1⟩), (32400, some ⟨-1⟩), (36000, some ⟨3⟩), (39600, some ⟨3⟩),
   (43200, some ⟨5⟩), (45000, some ⟨7⟩), (46800, some ⟨4⟩)]
def exCfg8 : Cfg Rnd8 := ⟨3600, 0, 7200, ⟨1 / 100000000⟩⟩

theorem kernel_exObs8 : kernel exCfg8 3600 13 exObs8 =
    .ok [some ⟨4⟩, some ⟨6⟩, none, none, none, none, none, none, none, none, some ⟨3⟩, some ⟨-201 / 4⟩] := by
  decide +kernel

end HydroVerif.C14
