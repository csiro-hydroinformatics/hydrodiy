/-
C18 — helper lemmas for the object-level model (`Model/C18Obj.lean`): the well-formedness invariant of a receiver
(attributes refer to allocated buffers; two attributes share a buffer only when it has no element) is kept by
every operation with every outcome, and an attribute outside an operation's write-set stays the same array with the
same contents (`Frame`); both come from one walk over the operation (`Keeps`, `ostep_keeps`), then along lists.
-/
import HydroVerif.Model.C18Obj
import HydroVerif.Lemmas.History
namespace HydroVerif.C18

structure WF (o : Obj) : Prop where
  alloc : ∀ f b, o.slot f = some b → ∃ n, b = .fresh n ∧ n < o.next
  sep : ∀ f g b, f ≠ g → o.slot f = some b → o.slot g = some b → b ∈ o.zero

theorem wf_new : WF Obj.new := ⟨by intro f b h; simp [Obj.new] at h, by intro f g b _ h; simp [Obj.new] at h⟩

@[simp] theorem set_slot_same (o : Obj) (f : Field) (v : Option Buf) : (o.set f v).slot f = v := by simp [Obj.set]
@[simp] theorem set_slot_other (o : Obj) {f g : Field} (v : Option Buf) (h : g ≠ f) : (o.set f v).slot g = o.slot g := by
  simp [Obj.set, h]
@[simp] theorem set_zero (o : Obj) (f : Field) (v : Option Buf) : (o.set f v).zero = o.zero := rfl
@[simp] theorem set_next (o : Obj) (f : Field) (v : Option Buf) : (o.set f v).next = o.next := rfl

theorem wf_mono {o : Obj} (h : WF o) (z : List Buf) (n : Nat) (hn : o.next ≤ n) (hz : ∀ b ∈ o.zero, b ∈ z) :
    WF { o with zero := z, next := n } := by
  constructor
  · intro f b hf
    obtain ⟨k, hk, hlt⟩ := h.alloc f b hf
    exact ⟨k, hk, Nat.lt_of_lt_of_le hlt hn⟩
  · intro f g b hfg hf hg
    exact hz b (h.sep f g b hfg hf hg)

/-- an attribute may be bound to an allocated buffer that no attribute refers to, or to one without elements -/
theorem wf_set {o : Obj} (h : WF o) (f : Field) (v : Option Buf)
    (hv : ∀ b, v = some b → (∃ k, b = .fresh k ∧ k < o.next) ∧ (b ∈ o.zero ∨ ∀ g, o.slot g ≠ some b)) :
    WF (o.set f v) := by
  have shared : ∀ g b, v = some b → o.slot g = some b → b ∈ o.zero := fun g b hb hg =>
    (hv b hb).2.resolve_right fun hno => hno g hg
  constructor
  · intro g b hg
    by_cases hgf : g = f
    · subst hgf
      exact (hv b (by simpa using hg)).1
    · exact h.alloc g b (by simpa [hgf] using hg)
  · intro g k b hgk hg hk
    by_cases hgf : g = f
    · subst hgf
      have hkf : k ≠ g := fun e => hgk e.symm
      exact shared k b (by simpa using hg) (by simpa [hkf] using hk)
    · have hg' : o.slot g = some b := by simpa [hgf] using hg
      by_cases hkf : k = f
      · subst hkf
        exact shared g b (by simpa using hk) hg'
      · exact h.sep g k b hgk hg' (by simpa [hkf] using hk)

theorem wf_set_none {o : Obj} (h : WF o) (f : Field) : WF (o.set f none) :=
  wf_set h f none fun _ hb => nomatch hb

theorem slot_ne_next {o : Obj} (h : WF o) {f : Field} {b : Buf} (hf : o.slot f = some b) : b ≠ .fresh o.next := by
  obtain ⟨n, hn, hlt⟩ := h.alloc f b hf
  intro e; rw [e] at hn; injection hn with hn; omega

theorem wf_alloc {α} {s : OState α} (h : WF s.obj) (f : Field) (v : α) : WF (s.alloc f v).obj :=
  wf_set (wf_mono h s.obj.zero _ (Nat.le_succ _) fun _ hb => hb) f _ fun b hb => by
    cases hb
    exact ⟨⟨s.obj.next, rfl, Nat.lt_succ_self _⟩, Or.inr fun g hg => slot_ne_next h hg rfl⟩

@[simp] theorem store_obj {α} (s : OState α) (b : Buf) (g : α → α) : (s.store b g).obj = s.obj := by
  unfold OState.store; split <;> rfl
@[simp] theorem fail_obj {α} (s : OState α) : s.fail.obj = s.obj := rfl
@[simp] theorem done_obj {α} (s : OState α) : s.done.obj = s.obj := rfl
@[simp] theorem fail_mem {α} (s : OState α) : s.fail.mem = s.mem := rfl
@[simp] theorem done_mem {α} (s : OState α) : s.done.mem = s.mem := rfl

theorem store_mem_other {α} (s : OState α) (b b' : Buf) (g : α → α) (h : b' ≠ b) : (s.store b g).mem b' = s.mem b' := by
  unfold OState.store; split
  · rfl
  · simp [memSet, h]

theorem store_mem_zero {α} (s : OState α) (b : Buf) (g : α → α) (h : b ∈ s.obj.zero) : (s.store b g).mem = s.mem := by
  simp [OState.store, h]

theorem store_mem_same {α} (s : OState α) (b : Buf) (g : α → α) (h : b ∉ s.obj.zero) :
    (s.store b g).mem b = g (s.mem b) := by
  simp [OState.store, h, memSet]

theorem alloc_mem_other {α} (s : OState α) (f : Field) (v : α) (b : Buf) (h : b ≠ .fresh s.obj.next) :
    (s.alloc f v).mem b = s.mem b := by
  simp [OState.alloc, memSet, h]

theorem alloc_slot_other {α} (s : OState α) {f g : Field} (v : α) (h : g ≠ f) : (s.alloc f v).obj.slot g = s.obj.slot g := by
  simp [OState.alloc, Obj.set, h]

theorem alloc_slot_same {α} (s : OState α) (f : Field) (v : α) : (s.alloc f v).obj.slot f = some (.fresh s.obj.next) := by
  simp [OState.alloc, Obj.set]

theorem alloc_mem_same {α} (s : OState α) (f : Field) (v : α) : (s.alloc f v).mem (.fresh s.obj.next) = v := by
  simp [OState.alloc, memSet]

theorem alloc_content_same {α} (s : OState α) (f : Field) (v : α) : (s.alloc f v).content f = some v := by
  simp [OState.content, OState.alloc, Obj.set, memSet]

/-- needs `WF`: the buffer of another attribute is below the allocator (`slot_ne_next`), so it is not the new one -/
theorem alloc_content_other {α} {s : OState α} (h : WF s.obj) {f g : Field} (v : α) (hg : g ≠ f) :
    (s.alloc f v).content g = s.content g := by
  unfold OState.content
  rw [alloc_slot_other s v hg]
  cases hs : s.obj.slot g with
  | none => rfl
  | some b => simp [alloc_mem_other s f v b (slot_ne_next h hs)]

/-- `WF.sep` is what this rests on: the two attributes refer to different buffers, or to one without elements, where
a store changes nothing -/
theorem store_content_other {α} {s : OState α} (h : WF s.obj) {f g : Field} {b : Buf} (hg : s.obj.slot g = some b)
    (hfg : f ≠ g) (k : α → α) : (s.store b k).content f = s.content f := by
  unfold OState.content
  rw [store_obj]
  cases hs : s.obj.slot f with
  | none => rfl
  | some b' =>
    by_cases hb : b' = b
    · subst hb
      have hz := h.sep f g b' hfg hs hg
      simp [store_mem_zero s b' k hz]
    · simp [store_mem_other s b b' k hb]

theorem set_content_other {α} (s : OState α) {f g : Field} (v : Option Buf) (r : Bool) (hfg : f ≠ g) :
    ({ s with obj := s.obj.set g v, raised := r } : OState α).content f = s.content f := by
  simp [OState.content, Obj.set, hfg]

structure Frame {α} (f : Field) (s s' : OState α) : Prop where
  slot : s'.obj.slot f = s.obj.slot f
  content : s'.content f = s.content f

theorem Frame.refl {α} (f : Field) (s : OState α) : Frame f s s := ⟨rfl, rfl⟩

theorem Frame.trans {α} {f : Field} {s s' s'' : OState α} (h : Frame f s s') (h' : Frame f s' s'') : Frame f s s'' :=
  ⟨h'.slot.trans h.slot, h'.content.trans h.content⟩

structure Keeps {α} (W : List Field) (s s' : OState α) : Prop where
  wf : WF s'.obj
  frame : ∀ f, f ∉ W → Frame f s s'

theorem Keeps.refl {α} {W : List Field} {s : OState α} (h : WF s.obj) : Keeps W s s := ⟨h, fun f _ => .refl f s⟩

theorem Keeps.of_slot_mem {α} {W : List Field} {s s' s'' : OState α} (K : Keeps W s s') (hw : WF s''.obj)
    (hs : ∀ f, f ∉ W → s''.obj.slot f = s'.obj.slot f) (hm : s''.mem = s'.mem) : Keeps W s s'' :=
  ⟨hw, fun f hf => (K.frame f hf).trans ⟨hs f hf, by rw [OState.content, hs f hf, hm]; rfl⟩⟩

theorem Keeps.raised {α} {W : List Field} {s s' : OState α} (K : Keeps W s s') (r : Bool) :
    Keeps W s { s' with raised := r } :=
  K.of_slot_mem K.wf (fun _ _ => rfl) rfl

theorem Keeps.set_none {α} {W : List Field} {s s' : OState α} {g : Field} (K : Keeps W s s') (hg : g ∈ W) (r : Bool) :
    Keeps W s { s' with obj := s'.obj.set g none, raised := r } :=
  K.of_slot_mem (wf_set_none K.wf g) (fun f hf => set_slot_other _ none fun (e : f = g) => hf (e ▸ hg)) rfl

theorem Keeps.alloc {α} {W : List Field} {s s' : OState α} {g : Field} (K : Keeps W s s') (hg : g ∈ W) (v : α) :
    Keeps W s (s'.alloc g v) :=
  ⟨wf_alloc K.wf g v, fun f hf =>
    have hfg : f ≠ g := fun e => hf (e ▸ hg)
    (K.frame f hf).trans ⟨alloc_slot_other s' v hfg, alloc_content_other K.wf v hfg⟩⟩

theorem Keeps.store {α} {W : List Field} {s s' : OState α} {g : Field} {b : Buf} (K : Keeps W s s')
    (hs : s'.obj.slot g = some b) (hg : g ∈ W) (k : α → α) : Keeps W s (s'.store b k) :=
  ⟨by simpa using K.wf, fun f hf => (K.frame f hf).trans
    ⟨congrArg (·.slot f) (store_obj s' b k), store_content_other K.wf hs (fun (e : f = g) => hf (e ▸ hg)) k⟩⟩

theorem areaPrologue_keeps {α} (sem : OSem α) {W : List Field} {s0 s : OState α} (K : Keeps W s0 s)
    (ho : .outlet ∈ W) (hi : .inlets ∈ W) (wi : Bool) (arg : Nat) : Keeps W s0 (areaPrologue sem s wi arg) := by
  unfold areaPrologue
  cases wi
  · exact (K.alloc ho _).set_none hi _
  · exact (K.alloc ho _).alloc hi _

theorem areaPrologue_outlet {α} (sem : OSem α) {s : OState α} (h : WF s.obj) (wi : Bool) (arg : Nat) :
    (areaPrologue sem s wi arg).content .outlet = some (sem.outlet arg) := by
  unfold areaPrologue
  cases wi
  · exact (set_content_other _ none _ (by decide)).trans (alloc_content_same ..)
  · exact (alloc_content_other (wf_alloc h _ _) _ (by decide)).trans (alloc_content_same ..)

theorem areaPrologue_inlets {α} (sem : OSem α) (s : OState α) (wi : Bool) (arg : Nat) :
    (areaPrologue sem s wi arg).content .inlets = if wi then some (sem.inlets arg) else none := by
  unfold areaPrologue
  cases wi
  · simp [OState.content]
  · exact alloc_content_same ..

theorem delineateBoundary_cases {α} (sem : OSem α) (s : OState α) (mask : Option Nat) (o : KernOut) :
    ostep sem s (.delineateBoundary mask o) = s.fail ∨
    ∃ a b, s.obj.slot .area = some a ∧ s.obj.slot .filled = some b ∧ b ∉ s.obj.zero ∧
      ((o = .kernelError ∧ ostep sem s (.delineateBoundary mask o) = (s.store b sem.sort).fail) ∨
       (o = .ok ∧ ostep sem s (.delineateBoundary mask o) =
          (((s.store b sem.sort).alloc .boundary (sem.boundary ((s.store b sem.sort).mem b) mask)).alloc .xyboundary
            (sem.xy (sem.boundary ((s.store b sem.sort).mem b) mask))).done)) := by
  simp only [ostep]
  split
  · next a b ha hb =>
    split
    · exact Or.inl rfl
    · next hz =>
      refine Or.inr ⟨a, b, ha, hb, by simpa using hz, ?_⟩
      cases o
      · exact Or.inr ⟨rfl, rfl⟩
      · exact Or.inl ⟨rfl, rfl⟩
  · exact Or.inl rfl

theorem computeFpl_cases {α} (sem : OSem α) (s : OState α) (o : KernOut) :
    ostep sem s (.computeFpl o) = s.fail ∨
    ∃ a out, s.obj.slot .area = some a ∧ s.obj.slot .outlet = some out ∧ o = .ok ∧
      ostep sem s (.computeFpl o) = (s.alloc .fpl (sem.fpl (s.mem out) (s.mem a))).done := by
  simp only [ostep]
  split
  · next a out ha ho =>
    cases o
    · exact Or.inr ⟨a, out, ha, ho, rfl, rfl⟩
    · exact Or.inl rfl
  · exact Or.inl rfl

theorem ostep_keeps {α} (sem : OSem α) {s : OState α} (h : WF s.obj) (op : Op) :
    Keeps op.writes s (ostep sem s op) := by
  cases op with
  | read g => exact (Keeps.refl h).raised false
  | callerEdit g =>
    have K : Keeps [g] s s := .refl h
    simp only [ostep]
    cases hs : s.obj.slot g with
    | none => exact K.raised false
    | some b => exact (K.store hs List.mem_cons_self sem.edit).raised false
  | computeFpl o =>
    have K : Keeps [.fpl] s s := .refl h
    rcases computeFpl_cases sem s o with e | ⟨_, _, _, _, _, e⟩ <;> rw [e]
    · exact K.raised true
    · exact (K.alloc (by decide) _).raised false
  | delineateBoundary mask o =>
    have K : Keeps [.filled, .boundary, .xyboundary] s s := .refl h
    rcases delineateBoundary_cases sem s mask o with e | ⟨_, b, _, hb, _, ⟨_, e⟩ | ⟨_, e⟩⟩ <;> rw [e]
    · exact K.raised true
    · exact (K.store hb (by decide) sem.sort).raised true
    · exact (((K.store hb (by decide) sem.sort).alloc (g := .boundary) (by decide) _).alloc (g := .xyboundary)
        (by decide) _).raised false
  | delineateArea wi arg o =>
    have K : Keeps [.outlet, .inlets, .area, .filled] s s := .refl h
    have P := areaPrologue_keeps sem K (by decide) (by decide) wi arg
    cases o with
    | badOutlet => exact K.raised true
    | badInlets => exact (K.alloc (by decide) (sem.outlet arg)).raised true
    | badNval => exact P.raised true
    | kernelError => exact (P.set_none (g := .area) (by decide) true).set_none (g := .filled) (by decide) true
    | cells =>
      exact ((P.alloc (g := .area) (by decide) (sem.area arg)).alloc (g := .filled) (by decide) _).raised false
    | empty =>
      -- area and filled area are bound to the one new array, which is recorded as having no element
      have A := P.alloc (g := .area) (by decide) sem.emptyArr
      refine A.of_slot_mem ?_ (fun f hf => set_slot_other _ _ (by rintro rfl; exact hf (by decide))) rfl
      exact wf_set (wf_mono A.wf (_ :: _) _ (Nat.le_refl _) fun _ hb => List.mem_cons_of_mem _ hb) .filled _ fun b hb => by
        cases hb
        exact ⟨⟨_, rfl, Nat.lt_succ_self _⟩, Or.inl List.mem_cons_self⟩

theorem wf_step {α} (sem : OSem α) (s : OState α) (h : WF s.obj) (op : Op) : WF (ostep sem s op).obj :=
  (ostep_keeps sem h op).wf

theorem wf_runFrom {α} (sem : OSem α) (ops : List Op) (s : OState α) (h : WF s.obj) : WF (orunFrom sem s ops).obj :=
  (History.Run.foldl (ostep sem)).preserves (WF ·.obj) (fun t op _ h => wf_step sem t h op) h

theorem orunFrom_frame {α} (sem : OSem α) {f : Field} (ops : List Op) {s : OState α} (h : WF s.obj)
    (hf : ∀ op ∈ ops, f ∉ op.writes) : Frame f s (orunFrom sem s ops) :=
  ((History.Run.foldl (ostep sem)).preserves_rel (WF ·.obj) (Frame f) (Frame.refl f) (fun _ _ _ => Frame.trans)
    (fun t op ho ht _ => ⟨wf_step sem t ht op, (ostep_keeps sem ht op).frame f (hf op ho)⟩) h).2

end HydroVerif.C18
