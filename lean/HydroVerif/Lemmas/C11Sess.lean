/-
C11 — histories (`Sess`, `step`, `run` of the model): the invariant of the grid objects, what a call leaves in
place, rejected operations. No algebraic law of `+` is used.
-/
import HydroVerif.Lemmas.C11

namespace HydroVerif.C11
open HydroVerif.C07

section
variable {α : Type} [Add α]

omit [Add α] in
theorem setIfInBounds_same {β : Type} {xs : Array β} {q : Nat} {x : β} (h : xs[q]? = some x) :
    xs.setIfInBounds q x = xs := by
  obtain ⟨hlt, rfl⟩ := Array.getElem?_eq_some_iff.1 h
  rw [Array.setIfInBounds, dif_pos hlt, Array.set_getElem_self]

variable [OfNat α 1]

/-- the field grid the wrapper works on: the one given, or the unit field cloned from the flow-direction grid -/
def fieldOr (g : FlowGrid) (fdNodata : α) (field : Option (FieldGrid α)) : FieldGrid α :=
  match field with
  | some f => f
  | none => ⟨g.nrows, g.ncols, Array.replicate g.flowdir.size (1 : α), fdNodata⟩

theorem gridAccumulate_eq {g : FlowGrid} {fdNodata : α} {field : Option (FieldGrid α)} (m : Int) {f : FieldGrid α}
    (hf : fieldOr g fdNodata field = f) :
    gridAccumulate g fdNodata field m =
      if f.nrows ≠ g.nrows ∨ f.ncols ≠ g.ncols then .error .shape
      else (cAccumulate g (capOf g m) f.nodata f.data f.data).map
        fun a => ((⟨f.data, a, false⟩ : Store α), (⟨f.nrows, f.ncols, a, f.nodata⟩ : FieldGrid α)) := by
  have hdef : gridAccumulate g fdNodata field m =
      if f.nrows ≠ g.nrows ∨ f.ncols ≠ g.ncols then .error .shape
      else match cAccumulateS g (capOf g m) f.nodata ⟨f.data, f.data, false⟩ with
        | .error e => .error e
        | .ok s => .ok (s, ⟨f.nrows, f.ncols, s.acc, f.nodata⟩) := by
    subst hf
    cases field <;> rfl
  rw [hdef, cAccumulateS_unaliased_eq]
  cases cAccumulate g (capOf g m) f.nodata f.data f.data <;> rfl

theorem gridAccumulate_ok {g : FlowGrid} {fdNodata : α} {field : Option (FieldGrid α)} {m : Int}
    {st : Store α} {r : FieldGrid α} (h : gridAccumulate g fdNodata field m = .ok (st, r)) {f : FieldGrid α}
    (hf : fieldOr g fdNodata field = f) :
    f.nrows = g.nrows ∧ f.ncols = g.ncols ∧ ∃ a, cAccumulate g (capOf g m) f.nodata f.data f.data = .ok a ∧
      st = ⟨f.data, a, false⟩ ∧ r = ⟨f.nrows, f.ncols, a, f.nodata⟩ := by
  rw [gridAccumulate_eq m hf] at h
  split at h
  · cases h
  · rename_i hshape
    rw [not_or, not_not, not_not] at hshape
    cases hc : cAccumulate g (capOf g m) f.nodata f.data f.data with
    | error e => rw [hc] at h; cases h
    | ok a => rw [hc] at h; cases h; exact ⟨hshape.1, hshape.2, a, rfl, rfl, rfl⟩

theorem gridAccumulate_shaped {g : FlowGrid} {fdNodata : α} {field : Option (FieldGrid α)} {m : Int}
    {st : Store α} {r : FieldGrid α} (h : gridAccumulate g fdNodata field m = .ok (st, r))
    (hsz : g.flowdir.size = g.ntot.toNat) (hf : (fieldOr g fdNodata field).wellShaped = true) :
    r.wellShaped = true := by
  obtain ⟨h1, h2, a, ha, -, rfl⟩ := gridAccumulate_ok h rfl
  unfold FieldGrid.wellShaped at hf ⊢
  rw [decide_eq_true_eq] at hf ⊢
  rw [h1, h2] at hf
  show a.size = Int.toNat (_ * _)
  rw [h1, h2]
  exact (cAccumulate_rep hsz (hf ▸ rep_self _ fdNodata) (hf ▸ rep_self _ fdNodata) ha).1

/-- what `Grid`'s constructor and guarded setters maintain of the objects a caller holds: every grid has the size its
dimensions announce, and the two references the caller keeps designate objects of the heap (a result just returned is
therefore an object other than the field: `edit_result_keeps_field`) -/
structure Inv (s : Sess α) : Prop where
  /-- the flow-direction grid has `nrows x ncols` entries (constructor / `data` setter of `Grid`) -/
  fdSize : s.fd.flowdir.size = s.fd.ntot.toNat
  heapShaped : ∀ (q : Nat) (f : FieldGrid α), s.heap[q]? = some f → f.wellShaped = true
  fieldRef : ∀ q, s.field = some q → q < s.heap.size
  resRef : ∀ q, s.res = some q → q < s.heap.size

omit [Add α] [OfNat α 1] in
/-- `Inv` from four checks that `decide` can run on a concrete session -/
theorem Inv.of_checks {s : Sess α} (h1 : s.fd.flowdir.size = s.fd.ntot.toNat)
    (h2 : s.heap.toList.all (·.wellShaped) = true) (h3 : s.field.all (· < s.heap.size) = true)
    (h4 : s.res.all (· < s.heap.size) = true) : Inv s where
  fdSize := h1
  heapShaped q f hq := List.all_eq_true.1 h2 f (Array.mem_toList_iff.2 (Array.mem_of_getElem? hq))
  fieldRef q hq := by rw [hq] at h3; exact of_decide_eq_true h3
  resRef q hq := by rw [hq] at h4; exact of_decide_eq_true h4

omit [Add α] [OfNat α 1] in
theorem Inv.fieldGrid_shaped {s : Sess α} (hI : Inv s) {f : FieldGrid α} (h : s.fieldGrid = some f) :
    f.wellShaped = true := by
  unfold Sess.fieldGrid at h
  obtain ⟨q, -, hq⟩ := Option.bind_eq_some_iff.1 h
  exact hI.heapShaped q f hq

omit [Add α] in
theorem Inv.fieldOr_shaped {s : Sess α} (hI : Inv s) : (fieldOr s.fd s.fdNodata s.fieldGrid).wellShaped = true := by
  cases h : s.fieldGrid with
  | some f => exact hI.fieldGrid_shaped h
  | none =>
    unfold fieldOr FieldGrid.wellShaped
    rw [decide_eq_true_eq, Array.size_replicate]
    exact hI.fdSize

omit [Add α] [OfNat α 1] in
theorem Inv.push {s : Sess α} (hI : Inv s) {f : FieldGrid α} (hf : f.wellShaped = true) {fld rs : Option Nat}
    (hfld : fld = s.field ∨ fld = some s.heap.size) (hrs : rs = s.res ∨ rs = some s.heap.size) :
    Inv { s with heap := s.heap.push f, field := fld, res := rs } where
  fdSize := hI.fdSize
  heapShaped q x hx := by
    rw [Array.getElem?_push] at hx
    split at hx
    · cases hx; exact hf
    · exact hI.heapShaped q x hx
  fieldRef q hq := by
    rw [Array.size_push]
    rcases hfld with rfl | rfl
    · exact Nat.lt_succ_of_lt (hI.fieldRef q hq)
    · cases hq; exact Nat.lt_succ_self _
  resRef q hq := by
    rw [Array.size_push]
    rcases hrs with rfl | rfl
    · exact Nat.lt_succ_of_lt (hI.resRef q hq)
    · cases hq; exact Nat.lt_succ_self _

omit [Add α] [OfNat α 1] in
theorem editAt_cases (s : Sess α) (ref : Option Nat) (e : FieldGrid α → Option (FieldGrid α)) :
    s.editAt ref e = (s, .rejected) ∨ ∃ q f f', ref = some q ∧ s.heap[q]? = some f ∧ e f = some f' ∧
      s.editAt ref e = ({ s with heap := s.heap.setIfInBounds q f' }, .done) := by
  unfold Sess.editAt
  cases ref with
  | none => exact Or.inl rfl
  | some q =>
    simp only []
    cases hq : s.heap[q]? with
    | none => exact Or.inl rfl
    | some f =>
      simp only []
      cases hf : e f with
      | none => exact Or.inl rfl
      | some f' => exact Or.inr ⟨q, f, f', rfl, hq, hf, rfl⟩

omit [Add α] [OfNat α 1] in
theorem editAt_rejected {s : Sess α} {ref : Option Nat} {e : FieldGrid α → Option (FieldGrid α)}
    (h : (s.editAt ref e).2 = .rejected) : (s.editAt ref e).1 = s := by
  rcases editAt_cases s ref e with h1 | ⟨q, f, f', -, -, -, h1⟩
  · rw [h1]
  · rw [h1] at h
    cases h

theorem step_call_eq (s : Sess α) :
    step s .call = match gridAccumulate s.fd s.fdNodata s.fieldGrid s.cap with
      | .error _ => (s, .rejected)
      | .ok (_, r) => ({ s with heap := s.heap.push r, res := some s.heap.size }, .result r) := by
  unfold step
  cases hg : gridAccumulate s.fd s.fdNodata s.fieldGrid s.cap with
  | error e => rfl
  | ok p =>
    obtain ⟨st, r⟩ := p
    cases hfield : s.field with
    | none => rfl
    | some q =>
      cases hfg : s.fieldGrid with
      | none => rfl
      | some f =>
        obtain ⟨-, -, a, -, rfl, -⟩ := gridAccumulate_ok hg (hfg ▸ rfl : fieldOr s.fd s.fdNodata s.fieldGrid = f)
        have hq : s.heap[q]? = some f := by rw [Sess.fieldGrid, hfield] at hfg; exact hfg
        simp only [setIfInBounds_same hq]

/-- an operation that raises leaves every object as it was -/
theorem step_rejected_eq (s : Sess α) (op : Op α) (h : (step s op).2 = .rejected) : (step s op).1 = s := by
  cases op with
  | call =>
    rw [step_call_eq] at h ⊢
    cases hg : gridAccumulate s.fd s.fdNodata s.fieldGrid s.cap with
    | error e => rfl
    | ok p => rw [hg] at h; cases h
  | setCap _ | fdSetNodata _ | fDrop => cases h
  | fdClone => rfl
  | fdSetCell _ _ | fdAssign _ _ _ | fNew _ =>
    simp only [step] at h ⊢
    split
    · rename_i hc; rw [if_pos hc] at h; cases h
    · rfl
  | fSetCell _ _ | fAssign _ _ _ | fSetNodata _ | rSetCell _ _ | rFill _ | rSetNodata _ => exact editAt_rejected h
  | fClone | feedBack =>
    simp only [step] at h ⊢
    split
    · rfl
    · rename_i heq; rw [heq] at h; cases h

omit [Add α] [OfNat α 1] in
theorem editAt_inv {s : Sess α} (hI : Inv s) {ref : Option Nat} {e : FieldGrid α → Option (FieldGrid α)}
    (he : ∀ f f' : FieldGrid α, f.wellShaped = true → e f = some f' → f'.wellShaped = true) :
    Inv (s.editAt ref e).1 ∧ (s.editAt ref e).1.fd.nrows = s.fd.nrows ∧
      (s.editAt ref e).1.fd.ncols = s.fd.ncols ∧ (s.editAt ref e).1.fd.codes = s.fd.codes := by
  rcases editAt_cases s ref e with h1 | ⟨q, f, f', -, hq, hef, h1⟩
  · rw [h1]
    exact ⟨hI, rfl, rfl, rfl⟩
  · rw [h1]
    refine ⟨⟨hI.fdSize, fun j x hx => ?_, ?_, ?_⟩, rfl, rfl, rfl⟩
    · rw [Array.getElem?_setIfInBounds] at hx
      split at hx
      · split at hx
        · cases hx; exact he f _ (hI.heapShaped q f hq) hef
        · cases hx
      · exact hI.heapShaped j x hx
    · rw [Array.size_setIfInBounds]; exact hI.fieldRef
    · rw [Array.size_setIfInBounds]; exact hI.resRef

omit [Add α] [OfNat α 1] in
theorem editAt_fieldGrid {s : Sess α} {ref : Option Nat} (e : FieldGrid α → Option (FieldGrid α))
    (h : ∀ q, ref = some q → s.field ≠ some q) : (s.editAt ref e).1.fieldGrid = s.fieldGrid := by
  rcases editAt_cases s ref e with h1 | ⟨q, f, f', rfl, -, -, h1⟩
  · rw [h1]
  · rw [h1]
    unfold Sess.fieldGrid
    cases hf : s.field with
    | none => rfl
    | some q' => exact Array.getElem?_setIfInBounds_ne fun hqq => h q rfl (by rw [hf, hqq])

omit [Add α] [OfNat α 1] in
theorem setCell_shaped {f f' : FieldGrid α} {i : Int} {v : α} (hf : f.wellShaped = true)
    (h : f.setCell i v = some f') : f'.wellShaped = true := by
  unfold FieldGrid.setCell at h
  split at h
  · cases h
    unfold FieldGrid.wellShaped at hf ⊢
    rwa [Array.size_setIfInBounds]
  · cases h

omit [Add α] [OfNat α 1] in
theorem assign_shaped {f f' : FieldGrid α} {nr nc : Int} {d : Array α}
    (h : f.assign nr nc d = some f') : f'.wellShaped = true := by
  unfold FieldGrid.assign at h
  split at h
  · rename_i hc
    cases h
    unfold FieldGrid.wellShaped
    rw [decide_eq_true_eq, hc.2.2, hc.1, hc.2.1]
  · cases h

theorem step_inv {s : Sess α} (hI : Inv s) (op : Op α) :
    Inv (step s op).1 ∧ (step s op).1.fd.nrows = s.fd.nrows ∧ (step s op).1.fd.ncols = s.fd.ncols ∧
      (step s op).1.fd.codes = s.fd.codes := by
  cases op with
  | call =>
    rw [step_call_eq s]
    cases hg : gridAccumulate s.fd s.fdNodata s.fieldGrid s.cap with
    | error e => exact ⟨hI, rfl, rfl, rfl⟩
    | ok p =>
      exact ⟨hI.push (gridAccumulate_shaped hg hI.fdSize hI.fieldOr_shaped) (Or.inl rfl) (Or.inr rfl), rfl, rfl, rfl⟩
  | setCap _ | fdSetNodata _ | fdClone => exact ⟨⟨hI.fdSize, hI.heapShaped, hI.fieldRef, hI.resRef⟩, rfl, rfl, rfl⟩
  | fdSetCell i code =>
    simp only [step]
    split
    · exact ⟨⟨(Array.size_setIfInBounds ..).trans hI.fdSize, hI.heapShaped, hI.fieldRef, hI.resRef⟩, rfl, rfl, rfl⟩
    · exact ⟨hI, rfl, rfl, rfl⟩
  | fdAssign nrows ncols data =>
    simp only [step]
    split
    · rename_i hc
      refine ⟨⟨?_, hI.heapShaped, hI.fieldRef, hI.resRef⟩, rfl, rfl, rfl⟩
      show data.size = (s.fd.nrows * s.fd.ncols).toNat
      rw [hc.2.2, hc.1, hc.2.1]
    · exact ⟨hI, rfl, rfl, rfl⟩
  | fSetCell _ _ | rSetCell _ _ => exact editAt_inv hI fun _ _ hf h => setCell_shaped hf h
  | fAssign _ _ _ => exact editAt_inv hI fun _ _ _ h => assign_shaped h
  | fSetNodata _ | rSetNodata _ => exact editAt_inv hI fun _ _ hf h => by cases h; exact hf
  | fNew f =>
    simp only [step]
    split
    · rename_i hc; exact ⟨hI.push hc (Or.inr rfl) (Or.inl rfl), rfl, rfl, rfl⟩
    · exact ⟨hI, rfl, rfl, rfl⟩
  | fDrop => exact ⟨⟨hI.fdSize, hI.heapShaped, nofun, hI.resRef⟩, rfl, rfl, rfl⟩
  | fClone =>
    simp only [step]
    cases hfg : s.fieldGrid with
    | none => exact ⟨hI, rfl, rfl, rfl⟩
    | some f => exact ⟨hI.push (hI.fieldGrid_shaped hfg) (Or.inr rfl) (Or.inl rfl), rfl, rfl, rfl⟩
  | rFill v =>
    refine editAt_inv hI fun f _ hf h => ?_
    cases h
    unfold FieldGrid.wellShaped at hf ⊢
    rwa [Array.size_replicate]
  | feedBack =>
    simp only [step]
    cases hr : s.res with
    | none => exact ⟨hI, rfl, rfl, rfl⟩
    | some q =>
      exact ⟨⟨hI.fdSize, hI.heapShaped, fun j hj => by cases hj; exact hI.resRef q hr,
        fun j hj => by cases hj; exact hI.resRef q hr⟩, rfl, rfl, rfl⟩

theorem run_inv {s : Sess α} (hI : Inv s) (ops : List (Op α)) :
    Inv (run s ops).1 ∧ (run s ops).1.fd.nrows = s.fd.nrows ∧ (run s ops).1.fd.ncols = s.fd.ncols ∧
      (run s ops).1.fd.codes = s.fd.codes := by
  induction ops generalizing s with
  | nil => exact ⟨hI, rfl, rfl, rfl⟩
  | cons op rest ih =>
    obtain ⟨h1, h2, h3, h4⟩ := step_inv hI op
    obtain ⟨k1, k2, k3, k4⟩ := ih h1
    exact ⟨k1, k2.trans h2, k3.trans h3, k4.trans h4⟩

end

end HydroVerif.C11
