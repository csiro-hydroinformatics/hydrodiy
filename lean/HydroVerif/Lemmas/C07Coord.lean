/-
Coordinate lemmas for `Model/C07.lean`, PART 2, over an ordered field with a floor function
(`ℚ`, `ℝ`, …): the `Trunc` instance of such a field, cell footprints, grid extent, one axis as an offset in cell
sizes, the characterisation of `coord2cell` (reused by C13 and C16), and the truncating kernel as the flooring one
after clamping to the lower edges. For C13 and C16 also: the column and row of a located cell in any arithmetic
(`coord2cell_rowcol`), cell centres (`getcoord_eq`, `centre_sub_half`), the centre of a cell of a block of a grid taken as a
grid of its own (`getcoord_block`), and that points in order fall in cells in order (`floor_offset_mono`).
-/
import HydroVerif.Lemmas.C07Grid
import Mathlib.Algebra.Order.Floor.Ring
import Mathlib.Algebra.Order.Field.Basic
import Mathlib.Tactic.Ring
import Mathlib.Tactic.NormNum

namespace HydroVerif.C07

theorem cellOfNxNy_in {nrows ncols nx ny : Int} (h : 0 ≤ nx ∧ nx < ncols ∧ 0 ≤ ny ∧ ny < nrows) :
    cellOfNxNy nrows ncols nx ny = cellOf ncols ny nx := by
  unfold cellOfNxNy cellOf
  rw [if_neg (by omega)]

theorem cellOfNxNy_out {nrows ncols nx ny : Int} (h : ¬ (0 ≤ nx ∧ nx < ncols ∧ 0 ≤ ny ∧ ny < nrows)) :
    cellOfNxNy nrows ncols nx ny = -1 := by
  unfold cellOfNxNy
  rw [if_pos (by omega)]

theorem cellOfNxNy_nonneg {nrows ncols nx ny : Int} (h : 0 ≤ cellOfNxNy nrows ncols nx ny) :
    (0 ≤ nx ∧ nx < ncols ∧ 0 ≤ ny ∧ ny < nrows) ∧ cellOfNxNy nrows ncols nx ny = cellOf ncols ny nx := by
  by_cases hin : 0 ≤ nx ∧ nx < ncols ∧ 0 ≤ ny ∧ ny < nrows
  · exact ⟨hin, cellOfNxNy_in hin⟩
  · rw [cellOfNxNy_out hin] at h
    omega

section AnyArithmetic
variable {β : Type} [Sub β] [Div β] [Trunc β]

/-- in any arithmetic: the column and the row of a located cell are the two integers the kernel computed -/
theorem coord2cell_rowcol (g : Geom β) (x y : β) (h : 0 ≤ coord2cell g x y) :
    colOf g.ncols (coord2cell g x y) = Trunc.floorToInt ((x - g.xll) / g.csz) ∧
    rowOf g.ncols (coord2cell g x y) = g.nrows - 1 - Trunc.floorToInt ((y - g.yll) / g.csz) := by
  obtain ⟨⟨a, b, c, -⟩, e⟩ := cellOfNxNy_nonneg (show 0 ≤ cellOfNxNy _ _ _ _ from h)
  rw [show coord2cell g x y = _ from e]
  exact ⟨colOf_cellOf c a b, rowOf_cellOf c a b⟩

end AnyArithmetic

section
variable {α : Type}

/-- row counted from the bottom, as used for the y coordinate -/
def rowUp (g : Geom α) (c : Int) : Int := g.nrows - 1 - rowOf g.ncols c

theorem cellOfNxNy_of_valid {g : Geom α} (hc : 0 < g.ncols) {c : Int} (hv : validCell g.nrows g.ncols c = true) :
    cellOfNxNy g.nrows g.ncols (colOf g.ncols c) (g.nrows - 1 - rowUp g c) = c := by
  obtain ⟨hr0, hr1, hc0, hc1, hidx⟩ := valid_rowcol hc hv
  rw [rowUp, sub_sub_cancel, cellOfNxNy_in ⟨hc0, hc1, hr0, hr1⟩, hidx]

end

variable {α : Type} [Field α] [LinearOrder α]

section
variable [FloorRing α]

/-- the exact-field meaning of the C conversions: `(double) n` is the cast, `(long long) x` rounds
toward zero, `(long long) floor(x)` is the floor -/
scoped instance fieldTrunc : Trunc α where
  ofInt n := (n : α)
  truncToInt x := if 0 ≤ x then ⌊x⌋ else ⌈x⌉
  floorToInt x := ⌊x⌋

@[simp] theorem ofInt_eq (n : Int) : (Trunc.ofInt n : α) = (n : α) := rfl
theorem truncToInt_eq (x : α) : Trunc.truncToInt x = if 0 ≤ x then ⌊x⌋ else ⌈x⌉ := rfl

@[simp] theorem half_eq : (half : α) = 1 / 2 := by unfold half; norm_num

theorem coord2cell_eq (g : Geom α) (x y : α) :
    coord2cell g x y =
      cellOfNxNy g.nrows g.ncols ⌊(x - g.xll) / g.csz⌋ (g.nrows - 1 - ⌊(y - g.yll) / g.csz⌋) := rfl

/-! cell centres, and a block of cells taken as a grid of its own -/

theorem getcoord_eq (g : Geom α) (k : Int) :
    getcoord g k = (g.xll + g.csz * ((colOf g.ncols k : α) + 1 / 2),
      g.yll + g.csz * (((g.nrows - 1 - rowOf g.ncols k : Int) : α) + 1 / 2)) := by
  rw [getcoord, half_eq]
  rfl

/-- half a cell below / left of a centre is the lower / left edge of the cell (`csz / (1 + 1)` is how the models of C13 and
C16, which have no numeral `2`, write half a cell) -/
theorem centre_sub_half (x0 csz n : α) : x0 + csz * (n + 1 / 2) - csz / (1 + 1) = x0 + csz * n := by
  ring

/-- a block of `nr × nc` cells of a grid, `top` rows below its first row and `left` columns right of its first column,
taken as a grid of its own with the same cell size and the lower-left corner of its bottom-left cell: cell `(i, j)` of the
block and cell `(top + i, left + j)` of the grid have the same centre -/
theorem getcoord_block {g : Geom α} {top left nr nc i j : Int} (hi : 0 ≤ i) (hj0 : 0 ≤ j) (hj1 : j < nc)
    (hr : 0 ≤ top + i) (hc0 : 0 ≤ left + j) (hc1 : left + j < g.ncols) :
    getcoord ⟨nr, nc, g.xll + g.csz * (left : α), g.yll + g.csz * ((g.nrows - (top + nr) : Int) : α), g.csz⟩
        (cellOf nc i j) = getcoord g (cellOf g.ncols (top + i) (left + j)) := by
  rw [getcoord_eq, getcoord_eq, colOf_cellOf hi hj0 hj1, rowOf_cellOf hi hj0 hj1, colOf_cellOf hr hc0 hc1,
    rowOf_cellOf hr hc0 hc1]
  exact Prod.ext (by push_cast; ring) (by push_cast; ring)

end

section
variable [IsStrictOrderedRing α]

/-! the forms with a margin `δ` (in cell sizes) serve the perturbed quotients of `Lemmas/C07Kernel.lean` -/

theorem le_offset_iff {x x0 csz a : α} (h : 0 < csz) : a ≤ (x - x0) / csz ↔ x0 + csz * a ≤ x := by
  rw [le_div_iff₀ h, le_sub_iff_add_le', mul_comm]

theorem offset_lt_iff {x x0 csz a : α} (h : 0 < csz) : (x - x0) / csz < a ↔ x < x0 + csz * a := by
  rw [div_lt_iff₀ h, sub_lt_iff_lt_add', mul_comm]

theorem add_le_offset_iff {x x0 csz a δ : α} (h : 0 < csz) :
    a + δ ≤ (x - x0) / csz ↔ x0 + csz * a + δ * csz ≤ x := by
  rw [le_offset_iff h, mul_add, mul_comm csz δ, add_assoc]

theorem offset_add_lt_iff {x x0 csz a δ : α} (h : 0 < csz) :
    (x - x0) / csz + δ < a ↔ x + δ * csz < x0 + csz * a := by
  rw [← lt_sub_iff_add_lt, offset_lt_iff h, mul_sub, mul_comm csz δ, ← add_sub_assoc, lt_sub_iff_add_lt]

theorem offset_lt_offset {x0 csz a b : α} (h : 0 < csz) (hab : a < b) : x0 + csz * a < x0 + csz * b :=
  add_lt_add_right (mul_lt_mul_of_pos_left hab h) x0

end

variable [IsStrictOrderedRing α] [FloorRing α]

-- stated over the ordered field, whose order axioms it does not use
set_option linter.unusedSectionVars false in
@[simp] theorem floorToInt_eq (x : α) : Trunc.floorToInt x = ⌊x⌋ := rfl

/-! The footprint of a cell is written from the lower-left corner as the kernels compute it, `xll + csz * col`; the extent
as `Grid.xlim` / `ylim` write it, `xll + ncols * csz` (hence the `mul_comm` in `floor_offset_lt_iff`). Left and bottom
edges belong to a cell, right and top edges do not. -/

def cellLeft (g : Geom α) (c : Int) : α := g.xll + g.csz * (colOf g.ncols c : α)
def cellRight (g : Geom α) (c : Int) : α := g.xll + g.csz * ((colOf g.ncols c : α) + 1)
def cellBottom (g : Geom α) (c : Int) : α := g.yll + g.csz * (rowUp g c : α)
def cellTop (g : Geom α) (c : Int) : α := g.yll + g.csz * ((rowUp g c : α) + 1)

/-- `(x, y)` lies in the half-open square of cell `c` -/
def InFootprint (g : Geom α) (c : Int) (x y : α) : Prop :=
  cellLeft g c ≤ x ∧ x < cellRight g c ∧ cellBottom g c ≤ y ∧ y < cellTop g c

/-- `(x, y)` lies in the half-open rectangle `xlim × ylim` of the grid -/
def InExtent (g : Geom α) (x y : α) : Prop :=
  g.xll ≤ x ∧ x < g.xll + (g.ncols : α) * g.csz ∧ g.yll ≤ y ∧ y < g.yll + (g.nrows : α) * g.csz

theorem floor_offset_eq_iff {x x0 csz : α} (h : 0 < csz) (n : Int) :
    ⌊(x - x0) / csz⌋ = n ↔ x0 + csz * (n : α) ≤ x ∧ x < x0 + csz * ((n : α) + 1) := by
  rw [Int.floor_eq_iff, le_offset_iff h, offset_lt_iff h]

theorem floor_offset_nonneg_iff {x x0 csz : α} (h : 0 < csz) : 0 ≤ ⌊(x - x0) / csz⌋ ↔ x0 ≤ x := by
  rw [Int.floor_nonneg, le_offset_iff h, mul_zero, add_zero]

theorem floor_offset_lt_iff {x x0 csz : α} (h : 0 < csz) (n : Int) :
    ⌊(x - x0) / csz⌋ < n ↔ x < x0 + (n : α) * csz := by
  rw [Int.floor_lt, offset_lt_iff h, mul_comm]

theorem inExtent_iff_floor {g : Geom α} (hcsz : 0 < g.csz) {x y : α} :
    InExtent g x y ↔ 0 ≤ ⌊(x - g.xll) / g.csz⌋ ∧ ⌊(x - g.xll) / g.csz⌋ < g.ncols ∧
      0 ≤ ⌊(y - g.yll) / g.csz⌋ ∧ ⌊(y - g.yll) / g.csz⌋ < g.nrows := by
  rw [floor_offset_nonneg_iff hcsz, floor_offset_lt_iff hcsz, floor_offset_nonneg_iff hcsz, floor_offset_lt_iff hcsz]
  rfl

theorem coord2cell_of_inFootprint {g : Geom α} (hcsz : 0 < g.csz) (hc : 0 < g.ncols) {c : Int}
    (hv : validCell g.nrows g.ncols c = true) {x y : α} (h : InFootprint g c x y) :
    coord2cell g x y = c := by
  rw [coord2cell_eq, (floor_offset_eq_iff hcsz _).2 ⟨h.1, h.2.1⟩, (floor_offset_eq_iff hcsz _).2 h.2.2]
  exact cellOfNxNy_of_valid hc hv

theorem coord2cell_of_not_inExtent {g : Geom α} (hcsz : 0 < g.csz) {x y : α}
    (h : ¬ InExtent g x y) : coord2cell g x y = -1 := by
  rw [coord2cell_eq]
  exact cellOfNxNy_out fun hh => h ((inExtent_iff_floor hcsz).2 ⟨hh.1, hh.2.1, by omega, by omega⟩)

theorem coord2cell_of_inExtent {g : Geom α} (hcsz : 0 < g.csz) {x y : α} (h : InExtent g x y) :
    validCell g.nrows g.ncols (coord2cell g x y) = true ∧ InFootprint g (coord2cell g x y) x y := by
  obtain ⟨a0, a1, b0, b1⟩ := (inExtent_iff_floor hcsz).1 h
  rw [coord2cell_eq, cellOfNxNy_in ⟨a0, a1, by omega, by omega⟩]
  refine ⟨validCell_cellOf (by omega) (by omega) a0 a1, ?_⟩
  unfold InFootprint cellLeft cellRight cellBottom cellTop rowUp
  rw [colOf_cellOf (by omega) a0 a1, rowOf_cellOf (by omega) a0 a1, sub_sub_cancel]
  exact ⟨((floor_offset_eq_iff hcsz _).1 rfl).1, ((floor_offset_eq_iff hcsz _).1 rfl).2,
    (floor_offset_eq_iff hcsz _).1 rfl⟩

theorem inExtent_of_inFootprint {g : Geom α} (hcsz : 0 < g.csz) (hc : 0 < g.ncols) {c : Int}
    (hv : validCell g.nrows g.ncols c = true) {x y : α} (h : InFootprint g c x y) :
    InExtent g x y := by
  obtain ⟨hr0, hr1, hc0, hc1, -⟩ := valid_rowcol hc hv
  rw [inExtent_iff_floor hcsz, (floor_offset_eq_iff hcsz _).2 ⟨h.1, h.2.1⟩, (floor_offset_eq_iff hcsz _).2 h.2.2]
  exact ⟨hc0, hc1, by unfold rowUp; omega, by unfold rowUp; omega⟩

/-- the sentinel `-1` is returned exactly outside the extent -/
theorem coord2cell_nonneg_iff {g : Geom α} (hcsz : 0 < g.csz) {x y : α} :
    0 ≤ coord2cell g x y ↔ InExtent g x y := by
  constructor
  · intro h
    by_contra hne
    have := coord2cell_of_not_inExtent hcsz hne
    omega
  · intro h
    exact (validCell_iff.1 (coord2cell_of_inExtent hcsz h).1).1

/-- `coord2cell` returns the valid cell `c` exactly on the footprint of `c` -/
theorem coord2cell_iff_inFootprint {g : Geom α} (hcsz : 0 < g.csz) (hc : 0 < g.ncols) {c : Int}
    (hv : validCell g.nrows g.ncols c = true) {x y : α} :
    coord2cell g x y = c ↔ InFootprint g c x y := by
  constructor
  · intro h
    have h0 : 0 ≤ coord2cell g x y := by rw [h]; exact (validCell_iff.1 hv).1
    have := (coord2cell_of_inExtent hcsz ((coord2cell_nonneg_iff hcsz).1 h0)).2
    rwa [h] at this
  · exact coord2cell_of_inFootprint hcsz hc hv

/-- one axis: truncation toward zero sees a point of the cell-wide strip below `x0` as if it were `x0` itself, and
agrees with `floor` from `x0` on -/
theorem trunc_offset_eq {x x0 csz : α} (h : 0 < csz) (hx : x0 - csz < x) :
    Trunc.truncToInt ((x - x0) / csz) = ⌊(max x x0 - x0) / csz⌋ := by
  rcases le_or_gt x0 x with h1 | h1
  · rw [max_eq_left h1]; exact if_pos (div_nonneg (sub_nonneg.2 h1) h.le)
  · have hq : (x - x0) / csz < 0 := div_neg_of_neg_of_pos (sub_neg.2 h1) h
    rw [max_eq_right h1.le, sub_self, zero_div, Int.floor_zero, truncToInt_eq, if_neg hq.not_ge, Int.ceil_eq_zero_iff]
    refine ⟨?_, hq.le⟩
    rwa [lt_div_iff₀ h, neg_one_mul, lt_sub_iff_add_lt', ← sub_eq_add_neg]

/-- the truncating kernel is the flooring one after moving a point of the cell-wide strips left of and below the
extent onto the edge: nothing changes for `x ≥ xll`, `y ≥ yll`, and the strips are given cells of column 0 / of the
bottom row -/
theorem coord2cellTrunc_eq_clamp {g : Geom α} (hcsz : 0 < g.csz) {x y : α} (hx : g.xll - g.csz < x)
    (hy : g.yll - g.csz < y) : coord2cellTrunc g x y = coord2cell g (max x g.xll) (max y g.yll) := by
  unfold coord2cellTrunc
  rw [trunc_offset_eq hcsz hx, trunc_offset_eq hcsz hy]
  rfl

/-- points in order fall in cells in order, on either axis -/
theorem floor_offset_mono {csz : α} (hcsz : 0 < csz) (o : α) {a b : α} (h : a ≤ b) :
    ⌊(a - o) / csz⌋ ≤ ⌊(b - o) / csz⌋ :=
  Int.floor_le_floor (div_le_div_of_nonneg_right (sub_le_sub_right h o) hcsz.le)

end HydroVerif.C07
