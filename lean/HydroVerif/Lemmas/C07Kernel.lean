/-
Lemmas for `Model/C07Kernel.lean` over an ordered field with floor: the kernel as written (extent test on the
floored values, then the casts) computes `cellOfNxNy` of the integer floors, hence equals the cast-first form and is
decided by the two floors; floors of perturbed quotients (`floor_eq_of_approx`) and, as its special cases, the floor
within half a cell of a centre (`floor_eq_of_abs_sub_half_lt`, `floor_offset_centre`), which the round trips use.
-/
import HydroVerif.Model.C07Kernel
import HydroVerif.Lemmas.C07Coord

namespace HydroVerif.C07

variable {α : Type} [Field α] [LinearOrder α] [IsStrictOrderedRing α] [FloorRing α]

/-- exact-field meaning of C `floor`: the integer floor, cast back -/
scoped instance fieldFloor : FloorNum α where
  floor x := ((⌊x⌋ : Int) : α)

-- stated over the ordered field, whose order axioms it does not use
set_option linter.unusedSectionVars false in
@[simp] theorem floorNum_eq (x : α) : (FloorNum.floor x : α) = ((⌊x⌋ : Int) : α) := rfl

theorem truncToInt_intCast (n : Int) : Trunc.truncToInt ((n : Int) : α) = n := by
  rw [truncToInt_eq, Int.floor_intCast, Int.ceil_intCast, ite_self]

theorem cellOfQuot_eq (nrows ncols : Int) (qx qy : α) :
    cellOfQuot nrows ncols qx qy = cellOfNxNy nrows ncols ⌊qx⌋ (nrows - 1 - ⌊qy⌋) := by
  unfold cellOfQuot cellOfNxNy
  simp only [floorNum_eq, ofInt_eq, truncToInt_intCast, Int.cast_nonneg_iff, Int.cast_lt, ge_iff_le,
    Bool.and_eq_true, decide_eq_true_eq]
  -- the same range test, written once as "inside" on the floors and once as "outside" on `(nx, nrows - 1 - fy)`
  split_ifs <;> first | rfl | omega

theorem cellOfQuot_of_floor {g : Geom α} (hc : 0 < g.ncols) {c : Int} (hv : validCell g.nrows g.ncols c = true)
    {qx qy : α} (hx : ⌊qx⌋ = colOf g.ncols c) (hy : ⌊qy⌋ = rowUp g c) :
    cellOfQuot g.nrows g.ncols qx qy = c := by
  rw [cellOfQuot_eq, hx, hy]
  exact cellOfNxNy_of_valid hc hv

theorem floor_eq_of_approx {q q' δ : α} {n : Int} (h : |q' - q| ≤ δ) (h0 : (n : α) + δ ≤ q)
    (h1 : q + δ < (n : α) + 1) : ⌊q'⌋ = n :=
  Int.floor_eq_iff.2 ⟨(le_sub_iff_add_le.2 h0).trans (sub_le_of_abs_sub_le_left h),
    (sub_le_iff_le_add'.1 (le_of_abs_le h)).trans_lt h1⟩

theorem floor_neg_of_margin {x x0 csz q' δ : α} (hcsz : 0 < csz) (h : |q' - (x - x0) / csz| ≤ δ)
    (hx : x + δ * csz < x0) : ⌊q'⌋ < 0 :=
  Int.floor_lt.2 ((sub_le_iff_le_add'.1 (le_of_abs_le h)).trans_lt
    ((offset_add_lt_iff hcsz).2 (by rwa [Int.cast_zero, mul_zero, add_zero])))

theorem floor_ge_of_margin {x x0 csz q' δ : α} (hcsz : 0 < csz) (h : |q' - (x - x0) / csz| ≤ δ) (n : Int)
    (hx : x0 + (n : α) * csz + δ * csz ≤ x) : n ≤ ⌊q'⌋ :=
  Int.le_floor.2 ((le_sub_iff_add_le.2 ((add_le_offset_iff hcsz).2 (by rwa [mul_comm]))).trans
    (sub_le_of_abs_sub_le_left h))

theorem floor_eq_of_abs_sub_half_lt {x : α} {n : Int} (h : |x - ((n : α) + 1 / 2)| < 1 / 2) : ⌊x⌋ = n :=
  floor_eq_of_approx le_rfl (add_le_add_right h.le _)
    (by rw [add_assoc]; exact add_lt_add_right ((add_lt_add_right h _).trans_eq (add_halves 1)) _)

theorem floor_offset_centre {x0 csz : α} (h : csz ≠ 0) (k : Int) :
    ⌊(x0 + csz * ((k : α) + 1 / 2) - x0) / csz⌋ = k := by
  rw [add_sub_cancel_left, mul_div_cancel_left₀ _ h]
  exact floor_eq_of_abs_sub_half_lt (by rw [sub_self, abs_zero]; exact one_half_pos)

theorem cast_add_half_le {k n : Int} (h : k < n) : (k : α) + 1 / 2 ≤ (n : α) :=
  (add_le_add_right one_half_lt_one.le _).trans (by exact_mod_cast Int.add_one_le_iff.2 h)

end HydroVerif.C07
