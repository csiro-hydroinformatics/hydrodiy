/-
C09 — the table body: the record writer (`quoteField`, `writeRow`) against the tokeniser (`pstep`, `parseRow`) and the
column-name split, and the text as lines (`joinLines` against `readLines`, `chomp`).
-/
import HydroVerif.Lemmas.C09

namespace HydroVerif.C09

theorem writeRow_cons (f : Str) (fs : List Str) :
    writeRow (f :: fs) = quoteField f ++ fs.flatMap fun g => ',' :: quoteField g := by
  induction fs generalizing f with
  | nil => simp [writeRow]
  | cons g fs ih => rw [writeRow, ih, List.flatMap_cons, List.cons_append]

theorem escapeQ_mem (f : Str) (c : Char) (h : c ∈ escapeQ f) : c ∈ f ∨ c = '"' := by
  induction f with
  | nil => cases h
  | cons d f ih =>
    rw [escapeQ] at h
    split at h
    · rcases List.mem_cons.mp h with h | h
      · exact .inr h
      · rcases List.mem_cons.mp h with h | h
        · exact .inr h
        · exact (ih h).imp_left (List.mem_cons_of_mem _)
    · rcases List.mem_cons.mp h with h | h
      · exact .inl (h ▸ List.mem_cons_self)
      · exact (ih h).imp_left (List.mem_cons_of_mem _)

theorem quoteField_mem (f : Str) (c : Char) (h : c ∈ quoteField f) : c ∈ f ∨ c = '"' := by
  unfold quoteField at h
  split at h
  · simp only [List.mem_cons, List.mem_append, List.not_mem_nil, or_false] at h
    rcases h with h | h | h
    · exact .inr h
    · exact escapeQ_mem f c h
    · exact .inr h
  · exact .inl h

theorem writeRow_mem (fs : List Str) (c : Char) (h : c ∈ writeRow fs) : (∃ f ∈ fs, c ∈ f) ∨ c = '"' ∨ c = ',' := by
  have hq : ∀ g ∈ fs, c ∈ quoteField g → (∃ f ∈ fs, c ∈ f) ∨ c = '"' ∨ c = ',' := fun g hg hc =>
    (quoteField_mem g c hc).elim (fun h => .inl ⟨g, hg, h⟩) (fun h => .inr (.inl h))
  cases fs with
  | nil => cases h
  | cons f fs =>
    rw [writeRow_cons, List.mem_append, List.mem_flatMap] at h
    rcases h with h | ⟨g, hg, h⟩
    · exact hq f List.mem_cons_self h
    · rcases List.mem_cons.mp h with h | h
      · exact .inr (.inr h)
      · exact hq g (List.mem_cons_of_mem _ hg) h

theorem writeRow_no_newline (fs : List Str) (h : ∀ f ∈ fs, ∀ c ∈ f, c ≠ '\n') : ∀ c ∈ writeRow fs, c ≠ '\n' := by
  rintro c hc rfl
  rcases writeRow_mem fs _ hc with ⟨f, hf, hcf⟩ | h | h
  · exact h f hf _ hcf rfl
  · cases h
  · cases h

theorem needsQuote_eq_false {f : Str} : needsQuote f = false ↔ ∀ c ∈ f, c ≠ ',' ∧ c ≠ '"' ∧ c ≠ '\n' ∧ c ≠ '\r' := by
  simp [needsQuote, special, and_assoc]

theorem quoteField_of_not_needsQuote {f : Str} (h : needsQuote f = false) : quoteField f = f := by
  rw [quoteField, h, if_neg Bool.false_ne_true]

theorem writeRow_plain_last (ns : List Str) (hne : ns ≠ []) (hq : needsQuote (ns.getLast hne) = false) :
    ∃ pre, writeRow ns = pre ++ ns.getLast hne := by
  obtain ⟨f, fs, rfl⟩ := List.exists_cons_of_ne_nil hne
  rw [writeRow_cons]
  rcases List.eq_nil_or_concat' fs with rfl | ⟨gs, g, rfl⟩
  · exact ⟨[], by rw [List.getLast_singleton] at hq ⊢; simp [quoteField_of_not_needsQuote hq]⟩
  · have hl : (f :: (gs ++ [g])).getLast hne = g := by simp
    rw [hl] at hq ⊢
    exact ⟨quoteField f ++ (gs.flatMap fun g => ',' :: quoteField g) ++ [','], by
      simp [quoteField_of_not_needsQuote hq]⟩

theorem plain_run (g : Str) (hg : needsQuote g = false) (st : PSt) (hst : st = .start ∨ st = .unq) (cur : Str)
    (done : List Str) : g.foldl pstep ⟨st, cur, done⟩ = ⟨if g = [] then st else .unq, cur ++ g, done⟩ := by
  rw [needsQuote_eq_false] at hg
  induction g generalizing st cur with
  | nil => simp
  | cons c g ih =>
    obtain ⟨h1, h2, -⟩ := hg c List.mem_cons_self
    have : pstep ⟨st, cur, done⟩ c = ⟨.unq, cur ++ [c], done⟩ := by
      rcases hst with rfl | rfl <;> simp [pstep, h1, h2]
    rw [List.foldl_cons, this, ih (fun d hd => hg d (List.mem_cons_of_mem _ hd)) _ (.inr rfl)]
    simp

theorem quoted_run (g : Str) (cur : Str) (done : List Str) :
    (escapeQ g).foldl pstep ⟨.q, cur, done⟩ = ⟨.q, cur ++ g, done⟩ := by
  induction g generalizing cur with
  | nil => simp [escapeQ]
  | cons c g ih =>
    by_cases hc : c = '"'
    · subst hc
      simp only [escapeQ, beq_self_eq_true, if_true, List.foldl_cons, pstep]
      rw [ih, List.append_assoc, List.singleton_append]
    · simp only [escapeQ, beq_false_of_ne hc, Bool.false_eq_true, if_false, List.foldl_cons, pstep]
      rw [ih, List.append_assoc, List.singleton_append]

theorem field_read (f : Str) (done : List Str) :
    ∃ st, (quoteField f).foldl pstep ⟨.start, [], done⟩ = ⟨st, f, done⟩ ∧ st ≠ .q := by
  unfold quoteField
  split
  · simp only [List.foldl_cons, pstep, beq_self_eq_true, if_true]
    rw [List.foldl_append, quoted_run]
    exact ⟨.qq, rfl, by decide⟩
  · rw [plain_run f (Bool.eq_false_iff.mpr ‹_›) _ (.inl rfl), List.nil_append]
    split
    · exact ⟨.start, rfl, by decide⟩
    · exact ⟨.unq, rfl, by decide⟩

theorem comma_emits (st : PSt) (f : Str) (done : List Str) (h1 : st ≠ .q) :
    pstep ⟨st, f, done⟩ ',' = ⟨.start, [], done ++ [f]⟩ := by
  cases st with
  | start => simp [pstep]
  | unq => simp [pstep]
  | q => exact absurd rfl h1
  | qq => simp [pstep]

theorem writeRow_rest_fold (fs : List Str) (st : PSt) (f : Str) (done : List Str) (h1 : st ≠ .q) :
    let s := (fs.flatMap fun g => ',' :: quoteField g).foldl pstep ⟨st, f, done⟩
    s.done ++ [s.cur] = done ++ f :: fs := by
  induction fs generalizing st f done with
  | nil => rfl
  | cons g fs ih =>
    obtain ⟨st', h, h1'⟩ := field_read g (done ++ [f])
    rw [List.flatMap_cons, List.foldl_append, List.foldl_cons, comma_emits st f done h1, h]
    simpa using ih st' g (done ++ [f]) h1'

theorem splitOnComma_ne_nil (s : Str) : splitOnComma s ≠ [] := by
  cases s with
  | nil => simp [splitOnComma]
  | cons c s =>
    simp only [splitOnComma]
    split
    · simp
    · split <;> simp

theorem splitOnComma_plain (f : Str) (hf : ∀ c ∈ f, c ≠ ',') : splitOnComma f = [f] := by
  induction f with
  | nil => rfl
  | cons c f ih =>
    simp only [splitOnComma, ih fun d hd => hf d (List.mem_cons_of_mem _ hd),
      beq_false_of_ne (hf c List.mem_cons_self), Bool.false_eq_true, if_false]

theorem splitOnComma_append (f : Str) (hf : ∀ c ∈ f, c ≠ ',') (rest : Str) :
    splitOnComma (f ++ ',' :: rest) = f :: splitOnComma rest := by
  induction f with
  | nil =>
    obtain ⟨a, b, h⟩ := List.exists_cons_of_ne_nil (splitOnComma_ne_nil rest)
    simp [splitOnComma, h]
  | cons c f ih =>
    simp only [List.cons_append, splitOnComma, ih fun d hd => hf d (List.mem_cons_of_mem _ hd),
      beq_false_of_ne (hf c List.mem_cons_self), Bool.false_eq_true, if_false]

theorem readLines_line (l rest : Str) (h : ∀ c ∈ l, c ≠ '\n') :
    readLines (l ++ '\n' :: rest) = (l ++ ['\n']) :: readLines rest := by
  induction l with
  | nil =>
    rw [List.nil_append, readLines]
    cases readLines rest <;> rfl
  | cons c l ih =>
    rw [List.cons_append, readLines, ih fun d hd => h d (List.mem_cons_of_mem _ hd)]
    simp [beq_false_of_ne (h c List.mem_cons_self)]

theorem readLines_joinLines (lines : List Str) (h : ∀ l ∈ lines, ∀ c ∈ l, c ≠ '\n') :
    readLines (joinLines lines) = lines.map (· ++ ['\n']) := by
  induction lines with
  | nil => rfl
  | cons l ls ih =>
    have : joinLines (l :: ls) = l ++ '\n' :: joinLines ls := by simp [joinLines]
    rw [this, readLines_line l _ (h l List.mem_cons_self), ih fun l' hl' => h l' (List.mem_cons_of_mem _ hl'),
      List.map_cons]

theorem chomp_line (l : Str) : chomp (l ++ ['\n']) = l := by
  simp [chomp]

end HydroVerif.C09
