/-
C13, file names: python dictionaries as association lists, `save(filename)`, `Path.stem` and `os.path.splitext`.
-/
import HydroVerif.Lemmas.C13
import HydroVerif.Lemmas.Strip

namespace HydroVerif.C13

theorem lookup_dictSet_self {β : Type} (d : List (Str × β)) (k : Str) (v : β) : lookup (dictSet d k v) k = some v := by
  rw [lookup_eq, dictSet_eq, Assoc.lookup_upsert, if_pos (beq_self_eq_true k)]

theorem lookup_dictSet_other {β : Type} (d : List (Str × β)) (k k' : Str) (v : β) (hne : k' ≠ k) :
    lookup (dictSet d k v) k' = lookup d k' := by
  rw [lookup_eq, lookup_eq, dictSet_eq, Assoc.lookup_upsert, if_neg (by simpa using hne)]

theorem pathJoin_ne (dir a b : Str) (h : a ≠ b) : pathJoin dir a ≠ pathJoin dir b := by
  unfold pathJoin
  intro he
  have := List.append_cancel_left he
  simp at this
  exact h this

theorem endsWith_bil (stem : Str) : endsWith (stem ++ ".bil".toList) "bil".toList = true := by
  unfold endsWith
  simp [startsWith]

theorem take_bil (stem : Str) :
    (stem ++ ".bil".toList).take ((stem ++ ".bil".toList).length - 3) ++ "hdr".toList = stem ++ ".hdr".toList := by
  have h1 : (stem ++ ".bil".toList).length - 3 = stem.length + 1 := by simp
  rw [h1]
  have h2 : stem ++ ".bil".toList = (stem ++ ['.']) ++ "bil".toList := by simp
  rw [h2, List.take_left' (by simp)]
  simp

theorem saveFS_bil {ν : Type} (io : NumIO ν) (fs : FS) (dir stem : Str) (g : Grid ν) (h : Str) (bytes : List UInt8)
    (hsave : save io g = .ok (h, bytes)) :
    ∃ fs', saveFS io fs dir (stem ++ ".bil".toList) g = .ok fs' ∧
      lookup fs' (pathJoin dir (stem ++ ".hdr".toList)) = some (.text h) ∧
      lookup fs' (pathJoin dir (stem ++ ".bil".toList)) = some (.bin bytes) := by
  have hne : stem ++ ".hdr".toList ≠ stem ++ ".bil".toList := fun he =>
    absurd (List.append_cancel_left he) (by decide)
  refine ⟨_, by simp only [saveFS, endsWith_bil, hsave, Bool.not_true, Bool.false_eq_true, if_false]; rfl, ?_, ?_⟩
  · rw [take_bil, lookup_dictSet_other _ _ _ _ (pathJoin_ne dir _ _ hne), lookup_dictSet_self]
  · rw [lookup_dictSet_self]

theorem stemOf_ext (stem ext : Str) (hs : stem ≠ []) (he : ext ≠ []) (hd : ∀ c ∈ ext, c ≠ '.') :
    stemOf (stem ++ '.' :: ext) = stem := by
  unfold stemOf
  have hr : (stem ++ '.' :: ext).reverse = ext.reverse ++ '.' :: stem.reverse := by simp
  rw [hr]
  have hall : ∀ c ∈ ext.reverse, (c != '.') = true := by
    intro c hc
    simpa using hd c (List.mem_reverse.mp hc)
  simp only [Strip.takeWhile_append_stop _ _ '.' _ hall rfl, Strip.dropWhile_append_stop _ _ '.' _ hall rfl]
  rw [if_pos ⟨by simpa using hs, by simpa using he⟩]
  simp

theorem splitextRoot_ext (stem ext : Str) (hs : stem.all (fun c => c == '.') = false) (hd : ∀ c ∈ ext, c ≠ '.') :
    splitextRoot (stem ++ '.' :: ext) = stem := by
  unfold splitextRoot
  have hr : (stem ++ '.' :: ext).reverse = ext.reverse ++ '.' :: stem.reverse := by simp
  rw [hr]
  have hall : ∀ c ∈ ext.reverse, (c != '.') = true := by
    intro c hc
    simpa using hd c (List.mem_reverse.mp hc)
  simp only [Strip.dropWhile_append_stop _ _ '.' _ hall rfl]
  have : stem.reverse.all (fun c => c == '.') = false := by
    rw [List.all_reverse]; exact hs
  simp [this]

end HydroVerif.C13
