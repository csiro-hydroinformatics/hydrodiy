/-
C13, the grid object as a state machine: `_clipdata` with float and integer bounds, the invariant
`StateOK` kept by every public mutator, accepted or rejected.
-/
import HydroVerif.Lemmas.C13Header
import HydroVerif.Lemmas.History
import Mathlib.Tactic.Positivity.Basic

namespace HydroVerif.C13

theorem isFiniteW_not_nan (t : DType) (w : Nat) (h : isFiniteW t w = true) : isNaNW t w = false := by
  unfold isFiniteW at h
  unfold isNaNW
  simp only [bne_iff_ne, ne_eq] at h
  simp [h]

/-- `value` is not below the bound `l` in the sense of `np.maximum` (integer order, or float order on bit patterns;
a NaN value and a non-finite float bound pass) -/
def AboveLo (t : DType) (l : Int) (w : Nat) : Prop :=
  match t.kind with
  | .float => isNaNW t w = true ∨ boundFinite t l = false ∨ floatKey t l.toNat ≤ floatKey t w
  | _ => l ≤ toInt t w

/-- … not above the bound `h` in the sense of `np.minimum` -/
def BelowHi (t : DType) (h : Int) (w : Nat) : Prop :=
  match t.kind with
  | .float => isNaNW t w = true ∨ boundFinite t h = false ∨ floatKey t w ≤ floatKey t h.toNat
  | _ => toInt t w ≤ h

/-- a float bound is stored as its bit pattern, which must be a word of the dtype for `np.maximum / np.minimum` to return
one. The integer types need no condition: their bounds are stored as integers and come back through `ofInt` (`ofInt_lt`). -/
def BoundsOK (t : DType) (lo hi : Option Int) : Prop :=
  t.kind = .float → (∀ l, lo = some l → l.toNat < wordBound t) ∧ (∀ h, hi = some h → h.toNat < wordBound t)

theorem boundsOK_none (t : DType) : BoundsOK t none none := fun _ => ⟨nofun, nofun⟩

theorem maxWord_lt (t : DType) (b : Int) (w : Nat) (hw : w < wordBound t) (hb : t.kind = .float → b.toNat < wordBound t) :
    maxWord t b w < wordBound t := by
  have hi := ofInt_lt t b
  unfold maxWord
  cases hk : t.kind <;> simp only
  case float => have := hb hk; split_ifs <;> assumption
  all_goals split_ifs <;> assumption

theorem minWord_lt (t : DType) (b : Int) (w : Nat) (hw : w < wordBound t) (hb : t.kind = .float → b.toNat < wordBound t) :
    minWord t b w < wordBound t := by
  have hi := ofInt_lt t b
  unfold minWord
  cases hk : t.kind <;> simp only
  case float => have := hb hk; split_ifs <;> assumption
  all_goals split_ifs <;> assumption

theorem clipWord_lt (t : DType) (lo hi : Option Int) (w : Nat) (hw : w < wordBound t) (hb : BoundsOK t lo hi) :
    clipWord t lo hi w < wordBound t := by
  unfold clipWord
  cases hk : t.kind <;> simp only
  case float =>
    obtain ⟨hl, hh⟩ := hb hk
    have h1 : clipLoF t lo w < wordBound t := by
      unfold clipLoF
      cases lo <;> simp only
      · exact hw
      · split_ifs
        exacts [maxWord_lt t _ w hw (fun _ => hl _ rfl), hw]
    unfold clipHiF
    cases hi <;> simp only
    · exact h1
    · split_ifs
      exacts [minWord_lt t _ _ h1 (fun _ => hh _ rfl), h1]
  all_goals
    split_ifs
    exacts [hw, ofInt_lt t _]

theorem maxWord_id {t : DType} {l : Int} {w : Nat} (hk : t.kind = .float) (hn : isNaNW t l.toNat = false)
    (h : isNaNW t w = true ∨ floatKey t l.toNat ≤ floatKey t w) : maxWord t l w = w := by
  unfold maxWord
  simp only [hk]
  by_cases hw : isNaNW t w = true
  · rw [if_pos hw]
  · rw [if_neg hw, hn, if_neg Bool.false_ne_true, if_neg (not_lt.mpr (h.resolve_left hw))]

theorem minWord_id {t : DType} {h : Int} {w : Nat} (hk : t.kind = .float) (hn : isNaNW t h.toNat = false)
    (hw : isNaNW t w = true ∨ floatKey t w ≤ floatKey t h.toNat) : minWord t h w = w := by
  unfold minWord
  simp only [hk]
  by_cases hw' : isNaNW t w = true
  · rw [if_pos hw']
  · rw [if_neg hw', hn, if_neg Bool.false_ne_true, if_neg (not_lt.mpr (hw.resolve_left hw'))]

/-- a finite bound is not a NaN, so of the three alternatives of `AboveLo` two are left: the value is a NaN, or it is not
below the bound -/
theorem clipLoF_id {t : DType} {lo : Option Int} {w : Nat} (hk : t.kind = .float)
    (hlo : ∀ l, lo = some l → AboveLo t l w) : clipLoF t lo w = w := by
  cases lo with
  | none => rfl
  | some l =>
    have h := hlo l rfl
    simp only [AboveLo, hk] at h
    unfold clipLoF
    simp only
    split
    · rename_i hf
      exact maxWord_id hk (isFiniteW_not_nan t _ (by simpa [boundFinite, hk] using hf))
        (h.imp_right fun h => h.resolve_left (by rw [hf]; nofun))
    · rfl

theorem clipHiF_id {t : DType} {hi : Option Int} {w : Nat} (hk : t.kind = .float)
    (hhi : ∀ h, hi = some h → BelowHi t h w) : clipHiF t hi w = w := by
  cases hi with
  | none => rfl
  | some b =>
    have h := hhi b rfl
    simp only [BelowHi, hk] at h
    unfold clipHiF
    simp only
    split
    · rename_i hf
      exact minWord_id hk (isFiniteW_not_nan t _ (by simpa [boundFinite, hk] using hf))
        (h.imp_right fun h => h.resolve_left (by rw [hf]; nofun))
    · rfl

/-- the state of a grid object as the property quantifies over it, plus "float bounds are words" -/
structure StateOK {ν : Type} (io : NumIO ν) (g : Grid ν) : Prop where
  grid : GridOK io g
  bounds : BoundsOK g.dtype g.lo g.hi

/-- what no public mutator changes: dtype, shape and parent attributes (`SameFrame` without the bounds, which
`mindata / maxdata` do change) -/
def SameShape {ν : Type} (g g' : Grid ν) : Prop :=
  g'.dtype = g.dtype ∧ g'.nrows = g.nrows ∧ g'.ncols = g.ncols ∧ g'.parent = g.parent

theorem SameShape.refl {ν : Type} (g : Grid ν) : SameShape g g := ⟨rfl, rfl, rfl, rfl⟩

theorem SameShape.trans {ν : Type} {a b c : Grid ν} (h1 : SameShape a b) (h2 : SameShape b c) : SameShape a c :=
  ⟨h2.1.trans h1.1, h2.2.1.trans h1.2.1, h2.2.2.1.trans h1.2.2.1, h2.2.2.2.trans h1.2.2.2⟩

/-- what a call may carry, whatever its shape, index or count: words of the grid's dtype `t`; a value accepted by
`dtype(value)` gives a word of `t` (and, for a no-data value, one that prints and reads back). For the float types these
are facts about numpy's scalar constructors (`castW`, `NodataPrintable`); for the integer types and a python int or a
text they are proved (`nodataWord_int_ok`). -/
def OpWF {ν : Type} (io : NumIO ν) (t : DType) : Op ν → Prop
  | .edit (.item _ w) => w < wordBound t
  | .edit (.fill w) => w < wordBound t
  | .edit (.data rows) => ∀ r ∈ rows, ∀ w ∈ r, w < wordBound t
  | .edit (.nodata w) => w < wordBound t ∧ NodataPrintable io t w
  | .edit _ => True
  | .itemAt _ w => w < wordBound t
  | .fillVal v => ∀ w, nodataWord io t v = .ok w → w < wordBound t
  | .dataND => True
  | .nodataVal v => ∀ w, nodataWord io t v = .ok w → w < wordBound t ∧ NodataPrintable io t w
  | .mindata v => ∀ w, nodataWord io t v = .ok w → w < wordBound t
  | .maxdata v => ∀ w, nodataWord io t v = .ok w → w < wordBound t
  | .load _ _ => True

theorem nodataWord_int_ok {ν : Type} (io : NumIO ν) (t : DType) (hk : t.kind ≠ .float) (v : NVal ν)
    (hv : (∃ n, v = .int n) ∨ (∃ s, v = .text s)) (w : Nat) (h : nodataWord io t v = .ok w) :
    w < wordBound t ∧ NodataPrintable io t w := by
  refine ⟨?_, fun hf => absurd hf hk⟩
  rcases hv with ⟨n, rfl⟩ | ⟨s, rfl⟩
  · unfold nodataWord at h
    cases hk' : t.kind <;> simp only [hk'] at h
    · split at h
      · cases h; exact ofInt_lt t n
      · cases h
    · split at h
      · cases h; exact ofInt_lt t n
      · cases h
    · exact absurd hk' hk
  · unfold nodataWord at h
    cases hk' : t.kind <;> simp only [hk'] at h
    · split at h
      · split at h
        · cases h; exact ofInt_lt t _
        · cases h
      · cases h
    · split at h
      · split at h
        · cases h; exact ofInt_lt t _
        · cases h
      · cases h
    · exact absurd hk' hk

theorem setData_cases {ν : Type} (io : NumIO ν) (g : Grid ν) (hg : StateOK io g) (rows : List (List Nat))
    (hw : ∀ r ∈ rows, ∀ w ∈ r, w < wordBound g.dtype) :
    (setData g rows = .error .wrongCount ∧ ((rows.length : Int) ≠ g.nrows ∨ ∃ r ∈ rows, (r.length : Int) ≠ g.ncols)) ∨
    (setData g rows = .ok { g with data := clipData g.dtype g.lo g.hi rows } ∧
      StateOK io { g with data := clipData g.dtype g.lo g.hi rows } ∧
      (rows.length : Int) = g.nrows ∧ ∀ r ∈ rows, (r.length : Int) = g.ncols) := by
  cases h : setData g rows with
  | error e =>
    unfold setData at h
    split at h
    · rename_i hc
      cases h
      refine .inl ⟨rfl, hc.imp id fun h => ?_⟩
      obtain ⟨r, hr, hrl⟩ := List.any_eq_true.mp h
      exact ⟨r, hr, by simpa using hrl⟩
    · cases h
  | ok g' =>
    obtain ⟨rfl, hr, hcs⟩ := setData_eq_ok h
    refine .inr ⟨rfl, ⟨⟨header_of hg.grid.header, ?_, ?_, ?_⟩, hg.bounds⟩, hr, hcs⟩
    · simpa [clipData] using hr
    · intro r hrm
      obtain ⟨r0, h0, rfl⟩ := List.mem_map.mp hrm
      simpa using hcs r0 h0
    · intro r hrm x hx
      obtain ⟨r0, h0, rfl⟩ := List.mem_map.mp hrm
      obtain ⟨x0, hx0, rfl⟩ := List.mem_map.mp hx
      exact clipWord_lt g.dtype g.lo g.hi x0 (hw r0 h0 x0 hx0) hg.bounds

theorem load_ok_spec {ν : Type} (g0 g1 : Grid ν) (bo : ByteOrder) (bytes : List UInt8) (h : load g0 bo bytes = .ok g1)
    (hnr : 0 ≤ g0.nrows) (hnc : 0 ≤ g0.ncols) (hb : BoundsOK g0.dtype g0.lo g0.hi) :
    ∃ data, g1 = { g0 with data := data } ∧ (data.length : Int) = g0.nrows ∧ (∀ r ∈ data, (r.length : Int) = g0.ncols) ∧
      ∀ r ∈ data, ∀ w ∈ r, w < wordBound g0.dtype := by
  unfold load at h
  dsimp only at h
  split at h
  · cases h
  · rename_i hc
    cases h
    have hlen : (fromfile bo g0.dtype bytes).length = g0.nrows.toNat * g0.ncols.toNat := by
      have h2 : ((g0.nrows.toNat * g0.ncols.toNat : Nat) : Int) = g0.nrows * g0.ncols := by
        push_cast
        rw [Int.toNat_of_nonneg hnr, Int.toNat_of_nonneg hnc]
      have := not_not.mp hc
      omega
    obtain ⟨s1, s2, s3⟩ := reshape_spec g0.ncols.toNat g0.nrows.toNat _ hlen
    refine ⟨_, rfl, ?_, ?_, ?_⟩
    · simp only [clipData, List.length_map, s1]
      exact Int.toNat_of_nonneg hnr
    · intro r hrm
      obtain ⟨r0, h0, rfl⟩ := List.mem_map.mp hrm
      simp only [List.length_map, s2 r0 h0]
      exact Int.toNat_of_nonneg hnc
    · intro r hrm x hx
      obtain ⟨r0, h0, rfl⟩ := List.mem_map.mp hrm
      obtain ⟨x0, hx0, rfl⟩ := List.mem_map.mp hx
      exact clipWord_lt g0.dtype g0.lo g0.hi x0 (fromfile_lt bo g0.dtype bytes x0 (s3 r0 h0 x0 hx0)) hb

/-! The two history theories. `step io g (.edit e)` is `applyEdit g e` with the error turned into a flag and the state kept, so on a
history of accepted edits `run` and `applyEdits` reach the same state. `Edit` / `applyEdits` / `EditOK` / `SameFrame` (in
`C13Header`) is the reading "admissible input only": shapes right, default bounds for a data re-assignment, hence `GridOK` alone is
kept. `Op` / `run` / `OpWF` / `SameShape` is the reading "any input, accepted or rejected", bounds included, hence `StateOK`. The
second rests on the first for the edits (`applyEdit_state`). -/

theorem applyEdit_state {ν : Type} (io : NumIO ν) (g : Grid ν) (hg : StateOK io g) (e : Edit ν) (g' : Grid ν)
    (h : applyEdit g e = .ok g') (he : EditOK io g e) : StateOK io g' ∧ SameShape g g' := by
  obtain ⟨g'', h1, h2, h3⟩ := applyEdit_ok io g hg.grid e he
  cases h.symm.trans h1
  refine ⟨⟨h2, ?_⟩, h3.1, h3.2.1, h3.2.2.1, h3.2.2.2.2.2⟩
  rw [h3.1, h3.2.2.2.1, h3.2.2.2.2.1]
  exact hg.bounds

theorem stateOK_bounds {ν : Type} (io : NumIO ν) (g : Grid ν) (hg : StateOK io g) (lo hi : Option Int)
    (hb : BoundsOK g.dtype lo hi) (f : Nat → Nat) (hf : ∀ w, w < wordBound g.dtype → f w < wordBound g.dtype) :
    StateOK io { g with lo := lo, hi := hi } ∧
      StateOK io { g with lo := lo, hi := hi, data := g.data.map fun r => r.map f } :=
  have hm := gridOK_mapData io g hg.grid f hf
  ⟨⟨⟨header_of hg.grid.header, hg.grid.rows, hg.grid.cols, hg.grid.words⟩, hb⟩,
    ⟨⟨header_of hg.grid.header, hm.rows, hm.cols, hm.words⟩, hb⟩⟩

theorem boundOfWord_lt {t : DType} {w : Nat} (hw : w < wordBound t) (hk : t.kind = .float) :
    (boundOfWord t w).toNat < wordBound t := by
  simpa [boundOfWord, hk] using hw

theorem step_ok {ν : Type} (io : NumIO ν) (g : Grid ν) (hg : StateOK io g) (op : Op ν) (hop : OpWF io g.dtype op) :
    StateOK io (step io g op).1 ∧ SameShape g (step io g op).1 := by
  cases op with
  | edit e =>
    cases e with
    | data rows =>
      simp only [step, applyEdit]
      rcases setData_cases io g hg rows hop with ⟨h, _⟩ | ⟨h, h1, _⟩
      · rw [h]; exact ⟨hg, SameShape.refl g⟩
      · rw [h]; exact ⟨h1, rfl, rfl, rfl, rfl⟩
    | item idx w => exact applyEdit_state io g hg (.item idx w) _ rfl hop
    | fill w => exact applyEdit_state io g hg (.fill w) _ rfl hop
    | name s => exact applyEdit_state io g hg (.name s) _ rfl trivial
    | comment s => exact applyEdit_state io g hg (.comment s) _ rfl trivial
    | georef x y c => exact applyEdit_state io g hg (.georef x y c) _ rfl trivial
    | nodata w => exact applyEdit_state io g hg (.nodata w) _ rfl hop
  | itemAt idx w =>
    simp only [step]
    split
    · exact applyEdit_state io g hg (.item _ w) _ rfl hop
    · exact ⟨hg, SameShape.refl g⟩
  | fillVal v =>
    simp only [step]
    split
    · rename_i w hw
      exact applyEdit_state io g hg (.fill w) _ rfl (hop w hw)
    · exact ⟨hg, SameShape.refl g⟩
  | dataND => exact ⟨hg, SameShape.refl g⟩
  | nodataVal v =>
    simp only [step]
    split
    · rename_i w hw
      exact applyEdit_state io g hg (.nodata w) _ rfl (hop w hw)
    · exact ⟨hg, SameShape.refl g⟩
  | mindata v =>
    simp only [step, setMin]
    split
    · exact ⟨hg, SameShape.refl g⟩
    · rename_i w hw
      have hlt := hop w hw
      obtain ⟨s1, s2⟩ := stateOK_bounds io g hg (some (boundOfWord g.dtype w)) g.hi
        (fun hk => ⟨fun l hl => by cases hl; exact boundOfWord_lt hlt hk, (hg.bounds hk).2⟩)
        (maxWord g.dtype (boundOfWord g.dtype w)) (fun x hx => maxWord_lt g.dtype _ x hx (boundOfWord_lt hlt))
      split
      · exact ⟨s1, rfl, rfl, rfl, rfl⟩
      · exact ⟨s2, rfl, rfl, rfl, rfl⟩
  | maxdata v =>
    simp only [step, setMax]
    split
    · exact ⟨hg, SameShape.refl g⟩
    · rename_i w hw
      have hlt := hop w hw
      obtain ⟨s1, s2⟩ := stateOK_bounds io g hg g.lo (some (boundOfWord g.dtype w))
        (fun hk => ⟨(hg.bounds hk).1, fun l hl => by cases hl; exact boundOfWord_lt hlt hk⟩)
        (minWord g.dtype (boundOfWord g.dtype w)) (fun x hx => minWord_lt g.dtype _ x hx (boundOfWord_lt hlt))
      split
      · exact ⟨s1, rfl, rfl, rfl, rfl⟩
      · exact ⟨s2, rfl, rfl, rfl, rfl⟩
  | load bo bytes =>
    simp only [step]
    cases h : load g bo bytes with
    | error e => exact ⟨hg, SameShape.refl g⟩
    | ok g' =>
      obtain ⟨data, rfl, e2, e3, e4⟩ :=
        load_ok_spec g g' bo bytes h hg.grid.header.nrows_nonneg hg.grid.header.ncols_nonneg hg.bounds
      exact ⟨⟨⟨header_of hg.grid.header, e2, e3, e4⟩, hg.bounds⟩, rfl, rfl, rfl, rfl⟩

theorem step_rejected {ν : Type} (io : NumIO ν) (g : Grid ν) (op : Op ν) (e : Err) (h : (step io g op).2 = some e) :
    (step io g op).1 = g ∨
    (e = .badBounds ∧ ∃ b, (step io g op).1 = { g with lo := some b } ∨ (step io g op).1 = { g with hi := some b }) := by
  cases op with
  | dataND => exact Or.inl rfl
  | mindata v =>
    simp only [step, setMin] at h ⊢
    split at h
    · exact Or.inl rfl
    · split at h
      · rename_i hgt
        cases h
        rw [if_pos hgt]
        exact Or.inr ⟨rfl, _, Or.inl rfl⟩
      · cases h
  | maxdata v =>
    simp only [step, setMax] at h ⊢
    split at h
    · exact Or.inl rfl
    · split at h
      · rename_i hgt
        cases h
        rw [if_pos hgt]
        exact Or.inr ⟨rfl, _, Or.inr rfl⟩
      · cases h
  | _ =>
    -- every other call is `match … with | .ok g' => (g', none) | .error e => (g, some e)`: an error comes with the old state
    simp only [step] at h ⊢
    split at h
    · cases h
    · exact Or.inl rfl

theorem trace {ν : Type} (io : NumIO ν) : History.PairTrace (step io) (run io) :=
  .of_eqns (fun _ => rfl) fun _ _ _ => rfl

theorem run_ok {ν : Type} (io : NumIO ν) (ops : List (Op ν)) : ∀ (g : Grid ν), StateOK io g →
    (∀ op ∈ ops, OpWF io g.dtype op) → StateOK io (run io g ops).1 ∧ SameShape g (run io g ops).1 :=
  fun _ hg hops => (trace io).preserves_rel (StateOK io) SameShape SameShape.refl (fun _ _ _ => SameShape.trans)
    (fun t op hop ht hgt => step_ok io t ht op (hgt.1 ▸ hops op hop)) hg

theorem run_flags_length {ν : Type} (io : NumIO ν) (ops : List (Op ν)) (g : Grid ν) :
    (run io g ops).2.length = ops.length :=
  (trace io).outs_length g ops

end HydroVerif.C13
