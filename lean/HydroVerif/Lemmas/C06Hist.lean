/-
C06 — the `Catchment` object as a state machine (`histStep`, `histRun`, `callRun` of `Model/C06.lean`): what one call
does to the state, the grid after a history, read-only calls between the others.
-/
import HydroVerif.Model.C06
import HydroVerif.Lemmas.History

set_option linter.unusedSectionVars false

namespace HydroVerif.C06

variable {codes : List Int}

theorem gridAfter_shape (ops : List HistOp) : ∀ g : FlowGrid,
    (gridAfter g ops).nrows = g.nrows ∧ (gridAfter g ops).ncols = g.ncols := by
  induction ops with
  | nil => intro g; exact ⟨rfl, rfl⟩
  | cons op ops ih =>
    intro g
    cases op <;> simp only [gridAfter] <;> exact ih _

theorem histRun_grid (ops : List HistOp) : ∀ s : CatchState,
    (histRun codes s ops).1.grid = gridAfter s.grid ops := by
  induction ops with
  | nil => intro s; rfl
  | cons op ops ih =>
    intro s
    simp only [histRun]
    rw [ih]
    cases op with
    | delineate o inl nval =>
      simp only [histStep, gridAfter]
      split <;> rfl
    | flowpaths =>
      simp only [histStep, gridAfter]
      split <;> rfl
    | setCell c v => rfl
    | setGrid fd => rfl

theorem histTrace : History.PairTrace (histStep codes) (histRun codes) := .of_eqns (fun _ => rfl) fun _ _ _ => rfl

theorem histStep_delineate_state (s : CatchState) (o : Int) (inl : List Int) (nval : Int) :
    (histStep codes s (.delineate o inl nval)).1 =
      { grid := s.grid, outlet := some o,
        area := match wrapperArea codes s.grid o inl nval with
          | .ok a => some a
          | .error _ => none } := by
  simp only [histStep]
  cases wrapperArea codes s.grid o inl nval <;> rfl

theorem histStep_flowpaths_state (s : CatchState) : (histStep codes s .flowpaths).1 = s := by
  simp only [histStep]
  split <;> rfl

theorem histStep_shape (s : CatchState) (op : HistOp) :
    (histStep codes s op).1.grid.nrows = s.grid.nrows ∧ (histStep codes s op).1.grid.ncols = s.grid.ncols := by
  cases op with
  | delineate o inl nval => rw [histStep_delineate_state]; exact ⟨rfl, rfl⟩
  | flowpaths => rw [histStep_flowpaths_state]; exact ⟨rfl, rfl⟩
  | setCell c v => exact ⟨rfl, rfl⟩
  | setGrid fd => exact ⟨rfl, rfl⟩

section Queries
variable {α : Type} [Add α] [Mul α] [OfNat α 0] [OfNat α 1] [IntCast α] [Transc α]

theorem callRun_state (calls : List HistCall) : ∀ s : CatchState,
    (callRun (α := α) codes s calls).1 = (histRun codes s (opsOf calls)).1 := by
  induction calls with
  | nil => intro s; rfl
  | cons c cs ih =>
    intro s
    cases c with
    | op o => simp only [callRun, callStep, opsOf, histRun]; exact ih _
    | query q => simp only [callRun, callStep, opsOf]; exact ih _

theorem callTrace : History.PairTrace (callStep (α := α) codes) (callRun codes) :=
  .of_eqns (fun _ => rfl) fun _ _ _ => rfl

end Queries

end HydroVerif.C06
