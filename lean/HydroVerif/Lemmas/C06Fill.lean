/-
C06 — the hole-filling arithmetic of `Catchment.delineate_area`: the rectangle handed to `binary_fill_holes`
(`bbox`, `bboxOf`) lies inside the grid and holds the area, and the cells of a mask laid over it (`maskCells`) are
numbered back in increasing order. Of the fill routine only "keeps the cells of the mask" is ever used, and that
only for `mem_areaFilled`.
-/
import HydroVerif.Model.C06
import HydroVerif.Lemmas.C07Grid
import HydroVerif.Lemmas.Extrema

namespace HydroVerif.C06
open HydroVerif.C07

variable {g : FlowGrid}

theorem minList_le {x y : Int} {xs : List Int} (h : y ∈ x :: xs) : minList x xs ≤ y :=
  (Extrema.foldl_min_spec xs x).2 y h

theorem le_maxList {x y : Int} {xs : List Int} (h : y ∈ x :: xs) : y ≤ maxList x xs :=
  (Extrema.foldl_max_spec xs x).2 y h

/-- one axis of `bboxOf`: `n` rows (columns) of the grid, `lo .. hi` the extreme rows (columns) of the area, so that the box
starts at `max 0 (lo - 1)` and has `min (n - 1) (hi + 1) - max 0 (lo - 1) + 1` rows (columns). Offset `k` inside the box is
a row (column) of the grid … -/
theorem span_inside {n lo hi : Int} {k : Nat} (hk : k < (min (n - 1) (hi + 1) - max 0 (lo - 1) + 1).toNat) :
    0 ≤ (k : Int) + max 0 (lo - 1) ∧ (k : Int) + max 0 (lo - 1) < n := by
  omega

/-- … and a row (column) `x` of an area cell has an offset inside the box -/
theorem span_contains {n lo hi x : Int} (h0 : 0 ≤ x) (h1 : x < n) (h2 : lo ≤ x) (h3 : x ≤ hi) :
    max 0 (lo - 1) ≤ x ∧ (x - max 0 (lo - 1)).toNat < (min (n - 1) (hi + 1) - max 0 (lo - 1) + 1).toNat := by
  omega

theorem bbox_cons (c : Int) (cs : List Int) : ∃ rmin rmax cmin cmax,
    bbox g (c :: cs) = some (bboxOf g.nrows g.ncols rmin rmax cmin cmax) ∧
    ∀ a ∈ c :: cs, rmin ≤ (cell2rowcol g.nrows g.ncols a).1 ∧ (cell2rowcol g.nrows g.ncols a).1 ≤ rmax ∧
      cmin ≤ (cell2rowcol g.nrows g.ncols a).2 ∧ (cell2rowcol g.nrows g.ncols a).2 ≤ cmax :=
  ⟨_, _, _, _, rfl, fun _ ha =>
    have hr := List.mem_map_of_mem (f := fun x => (cell2rowcol g.nrows g.ncols x).1) ha
    have hc := List.mem_map_of_mem (f := fun x => (cell2rowcol g.nrows g.ncols x).2) ha
    ⟨minList_le hr, le_maxList hr, minList_le hc, le_maxList hc⟩⟩

theorem mem_maskCells {ncols : Int} {b : BBox} {m : Nat → Nat → Bool} {x : Int} :
    x ∈ maskCells ncols b m ↔ ∃ r c, r < b.nr ∧ c < b.nc ∧ m r c = true ∧
      x = ((r : Int) + b.i0) * ncols + ((c : Int) + b.j0) := by
  unfold maskCells
  simp only [List.mem_flatMap, List.mem_range, List.mem_filterMap, Option.ite_none_right_eq_some,
    Option.some.injEq]
  exact ⟨fun ⟨r, hr, c, hc, hm, e⟩ => ⟨r, c, hr, hc, hm, e.symm⟩,
    fun ⟨r, c, hr, hc, hm, e⟩ => ⟨r, hr, c, hc, hm, e.symm⟩⟩

theorem cellOf_lt_of_row_lt {n r r' c c' : Int} (hr : r < r') (hc : c < n) (hc' : 0 ≤ c') (hn : 0 ≤ n) :
    r * n + c < r' * n + c' := by
  have h := Int.mul_le_mul_of_nonneg_right (Int.add_one_le_of_lt hr) hn
  rw [Int.add_mul, Int.one_mul] at h
  omega

theorem maskCells_sorted {ncols : Int} {b : BBox} (m : Nat → Nat → Bool)
    (hj : ∀ c : Nat, c < b.nc → 0 ≤ (c : Int) + b.j0 ∧ (c : Int) + b.j0 < ncols) :
    (maskCells ncols b m).Pairwise (· < ·) := by
  unfold maskCells
  rw [List.pairwise_flatMap]
  simp only [List.mem_filterMap, List.mem_range, Option.ite_none_right_eq_some, Option.some.injEq]
  constructor
  · refine fun r _ => List.Pairwise.filterMap _ ?_ List.pairwise_lt_range
    intro c c' hcc x hx y hy
    rw [Option.ite_none_right_eq_some, Option.some.injEq] at hx hy
    rw [← hx.2, ← hy.2]
    omega
  · refine List.Pairwise.imp_of_mem ?_ List.pairwise_lt_range
    rintro r r' _ _ hrr x ⟨c, hc, _, rfl⟩ y ⟨c', hc', _, rfl⟩
    have hn : 0 ≤ ncols := by have := hj c hc; omega
    exact cellOf_lt_of_row_lt (by omega) (hj c hc).2 (hj c' hc').1 hn

/-- **the filled area contains the area**, whatever `fill` does beyond keeping the mask -/
theorem mem_areaFilled (hc : 0 < g.ncols)
    (fill : Nat → Nat → (Nat → Nat → Bool) → (Nat → Nat → Bool))
    (hfill : ∀ nr nc (m : Nat → Nat → Bool) r c, m r c = true → fill nr nc m r c = true)
    (area : List Int) (hv : ∀ a ∈ area, validCell g.nrows g.ncols a = true) :
    ∀ a ∈ area, a ∈ areaFilled g fill area := by
  intro a ha
  cases area with
  | nil => exact ha
  | cons c cs =>
    obtain ⟨rmin, rmax, cmin, cmax, hb, hext⟩ := bbox_cons (g := g) c cs
    obtain ⟨r0, r1, c0, c1, hcell⟩ := valid_rowcol hc (hv a ha)
    have hrc : cell2rowcol g.nrows g.ncols a = (rowOf g.ncols a, colOf g.ncols a) := if_pos (hv a ha)
    obtain ⟨e1, e2, e3, e4⟩ := hext a ha
    rw [hrc] at e1 e2 e3 e4
    obtain ⟨b1, b2⟩ := span_contains r0 r1 e1 e2
    obtain ⟨b3, b4⟩ := span_contains c0 c1 e3 e4
    unfold areaFilled
    rw [hb]
    refine mem_maskCells.2 ⟨_, _, b2, b4, hfill _ _ _ _ _ (List.any_eq_true.2 ⟨a, ha, ?_⟩), ?_⟩
    · rw [hrc]
      exact Bool.and_eq_true_iff.2 ⟨decide_eq_true (Int.toNat_of_nonneg (Int.sub_nonneg.2 b1)).symm,
        decide_eq_true (Int.toNat_of_nonneg (Int.sub_nonneg.2 b3)).symm⟩
    · rw [Int.toNat_of_nonneg (Int.sub_nonneg.2 b1), Int.toNat_of_nonneg (Int.sub_nonneg.2 b3)]
      exact hcell.symm.trans (congrArg₂ (· * g.ncols + ·) (Int.sub_add_cancel _ _).symm (Int.sub_add_cancel _ _).symm)

/-- **the filled list is well formed for ANY fill routine and any area**: no cell twice, only cells of the grid -/
theorem areaFilled_wellformed (fill : Nat → Nat → (Nat → Nat → Bool) → (Nat → Nat → Bool)) (area : List Int) :
    (areaFilled g fill area).Nodup ∧ ∀ x ∈ areaFilled g fill area, validCell g.nrows g.ncols x = true := by
  cases area with
  | nil => exact ⟨List.nodup_nil, fun _ h => absurd h List.not_mem_nil⟩
  | cons c cs =>
    obtain ⟨rmin, rmax, cmin, cmax, hb, -⟩ := bbox_cons (g := g) c cs
    unfold areaFilled
    rw [hb]
    have hcol := fun (k : Nat) (hk : k < (bboxOf g.nrows g.ncols rmin rmax cmin cmax).nc) => span_inside hk
    refine ⟨(maskCells_sorted _ hcol).imp ne_of_lt, fun x hx => ?_⟩
    obtain ⟨r, k, hr, hk, -, rfl⟩ := mem_maskCells.1 hx
    obtain ⟨r0, r1⟩ := span_inside hr
    exact validCell_cellOf r0 r1 (hcol k hk).1 (hcol k hk).2

end HydroVerif.C06
