/-
`np.unique` / `union1d` / `setdiff1d` as sorted duplicate-free lists, element assignment in the caller's object lists
(`setAt` is `List.set`), and the two ways a step of a history can end (objects as they were, or the answer `done`).
-/
import HydroVerif.Model.C16Hist
import HydroVerif.Lemmas.History
import HydroVerif.Lemmas.Lists
import Mathlib.Data.List.Basic
import Mathlib.Data.List.Pairwise
import Mathlib.Tactic.Linarith.Frontend

namespace HydroVerif.C16

theorem mem_sortDedup (x : Int) (l : List Int) : x ∈ sortDedup l ↔ x ∈ l :=
  Lists.mem_foldr_insU insertSorted (fun _ => rfl) (fun _ _ _ => rfl) x l

theorem sortDedup_sorted (l : List Int) : (sortDedup l).Pairwise (· < ·) :=
  Lists.foldr_insU_sorted insertSorted (fun _ => rfl) (fun _ _ _ => rfl) l

theorem sortDedup_nodup (l : List Int) : (sortDedup l).Nodup :=
  (sortDedup_sorted l).imp (fun h => ne_of_lt h)

theorem mem_union1d (x : Int) (a b : List Int) : x ∈ union1d a b ↔ x ∈ a ∨ x ∈ b := by
  unfold union1d
  rw [mem_sortDedup, List.mem_append]

theorem mem_setdiff1d (x : Int) (a b : List Int) : x ∈ setdiff1d a b ↔ x ∈ a ∧ x ∉ b := by
  unfold setdiff1d
  simp [mem_sortDedup]

theorem setdiff1d_nodup (a b : List Int) : (setdiff1d a b).Nodup := (sortDedup_nodup a).filter _

theorem setAt_eq_set {β : Type} (l : List β) (i : Nat) (v : β) : setAt l i v = l.set i v := by
  induction l generalizing i with
  | nil => rfl
  | cons h t ih =>
    cases i with
    | zero => rfl
    | succ i => exact congrArg (h :: ·) (ih i)

theorem setAt_length {β : Type} (l : List β) (i : Nat) (v : β) : (setAt l i v).length = l.length := by
  rw [setAt_eq_set, List.length_set]

theorem setAt_getElem?_ne {β : Type} (l : List β) (i k : Nat) (v : β) (h : k ≠ i) : (setAt l i v)[k]? = l[k]? := by
  rw [setAt_eq_set, List.getElem?_set_ne h.symm]

theorem setAt_getElem?_eq {β : Type} (l : List β) (i : Nat) (v : β) (h : i < l.length) : (setAt l i v)[i]? = some v := by
  rw [setAt_eq_set, List.getElem?_set_self h]

section
variable {α : Type} [Add α] [Sub α] [Mul α] [Div α] [OfNat α 0] [OfNat α 1] [LT α] [DecidableLT α] [C07.Trunc α]

theorem hstep_unchanged_or_done (dist : α → α → α) (w : World α) (op : Op α) :
    (hstep dist w op).1 = w ∨ ((hstep dist w op).2 = .done ∧ op.isMutator = true) := by
  cases op <;> dsimp only [hstep, combine]
  all_goals (repeat' split) <;> first | exact Or.inl rfl | exact Or.inr ⟨rfl, rfl⟩

theorem htrace (dist : α → α → α) : History.Trace (hstep dist) (hfinal dist) (hrun dist) :=
  ⟨⟨fun _ => rfl, fun _ _ _ => rfl⟩, fun _ => rfl, fun _ _ _ => rfl⟩

end

end HydroVerif.C16
