/-
C05 — helper lemmas (not property statements): a weakest-precondition calculus for the footprint models of
`Model/C05.lean` (`wp r Q` = "the run `r` ends without fault and its result satisfies `Q`").

A primitive ends without fault EXACTLY when its bound holds, and so does a sequence, an `if`, a guarded statement and
a loop without state (`forEach`): `wp` of each is EQUIVALENT to its bound together with `wp` of what follows
(`wp_acc_iff … wp_forEach_iff`). Under the attribute `vc` these equivalences rewrite `wp block Q` into the
verification condition of the block: the conjunction of its bounds, quantified over the ranges of its loops — the
footprint of the block, as a formula. What cannot be rewritten stays in it as `wp … Q`: a loop with a state or an exit
(`forLoop`) is met with the loop rule (`wp_loop`, `wp_loopZ`: invariant for the next round, predicate for an early
exit; `wp_forLoop_safe` when there is nothing to carry; `wp_forLoopE` for a loop without exit; `wp_scan` for a scan
that stops at the first failing round), a sub-routine with its specification lemma below. A kernel proof states its
invariants and the reasons of its nonlinear bounds (`mat_idx`: field `j` of record `i`) and leaves the linear bounds of
the condition to `omega`.

After the calculus the lemmas follow the sections of `Model/C05.lean` (data, stat, gis package; `c_delineate_boundary`,
`c_delineate_area`): specifications of sub-routines and loop bodies, the return codes of `add1day`, `add1month`,
`upstream`, `downstream` (`*_code`: what `cgen_*_refines` of `Props/C05.lean` compares with the generated kernels; those
of `comparedates` and `combi` stand in `Lemmas/CGenDate.lean` beside the generated kernel, with which they share
`cmp3_fields` / `combi_round`), and last the kernels that are proved here in a form the property theorems are instances of.
-/
import HydroVerif.Model.C05
import HydroVerif.Lemmas.C05Attr
import HydroVerif.Lemmas.C07Grid
import Mathlib.Tactic.Ring
import Mathlib.Algebra.Order.Ring.Int
import Mathlib.Data.List.Perm.Subperm
import Mathlib.Data.List.Range
import Mathlib.Data.List.Nodup

namespace HydroVerif.C05

@[simp] theorem constExt_apply (n : Nat) (b : Buf) : constExt n b = n := rfl

def wp {α : Type} (r : R α) (Q : α → Prop) : Prop := ∃ x, r = .ok x ∧ Q x

theorem safe_of_wp {α : Type} {r : R α} {Q : α → Prop} (h : wp r Q) : Safe r :=
  let ⟨x, hx, _⟩ := h; ⟨x, hx⟩

theorem wp_of_safe {α : Type} {r : R α} (h : Safe r) : wp r (fun _ => True) :=
  let ⟨x, hx⟩ := h; ⟨x, hx, trivial⟩

theorem safe_iff_wp {α : Type} {r : R α} : Safe r ↔ wp r (fun _ => True) := ⟨wp_of_safe, safe_of_wp⟩

theorem wp_mono {α : Type} {r : R α} {P Q : α → Prop} (h : wp r P) (hpq : ∀ x, P x → Q x) : wp r Q :=
  let ⟨x, hx, hp⟩ := h; ⟨x, hx, hpq x hp⟩

theorem wp_ok {α : Type} {x : α} {Q : α → Prop} (h : Q x) : wp (Except.ok x : R α) Q := ⟨x, rfl, h⟩

theorem wp_pure {α : Type} {x : α} {Q : α → Prop} (h : Q x) : wp (pure x : R α) Q := ⟨x, rfl, h⟩

theorem wp_bind {α β : Type} {a : R α} {f : α → R β} {Q : β → Prop}
    (h : wp a (fun x => wp (f x) Q)) : wp (a >>= f) Q := by
  obtain ⟨x, hx, y, hy, hq⟩ := h
  exact ⟨y, by rw [hx]; exact hy, hq⟩

theorem eq_ok_of_wp {α : Type} {r : R α} {v : α} (h : wp r (fun x => x = v)) : r = .ok v := by
  obtain ⟨x, hx, rfl⟩ := h; exact hx

theorem wp_of_eq_ok {α : Type} {r : R α} {v : α} {Q : α → Prop} (h : r = .ok v) (hq : Q v) : wp r Q :=
  ⟨v, h, hq⟩

/-! the equations of the primitives (a run that is known to end without fault, evaluated by `rw`) -/

theorem ok_bind {α β : Type} (a : α) (f : α → R β) : (Except.ok a : R α) >>= f = f a := rfl

theorem bind_eq_of_ok {α β : Type} {a : R α} {f : α → R β} {x : α} {r : R β} (h : a = .ok x) (hf : f x = r) :
    a >>= f = r := by
  rw [h]; exact hf

theorem acc_ok {e : Ext} {b : Buf} {i : Int} (h : 0 ≤ i ∧ i < (e b : Int)) : acc e b i = .ok () := by
  unfold acc; rw [if_pos h]

theorem rdI_ok {e : Ext} {b : Buf} {f : Nat → Int} {i : Int} (h : 0 ≤ i ∧ i < (e b : Int)) :
    rdI e b f i = .ok (f i.toNat) := by
  unfold rdI; rw [if_pos h]

theorem i32_ok {x : Int} (h : -2147483648 ≤ x ∧ x ≤ 2147483647) : i32 x = .ok x := by
  unfold i32; exact if_pos h

theorem i64_ok {x : Int} (h : -9223372036854775808 ≤ x ∧ x ≤ 9223372036854775807) : i64 x = .ok x := by
  unfold i64; exact if_pos h

theorem cmod_ok {a b : Int} (h : b ≠ 0) : cmod a b = .ok (a.tmod b) := by
  unfold cmod; rw [if_neg h]

theorem cdiv_ok {a b : Int} (h : b ≠ 0) : cdiv a b = .ok (a.tdiv b) := by
  unfold cdiv; rw [if_neg h]

@[vc] theorem castI32_some (v : Int) : castI32 (some v) = i32 v := rfl

@[vc] theorem castI64_some (v : Int) : castI64 (some v) = i64 v := rfl

/-! `wp` as an equivalence, statement by statement -/

attribute [vc] and_true true_and implies_true Int.zero_add Sum.elim_inl Sum.elim_inr

@[vc] theorem wp_ok_iff {α : Type} {x : α} {Q : α → Prop} : wp (Except.ok x : R α) Q ↔ Q x :=
  ⟨fun ⟨_, h, hq⟩ => by cases h; exact hq, wp_ok⟩

@[vc] theorem wp_pure_iff {α : Type} {x : α} {Q : α → Prop} : wp (pure x : R α) Q ↔ Q x := wp_ok_iff

theorem wp_error_iff {α : Type} {f : Fault} {Q : α → Prop} : wp (Except.error f : R α) Q ↔ False :=
  ⟨fun ⟨_, h, _⟩ => (nomatch h), False.elim⟩

@[vc] theorem wp_bind_iff {α β : Type} {a : R α} {f : α → R β} {Q : β → Prop} :
    wp (a >>= f) Q ↔ wp a (fun x => wp (f x) Q) := by
  cases a with
  | error err => exact ⟨fun ⟨_, h, _⟩ => (nomatch h), fun ⟨_, h, _⟩ => (nomatch h)⟩
  | ok x => exact ⟨fun h => ⟨x, rfl, h⟩, fun ⟨_, h, hq⟩ => by cases h; exact hq⟩

/-- a checked primitive: the value behind its test -/
theorem wp_check_iff {α : Type} {c : Prop} [Decidable c] {x : α} {f : Fault} {Q : α → Prop} :
    wp (if c then Except.ok x else Except.error f : R α) Q ↔ c ∧ Q x := by
  split
  · simp [wp_ok_iff, *]
  · simp [wp_error_iff, *]

@[vc] theorem wp_acc_iff {e : Ext} {b : Buf} {i : Int} {Q : Unit → Prop} :
    wp (acc e b i) Q ↔ (0 ≤ i ∧ i < (e b : Int)) ∧ Q () := wp_check_iff

@[vc] theorem wp_rdI_iff {e : Ext} {b : Buf} {f : Nat → Int} {i : Int} {Q : Int → Prop} :
    wp (rdI e b f i) Q ↔ (0 ≤ i ∧ i < (e b : Int)) ∧ Q (f i.toNat) := wp_check_iff

@[vc] theorem wp_i32_iff {x : Int} {Q : Int → Prop} :
    wp (i32 x) Q ↔ (-2147483648 ≤ x ∧ x ≤ 2147483647) ∧ Q x := wp_check_iff

@[vc] theorem wp_i64_iff {x : Int} {Q : Int → Prop} :
    wp (i64 x) Q ↔ (-9223372036854775808 ≤ x ∧ x ≤ 9223372036854775807) ∧ Q x := wp_check_iff

/- `cmod`, `cdiv` test for the fault, `b = 0`: checked primitives with the test `b ≠ 0` -/
@[vc] theorem wp_cmod_iff {a b : Int} {Q : Int → Prop} : wp (cmod a b) Q ↔ b ≠ 0 ∧ Q (a.tmod b) := by
  unfold cmod; rw [← ite_not]; exact wp_check_iff

@[vc] theorem wp_cdiv_iff {a b : Int} {Q : Int → Prop} : wp (cdiv a b) Q ↔ b ≠ 0 ∧ Q (a.tdiv b) := by
  unfold cdiv; rw [← ite_not]; exact wp_check_iff

@[vc] theorem wp_ite_iff {α : Type} {c : Prop} [Decidable c] {a b : R α} {Q : α → Prop} :
    wp (if c then a else b) Q ↔ (c → wp a Q) ∧ (¬ c → wp b Q) := by
  split <;> simp [*]

@[vc] theorem wp_bite_iff {α : Type} {c : Bool} {a b : R α} {Q : α → Prop} :
    wp (if c then a else b) Q ↔ (c = true → wp a Q) ∧ (c = false → wp b Q) := by
  cases c <;> simp

theorem wp_ite {α : Type} {c : Prop} [Decidable c] {a b : R α} {Q : α → Prop}
    (ht : c → wp a Q) (hf : ¬ c → wp b Q) : wp (if c then a else b) Q := wp_ite_iff.2 ⟨ht, hf⟩

/-- a guarded statement `if c then a` in front of a continuation `k` (`do` makes `k` a join point called at the end
of both branches): `k` appears once in the condition, not once per branch -/
@[vc high] theorem wp_guard_iff {α β : Type} {c : Prop} [Decidable c] {a : R α} {k : R β} {Q : β → Prop} :
    wp (if c then a >>= fun _ => k else k) Q ↔ (c → wp a (fun _ => True)) ∧ wp k Q := by
  split
  · rw [wp_bind_iff]
    exact ⟨fun ⟨x, hx, hk⟩ => ⟨fun _ => ⟨x, hx, trivial⟩, hk⟩, fun ⟨ha, hk⟩ => wp_mono (ha ‹_›) (fun _ _ => hk)⟩
  · exact ⟨fun hk => ⟨fun h => absurd h ‹_›, hk⟩, fun h => h.2⟩

theorem wp_castI32 {x : Int} {Q : Int → Prop} (hx : -2147483648 ≤ x ∧ x ≤ 2147483647) (h : Q x) :
    wp (castI32 (some x)) Q := wp_i32_iff.2 ⟨hx, h⟩

theorem wp_castI64 {x : Int} {Q : Int → Prop} (hx : -9223372036854775808 ≤ x ∧ x ≤ 9223372036854775807)
    (h : Q x) : wp (castI64 (some x)) Q := wp_i64_iff.2 ⟨hx, h⟩

/-- an `int` value -/
def I32 (x : Int) : Prop := -2147483648 ≤ x ∧ x ≤ 2147483647

/-- a `long long` value -/
def I64 (x : Int) : Prop := -9223372036854775808 ≤ x ∧ x ≤ 9223372036854775807

/-! loops -/

theorem wp_loop {σ ρ : Type} (Inv : Int → σ → Prop) (P : ρ → Prop) {body : Int → σ → R (σ ⊕ ρ)} :
    ∀ (k : Nat) (i : Int) (s : σ) {Q : σ ⊕ ρ → Prop}, Inv i s →
      (∀ j s, i ≤ j → j < i + k → Inv j s → wp (body j s) (Sum.elim (Inv (j + 1)) P)) →
      (∀ x, Sum.elim (Inv (i + k)) P x → Q x) →
      wp (forLoop body k i s) Q := by
  intro k
  induction k with
  | zero =>
    intro i s Q h _ hq
    exact ⟨.inl s, rfl, hq _ (by simpa using h)⟩
  | succ k ih =>
    intro i s Q h hb hq
    obtain ⟨x, hx, hinv⟩ := hb i s (Int.le_refl _) (by omega) h
    cases x with
    | inr r => exact ⟨.inr r, by simp [forLoop, hx], hq _ hinv⟩
    | inl s1 =>
      have e : i + 1 + (k : Int) = i + ((k + 1 : Nat) : Int) := by push_cast; omega
      obtain ⟨y, hy, hqy⟩ := ih (i + 1) s1 (Q := Q) hinv
        (fun j s hj1 hj2 hI => hb j s (by omega) (by omega) hI) (fun x hx => hq x (e ▸ hx))
      exact ⟨y, by simp [forLoop, hx, hy], hqy⟩

/-- the loop rule for a C integer count, with the two ways out of the loop as separate premises: the state after the
last round satisfies the invariant, an early exit satisfies `P` -/
theorem wp_loopZ {σ ρ : Type} (Inv : Int → σ → Prop) (P : ρ → Prop) {body : Int → σ → R (σ ⊕ ρ)}
    {n i : Int} {s : σ} {Q : σ ⊕ ρ → Prop} (h : Inv i s)
    (hb : ∀ j s, i ≤ j → j < i + n → Inv j s → wp (body j s) (Sum.elim (Inv (j + 1)) P))
    (hl : ∀ s, Inv (i + n.toNat) s → Q (.inl s)) (hr : ∀ r, P r → Q (.inr r)) :
    wp (forLoop body n.toNat i s) Q :=
  wp_loop Inv P n.toNat i s h (fun j s h1 h2 => hb j s h1 (by omega))
    (fun x => by cases x <;> [exact hl _; exact hr _])

theorem wp_forLoop_safe {σ ρ : Type} {body : Int → σ → R (σ ⊕ ρ)} {n i : Int} {s : σ} {Q : σ ⊕ ρ → Prop}
    (hb : ∀ j s, i ≤ j → j < i + n → wp (body j s) (fun _ => True)) (hl : ∀ s, Q (.inl s)) (hr : ∀ r, Q (.inr r)) :
    wp (forLoop body n.toNat i s) Q :=
  wp_loopZ (fun _ _ => True) (fun _ => True) trivial
    (fun j s h1 h2 _ => wp_mono (hb j s h1 h2) (fun x _ => by cases x <;> trivial)) (fun s _ => hl s) (fun r _ => hr r)

/-- a loop that cannot be left early -/
theorem wp_forLoopE {σ : Type} (Inv : Int → σ → Prop) {body : Int → σ → R (σ ⊕ Empty)} (k : Nat) (i : Int) (s : σ)
    {Q : σ ⊕ Empty → Prop} (h0 : Inv i s)
    (hb : ∀ j s, i ≤ j → j < i + k → Inv j s → wp (body j s) (Sum.elim (Inv (j + 1)) fun _ => True))
    (hq : ∀ s', Inv (i + k) s' → Q (.inl s')) : wp (forLoop body k i s) Q :=
  wp_loop Inv (fun _ => True) k i s h0 hb fun x hx => match x with
    | .inl s' => hq s' hx
    | .inr e => nomatch e

theorem wp_inl {σ ρ : Type} {v : σ} {P : σ → Prop} {E : ρ → Prop} (h : P v) :
    wp (pure (.inl v) : R (σ ⊕ ρ)) (Sum.elim P E) := wp_pure h

theorem wp_inr {σ ρ : Type} {r : ρ} {P : σ → Prop} {E : ρ → Prop} (h : E r) :
    wp (pure (.inr r) : R (σ ⊕ ρ)) (Sum.elim P E) := wp_pure h

/-- a scan `for j < n` that leaves at the first round that fails: `Inv` holds of the state throughout, `G j` says
"round `j` passes" (the body proves `G j` when it goes on and `¬ G j` when it leaves), `P` holds of the value it leaves
with. After the loop: all of `G 0 … G (n-1)`; after an early exit: not all of them. -/
theorem wp_scan {σ ρ : Type} (Inv : σ → Prop) (G : Nat → Prop) (P : ρ → Prop) {body : Int → σ → R (σ ⊕ ρ)}
    (n : Int) (s : σ) {Q : σ ⊕ ρ → Prop} (h0 : Inv s)
    (hb : ∀ (j : Nat) s, (j : Int) < n → Inv s →
      wp (body j s) (Sum.elim (fun s' => Inv s' ∧ G j) fun r => P r ∧ ¬ G j))
    (hl : ∀ s', Inv s' → (∀ k : Nat, (k : Int) < n → G k) → Q (.inl s'))
    (hr : ∀ r, P r → ¬ (∀ k : Nat, (k : Int) < n → G k) → Q (.inr r)) :
    wp (forLoop body n.toNat 0 s) Q := by
  refine wp_loopZ (fun i s => Inv s ∧ ∀ k : Nat, (k : Int) < i → G k)
    (fun r => P r ∧ ¬ ∀ k : Nat, (k : Int) < n → G k) ⟨h0, fun k hk => by omega⟩ ?_
    (fun s' hx => hl s' hx.1 fun k hk => hx.2 k (by omega)) (fun r hx => hr r hx.1 hx.2)
  intro i s hi0 hi1 hI
  obtain ⟨j, rfl⟩ := Int.eq_ofNat_of_zero_le hi0
  refine wp_mono (hb j s (by omega) hI.1) fun x hx => ?_
  cases x with
  | inl s' => exact ⟨hx.1, fun k hk => if e : k = j then e ▸ hx.2 else hI.2 k (by omega)⟩
  | inr r => exact ⟨hx.1, fun hall => hx.2 (hall j (by omega))⟩

/-- a loop whose states are known in advance: `f i` before round `i` -/
theorem forLoop_trace {σ ρ : Type} {body : Int → σ → R (σ ⊕ ρ)} (f : Nat → σ) (k : Nat) (i0 : Int) {s : σ} (h0 : f 0 = s)
    (hb : ∀ i, i < k → body (i0 + i) (f i) = .ok (.inl (f (i + 1)))) : forLoop body k i0 s = .ok (.inl (f k)) := by
  refine eq_ok_of_wp (wp_loop (fun j s => ∃ i : Nat, j = i0 + i ∧ s = f i) (fun _ => False) k i0 s ⟨0, by simp, h0.symm⟩
    (fun j s _ hj ⟨i, hji, hs⟩ => ?_) (fun x hx => ?_))
  · subst hji hs
    exact ⟨_, hb i (by omega), i + 1, by push_cast; omega, rfl⟩
  · cases x with
    | inr r => exact hx.elim
    | inl s =>
      obtain ⟨i, hi, rfl⟩ := hx
      rw [show i = k by omega]

/-- a loop without state and without exit runs to its end exactly when every round does: the footprint of a loop
nest over a box of indices is the footprint of its block, for all indices of the box -/
@[vc] theorem wp_forEach_iff {body : Int → R Unit} {k : Nat} {i0 : Int} {Q : Unit → Prop} :
    wp (forEach body k i0) Q ↔ (∀ j, i0 ≤ j → j < i0 + k → wp (body j) (fun _ => True)) ∧ Q () := by
  constructor
  · rintro ⟨u, hu, hq⟩
    refine ⟨?_, hq⟩
    clear hq Q
    induction k generalizing i0 with
    | zero => intro j h0 h1; omega
    | succ k ih =>
      intro j h0 h1
      unfold forEach forLoop at hu
      cases hb : body i0 with
      | error f => simp [hb, Except.map] at hu
      | ok x =>
        by_cases hj : j = i0
        · exact hj ▸ ⟨x, hb, trivial⟩
        · refine ih (i0 := i0 + 1) ?_ j (by omega) (by push_cast at h1; omega)
          simp only [hb, Except.map] at hu
          unfold forEach
          exact hu
  · rintro ⟨hb, hq⟩
    unfold forEach
    obtain ⟨x, hx, _⟩ := wp_loop (σ := Unit) (ρ := Empty) (fun _ _ => True) (fun _ => True)
      (body := fun i _ => (body i).map fun _ => Sum.inl ()) k i0 () (Q := fun _ => True) trivial
      (fun j _ h1 h2 _ => let ⟨_, hx, _⟩ := hb j h1 h2; ⟨.inl (), by rw [hx]; rfl, trivial⟩) (fun _ _ => trivial)
    rw [hx]
    exact ⟨(), rfl, hq⟩

@[vc high] theorem wp_forEachZ_iff {body : Int → R Unit} {n i0 : Int} {Q : Unit → Prop} :
    wp (forEach body n.toNat i0) Q ↔ (∀ j, i0 ≤ j → j < i0 + n → wp (body j) (fun _ => True)) ∧ Q () := by
  rw [wp_forEach_iff]
  refine and_congr_left fun _ => forall_congr' fun j => forall_congr' fun _ => ?_
  constructor <;> intro h hj <;> exact h (by omega)

/-! index arithmetic, list buffers -/

/-- record `i` of `n` records of `m` fields starts at `m * i` and ends before `m * n`: `m * ·` is monotone -/
theorem mul_idx_bound {m n i : Int} (hm : 0 ≤ m) (hi0 : 0 ≤ i) (hi : i < n) :
    0 ≤ m * i ∧ m * i + m ≤ m * n := by
  have h := Int.mul_le_mul_of_nonneg_left (show i + 1 ≤ n by omega) hm
  rw [Int.mul_add, Int.mul_one] at h
  exact ⟨Int.mul_nonneg hm hi0, h⟩

theorem mul_idx_bound' {m n i : Int} (hm : 0 ≤ m) (hi0 : 0 ≤ i) (hi : i < n) :
    0 ≤ i * m ∧ i * m + m ≤ n * m := by
  rw [Int.mul_comm i m, Int.mul_comm n m]
  exact mul_idx_bound hm hi0 hi

/-- cell `(i, j)` of an `n × m` matrix stored by rows (field `j` of record `i` of `n` records of `m` fields) lies
inside a buffer that holds the matrix -/
theorem mat_idx {m n i j N : Int} (hi0 : 0 ≤ i) (hi1 : i < n) (hj0 : 0 ≤ j) (hj1 : j < m) (h : m * n ≤ N) :
    0 ≤ m * i + j ∧ m * i + j < N := by
  have := mul_idx_bound (le_trans hj0 (le_of_lt hj1)) hi0 hi1
  omega

/-- … and its index is an `int` when the number of cells is -/
theorem mat_idx32 {m n i j : Int} (hi0 : 0 ≤ i) (hi1 : i < n) (hj0 : 0 ≤ j) (hj1 : j < m)
    (h : m * n ≤ 2147483647) : -2147483648 ≤ m * i + j ∧ m * i + j ≤ 2147483647 := by
  have := mat_idx hi0 hi1 hj0 hj1 h
  omega

/-- a buffer of cells that grows by one -/
theorem forall_mem_snoc {α : Type} {P : α → Prop} {l : List α} {c : α} (hl : ∀ x ∈ l, P x) (hc : P c) :
    ∀ x ∈ l ++ [c], P x :=
  List.forall_mem_append.2 ⟨hl, List.forall_mem_singleton.2 hc⟩

/-- … or has one entry overwritten -/
theorem forall_mem_set {α : Type} {P : α → Prop} {l : List α} {k : Nat} {c : α} (hl : ∀ x ∈ l, P x) (hc : P c) :
    ∀ x ∈ l.set k c, P x := by
  intro x hx
  rcases List.mem_or_eq_of_mem_set hx with h | h
  · exact hl x h
  · exact h ▸ hc

theorem getD_mem {α : Type} {l : List α} {k : Nat} {d : α} (h : k < l.length) : l.getD k d ∈ l := by
  simp only [List.getD_eq_getElem?_getD, List.getElem?_eq_getElem h, Option.getD_some]
  exact List.getElem_mem _

/-! data package (sections as in `Model/C05.lean`) -/

theorem daysinmonth_eq (m : Int) : daysinmonth m = .ok (if m < 1 ∨ m > 12 then -1 else 0) := by
  unfold daysinmonth
  split
  · rfl
  · rw [acc_ok ⟨by omega, by simp only [constExt_apply]; omega⟩]; rfl

attribute [vc] daysinmonth_eq

theorem wp_daysinmonth (m : Int) : wp (daysinmonth m) (fun r => r < 0 ↔ (m < 1 ∨ m > 12)) :=
  ⟨_, daysinmonth_eq m, by split <;> omega⟩

theorem nbdayOf_range (y m : Int) : 28 ≤ nbdayOf y m ∧ nbdayOf y m ≤ 31 := by
  unfold nbdayOf
  simp only []
  split <;> [split; split] <;> omega

theorem add1day_code (e : Ext) (d : Nat → Int) (h : 3 ≤ e .date) (hd : ∀ k, I32 (d k)) :
    wp (add1day e d) (fun c => c = if d 1 < 1 ∨ d 1 > 12 then 1
      else if d 2 < nbdayOf (d 0) (d 1) then 0
      else if d 2 = nbdayOf (d 0) (d 1) then (if d 1 = 12 ∧ d 0 = 2147483647 then 1 else 0) else 1) := by
  have h0 := hd 0
  have h2 := hd 2
  have hr := nbdayOf_range (d 0) (d 1)
  unfold I32 at h0 h2
  unfold add1day
  -- the condition of the kernel: three fields inside the buffer, `day + 1` and `year + 1` inside `int`, and at every
  -- return the code of the specification, which branches as the kernel does
  simp only [vc, Int.toNat_zero, Int.toNat_one, Int.reduceToNat, i32max]
  omega

theorem add1month_code (e : Ext) (d : Nat → Int) (h : 3 ≤ e .date) (hd : ∀ k, I32 (d k)) :
    wp (add1month e d) (fun c => c = if d 1 < 12 then (if d 1 + 1 < 1 then 1 else 0)
      else if d 0 = 2147483647 then 1 else 0) := by
  have h0 := hd 0
  unfold I32 at h0
  unfold add1month
  -- as for `add1day`: two fields read, `year + 1` inside `int`, and the code of the specification at every return
  simp only [vc, Int.toNat_zero, Int.toNat_one]
  unfold i32max
  omega

theorem wp_homFlush {e : Ext} {start i nval : Int} {Q : Unit → Prop} (h2 : nval ≤ e .inputs) (h3 : nval ≤ e .outputs)
    (hs : 0 ≤ start) (hi : i ≤ nval) (hq : Q ()) : wp (homFlush e start i) Q := by
  unfold homFlush
  simp only [vc]
  exact ⟨fun j hj0 hj1 => by omega, hq⟩

theorem wp_var2hScan {e : Ext} {nvalvar hstart : Int} {sec : Nat → Int} (h : nvalvar ≤ e .varsec) :
    wp (var2hScan e nvalvar hstart sec)
      (fun v0 => 0 ≤ v0 ∧ (1 ≤ v0 → v0 + 1 ≤ nvalvar ∧ sec (v0 - 1).toNat ≤ hstart)) := by
  unfold var2hScan
  simp only [vc]
  -- every stamp before `j` is `≤ hstart`; the scan leaves at the first later one, below `nvalvar - 1`
  refine wp_loopZ (fun j _ => 1 ≤ j → sec (j - 1).toNat ≤ hstart)
    (fun r => 0 ≤ r ∧ r + 1 < nvalvar ∧ (1 ≤ r → sec (r - 1).toNat ≤ hstart)) (by intro h; omega)
    (fun j _ hj0 hj1 hI => ?_) (fun _ hx => ?_) (fun j hx => ?_)
  · simp only [vc]
    refine ⟨by omega, fun hle _ => ?_, fun _ => ⟨hj0, by omega, hI⟩⟩
    have : j + 1 - 1 = j := by omega
    rw [this]; exact hle
  · simp only [vc]
    split
    · exact ⟨le_refl 0, fun h1 => by omega⟩
    · refine ⟨by omega, fun h1 => ⟨by omega, ?_⟩⟩
      have e1 : (0:Int) + ((nvalvar - 1).toNat : Int) = nvalvar - 1 := by omega
      rw [e1] at hx
      exact hx h1
  · simp only [vc]
    exact ⟨hx.1, fun h1 => ⟨by omega, hx.2.2 h1⟩⟩

/-- the walk always leaves by its early exit: `varindex = v + j` stays below `nvalvar - 1`, so the `nvalvar`
rounds of the model's loop are never used up -/
theorem wp_var2hInnerLoop {e : Ext} {nvalvar endt v : Int} {sec : Nat → Int} {Q : _ → Prop}
    (h1 : nvalvar ≤ e .varsec) (h2 : nvalvar ≤ e .varvalues)
    (hv0 : 0 ≤ v) (hv1 : v + 1 < nvalvar) (hsv : sec v.toNat < endt)
    (hq : ∀ r, Sum.elim (fun _ => True) (fun v' => 0 ≤ v' - 1 ∧ v' < nvalvar ∧ sec (v' - 1).toNat < endt) r →
      Q (.inr r)) :
    wp (forLoop (var2hInner e nvalvar endt sec) nvalvar.toNat 0 (v, sec v.toNat)) Q := by
  refine wp_loopZ
    (fun j (s : Int × Int) => s.1 = v + j ∧ s.1 + 1 < nvalvar ∧ s.2 = sec s.1.toNat ∧
      (1 ≤ j → sec (s.1 - 1).toNat < endt) ∧ (j = 0 → s.2 < endt))
    (Sum.elim (fun _ => True) (fun v' => 0 ≤ v' - 1 ∧ v' < nvalvar ∧ sec (v' - 1).toNat < endt))
    ⟨by simp, hv1, rfl, by omega, fun _ => hsv⟩ (fun j s hj0 hj1 hJ => ?_) (fun s hs => ?_) hq
  · obtain ⟨hw, hw1, ht, hprev, hfirst⟩ := hJ
    unfold var2hInner
    simp only [vc]
    have e1 : s.1 + 1 - 1 = s.1 := by omega
    refine ⟨fun hlt => ⟨by omega, by omega, fun _ => ⟨fun _ => ⟨by omega, by omega, by rw [e1, ← ht]; exact hlt⟩,
      fun _ => ⟨by omega, by omega, fun _ => by rw [e1, ← ht]; exact hlt, by intro h; omega⟩⟩⟩, fun hge => ?_⟩
    have hj : 1 ≤ j := by
      by_contra hj
      exact hge (hfirst (by omega))
    exact ⟨by omega, by omega, hprev hj⟩
  · -- after all `nvalvar` rounds `s.1 = v + nvalvar` would not be below `nvalvar - 1`
    omega

/-! stat package -/

theorem wp_arChecks (e : Ext) (nparams : Int) (pnan : Nat → Bool) (bad : Bool)
    (h : nparams ≤ e .params) :
    wp (arChecks e (constExt 10) nparams pnan bad) (fun r => r = some () → 0 < nparams ∧ nparams ≤ 10) := by
  unfold arChecks arMax
  simp only [vc]
  refine ⟨fun _ => nofun, fun hn => wp_forLoop_safe (fun k _ hk0 hk1 => ?_) (fun _ => ?_) (fun _ => wp_pure nofun)⟩
  · simp only [vc]
    omega
  · simp only [vc, constExt_apply]
    exact ⟨fun _ => nofun, fun _ => ⟨fun k hk0 hk1 => by omega, fun _ => by omega⟩⟩

theorem wp_arShift {e le : Ext} {nparams : Int} {Q : Unit → Prop}
    (h1 : nparams ≤ e .params) (hle : nparams ≤ le .prev) (hq : Q ()) : wp (arShift e le nparams) Q := by
  unfold arShift
  simp only [vc]
  exact ⟨fun j hj0 hj1 => by omega, hq⟩

theorem wp_crpsRow {e le : Ext} {nval ncol useW i : Int} {unsorted : Nat → Bool}
    (hc : 1 ≤ ncol) (hi0 : 0 ≤ i) (hi1 : i < nval) (h1 : nval ≤ e .obs) (h2 : ncol * nval ≤ e .sim)
    (h3 : useW = 1 → nval ≤ e .weights) (h32 : ncol * nval ≤ 2147483647)
    (hens : ncol + 1 ≤ le .ensemb) (hwork : ncol + 1 ≤ le .work) :
    wp (crpsRow e le ncol useW unsorted i ()) (fun _ => True) := by
  have bi := mul_idx_bound (show (0:Int) ≤ ncol by omega) hi0 hi1
  unfold crpsRow
  simp only [vc]
  -- row `i` of `sim` is copied, then the sorting test walks `ensemb[0..ncol)`
  refine ⟨fun j hj0 hj1 => ⟨by omega, mat_idx32 hi0 hi1 hj0 hj1 h32, mat_idx hi0 hi1 hj0 hj1 h2, by omega⟩,
    fun h => by have := h3 h; omega, wp_forLoop_safe (fun j _ hj0 hj1 => ?_) (fun _ => ?_) (fun _ => by simp only [vc])⟩
  · simp only [vc]
    omega
  · simp only [vc, ← and_assoc]
    exact ⟨by omega, fun k hk0 hk1 => ⟨by omega, fun h => by have := h3 h; omega⟩⟩

theorem wp_ensrankPair {e le : Ext} {nval ncol i1 i2 : Int} (hc : 1 ≤ ncol)
    (h1 : ncol * nval ≤ e .sim) (h2 : nval * nval ≤ e .fmat) (h3 : nval ≤ e .ranks)
    (h32 : ncol * nval ≤ 2147483647) (h33 : nval * nval ≤ 2147483647)
    (hle : 2 * ncol ≤ le .ensemb) (hi1 : 0 ≤ i1) (hi12 : i1 < i2) (hi2 : i2 < nval) :
    wp (ensrankPair e le nval ncol i1 i2) (fun _ => True) := by
  unfold ensrankPair
  simp only [vc]
  -- column `j ≥ ncol` of the pair is column `j - ncol` of row `i2`
  have e2 : ∀ j, ncol * (i2 - 1) + j = ncol * i2 + (j - ncol) := fun j => by ring
  have hi1' : i1 < nval := by omega
  have hi2' : 0 ≤ i2 := by omega
  refine ⟨fun j hj0 hj1 => ⟨fun hj => ⟨mat_idx32 hi1 hi1' hj0 hj h32, mat_idx hi1 hi1' hj0 hj h1, by omega⟩,
      fun hj => ?_⟩, by omega, by omega, fun j hj0 hj1 => by omega, ?_, ?_, by omega, by omega⟩
  · rw [e2]
    exact ⟨mat_idx32 hi2' hi2 (by omega) (by omega) h32, mat_idx hi2' hi2 (by omega) (by omega) h1, by omega⟩
  · rw [Int.mul_comm]; exact mat_idx32 hi1 hi1' hi2' hi2 h33
  · rw [Int.mul_comm]; exact mat_idx hi1 hi1' hi2' hi2 h2

/-! gis package: cells of a grid, the neighbourhood and the walks along `downCell` -/

open HydroVerif.C07

/-- `c` is the number of a cell of the grid (`C07.validCell`, as a proposition `omega` can open) -/
def InGrid (nrows ncols c : Int) : Prop := 0 ≤ c ∧ c < nrows * ncols

/-- what every kernel that follows flow directions is handed, and what a proof about one establishes first: sides `≥ 0`,
`nrows * ncols` a `long long` (the kernels form the product), `flowdir` holds the grid, `flowdircode` its 9 codes -/
def GridOK (e : Ext) (nrows ncols : Int) : Prop :=
  0 ≤ nrows ∧ 0 ≤ ncols ∧ nrows * ncols ≤ 9223372036854775807 ∧ nrows * ncols ≤ e .flowdir ∧ 9 ≤ e .flowdircode

/-- the flow direction grid a gis wrapper hands over: `flowdir` (`fl` elements) is an existing `r × c` array (so `r * c`
fits `npy_intp`), `flowdircode` (`cl` elements) is `3 × 3`. With `fl = e .flowdir`, `cl = e .flowdircode` the conclusion is `GridOK e r c`. -/
theorem grid_of_shapes {r c k0 k1 fl cl : Nat} (h0 : (k0 : Int) = 3) (h1 : (k1 : Int) = 3)
    (hn : (r : Int) * c ≤ 9223372036854775807) (hfd : fl = r * c) (hcode : cl = k0 * k1) :
    0 ≤ (r : Int) ∧ 0 ≤ (c : Int) ∧ (r : Int) * c ≤ 9223372036854775807 ∧ (r : Int) * c ≤ fl ∧ 9 ≤ cl := by
  refine ⟨Int.natCast_nonneg r, Int.natCast_nonneg c, hn, by rw [hfd]; push_cast; exact le_refl _, ?_⟩
  have : k0 = 3 := by omega
  have : k1 = 3 := by omega
  subst_vars
  omega

theorem ncols_ne_zero_of_inGrid {nrows ncols c : Int} (h : InGrid nrows ncols c) : ncols ≠ 0 :=
  validCell_ncols_ne_zero (validCell_iff.2 h)

@[vc] theorem wp_getnxy_iff {ncols idx : Int} {Q : Int × Int → Prop} :
    wp (getnxy ncols idx) Q ↔ ncols ≠ 0 ∧ Q (idx.tmod ncols, (idx - idx.tmod ncols).tdiv ncols) := by
  unfold getnxy
  simp only [vc]
  -- `%` and `/` each test the divisor
  exact and_self_left

@[vc] theorem wp_stepSquareDist_iff {ncols n1 n2 : Int} {Q : Unit → Prop} :
    wp (stepSquareDist ncols n1 n2) Q ↔ ncols ≠ 0 ∧ Q () := by
  unfold stepSquareDist
  simp only [vc]
  exact and_self_left

/-- a point is converted to `-1` or to a cell of the grid; NaN, infinite and distant coordinates are never converted -/
theorem wp_coord2cell1 {nrows ncols : Int} {fx fy : XInt} {Q : Int → Prop}
    (hN : nrows * ncols ≤ 9223372036854775807) (hq : ∀ c, c = -1 ∨ InGrid nrows ncols c → Q c) :
    wp (coord2cell1 nrows ncols fx fy) Q := by
  unfold coord2cell1
  cases fx with
  | none => cases fy <;> exact wp_pure (hq _ (Or.inl rfl))
  | some x =>
    cases fy with
    | none => exact wp_pure (hq _ (Or.inl rfl))
    | some y =>
      simp only [vc]
      refine ⟨fun ⟨hx0, hx1, hy0, hy1⟩ => ?_, fun _ => hq _ (Or.inl rfl)⟩
      -- the cell is field `x` of record `nrows - 1 - y` of `nrows` records of `ncols` fields (`b`); the row itself is a
      -- `long long` because `nrows ≤ nrows * ncols` (`b1`)
      have b := mul_idx_bound' (m := ncols) (n := nrows) (i := nrows - 1 - y) (by omega) (by omega) (by omega)
      have b1 : nrows * 1 ≤ nrows * ncols :=
        Int.mul_le_mul_of_nonneg_left (show 1 ≤ ncols by omega) (show 0 ≤ nrows by omega)
      exact ⟨by omega, by omega, by omega, by omega, by omega, hq _ (Or.inr ⟨by omega, by omega⟩)⟩

theorem wp_neighboursInto {eb : Ext} {b : Buf} {nrows ncols idx : Int} (hb : 9 ≤ eb b)
    (hr : 0 ≤ nrows) (hc : 0 ≤ ncols) (hN : nrows * ncols ≤ 9223372036854775807) :
    wp (neighboursInto eb b nrows ncols idx) (fun r => r = none ↔ ¬ InGrid nrows ncols idx) := by
  unfold neighboursInto
  have h0 : 0 ≤ nrows * ncols := Int.mul_nonneg hr hc
  simp only [vc]
  refine ⟨by omega, fun h => by simp [InGrid]; omega, fun h => ?_⟩
  have hg : InGrid nrows ncols idx := ⟨by omega, by omega⟩
  exact ⟨ncols_ne_zero_of_inGrid hg, fun iy _ _ ix _ _ => by omega, by simp [hg]⟩

theorem neighbour_inGrid (nrows ncols idx : Int) (k : Nat) :
    neighbour nrows ncols idx k = -1 ∨ InGrid nrows ncols (neighbour nrows ncols idx k) := by
  by_cases h : neighbour nrows ncols idx k = -1
  · exact Or.inl h
  · exact Or.inr (validCell_iff.1 (neighbour_valid rfl h))

theorem downCell_spec (nrows ncols : Int) (code : Nat → Int) (fd idx : Int) :
    downCell nrows ncols code fd idx = -2 ∨ downCell nrows ncols code fd idx = -1 ∨
      InGrid nrows ncols (downCell nrows ncols code fd idx) := by
  unfold downCell
  split
  · exact Or.inl rfl
  · right
    rcases foldl_ite_last (fun j => fd = code j) (neighbour nrows ncols idx) (List.range 9) (-1)
      with ⟨-, e⟩ | ⟨j, -, -, e⟩
    · exact Or.inl e
    · exact e ▸ neighbour_inGrid nrows ncols idx j

theorem wp_downstream1 {e eb : Ext} {bu bd : Buf} {nrows ncols : Int} {code fdir : Nat → Int} {pos idx : Int}
    (hG : GridOK e nrows ncols)
    (hp : 0 ≤ pos) (hbu : pos < eb bu) (hbd : pos < eb bd) :
    wp (downstream1 e eb bu bd nrows ncols code fdir pos idx)
      (fun r => (r = none ↔ ¬ InGrid nrows ncols idx) ∧
        ∀ d, r = some d → d = -2 ∨ d = -1 ∨ InGrid nrows ncols d) := by
  obtain ⟨hr, hc, hN, hfd, hcode⟩ := hG
  unfold downstream1
  have h0 : 0 ≤ nrows * ncols := Int.mul_nonneg hr hc
  simp only [vc]
  refine ⟨⟨hp, hbu⟩, by omega, fun h => ⟨by simp [InGrid]; omega, nofun⟩, fun h => ?_⟩
  have hg : InGrid nrows ncols idx := ⟨by omega, by omega⟩
  have h9 : ((nbExt .nbloc : Nat) : Int) = 9 := rfl
  refine wp_mono (wp_neighboursInto (eb := nbExt) (b := .nbloc) (by simp [nbExt]) hr hc hN) (fun _ _ =>
    ⟨⟨hg.1, by have := hg.2; omega⟩, ⟨hp, hbd⟩, fun _ => ⟨⟨hp, hbd⟩, by simp [hg], ?_⟩,
      fun _ => ⟨fun j hj0 hj1 => by omega, by simp [hg], ?_⟩⟩)
  · intro d hd; cases hd; exact Or.inl rfl
  · intro d hd; cases hd; exact downCell_spec _ _ _ _ _

/-- `downstream1` as the walks call it: on one-element locals `idxup[1]`, `idxdown[1]` -/
theorem wp_downstreamLocal {e : Ext} {nrows ncols : Int} {code fdir : Nat → Int} {idx : Int}
    {Q : Option Int → Prop}
    (hG : GridOK e nrows ncols)
    (hq : ∀ r, (∀ d, r = some d → 0 ≤ d → InGrid nrows ncols d) → Q r) :
    wp (downstream1 e oneExt .idxup .idxdown nrows ncols code fdir 0 idx) Q := by
  refine wp_mono (wp_downstream1 hG (le_refl 0) (by simp [oneExt]) (by simp [oneExt]))
    (fun r hd => hq r (fun d h h0 => ?_))
  rcases hd.2 d h with h | h | h
  · omega
  · omega
  · exact h

theorem wp_accWalk {e : Ext} {nrows ncols : Int} {code fdir : Nat → Int} {i0 j cur : Int}
    (hG : GridOK e nrows ncols)
    (h1 : nrows * ncols ≤ e .toacc) (h2 : nrows * ncols ≤ e .accumulation)
    (hi0 : InGrid nrows ncols i0) (hcur : InGrid nrows ncols cur) :
    wp (accWalk e nrows ncols code fdir i0 j cur) (Sum.elim (InGrid nrows ncols) (fun _ => True)) := by
  unfold accWalk
  refine wp_bind (wp_downstreamLocal hG (fun d hd => ?_))
  unfold InGrid at hi0 hcur
  cases d with
  | none => exact wp_pure trivial
  | some dn =>
    simp only [vc]
    refine ⟨fun _ => by omega, fun hdn => ?_⟩
    have hg := hd dn rfl (by omega)
    exact ⟨by omega, by unfold InGrid at hg; omega, hg⟩

theorem wp_upstream1 {e eu : Ext} {nrows ncols : Int} {code fdir : Nat → Int} {row idx : Int}
    (hG : GridOK e nrows ncols)
    (hrow : 0 ≤ row) (hup : 9 * row + 9 ≤ eu .idxup) :
    wp (upstream1 e eu nrows ncols code fdir row idx) (fun ok => ok = true ↔ InGrid nrows ncols idx) := by
  obtain ⟨hr, hc, hN, hfd, hcode⟩ := hG
  unfold upstream1
  have h0 : 0 ≤ nrows * ncols := Int.mul_nonneg hr hc
  simp only [vc]
  refine ⟨by omega, fun h => by simp [InGrid]; omega, fun h => ?_⟩
  have hg : InGrid nrows ncols idx := ⟨by omega, by omega⟩
  refine wp_mono (wp_neighboursInto (eb := nbExt) (b := .nbloc) (by simp [nbExt]) hr hc hN) (fun _ _ => ?_)
  -- `k` counts the upstream cells found among the first `j` neighbours
  refine wp_forLoopE (fun j k => 0 ≤ k ∧ k ≤ j) _ _ _ ⟨le_refl 0, le_refl 0⟩
    (fun j k hj0 hj1 hI => ?_) (fun k hx => ?_)
  · have hnb := neighbour_inGrid nrows ncols idx j.toNat
    have h9 : ((nbExt .nbloc : Nat) : Int) = 9 := rfl
    unfold InGrid at hnb
    simp only [vc]
    omega
  · simp only [vc]
    exact ⟨fun j hj0 hj1 => by omega, by simp [hg]⟩

/-- the first `nval` cell numbers handed to `c_upstream` / `c_downstream` are cells of the grid: when the kernels return `0` -/
def AllInGrid (nrows ncols nval : Int) (cells : Nat → Int) : Prop :=
  ∀ k : Nat, (k : Int) < nval → InGrid nrows ncols (cells k)

/-- two return codes that are `0` exactly when the same `P` holds are equal -/
theorem code_class_eq {a b : Int} {P : Prop} (ha : a = 0 ∧ P ∨ a = 1 ∧ ¬ P) (hb : b = 0 ∧ P ∨ b = 1 ∧ ¬ P) : b = a := by
  rcases ha with ⟨rfl, p⟩ | ⟨rfl, p⟩
  · exact hb.elim (·.1) (fun h => absurd p h.2)
  · exact hb.elim (fun h => absurd h.2 p) (·.1)

theorem downstream_code (e : Ext) (nrows ncols nval : Int) (code fdir cells : Nat → Int)
    (hG : GridOK e nrows ncols)
    (h1 : nval ≤ e .idxup) (h2 : nval ≤ e .idxdown) :
    wp (downstream e nrows ncols nval code fdir cells) (fun c =>
      (c = 0 ∧ AllInGrid nrows ncols nval cells) ∨ (c = 1 ∧ ¬ AllInGrid nrows ncols nval cells)) := by
  unfold downstream
  refine wp_bind (wp_scan (fun (_ : Unit) => True) (fun k => InGrid nrows ncols (cells k)) (fun (_ : Unit) => True)
    _ _ trivial ?_ (fun _ _ hall => wp_pure (.inl ⟨rfl, hall⟩)) fun _ _ hnot => wp_pure (.inr ⟨rfl, hnot⟩))
  intro i _ hi _
  refine wp_bind (wp_rdI_iff.2 ⟨⟨by omega, by omega⟩, ?_⟩)
  refine wp_bind (wp_mono (wp_downstream1 hG (by omega) (by omega) (by omega)) (fun d hd => ?_))
  rw [Int.toNat_natCast] at hd
  cases d with
  | none => exact wp_inr ⟨trivial, hd.1.1 rfl⟩
  | some v => exact wp_inl ⟨trivial, by by_contra hb; cases hd.1.2 hb⟩

theorem upstream_code (e : Ext) (nrows ncols nval : Int) (code fdir cells : Nat → Int)
    (hG : GridOK e nrows ncols)
    (h1 : nval ≤ e .idxdown) (h2 : 9 * nval ≤ e .idxup) :
    wp (upstream e nrows ncols nval code fdir cells) (fun c =>
      (c = 0 ∧ AllInGrid nrows ncols nval cells) ∨ (c = 1 ∧ ¬ AllInGrid nrows ncols nval cells)) := by
  unfold upstream
  refine wp_bind (wp_scan (fun (_ : Unit) => True) (fun k => InGrid nrows ncols (cells k)) (fun (_ : Unit) => True)
    _ _ trivial ?_ (fun _ _ hall => wp_pure (.inl ⟨rfl, hall⟩)) fun _ _ hnot => wp_pure (.inr ⟨rfl, hnot⟩))
  intro i _ hi _
  refine wp_bind (wp_rdI_iff.2 ⟨⟨by omega, by omega⟩, ?_⟩)
  refine wp_bind (wp_mono (wp_upstream1 hG (by omega) (by omega)) (fun ok hok => ?_))
  rw [Int.toNat_natCast] at hok
  cases ok with
  | false => exact wp_inr ⟨trivial, fun hg => nomatch hok.2 hg⟩
  | true => exact wp_inl ⟨trivial, hok.1 rfl⟩

/-- distinct cells of a grid: there are at most `nrows * ncols` of them (`C07.length_le_of_nodup_validCell`, in `Int`) -/
theorem length_le_of_nodup_inGrid {nrows ncols : Int} (h0 : 0 ≤ nrows * ncols) {l : List Int} (hnd : l.Nodup)
    (hr : ∀ x ∈ l, InGrid nrows ncols x) : (l.length : Int) ≤ nrows * ncols := by
  have := length_le_of_nodup_validCell hnd fun x hx => validCell_iff.2 (hr x hx)
  omega

theorem wp_intersectFind {e : Ext} {stored : List Int} {c : Int}
    (h1 : stored.length ≤ e .idxcells) (h2 : stored.length ≤ e .weights) :
    wp (intersectFind e stored c) (fun found => found = true ↔ c ∈ stored) := by
  unfold intersectFind
  simp only [vc]
  -- the cell is none of the first `j` stored ones
  refine wp_loop (fun j _ => ∀ k : Nat, (k : Int) < j → stored.getD k (-1) ≠ c)
    (fun _ => c ∈ stored) _ _ _ (by intro k hk; omega) (fun j _ hj0 hj1 hI => ?_) (fun x hx => ?_)
  · simp only [vc]
    refine ⟨by omega, fun heq => ⟨by omega, heq ▸ getD_mem (by omega)⟩, fun hne k hk => ?_⟩
    by_cases hkj : (k : Int) < j
    · exact hI k hkj
    · have : k = j.toNat := by omega
      exact this ▸ hne
  · cases x with
    | inr r => exact wp_pure (by simpa using hx)
    | inl u =>
      refine wp_pure ?_
      simp only [Bool.false_eq_true, false_iff]
      intro hmem
      obtain ⟨k, hk, hke⟩ := List.getElem_of_mem hmem
      have := (show ∀ k : Nat, (k : Int) < 0 + (stored.length : Int) → stored.getD k (-1) ≠ c from hx) k (by omega)
      simp only [List.getD_eq_getElem?_getD, List.getElem?_eq_getElem hk, Option.getD_some] at this
      exact this hke

/-! `c_delineate_boundary` -/

theorem wp_getnxy_range {nrows ncols idx : Int} {Q : Int × Int → Prop} (hg : InGrid nrows ncols idx)
    (hc : 0 ≤ ncols)
    (hq : ∀ x : Int × Int, 0 ≤ x.1 ∧ x.1 < ncols ∧ 0 ≤ x.2 ∧ x.2 < nrows → Q x) :
    wp (getnxy ncols idx) Q :=
  have hnz := ncols_ne_zero_of_inGrid hg
  have ⟨r0, r1, c0, c1, _⟩ := valid_rowcol (by omega) (validCell_iff.2 hg)
  wp_getnxy_iff.2 ⟨hnz, hq _ ⟨c0, c1, r0, r1⟩⟩

/- the bounds of this section: sides `≤ 2·10⁹`, hence `ngrid ≤ 4·10¹⁸`, keep `c ± ncols` (`≤ 4·10¹⁸ + 2·10⁹`) and the squared
distances `dx*dx + dy*dy ≤ 8·10¹⁸` (`sq_le`) below `2⁶³ ≈ 9.22·10¹⁸`; they are what `PyAlloc_boundary` asks of a grid -/
theorem wp_bndIsOut {e : Ext} {ngrid ncols : Int} {mask : Nat → Int} {c : Int}
    (hm : ngrid ≤ e .mask) (hc : 0 ≤ c ∧ c < ngrid) (hn : ngrid ≤ 4000000000000000000)
    (hcol : 0 ≤ ncols ∧ ncols ≤ 2000000000) :
    wp (bndIsOut e ngrid ncols mask c) (fun _ => True) := by
  unfold bndIsOut
  simp only [vc]
  refine wp_forLoopE (fun _ _ => True) _ _ _ trivial (fun k _ hk0 hk1 _ => ?_) (fun _ _ => wp_pure trivial)
  have hs : -2000000000 ≤ bndShift ncols k ∧ bndShift ncols k ≤ 2000000000 := by
    unfold bndShift; split <;> [skip; split <;> [skip; split]] <;> omega
  simp only [vc]
  omega

theorem wp_bndStep1 {e : Ext} {nval ngrid ncols : Int} {cells mask : Nat → Int}
    (hv : 1 ≤ nval) (ha : nval ≤ e .idxcellsArea) (hb : nval ≤ e .buffer) (hm : ngrid ≤ e .mask)
    (hcells : ∀ i : Nat, (i : Int) < nval → 0 ≤ cells i ∧ cells i < ngrid)
    (hn : ngrid ≤ 4000000000000000000) (hcol : 0 ≤ ncols ∧ ncols ≤ 2000000000) :
    wp (bndStep1 e nval ngrid ncols cells mask)
      (fun r => ∀ buf, r = some buf → 1 ≤ buf.length ∧ (buf.length : Int) ≤ nval ∧
        ∀ b ∈ buf, 0 ≤ b ∧ b < ngrid) := by
  unfold bndStep1
  have h0 := hcells 0 (by omega)
  simp only [vc]
  -- at most one cell is stored per round, and only cells of the area
  refine ⟨by omega, by omega, wp_loopZ (fun i (buf : List Int) => 1 ≤ buf.length ∧ (buf.length : Int) ≤ i ∧
      ∀ b ∈ buf, 0 ≤ b ∧ b < ngrid) (fun _ => True) ⟨by simp, by simp, by simpa using h0⟩
      (fun i buf hi0 hi1 hI => ?_) (fun buf hx => ?_) (fun _ _ => ?_)⟩
  · have hci := hcells i.toNat (by omega)
    simp only [vc]
    refine ⟨by omega, by omega, fun _ => wp_mono (wp_bndIsOut hm hci hn hcol) (fun isout _ => ?_)⟩
    refine ⟨fun _ _ => ⟨by omega, by simp, by simp; omega, forall_mem_snoc hI.2.2 hci⟩, fun _ => ⟨hI.1, by omega, hI.2.2⟩⟩
  · simp only [vc]
    intro buf' h; cases h
    exact ⟨hx.1, by omega, hx.2.2⟩
  · exact wp_pure nofun

/-- a squared coordinate difference on a grid with sides below 2·10⁹ is at most 4·10¹⁸: the sum of two fits `long long` -/
theorem sq_le {x : Int} (h0 : -2000000000 ≤ x) (h1 : x ≤ 2000000000) :
    0 ≤ x * x ∧ x * x ≤ 4000000000000000000 :=
  ⟨mul_self_nonneg x, mul_self_le_mul_self_of_le_of_neg_le h1 (by omega)⟩

/-- the candidate of the search: `knext = -1` (none yet) or a position of `buffer[0..n)`, and then `next` is a cell of the grid -/
def BndOK (nrows ncols : Int) (n : Nat) (next knext : Int) : Prop :=
  (knext = -1 ∨ (0 ≤ knext ∧ knext < n)) ∧ (0 ≤ knext → InGrid nrows ncols next)

theorem wp_bndSearch {e : Ext} {nrows ncols cx cy : Int} {buf : List Int} {k : Int} {s : Int × Int × Int}
    (hb : (buf.length : Int) ≤ e .buffer) (hk : 0 ≤ k ∧ k < buf.length)
    (hbuf : ∀ b ∈ buf, b < 0 ∨ InGrid nrows ncols b)
    (hcx : 0 ≤ cx ∧ cx < ncols) (hcy : 0 ≤ cy ∧ cy < nrows)
    (hr : nrows ≤ 2000000000) (hc : 0 ≤ ncols ∧ ncols ≤ 2000000000)
    (hs : BndOK nrows ncols buf.length s.1 s.2.1) :
    wp (bndSearch e ncols cx cy buf k s)
      (Sum.elim (fun s' => BndOK nrows ncols buf.length s'.1 s'.2.1)
        (fun s' => BndOK nrows ncols buf.length s'.1 s'.2.1)) := by
  unfold bndSearch
  have hmem : buf.getD k.toNat (-1) ∈ buf := getD_mem (by omega)
  generalize buf.getD k.toNat (-1) = b at hmem
  refine wp_bind (wp_acc_iff.2 ⟨⟨hk.1, by omega⟩, wp_ite (fun _ => wp_pure hs) (fun hb0 => ?_)⟩)
  have hg : InGrid nrows ncols b := (hbuf b hmem).resolve_left hb0
  refine wp_bind (wp_getnxy_range hg hc.1 (fun bxy hxy => ?_))
  have hdx := sq_le (x := cx - bxy.1) (by omega) (by omega)
  have hdy := sq_le (x := cy - bxy.2) (by omega) (by omega)
  simp only [vc, ← and_assoc]
  refine ⟨⟨by omega, fun _ => ?_⟩, fun _ => ?_⟩
  all_goals
    split
    · exact ⟨Or.inr hk, fun _ => hg⟩
    · exact hs

/-- round `j` of the boundary walk: the current cell is a cell of the grid, `buffer` keeps its `n` entries, each a cell of the
grid or `-1` (taken), the last candidate is `BndOK`, and `ibnd` counts the rounds -/
def BndInv (nrows ncols : Int) (n : Nat) (j : Int) (s : Bnd2) : Prop :=
  InGrid nrows ncols s.idxcell ∧ s.buf.length = n ∧ (∀ b ∈ s.buf, b < 0 ∨ InGrid nrows ncols b) ∧
  BndOK nrows ncols n s.next s.knext ∧ s.ibnd = j

theorem wp_bndWalk {e : Ext} {nrows ncols dmax2 sx sy : Int} {n : Nat} {j : Int} {s : Bnd2}
    (hb : (n : Int) ≤ e .buffer) (hbd : (n : Int) ≤ e .idxboundary) (hj : 0 ≤ j ∧ j < n)
    (hr : nrows ≤ 2000000000) (hc : 0 ≤ ncols ∧ ncols ≤ 2000000000)
    (hsx : 0 ≤ sx ∧ sx < ncols) (hsy : 0 ≤ sy ∧ sy < nrows)
    (hI : BndInv nrows ncols n j s) :
    wp (bndWalk e ncols dmax2 sx sy j s)
      (Sum.elim (BndInv nrows ncols n (j + 1)) (fun s' => 0 ≤ s'.ibnd ∧ s'.ibnd < n)) := by
  obtain ⟨hcell, hlen, hbuf, hok, hib⟩ := hI
  subst hlen
  unfold bndWalk
  refine wp_bind (wp_getnxy_range hcell hc.1 (fun cxy hxy => ?_))
  refine wp_bind (wp_acc_iff.2 ⟨⟨hj.1, by omega⟩, ?_⟩)
  refine wp_bind (wp_loop (fun _ (t : Int × Int × Int) => BndOK nrows ncols s.buf.length t.1 t.2.1)
    (fun (t : Int × Int × Int) => BndOK nrows ncols s.buf.length t.1 t.2.1) _ _ _ hok
    (fun k t hk0 hk1 ht => wp_bndSearch hb ⟨hk0, by omega⟩ hbuf ⟨hxy.1, hxy.2.1⟩ hxy.2.2 hr hc ht)
    (fun r hr' => ?_))
  have hdx := sq_le (x := cxy.1 - sx) (by omega) (by omega)
  have hdy := sq_le (x := cxy.2 - sy) (by omega) (by omega)
  cases r with
  | inl t | inr t =>
    obtain ⟨hk1, hk2⟩ : BndOK nrows ncols s.buf.length t.1 t.2.1 := hr'
    refine wp_bind (wp_i64_iff.2 ⟨by omega, wp_bind (wp_i64_iff.2 ⟨by omega, ?_⟩)⟩)
    -- the stopping test is evaluated once; what follows does not depend on how
    refine wp_bind (wp_mono (P := fun _ => True) (wp_ite (fun _ => ?_) (fun _ => wp_pure trivial)) (fun stop _ => ?_))
    · simp only [vc]
      omega
    simp only [vc]
    refine ⟨fun _ => hj, fun _ => ⟨fun _ => hj, fun hk => ?_⟩⟩
    have hk0 : 0 ≤ t.2.1 := by simpa using hk
    exact ⟨⟨hk0, by omega⟩, hk2 hk0, by simp, forall_mem_set hbuf (Or.inl (by omega)), ⟨hk1, hk2⟩, rfl⟩

/-! `c_delineate_area` -/

theorem upList_inGrid (nrows ncols : Int) (code fdir : Nat → Int) (c : Int) :
    ∀ x ∈ upList nrows ncols code fdir c, InGrid nrows ncols x := by
  intro x hx
  unfold upList at hx
  obtain ⟨j, _, hj⟩ := List.mem_filterMap.1 hx
  simp only [] at hj
  split at hj
  · cases hj
  · split at hj
    · cases hj
    · split at hj
      · cases hj
        rename_i hne _ _
        exact (neighbour_inGrid nrows ncols c j).resolve_left hne
      · cases hj

theorem wp_isInlet {e : Ext} {ninlets : Int} {inlets : Nat → Int} {idx : Int} (h : ninlets ≤ e .idxinlets) :
    wp (isInlet e ninlets inlets idx) (fun _ => True) := by
  unfold isInlet
  simp only [vc]
  refine wp_forLoop_safe (fun m _ hm0 hm1 => ?_) (fun _ => wp_pure trivial) (fun _ => wp_pure trivial)
  simp only [vc]
  omega

/-- inside a layer: `buffer2` holds the cells stored since the layer started at `i = i0`, all cells of the grid, and
neither `i` nor `buffer2` has reached `nval - 1` (the kernel returns before) -/
def DAInv (nrows ncols nval i0 : Int) (s : DA) : Prop :=
  0 ≤ s.i ∧ s.i ≤ nval - 1 ∧ (s.buf2.length : Int) ≤ nval - 1 ∧ (∀ b ∈ s.buf2, InGrid nrows ncols b) ∧
  s.i = i0 + s.buf2.length

theorem wp_daStore {e : Ext} {nrows ncols nval i0 idx : Int} {s : DA}
    (ha : nval ≤ e .idxcellsArea) (hb : nval ≤ e .buffer2) (hg : InGrid nrows ncols idx)
    (hI : DAInv nrows ncols nval i0 s) :
    wp (daStore e nval idx s) (Sum.elim (DAInv nrows ncols nval i0) (fun _ => True)) := by
  obtain ⟨h0, h1, h2, h3, h4⟩ := hI
  unfold daStore
  simp only [vc]
  refine fun _ => ⟨by omega, by omega, fun _ => ?_⟩
  exact ⟨by simp; omega, by simp; omega, by simp; omega, forall_mem_snoc h3 hg, by simp; omega⟩

theorem wp_daCell {e : Ext} {nrows ncols nval ninlets i0 : Int} {code fdir inlets : Nat → Int}
    {idxcell : Int} {s : DA}
    (hG : GridOK e nrows ncols) (hin : ninlets ≤ e .idxinlets)
    (ha : nval ≤ e .idxcellsArea) (hb : nval ≤ e .buffer2)
    (hI : DAInv nrows ncols nval i0 s) :
    wp (daCell e nrows ncols nval ninlets code fdir inlets idxcell s)
      (Sum.elim (DAInv nrows ncols nval i0) (fun _ => True)) := by
  unfold daCell
  simp only [vc, constExt_apply]
  refine wp_mono (wp_upstream1 hG (le_refl 0) (by simp)) (fun _ _ => ⟨fun k _ _ => by omega, ?_⟩)
  refine wp_loop (fun _ s => DAInv nrows ncols nval i0 s) (fun _ => True) _ _ _ hI
    (fun k s' hk0 hk1 hs' => ?_) (fun x hx => by cases x <;> exact hx)
  have hg := upList_inGrid nrows ncols code fdir idxcell _ (getD_mem (k := k.toNat) (d := -1) (by omega))
  simp only [vc]
  exact wp_mono (wp_isInlet hin) (fun isin _ => ⟨fun _ => hs', fun _ => wp_daStore ha hb hg hs'⟩)

/-- before layer `t`: `buffer2` is a non-empty list of cells of the grid, and `t ≤ i`: every layer that does not return
stores at least one cell. With `i ≤ nval - 1` this is why `nval + 1` layers (the fuel of `delineateArea`) are never used up. -/
def LInv (nrows ncols nval : Int) (t : Int) (s : DA) : Prop :=
  t ≤ s.i ∧ s.i ≤ nval - 1 ∧ 1 ≤ s.buf2.length ∧ (s.buf2.length : Int) ≤ nval ∧
  (∀ b ∈ s.buf2, InGrid nrows ncols b)

theorem wp_daLayer {e : Ext} {nrows ncols nval ninlets idxoutlet : Int} {code fdir inlets : Nat → Int}
    {t : Int} {s : DA}
    (hG : GridOK e nrows ncols) (hin : ninlets ≤ e .idxinlets)
    (ha : nval ≤ e .idxcellsArea) (hb1 : nval ≤ e .buffer1) (hb2 : nval ≤ e .buffer2)
    (ht : 0 ≤ t) (hI : LInv nrows ncols nval t s) :
    wp (daLayer e nrows ncols nval ninlets idxoutlet code fdir inlets t s)
      (Sum.elim (LInv nrows ncols nval (t + 1)) (fun _ => True)) := by
  obtain ⟨h0, h1, h2, h3, h4⟩ := hI
  unfold daLayer
  simp only [vc]
  refine ⟨fun l _ _ => by omega, wp_loop (fun _ s' => DAInv nrows ncols nval s.i s') (fun _ => True) _ _ _
    ⟨by simp; omega, by simp; omega, by simp; omega, by simp, by simp⟩
    (fun l s' hl0 hl1 hs' => ?_) (fun r hr' => ?_)⟩
  · simp only [vc]
    exact ⟨⟨hl0, by omega⟩, wp_daCell hG hin ha hb2 hs'⟩
  cases r with
  | inr c => exact wp_pure trivial
  | inl s' =>
    obtain ⟨g0, g1, g2, g3, g4⟩ : DAInv nrows ncols nval s.i s' := hr'
    simp only [vc]
    intro hne
    -- the layer did not return: it stored `|buf2'| ≥ 1` cells, `s'.i = s.i + |buf2'| ≥ t + 1`
    have hpos : 1 ≤ s'.buf2.length := by omega
    exact ⟨fun ht0 hni => ⟨⟨g0, by omega⟩, by simp; omega, by simp; omega, hpos, by simp; omega, g3⟩,
      fun _ => ⟨by omega, g1, hpos, by omega, g3⟩⟩

/-! kernels proved here, the property theorems of `Props/C05.lean` being instances: three with the five grid hypotheses
as `GridOK` (`…_safe_of_grid`: what the wrappers use), two whose statement says more (`excludeZeroArea_safe_iff`: the exact
footprint; `delineateBoundary_safe_of_ends`: the least and greatest cell instead of a sorted list) -/

/-- the footprint of `c_exclude_zero_area_boundary` is exact: the kernel runs without fault exactly when it refuses
the input or the two buffers hold `nval` points -/
theorem excludeZeroArea_safe_iff (e : Ext) (nval : Int) :
    Safe (excludeZeroArea e nval) ↔ nval ≤ 2 ∨ (2 * nval ≤ e .xycoords ∧ nval ≤ e .idxok) := by
  rw [safe_iff_wp]
  unfold excludeZeroArea
  simp only [vc]
  constructor
  · intro h
    by_cases hn : nval ≤ 2
    · exact Or.inl hn
    · obtain ⟨_, b, c⟩ := h hn
      -- the last round touches the last point
      have := c (nval - 2) (by omega) (by omega)
      omega
  · rintro (h | ⟨h1, h2⟩) hn
    · omega
    · exact ⟨by omega, by omega, fun j _ _ => by omega⟩

/-- `c_delineate_river`: the walk along `downCell` from a cell of the grid stays in the grid -/
theorem delineateRiver_safe_of_grid {e : Ext} {nrows ncols nval idxupstream : Int} {code fdir : Nat → Int}
    (hG : GridOK e nrows ncols) (h1 : 1 ≤ e .npoints) (h2 : nval ≤ e .idxcells) (h3 : 5 * nval ≤ e .rivdata) :
    Safe (delineateRiver e nrows ncols nval idxupstream code fdir) := by
  apply safe_iff_wp.2
  unfold delineateRiver
  have h0 : 0 ≤ nrows * ncols := Int.mul_nonneg hG.1 hG.2.1
  have hN := hG.2.2.1
  simp only [vc]
  refine ⟨by omega, fun hv => ⟨by omega, ?_⟩⟩
  refine wp_loopZ (fun _ cur => InGrid nrows ncols cur) (fun _ => True) ⟨by omega, by omega⟩
    (fun i cur hi0 hi1 hcur => ?_) (fun _ _ => ?_) (fun _ _ => ?_)
  · have hnz := ncols_ne_zero_of_inGrid hcur
    simp only [vc]
    refine ⟨by omega, by omega, wp_downstreamLocal hG (fun d hd =>
      ⟨fun j hj0 hj1 => by omega, hnz, by omega, by omega, hnz, ?_⟩)⟩
    cases d with
    | none => simp only [vc]
    | some dn =>
      simp only [vc]
      exact ⟨hnz, fun hdn => hd dn rfl (by omega)⟩
  · simp only [vc]
  · simp only [vc]

theorem flowpathlengths_safe_of_grid {e : Ext} {nrows ncols nval outlet : Int} {code fdir cells : Nat → Int}
    (hG : GridOK e nrows ncols) (h1 : nval ≤ e .idxcellsArea) (h2 : 3 * nval ≤ e .flowpaths) :
    Safe (flowpathlengths e nrows ncols nval outlet code fdir cells) := by
  apply safe_iff_wp.2
  unfold flowpathlengths
  simp only [vc]
  intro i hi0 hi1
  refine ⟨by omega, ?_⟩
  -- `idxcell_down` is `-1`, `-2` or a cell of the grid
  refine wp_loop (fun _ (s : Int × Int × Int) => 0 ≤ s.2.1 → InGrid nrows ncols s.2.1)
    (fun (s : Int × Int × Int) => 0 ≤ s.2.1 → InGrid nrows ncols s.2.1) _ _ _ (by intro h; simp at h)
    (fun j s _ _ hs => ?_) (fun x hx => ?_)
  · unfold flowpathWalk
    refine wp_bind (wp_downstreamLocal hG (fun d hd => ?_))
    cases d with
    | none => exact wp_pure hs
    | some dn =>
      have hg := hd dn rfl
      simp only [vc]
      exact ⟨fun _ => hg, fun hpos => ⟨fun _ => hg, fun _ => ⟨ncols_ne_zero_of_inGrid (hg (by omega)), hg⟩⟩⟩
  · cases x with
    | inl s | inr s =>
      have hs : 0 ≤ s.2.1 → InGrid nrows ncols s.2.1 := hx
      simp only [vc]
      exact ⟨fun h => ncols_ne_zero_of_inGrid (hs h.2), by omega, fun k _ _ => by omega⟩

/-- `c_delineate_area`: for any flow directions (cycles included), any outlet, inlets and buffer size `nval` —
the three work buffers of `nval` cells are never overrun, and the unbounded `while` loop ends within `nval+1`
layers -/
theorem delineateArea_safe_of_grid {e : Ext} {nrows ncols nval ninlets idxoutlet : Int} {code fdir inlets : Nat → Int}
    (hG : GridOK e nrows ncols) (hin : ninlets ≤ e .idxinlets)
    (ha : nval ≤ e .idxcellsArea) (hb1 : nval ≤ e .buffer1) (hb2 : nval ≤ e .buffer2) :
    Safe (delineateArea e nrows ncols nval ninlets idxoutlet code fdir inlets) := by
  apply safe_iff_wp.2
  unfold delineateArea
  have hn0 : 0 ≤ nrows * ncols := Int.mul_nonneg hG.1 hG.2.1
  have hN := hG.2.2.1
  simp only [vc]
  refine fun hv => ⟨by omega, fun ho => wp_forLoop_safe (fun m _ hm0 hm1 => ?_) (fun _ => ?_) (fun _ => by simp only [vc])⟩
  · simp only [vc]
    omega
  · simp only [vc]
    refine ⟨by omega, wp_loop (LInv nrows ncols nval) (fun _ => True) _ _ _
      ⟨by simp, by simp; omega, by simp, by simp; omega, ?_⟩
      (fun t s ht0 _ hs => wp_daLayer hG hin ha hb1 hb2 ht0 hs) (fun w hw => ?_)⟩
    · intro b hb
      simp at hb
      subst hb
      exact ⟨by omega, by omega⟩
    · cases w with
      | inr c => exact wp_pure trivial
      | inl s =>
        -- after `nval + 1` layers `i` would exceed `nval - 1`: the fuel is never used up
        have : 0 + ((nval.toNat + 1 : Nat) : Int) ≤ s.i ∧ s.i ≤ nval - 1 ∧ _ := hw
        omega

/-- `c_delineate_boundary` (after the fixes): for any area cells of which the first is the least and the last the
greatest (as after `qsort`), any mask content, any grid with sides below 2·10⁹ — cells outside the grid are refused
before they index the mask, the boundary buffer is written at `knext` only when a cell was found -/
theorem delineateBoundary_safe_of_ends (e : Ext) (nrows ncols nval : Int) (cells mask : Nat → Int)
    (hr : 0 ≤ nrows ∧ nrows ≤ 2000000000) (hc : 0 ≤ ncols ∧ ncols ≤ 2000000000)
    (hends : ∀ i : Nat, (i : Int) < nval → cells 0 ≤ cells i ∧ cells i ≤ cells (nval - 1).toNat)
    (h1 : nval ≤ e .idxcellsArea) (h2 : nval ≤ e .buffer) (h3 : nrows * ncols ≤ e .mask)
    (h4 : nval ≤ e .idxboundary) :
    Safe (delineateBoundary e nrows ncols nval cells mask) := by
  apply safe_iff_wp.2
  unfold delineateBoundary
  have hn0 : 0 ≤ nrows * ncols := Int.mul_nonneg hr.1 hc.1
  have hn1 : nrows * ncols ≤ 2000000000 * 2000000000 := Int.mul_le_mul hr.2 hc.2 hc.1 (by omega)
  simp only [vc, Int.toNat_zero]
  refine fun hv => ⟨by omega, fun i _ _ => by omega, by omega, fun hfirst => ⟨by omega, fun hlast => ?_⟩⟩
  -- every cell lies between the first, which is `≥ 0`, and the last, which is inside the grid
  have hcells : ∀ i : Nat, (i : Int) < nval → 0 ≤ cells i ∧ cells i < nrows * ncols := by
    intro i hi
    have a := hends i hi
    omega
  refine wp_mono (wp_bndStep1 (by omega) h1 h2 h3 hcells (by omega) hc) (fun b1 hb1 => ?_)
  cases b1 with
  | none => exact wp_pure trivial
  | some buf =>
    obtain ⟨hl1, hl2, hmem⟩ := hb1 buf rfl
    have hgs : InGrid nrows ncols (buf.getD 0 (-1)) := hmem _ (getD_mem (by omega))
    refine wp_bind (wp_acc_iff.2 ⟨by omega, ?_⟩)
    refine wp_bind (wp_getnxy_range hgs hc.1 (fun sxy hsxy => ?_))
    have hd := sq_le (x := if nrows > ncols then nrows else ncols) (by split <;> omega) (by split <;> omega)
    simp only [vc]
    refine ⟨by omega, by omega, wp_loop (BndInv nrows ncols buf.length)
      (fun (s : Bnd2) => 0 ≤ s.ibnd ∧ s.ibnd < (buf.length : Int)) _ _ _
      ⟨hgs, by simp, forall_mem_set (fun b hb => Or.inr (hmem b hb)) (Or.inl (by omega)),
        ⟨Or.inl rfl, (by intro h; simp at h)⟩, rfl⟩
      (fun j s hj0 hj1 hI => wp_bndWalk (by omega) (by omega) ⟨hj0, by omega⟩ hr.2 hc ⟨hsxy.1, hsxy.2.1⟩
        hsxy.2.2 hI) (fun x hx => ?_)⟩
    -- the loop leaves `ibnd` in `0 .. buf.length`, clipped to `nval - 1` by the kernel
    have tail : ∀ ib : Int, 0 ≤ ib → ib ≤ buf.length →
        0 ≤ (if ib > nval - 1 then nval - 1 else ib) ∧ (if ib > nval - 1 then nval - 1 else ib) < e .idxboundary :=
      fun ib h0 h1 => ⟨by split <;> omega, by split <;> omega⟩
    cases x with
    | inl s =>
      have hib : s.ibnd = 0 + (buf.length : Int) := hx.2.2.2.2
      simp only [vc]
      exact tail s.ibnd (by omega) (by omega)
    | inr s =>
      simp only [vc]
      exact tail s.ibnd hx.1 (le_of_lt hx.2)

end HydroVerif.C05
