/-
Python dictionaries as association lists: `d[k] = v` overwrites in place or appends (`upsert`), `d[k]` is `List.lookup`.
The groups that model a dictionary (csv header and directories, grid attributes and file systems, option managers) define
this assignment each for its own key type. `C09.dictSet`, `C09.dirSet` and `C13.dictSet` are `upsert` by `rfl`; `C19.dictSet`
writes the key it found, `(e.1, v)`, where `upsert` writes the key given, `(k, v)`: equal because the test is `e.1 == k`
(`C19.dictSet_eq`, a proof). The cell/weight list of `c_intersect` (C16) is read with `List.lookup` as well and takes
`lookup_cons_if` and `lookup_of_mem_nodup` from here.
-/
import Mathlib.Data.List.Basic
import Mathlib.Data.List.Nodup

namespace HydroVerif.Assoc

variable {α β : Type} [BEq α]

/-- `d[k] = v` -/
def upsert (d : List (α × β)) (k : α) (v : β) : List (α × β) :=
  if d.any (·.1 == k) then d.map (fun e => if e.1 == k then (k, v) else e) else d ++ [(k, v)]

theorem lookup_cons_if (k a : α) (b : β) (es : List (α × β)) :
    List.lookup k ((a, b) :: es) = if k == a then some b else List.lookup k es := by
  rw [List.lookup_cons]; cases k == a <;> rfl

variable [LawfulBEq α]

theorem any_fst_beq (d : List (α × β)) (k : α) : d.any (·.1 == k) = (d.lookup k).isSome := by
  induction d with
  | nil => rfl
  | cons e d ih => rw [List.any_cons, ih, lookup_cons_if, BEq.comm]; cases k == e.1 <;> rfl

theorem any_fst_iff (d : List (α × β)) (k : α) : d.any (·.1 == k) = true ↔ k ∈ d.map (·.1) := by
  rw [List.any_eq_true, List.mem_map]
  exact exists_congr fun e => and_congr_right fun _ => beq_iff_eq

theorem lookup_map_set (d : List (α × β)) (k k' : α) (v : β) :
    (d.map fun e => if e.1 == k then (k, v) else e).lookup k'
      = if k' == k then (d.lookup k).map fun _ => v else d.lookup k' := by
  induction d with
  | nil => simp
  | cons e d ih =>
    obtain ⟨a, b⟩ := e
    by_cases hak : a = k
    · subst hak; by_cases hk' : k' = a <;> simp [hk', lookup_cons_if, ih]
    · have hka : ¬ k = a := fun h => hak h.symm
      by_cases hk' : k' = k
      · subst hk'; simp [hak, hka, lookup_cons_if, ih]
      · simp [hak, hk', lookup_cons_if, ih]

/-- what was assigned last is what is read -/
theorem lookup_upsert (d : List (α × β)) (k k' : α) (v : β) :
    (upsert d k v).lookup k' = if k' == k then some v else d.lookup k' := by
  rw [upsert, any_fst_beq]
  cases h : d.lookup k with
  | none => by_cases hk : k' = k <;> simp [List.lookup_append, lookup_cons_if, h, hk]
  | some b => by_cases hk : k' = k <;> simp [lookup_map_set, h, hk]

/-- the keys stay where they are; a new key goes to the end -/
theorem upsert_keys (d : List (α × β)) (k : α) (v : β) :
    (upsert d k v).map (·.1) = if d.any (·.1 == k) then d.map (·.1) else d.map (·.1) ++ [k] := by
  unfold upsert
  split
  · rw [List.map_map]
    exact List.map_congr_left fun e _ => by
      rw [Function.comp_apply]; split <;> rename_i h <;> [exact (beq_iff_eq.mp h).symm; rfl]
  · rw [List.map_append]; rfl

theorem upsert_nodup (d : List (α × β)) (k : α) (v : β) (h : (d.map (·.1)).Nodup) :
    ((upsert d k v).map (·.1)).Nodup := by
  rw [upsert_keys]
  split <;> rename_i hk
  · exact h
  · exact List.nodup_append_comm.mp (List.nodup_cons.mpr ⟨mt (any_fst_iff d k).mpr hk, h⟩)

theorem upsert_fresh (d : List (α × β)) (k : α) (v : β) (h : k ∉ d.map (·.1)) : upsert d k v = d ++ [(k, v)] :=
  if_neg (mt (any_fst_iff d k).mp h)

/-- assigning pairwise different new keys one after the other appends the pairs -/
theorem foldl_upsert_fresh (kvs d : List (α × β)) (h : (d.map (·.1) ++ kvs.map (·.1)).Nodup) :
    kvs.foldl (fun acc kv => upsert acc kv.1 kv.2) d = d ++ kvs := by
  induction kvs generalizing d with
  | nil => simp
  | cons kv kvs ih =>
    have hk : kv.1 ∉ d.map (·.1) := fun hmem => List.disjoint_of_nodup_append h hmem List.mem_cons_self
    rw [List.foldl_cons, upsert_fresh d _ _ hk, ih, List.append_assoc, List.singleton_append]
    simpa [List.append_assoc] using h

omit [LawfulBEq α] in
/-- a property of every entry survives an assignment that has it -/
theorem forall_mem_upsert {P : α × β → Prop} {d : List (α × β)} {k : α} {v : β} (hd : ∀ e ∈ d, P e) (hv : P (k, v)) :
    ∀ e ∈ upsert d k v, P e := by
  unfold upsert
  split
  · intro e he
    obtain ⟨e0, h0, rfl⟩ := List.mem_map.mp he
    split
    exacts [hv, hd e0 h0]
  · intro e he
    rcases List.mem_append.mp he with h | h
    exacts [hd e h, List.mem_singleton.mp h ▸ hv]

theorem lookup_of_mem_nodup (l : List (α × β)) (k : α) (v : β) (hm : (k, v) ∈ l) (hn : (l.map (·.1)).Nodup) :
    l.lookup k = some v := by
  induction l with
  | nil => cases hm
  | cons e es ih =>
    obtain ⟨a, b⟩ := e
    rw [List.map_cons, List.nodup_cons] at hn
    rw [lookup_cons_if]
    rcases List.mem_cons.mp hm with h | h
    · cases h; rw [if_pos (beq_self_eq_true k)]
    · have hne : k ≠ a := fun e => hn.1 (e ▸ List.mem_map_of_mem (f := (·.1)) h)
      rw [if_neg (by simpa using hne), ih h hn.2]

end HydroVerif.Assoc
