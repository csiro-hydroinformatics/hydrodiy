/-
C08 — helper lemmas for the calendar-day level of monthly2daily: consecutive days (`nextDay`, `daysFrom`) against the
month-by-month enumeration (`monthDays`, `monthAt`), the month a day belongs to (`monthIndex`), and the two branches of
`m2dSeries` as the stamped per-month lists of `m2d` (`stampMonths`).
The statements `Props/C08.lean` is read off: `daysFrom_months` (the days from the 1st of the starting month are, month
after month, the days of the months of the series, then whatever is left), `m2dFlatSeries_eq`, `m2dCubicSeries_eq` (each
branch of the returned Series is `stampMonths` of the per-month lists), `map_fst_stampMonths`, `mem_stampMonths`,
`filter_stampMonths` (stamps, members and the entries of one month of a stamped list).
-/
import HydroVerif.Lemmas.C08

namespace HydroVerif.C08

/-- the 1st of the month after month `m` of year `y`: where `nextDay` lands from the last day of a month -/
def firstOfNext (y : Int) (m : Nat) : Date :=
  if m < 12 then { y := y, m := m + 1, d := 1 } else { y := y + 1, m := 1, d := 1 }

theorem daysFrom_append (t : Date) (a b : Nat) :
    daysFrom t (a + b) = daysFrom t a ++ daysFrom ((nextDay^[a]) t) b := by
  induction a generalizing t with
  | zero => simp [daysFrom]
  | succ a ih =>
    rw [show a + 1 + b = (a + b) + 1 by omega]
    simp only [daysFrom, Function.iterate_succ, Function.comp_apply]
    rw [ih]
    rfl

theorem daysFrom_length (t : Date) (n : Nat) : (daysFrom t n).length = n := by
  induction n generalizing t with
  | zero => rfl
  | succ n ih => simp [daysFrom, ih]

theorem daysFrom_in_month (y : Int) (m : Nat) (r : Nat) :
    ∀ (k d : Nat), d + k = daysInMonth y m →
      daysFrom { y := y, m := m, d := d } (k + 1 + r) =
        (List.range' d (k + 1)).map (fun e => ({ y := y, m := m, d := e } : Date)) ++ daysFrom (firstOfNext y m) r
  | 0, d, h => by
    have hn : nextDay { y := y, m := m, d := d } = firstOfNext y m := by
      simp only [nextDay, firstOfNext]
      rw [if_neg (by omega)]
    rw [show 0 + 1 + r = r + 1 by omega]
    simp [daysFrom, hn, List.range']
  | k + 1, d, h => by
    have hn : nextDay { y := y, m := m, d := d } = { y := y, m := m, d := d + 1 } := by
      simp only [nextDay]
      rw [if_pos (by omega)]
    have ih := daysFrom_in_month y m r k (d + 1) (by omega)
    rw [show k + 1 + 1 + r = (k + 1 + r) + 1 by omega]
    simp only [daysFrom, hn]
    rw [ih]
    simp [List.range']

theorem monthDays_eq (y : Int) (m : Nat) :
    monthDays y m = (List.range' 1 (daysInMonth y m)).map (fun e => ({ y := y, m := m, d := e } : Date)) := by
  unfold monthDays
  rw [List.range'_eq_map_range, List.map_map]
  apply List.map_congr_left
  intro d _
  simp [Nat.add_comm]

theorem daysFrom_month (y : Int) (m : Nat) (h1 : 1 ≤ m) (h12 : m ≤ 12) (r : Nat) :
    daysFrom { y := y, m := m, d := 1 } (daysInMonth y m + r) = monthDays y m ++ daysFrom (firstOfNext y m) r := by
  have hr := daysInMonth_range y m h1 h12
  obtain ⟨k, hk⟩ : ∃ k, daysInMonth y m = k + 1 := ⟨daysInMonth y m - 1, by omega⟩
  have := daysFrom_in_month y m r k 1 (by omega)
  rw [monthDays_eq, hk, this]

theorem firstOfNext_monthAt (y0 : Int) (m0 j : Nat) :
    firstOfNext (monthAt y0 m0 j).1 (monthAt y0 m0 j).2 =
      { y := (monthAt y0 m0 (j + 1)).1, m := (monthAt y0 m0 (j + 1)).2, d := 1 } := by
  have hv := (monthAt_month_valid y0 m0 j).2
  rw [monthAt_next, firstOfNext]
  by_cases h : (monthAt y0 m0 j).2 = 12
  · rw [if_neg (by omega), if_pos h]
  · rw [if_pos (by omega), if_neg h]

theorem monthLengths_succ (y0 : Int) (m0 k : Nat) :
    monthLengths y0 m0 (k + 1) = monthLengths y0 m0 k ++ [ndaysAt y0 m0 k] := by
  simp [monthLengths, List.range_succ]

theorem daysFrom_months (y0 : Int) (m0 : Nat) (h1 : 1 ≤ m0) (h12 : m0 ≤ 12) :
    ∀ (k r : Nat), daysFrom { y := y0, m := m0, d := 1 } ((monthLengths y0 m0 k).sum + r) =
      ((List.range k).flatMap fun j => monthDays (monthAt y0 m0 j).1 (monthAt y0 m0 j).2) ++
        daysFrom { y := (monthAt y0 m0 k).1, m := (monthAt y0 m0 k).2, d := 1 } r
  | 0, r => by
    simp [monthLengths, monthAt_start y0 m0 h1 h12]
  | k + 1, r => by
    have hv := monthAt_month_valid y0 m0 k
    rw [monthLengths_succ, List.sum_append, List.sum_singleton, Nat.add_assoc,
      daysFrom_months y0 m0 h1 h12 k (ndaysAt y0 m0 k + r)]
    unfold ndaysAt
    rw [daysFrom_month _ _ hv.1 hv.2, firstOfNext_monthAt, List.range_succ, List.flatMap_append]
    simp

theorem mem_monthDays {y : Int} {m : Nat} {t : Date} (h : t ∈ monthDays y m) :
    t.y = y ∧ t.m = m ∧ 1 ≤ t.d ∧ t.d ≤ daysInMonth y m := by
  unfold monthDays at h
  obtain ⟨d, hd, rfl⟩ := List.mem_map.mp h
  have := List.mem_range.mp hd
  simp
  omega

theorem monthDays_length (y : Int) (m : Nat) : (monthDays y m).length = daysInMonth y m := by
  simp [monthDays]

theorem monthIndex_monthAt (y0 : Int) (m0 : Nat) (h1 : 1 ≤ m0) (j : Nat) (t : Date)
    (ht : t ∈ monthDays (monthAt y0 m0 j).1 (monthAt y0 m0 j).2) : monthIndex y0 m0 t = (j : Int) := by
  obtain ⟨hy, hm, _, _⟩ := mem_monthDays ht
  simp only [monthIndex, hy, hm, monthAt]
  omega

theorem monthAt_injective (y0 : Int) (m0 i j : Nat) (h : monthAt y0 m0 i = monthAt y0 m0 j) : i = j := by
  simp only [monthAt, Prod.mk.injEq] at h
  omega

theorem zip_replicate_right {β γ : Type} (xs : List β) (c : γ) :
    xs.zip (List.replicate xs.length c) = xs.map fun x => (x, c) := by
  rw [← List.map_const', ← List.map_prod_left_eq_zip]

theorem zip_flatMap_range {β γ : Type} (f : Nat → List β) (g : Nat → List γ) :
    ∀ (k : Nat), (∀ j < k, (f j).length = (g j).length) →
      ((List.range k).flatMap f).zip ((List.range k).flatMap g) = (List.range k).flatMap fun j => (f j).zip (g j)
  | 0, _ => by simp
  | k + 1, h => by
    have ih := zip_flatMap_range f g k (fun j hj => h j (by omega))
    have hl : ((List.range k).flatMap f).length = ((List.range k).flatMap g).length := by
      simp only [List.length_flatMap]
      exact congrArg List.sum (List.map_congr_left fun j hj => h j (by have := List.mem_range.mp hj; omega))
    simp only [List.range_succ, List.flatMap_append, List.flatMap_cons, List.flatMap_nil, List.append_nil]
    rw [List.zip_append hl, ih]

theorem flatten_eq_flatMap_range {β : Type} (L : List (List β)) :
    L.flatten = (List.range L.length).flatMap fun j => L.getD j [] := by
  -- `L` is the list of its entries `L.getD j []`, `j < L.length`
  rw [List.flatMap_def]
  exact congrArg _ (List.ext_getElem (by simp) fun i h _ => by simp [List.getElem?_eq_getElem h])

theorem filter_flatMap_block {β : Type} (B : Nat → List β) (tag : β → Int) (k j : Nat) (hj : j < k)
    (htag : ∀ i < k, ∀ b ∈ B i, tag b = (i : Int)) :
    ((List.range k).flatMap B).filter (fun b => tag b == (j : Int)) = B j := by
  -- the filter goes block by block; block `i` passes whole when `i = j` and not at all otherwise
  have hb : ∀ i ∈ List.range k, (B i).filter (fun b => tag b == (j : Int)) = if i = j then B i else [] := by
    intro i hi
    have ht := htag i (List.mem_range.mp hi)
    split
    · next h => exact List.filter_eq_self.mpr fun b hb => by rw [ht b hb, h]; exact beq_self_eq_true _
    · next h => exact List.filter_eq_nil_iff.mpr fun b hb => by rw [ht b hb]; simpa using h
  rw [List.filter_flatMap, List.flatMap_congr hb]
  clear hb htag
  induction k with
  | zero => omega
  | succ k ih =>
    rw [List.range_succ, List.flatMap_append, List.flatMap_singleton]
    rcases Nat.lt_succ_iff_lt_or_eq.mp hj with h | rfl
    · rw [ih h, if_neg (by omega), List.append_nil]
    · rw [if_pos rfl, List.flatMap_eq_nil_iff.mpr fun i hi => if_neg (List.mem_range.mp hi).ne, List.nil_append]

theorem map_fst_stampMonths {β : Type} (y0 : Int) (m0 : Nat) (months : List (List β))
    (h : ∀ (j : Nat) (hj : j < months.length), months[j].length = ndaysAt y0 m0 j) :
    (stampMonths y0 m0 months).map Prod.fst =
      (List.range months.length).flatMap fun j => monthDays (monthAt y0 m0 j).1 (monthAt y0 m0 j).2 := by
  rw [stampMonths, List.map_flatMap]
  apply List.flatMap_congr
  intro j hj
  have hj' : j < months.length := List.mem_range.mp hj
  rw [List.getD_eq_getElem?_getD, List.getElem?_eq_getElem hj', Option.getD_some]
  exact List.map_fst_zip (by rw [monthDays_length, h j hj', ndaysAt])

theorem mem_stampMonths {β : Type} {y0 : Int} {m0 : Nat} {months : List (List β)} {p : Date × β}
    (hp : p ∈ stampMonths y0 m0 months) : ∃ (j : Nat) (hj : j < months.length), p.2 ∈ months[j] := by
  rw [stampMonths] at hp
  obtain ⟨j, hj, hpj⟩ := List.mem_flatMap.mp hp
  have hj' : j < months.length := List.mem_range.mp hj
  rw [List.getD_eq_getElem?_getD, List.getElem?_eq_getElem hj', Option.getD_some] at hpj
  exact ⟨j, hj', (List.of_mem_zip hpj).2⟩

theorem filter_stampMonths {β : Type} (y0 : Int) (m0 : Nat) (h1 : 1 ≤ m0) (months : List (List β))
    (j : Nat) (hj : j < months.length) :
    (stampMonths y0 m0 months).filter (fun p => monthIndex y0 m0 p.1 == (j : Int)) =
      (monthDays (monthAt y0 m0 j).1 (monthAt y0 m0 j).2).zip months[j] := by
  rw [stampMonths, filter_flatMap_block
    (fun i => (monthDays (monthAt y0 m0 i).1 (monthAt y0 m0 i).2).zip (months.getD i []))
    (fun p => monthIndex y0 m0 p.1) months.length j hj
    (fun i _ b hb => monthIndex_monthAt y0 m0 h1 i b.1 (List.of_mem_zip hb).1),
    List.getD_eq_getElem?_getD, List.getElem?_eq_getElem hj, Option.getD_some]

theorem stampMonths_map {β γ : Type} (f : β → γ) (y0 : Int) (m0 : Nat) (months : List (List β)) :
    stampMonths y0 m0 (months.map (List.map f)) = (stampMonths y0 m0 months).map fun p => (p.1, f p.2) := by
  simp only [stampMonths, List.length_map, List.map_flatMap]
  apply List.flatMap_congr
  intro j hj
  have hj' : j < months.length := List.mem_range.mp hj
  simp [List.getD_eq_getElem?_getD, List.getElem?_eq_getElem hj', List.zip_map_right]

section flatser
variable {α : Type} [Sub α] [Div α] [LT α] [DecidableLT α] [OfNat α 1] [NatCast α]

theorem flatMonth_eq_replicate (minthr : α) (v : Option α) (n : Nat) :
    flatMonth minthr v n = List.replicate n
      (if fillMissing minthr v / (n : α) < minthr then none else some (fillMissing minthr v / (n : α))) := by
  cases v <;> rfl

/-- Idea: `daysFrom_months … vs.length 1` enumerates the days of the months of the series plus ONE day of the fictive month
appended after the last one, which `dropLast` removes; on a day of month `j` `monthIndex_monthAt` makes the forward fill
read the `j`-th monthly value, and `daysInMonth` of that day's own stamp is `ndaysAt … j`, so each month is the
`flatMonth` of its value (`flatMonth_eq_replicate`) zipped with its days -/
theorem m2dFlatSeries_eq (y0 : Int) (m0 : Nat) (minthr : α) (vs : List (Option α)) :
    m2dFlatSeries y0 m0 minthr vs =
      match m2dFlat y0 m0 minthr vs with
      | .ok months => .ok (stampMonths y0 m0 months)
      | .error e => .error e := by
  unfold m2dFlatSeries m2dFlat
  by_cases hm : m0 < 1 ∨ 12 < m0
  · rw [if_pos hm, if_pos hm]
  by_cases hv : vs = []
  · rw [if_neg hm, if_pos hv, if_neg hm, if_pos hv]
  rw [if_neg hm, if_neg hv, if_neg hm, if_neg hv]
  have h1 : 1 ≤ m0 := by omega
  have h12 : m0 ≤ 12 := by omega
  simp only [List.length_map]
  congr 1
  rw [daysFrom_months y0 m0 h1 h12 vs.length 1]
  simp only [daysFrom, List.map_append, List.map_cons, List.map_nil, List.dropLast_concat, List.map_flatMap,
    List.map_map]
  unfold stampMonths
  have hlen : (List.zipWith (flatMonth minthr) vs (monthLengths y0 m0 vs.length)).length = vs.length := by
    simp [monthLengths_length]
  rw [hlen]
  apply List.flatMap_congr
  intro j hj
  have hj' : j < vs.length := List.mem_range.mp hj
  have hget : (List.zipWith (flatMonth minthr) vs (monthLengths y0 m0 vs.length)).getD j [] =
      flatMonth minthr vs[j] (ndaysAt y0 m0 j) := by
    rw [List.getD_eq_getElem?_getD, List.getElem?_eq_getElem (by rw [hlen]; exact hj')]
    simp [monthLengths_getElem]
  rw [hget, flatMonth_eq_replicate]
  have hml : (monthDays (monthAt y0 m0 j).1 (monthAt y0 m0 j).2).length = ndaysAt y0 m0 j := by
    simp [monthDays_length, ndaysAt]
  rw [← hml, zip_replicate_right, hml]
  apply List.map_congr_left
  intro t ht
  have hidx := monthIndex_monthAt y0 m0 h1 j t ht
  obtain ⟨hy, hmm, _, _⟩ := mem_monthDays ht
  simp only [Function.comp_apply, hidx, Int.toNat_natCast, List.getElem?_map,
    List.getElem?_eq_getElem hj', Option.map_some, Option.join_some, hy, hmm, Option.bind_some]
  rfl

end flatser

section cubicser
variable {α : Type} [Field α]

theorem sweep_cubicInit_n (ys : List α) (ns : List Nat) (h : ys.length = ns.length) :
    (sweep (cubicInit ys ns)).map (fun m => m.n) = ns := by
  have := congrArg (List.map Prod.snd) ((sweep_yn (cubicInit ys ns)).trans (cubicInit_yn ys ns h))
  simpa [List.map_map, Function.comp_def, List.map_snd_zip (by omega : ns.length ≤ ys.length) ] using this

variable [LinearOrder α] [IsStrictOrderedRing α]

theorem cubicRow_filter (isnan : α → Bool) (hnan : ∀ x, isnan x = false) (m : Month α) (hn : 0 < m.n)
    (h31 : m.n ≤ 31) : (cubicRow isnan m).filterMap id = cubicMonth m := by
  unfold cubicRow cubicMonth
  have hn' : (0 : α) < (m.n : α) := by exact_mod_cast hn
  have hcond : ∀ j : Nat, ((1 : α) < ((j + 1 : Nat) : α) / (m.n : α)) ↔ m.n < j + 1 := by
    intro j
    rw [lt_div_iff₀ hn', one_mul]
    exact_mod_cast Iff.rfl
  rw [List.filterMap_map]
  obtain ⟨r, hr⟩ : ∃ r, 31 = m.n + r := ⟨31 - m.n, by omega⟩
  rw [hr, List.range_add, List.filterMap_append]
  have h2 : ((List.range r).map (m.n + ·)).filterMap
      (id ∘ fun j => if (1 : α) < ((j + 1 : Nat) : α) / (m.n : α) then none
        else if isnan (cum m (j + 1) - cum m j) = true then none else some (cum m (j + 1) - cum m j)) = [] := by
    rw [List.filterMap_eq_nil_iff]
    intro j hj
    obtain ⟨i, _, rfl⟩ := List.mem_map.mp hj
    have : m.n < m.n + i + 1 := by omega
    simp only [Function.comp_apply, id, if_pos ((hcond (m.n + i)).mpr this)]
  rw [h2, List.append_nil]
  rw [← List.filterMap_eq_map]
  apply List.filterMap_congr
  intro j hj
  have hj' := List.mem_range.mp hj
  have : ¬ m.n < j + 1 := by omega
  simp only [Function.comp_apply, id, if_neg ((hcond j).not.mpr this), hnan, Bool.false_eq_true, if_false]

theorem rows_filter (isnan : α → Bool) (hnan : ∀ x, isnan x = false) (ms : List (Month α))
    (h : ∀ m ∈ ms, 0 < m.n ∧ m.n ≤ 31) :
    ((ms.map (cubicRow isnan)).flatten).filterMap id = (ms.map cubicMonth).flatten := by
  rw [List.filterMap_flatten, List.map_map]
  exact congrArg _ (List.map_congr_left fun m hm => cubicRow_filter isnan hnan m (h m hm).1 (h m hm).2)

/-- Idea: `rows_filter` turns the 31-column grid, its columns beyond each month blanked, into the concatenated
`cubicMonth`s; their total length is the number of days of the months (`hlen`), so `daysFrom_months … 0` enumerates
exactly those days, and zipping two concatenations of blocks of equal lengths is zipping block by block
(`zip_flatMap_range`) -/
theorem m2dCubicSeries_eq (isnan : α → Bool) (hnan : ∀ x, isnan x = false) (y0 : Int) (m0 : Nat) (minthr : α)
    (vs : List (Option α)) :
    m2dCubicSeries isnan y0 m0 minthr vs =
      match m2dCubic y0 m0 minthr vs with
      | .ok months => .ok (stampMonths y0 m0 months)
      | .error e => .error e := by
  unfold m2dCubicSeries m2dCubic
  by_cases hm : m0 < 1 ∨ 12 < m0
  · rw [if_pos hm, if_pos hm]
  by_cases hv : vs = []
  · rw [if_neg hm, if_pos hv, if_neg hm, if_pos hv]
  rw [if_neg hm, if_neg hv, if_neg hm, if_neg hv]
  have h1 : 1 ≤ m0 := by omega
  have h12 : m0 ≤ 12 := by omega
  simp only [List.length_map]
  congr 1
  generalize hms : sweep (cubicInit (vs.map (fillMissing minthr)) (monthLengths y0 m0 vs.length)) = ms
  have hns : ms.map (fun m => m.n) = monthLengths y0 m0 vs.length := by
    rw [← hms]
    exact sweep_cubicInit_n _ _ (by simp [monthLengths_length])
  have hk : ms.length = vs.length := by
    have := congrArg List.length hns
    simpa [monthLengths_length] using this
  have hnj : ∀ j (hj : j < ms.length), ms[j].n = ndaysAt y0 m0 j := by
    intro j hj
    have := List.getElem_of_eq hns (by rwa [List.length_map])
    rwa [List.getElem_map, monthLengths_getElem] at this
  have hrange : ∀ m ∈ ms, 0 < m.n ∧ m.n ≤ 31 := by
    intro m hmem
    obtain ⟨j, hj, rfl⟩ := List.getElem_of_mem hmem
    have := ndaysAt_bounds y0 m0 j
    rw [hnj j hj]
    omega
  rw [rows_filter isnan hnan ms hrange]
  have hlen : ((ms.map cubicMonth).flatten).length = (monthLengths y0 m0 vs.length).sum + 0 := by
    rw [← hns, List.length_flatten, List.map_map, Nat.add_zero]
    congr 1
    apply List.map_congr_left
    intro m _
    simp [cubicMonth]
  rw [hlen, daysFrom_months y0 m0 h1 h12 vs.length 0]
  simp only [daysFrom, List.append_nil]
  unfold stampMonths
  rw [flatten_eq_flatMap_range (ms.map cubicMonth), List.length_map, hk]
  apply zip_flatMap_range
  intro j hj
  have hj' : j < ms.length := by omega
  rw [List.getD_eq_getElem?_getD, List.getElem?_eq_getElem (by simpa using hj')]
  simp [monthDays_length, cubicMonth, hnj j hj', ndaysAt]

end cubicser

end HydroVerif.C08
