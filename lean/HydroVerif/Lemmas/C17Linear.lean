/-
C17 — the two kernels are linear maps of (innovations / inputs, mean, lag buffer): the series loops under a
scaling and under a common shift of mean and series (with the guards and the wrappers' defaults: `validate_*`,
`resolve*_scale`), the dot product and the buffer shift under addition.  Exact arithmetic (any commutative ring).
-/
import HydroVerif.Lemmas.C17

namespace HydroVerif.C17

open Finset

variable {α : Type} [CommRing α] {p : Nat}

@[simp] theorem zeroNaN_scaleOpt (c : α) (e : Option α) : zeroNaN (scaleOpt c e) = c * zeroNaN e := by
  cases e <;> simp [scaleOpt, zeroNaN]

theorem dot_scale (ps buf : Vector α p) (c : α) : dot ps (buf.map (c * ·)) = c * dot ps buf := by
  rw [dot_eq_sum_fin, dot_eq_sum_fin, Finset.mul_sum]
  exact sum_congr rfl fun j _ => by rw [Vector.getElem_map, mul_left_comm]

theorem shift_scale (x c : α) (buf : Vector α p) :
    shift (c * x) (buf.map (c * ·)) = (shift x buf).map (c * ·) := by
  unfold shift
  ext j hj
  simp only [Vector.getElem_ofFn, Vector.getElem_map]
  split <;> rfl

theorem cval_scale (ps buf : Vector α p) (m c : α) (x : Option α) :
    cval ps (buf.map (c * ·)) (c * m) (scaleOpt c x) = c * cval ps buf m x := by
  cases x with
  | none => simp [cval, scaleOpt, dot_scale]
  | some x => simp [cval, scaleOpt]; ring

theorem simRun_scale (ps : Vector α p) (m c : α) : ∀ (es : List (Option α)) (buf : Vector α p),
    simRun nf ps (c * m) (buf.map (c * ·)) (es.map (scaleOpt c)) = (simRun nf ps m buf es).map (c * ·) := by
  intro es; induction es with
  | nil => intro buf; rfl
  | cons e es ih =>
    intro buf
    rw [List.map_cons, simRun_cons, simRun_cons, List.map_cons, zeroNaN_scaleOpt, dot_scale]
    have h1 : c * zeroNaN e + c * dot ps buf = c * (zeroNaN e + dot ps buf) := by ring
    rw [h1, shift_scale, ih]
    congr 1
    ring

theorem resRun_scale (ps : Vector α p) (m c : α) : ∀ (xs : List (Option α)) (buf : Vector α p),
    resRun nf ps (c * m) (buf.map (c * ·)) (xs.map (scaleOpt c)) = (resRun nf ps m buf xs).map (c * ·) := by
  intro xs; induction xs with
  | nil => intro buf; rfl
  | cons x xs ih =>
    intro buf
    rw [List.map_cons, resRun_cons, resRun_cons, List.map_cons, cval_scale, dot_scale, shift_scale, ih]
    congr 1
    ring

theorem resolveMean_scale (c : α) (meanArg : Option (Option α)) :
    resolveMean (some 0) (meanArg.map (scaleOpt c)) = scaleOpt c (resolveMean (some 0) meanArg) := by
  cases meanArg with
  | none => exact congrArg some (mul_zero c).symm
  | some m => rfl

theorem resolveIni_scale (c : α) (mean : Option α) (iniArg : Option (Option α)) :
    resolveIni (scaleOpt c mean) (iniArg.map (scaleOpt c)) = scaleOpt c (resolveIni mean iniArg) := by
  cases iniArg <;> rfl

theorem validate_scale (params : List (Option α)) (mean ini : Option α) (c : α) :
    validate params (scaleOpt c mean) (scaleOpt c ini) =
      (validate params mean ini).map fun r => (r.1, c * r.2.1, c * r.2.2) := by
  unfold validate
  split
  · rfl
  · cases allSome params with
    | none => rfl
    | some ps => cases mean <;> cases ini <;> rfl


theorem simRun_shift (ps : Vector α p) (m d : α) : ∀ (es : List (Option α)) (buf : Vector α p),
    simRun nf ps (m + d) buf es = (simRun nf ps m buf es).map (· + d) := by
  intro es; induction es with
  | nil => intro buf; rfl
  | cons e es ih =>
    intro buf
    rw [simRun_cons, simRun_cons, List.map_cons, ih]
    congr 1
    ring

theorem cval_shift (ps buf : Vector α p) (m d : α) (x : Option α) :
    cval ps buf (m + d) (shiftOpt d x) = cval ps buf m x := by
  cases x with
  | none => rfl
  | some x => simp [cval, shiftOpt]

theorem resRun_shift (ps : Vector α p) (m d : α) : ∀ (xs : List (Option α)) (buf : Vector α p),
    resRun nf ps (m + d) buf (xs.map (shiftOpt d)) = resRun nf ps m buf xs := by
  intro xs; induction xs with
  | nil => intro buf; rfl
  | cons x xs ih =>
    intro buf
    rw [List.map_cons, resRun_cons, resRun_cons, cval_shift, ih]

theorem validate_shift (params : List (Option α)) (m i d : α) :
    validate params (some (m + d)) (some (i + d)) =
      (validate params (some m) (some i)).map fun r => (r.1, r.2.1 + d, r.2.2 + d) := by
  unfold validate
  split
  · rfl
  · cases allSome params <;> rfl


theorem dot_add (ps buf buf' : Vector α p) :
    dot ps (Vector.zipWith (· + ·) buf buf') = dot ps buf + dot ps buf' := by
  rw [dot_eq_sum_fin, dot_eq_sum_fin, dot_eq_sum_fin, ← Finset.sum_add_distrib]
  exact sum_congr rfl fun j _ => by rw [Vector.getElem_zipWith, mul_add]

theorem shift_add (x x' : α) (buf buf' : Vector α p) :
    shift (x + x') (Vector.zipWith (· + ·) buf buf') = Vector.zipWith (· + ·) (shift x buf) (shift x' buf') := by
  unfold shift
  ext j hj
  simp only [Vector.getElem_ofFn, Vector.getElem_zipWith]
  split <;> rfl

end HydroVerif.C17
