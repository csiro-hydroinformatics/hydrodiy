/-
The accumulate-or-append loop of `c_intersect` (`keys_bump`, `lookup_bump`: the weight of a cell is an iterate of `+= af`,
`foldl_bump_weight`), the located cell over an exact field (section Floor, on `coord2cell_nonneg_iff`, `coord2cell_iff_inFootprint` of `Lemmas/C07Coord`:
`cellOfPt_cell2coord_*`), min/max folds (`listMin_spec`, `listMin_map_comp_mono`), the scatter into the weight array
(`foldl_assign_mem`), the first-arg-min search (`IsFirstArgmin`, `nearest_spec`) and the count vector of `c_voronoi`
(`cVoronoi_unfold`, `cVoronoi_eq_ok`), `Catchment.intersect` without the guards that never fire (`areaOf`,
`intersect_unfold`, `intersect_eq_ok`), and the executable specification read as the predicates of the theorems
(`inFootprintB_iff`, `specCount_eq`, `specInside_eq`).
-/
import HydroVerif.Model.C16
import HydroVerif.Lemmas.C07Coord
import HydroVerif.Lemmas.Assoc
import HydroVerif.Lemmas.Extrema
import Mathlib.Algebra.Order.Field.Basic
import Mathlib.Algebra.BigOperators.Group.List.Basic
import Mathlib.Tactic.Ring
import Mathlib.Data.List.Perm.Subperm

namespace HydroVerif.C16

open HydroVerif.C07

section Generic
variable {α : Type}

/-- the cell numbers of a cell/weight list, in order -/
def keys (l : List (Int × α)) : List Int := l.map Prod.fst

@[simp] theorem keys_nil : keys ([] : List (Int × α)) = [] := rfl
@[simp] theorem keys_cons (kw : Int × α) (t : List (Int × α)) : keys (kw :: t) = kw.1 :: keys t := rfl

/-- the cell numbers `c_intersect` accepts (`*idxcell >= 0`), one per catchment cell, in order -/
def hits [Sub α] [Mul α] [Div α] [OfNat α 1] [C07.Trunc α] (g : Geom α) (pts : List (Option (α × α))) : List Int :=
  (pts.map (cellOfPt g)).filter fun c => decide (0 ≤ c)

section
variable [Sub α] [Div α] [C07.Trunc α]

theorem cellOfPt_nonneg (g : Geom α) (p : Option (α × α)) (h : 0 ≤ cellOfPt g p) :
    (0 < g.nrows ∧ 0 < g.ncols) ∧ validCell g.nrows g.ncols (cellOfPt g p) = true := by
  cases p with
  | none => exact absurd (show (0 : Int) ≤ -1 from h) (by decide)
  | some xy =>
    obtain ⟨⟨a, b, c, d⟩, e⟩ := cellOfNxNy_nonneg (show 0 ≤ cellOfNxNy _ _ _ _ from h)
    exact ⟨⟨by omega, by omega⟩, (show cellOfPt g (some xy) = _ from e) ▸ validCell_cellOf c d a b⟩

variable [Mul α] [OfNat α 1]

theorem mem_hits {g : Geom α} {pts : List (Option (α × α))} {k : Int} :
    k ∈ hits g pts ↔ 0 ≤ k ∧ ∃ p ∈ pts, cellOfPt g p = k := by
  rw [hits, List.mem_filter, List.mem_map, decide_eq_true_eq, and_comm]

theorem count_hits {g : Geom α} {pts : List (Option (α × α))} {k : Int} (h0 : 0 ≤ k) :
    (hits g pts).count k = (pts.map (cellOfPt g)).count k :=
  List.count_filter (decide_eq_true h0)

theorem length_hits (g : Geom α) (pts : List (Option (α × α))) :
    (hits g pts).length = pts.countP fun p => decide (0 ≤ cellOfPt g p) := by
  rw [hits, ← List.countP_eq_length_filter, List.countP_map]
  rfl

end

variable [Add α]

theorem keys_bump (af : α) (c : Int) (l : List (Int × α)) :
    keys (bump af c l) = if c ∈ keys l then keys l else keys l ++ [c] := by
  induction l with
  | nil => rfl
  | cons kw t ih =>
    obtain ⟨k', w⟩ := kw
    by_cases h : k' = c
    · rw [bump, if_pos h, if_pos (h ▸ List.mem_cons_self)]
      rfl
    · rw [bump, if_neg h, keys_cons, ih, keys_cons]
      by_cases hc : c ∈ keys t
      · rw [if_pos hc, if_pos (List.mem_cons_of_mem _ hc)]
      · rw [if_neg hc, if_neg fun hm => (List.mem_cons.1 hm).elim (fun e => h e.symm) hc]
        rfl

theorem mem_keys_bump (af : α) (c : Int) (l : List (Int × α)) (k : Int) :
    k ∈ keys (bump af c l) ↔ k = c ∨ k ∈ keys l := by
  rw [keys_bump]
  split
  · rename_i hc
    exact ⟨Or.inr, fun h => h.elim (fun e => e ▸ hc) id⟩
  · rw [List.mem_append, List.mem_singleton, or_comm]

theorem nodup_keys_bump (af : α) (c : Int) (l : List (Int × α)) (h : (keys l).Nodup) :
    (keys (bump af c l)).Nodup := by
  rw [keys_bump]
  split
  · exact h
  · rename_i hc
    rw [← List.concat_eq_append]
    exact h.concat hc

theorem length_bump_le (af : α) (c : Int) (l : List (Int × α)) :
    (bump af c l).length ≤ l.length + 1 := by
  have len : ∀ l : List (Int × α), l.length = (keys l).length := fun l => (List.length_map _).symm
  rw [len, len l, keys_bump]
  split
  · exact Nat.le_succ _
  · rw [List.length_append, List.length_singleton]

theorem nodup_keys_foldl_bump (af : α) (cs : List Int) (acc : List (Int × α)) (h : (keys acc).Nodup) :
    (keys (cs.foldl (fun acc c => bump af c acc) acc)).Nodup := by
  induction cs generalizing acc with
  | nil => exact h
  | cons c t ih => exact ih _ (nodup_keys_bump af c acc h)

theorem mem_keys_foldl_bump (af : α) (cs : List Int) (acc : List (Int × α)) (k : Int) :
    k ∈ keys (cs.foldl (fun acc c => bump af c acc) acc) ↔ k ∈ keys acc ∨ k ∈ cs := by
  induction cs generalizing acc with
  | nil => exact ⟨Or.inl, fun h => h.elim id nofun⟩
  | cons c t ih => rw [List.foldl_cons, ih, mem_keys_bump, List.mem_cons, or_comm (a := k = c), or_assoc]

/-- one more meeting of a cell, on its weight read as a partial map: absent becomes `af`, `w` becomes `w + af`. A cell met
`n + 1` times holds `(hit af)^[n + 1] none = some (repAdd af n)` (`iterate_hit_none`, `foldl_bump_weight`) -/
def hit (af : α) : Option α → Option α
  | none => some af
  | some w => some (w + af)

/-- `weights[k]`, read with `List.lookup`, after one more cell `c` -/
theorem lookup_bump (af : α) (c : Int) (l : List (Int × α)) (k : Int) :
    (bump af c l).lookup k = if c = k then hit af (l.lookup k) else l.lookup k := by
  induction l with
  | nil =>
    rw [bump, Assoc.lookup_cons_if, List.lookup_nil]
    by_cases h : k = c
    · rw [if_pos (beq_iff_eq.2 h), if_pos h.symm]; rfl
    · rw [if_neg (mt beq_iff_eq.1 h), if_neg (Ne.symm h)]
  | cons kw t ih =>
    obtain ⟨k', w⟩ := kw
    rw [bump, Assoc.lookup_cons_if]
    by_cases h : k' = c
    · subst h
      rw [if_pos rfl, Assoc.lookup_cons_if]
      by_cases hk : k = k'
      · subst hk
        simp only [beq_self_eq_true, if_true]
        rfl
      · simp only [beq_eq_false_iff_ne.2 hk, Bool.false_eq_true, if_false, if_neg (Ne.symm hk)]
    · rw [if_neg h, Assoc.lookup_cons_if, ih]
      by_cases hk : k = k'
      · subst hk
        simp only [beq_self_eq_true, if_true, if_neg (Ne.symm h)]
      · simp only [beq_eq_false_iff_ne.2 hk, Bool.false_eq_true, if_false]

theorem lookup_foldl_bump (af : α) (cs : List Int) (acc : List (Int × α)) (k : Int) :
    (cs.foldl (fun acc c => bump af c acc) acc).lookup k = (hit af)^[cs.count k] (acc.lookup k) := by
  induction cs generalizing acc with
  | nil => rfl
  | cons c t ih =>
    rw [List.foldl_cons, ih, lookup_bump, List.count_cons]
    by_cases h : c = k
    · rw [if_pos h, if_pos (beq_iff_eq.2 h)]
      rfl
    · rw [if_neg h, if_neg (mt beq_iff_eq.1 h)]
      rfl

theorem iterate_hit_none (af : α) (n : Nat) : (hit af)^[n + 1] none = some (repAdd af n) := by
  induction n with
  | zero => rfl
  | succ n ih => rw [Function.iterate_succ_apply', ih]; rfl

theorem foldl_bump_weight {af : α} {cs : List Int} {k : Int} {w : α}
    (h : (k, w) ∈ cs.foldl (fun acc c => bump af c acc) []) : ∃ n, cs.count k = n + 1 ∧ w = repAdd af n := by
  have hw := Assoc.lookup_of_mem_nodup _ k w h (nodup_keys_foldl_bump af cs [] List.nodup_nil)
  rw [lookup_foldl_bump] at hw
  change (hit af)^[cs.count k] none = some w at hw
  cases hn : cs.count k with
  | zero =>
    rw [hn] at hw
    cases hw
  | succ n =>
    rw [hn, iterate_hit_none] at hw
    exact ⟨n, rfl, (Option.some.inj hw).symm⟩

variable [Sub α] [Mul α] [Div α] [OfNat α 1] [C07.Trunc α]

theorem cIntersect_eq (g : Geom α) (ca : α) (pts : List (Option (α × α))) :
    cIntersect g ca pts = (hits g pts).foldl (fun acc c => bump (areafactor g.csz ca) c acc) [] := by
  rw [hits, List.foldl_filter, List.foldl_map, cIntersect]
  congr 1
  funext acc p
  rw [step]
  by_cases h : cellOfPt g p < 0
  · rw [if_pos h, if_neg (by simpa using h)]
  · rw [if_neg h, if_pos (by simpa using h)]

theorem cIntersect_nodup (g : Geom α) (ca : α) (pts : List (Option (α × α))) :
    (keys (cIntersect g ca pts)).Nodup := by
  rw [cIntersect_eq]
  exact nodup_keys_foldl_bump _ _ [] List.nodup_nil

theorem cIntersect_mem_keys (g : Geom α) (ca : α) (pts : List (Option (α × α))) (k : Int) :
    k ∈ keys (cIntersect g ca pts) ↔ 0 ≤ k ∧ ∃ p ∈ pts, cellOfPt g p = k := by
  rw [cIntersect_eq, mem_keys_foldl_bump, mem_hits, keys_nil]
  exact or_iff_right nofun

theorem cIntersect_valid (g : Geom α) (ca : α) (pts : List (Option (α × α))) (k : Int)
    (hk : k ∈ keys (cIntersect g ca pts)) : (0 < g.nrows ∧ 0 < g.ncols) ∧ validCell g.nrows g.ncols k = true := by
  obtain ⟨h0, p, -, rfl⟩ := (cIntersect_mem_keys g ca pts k).1 hk
  exact cellOfPt_nonneg g p h0

theorem cIntersect_eq_nil_iff (g : Geom α) (ca : α) (pts : List (Option (α × α))) :
    cIntersect g ca pts = [] ↔ ∀ p ∈ pts, cellOfPt g p < 0 := by
  rw [← List.map_eq_nil_iff (f := Prod.fst), List.eq_nil_iff_forall_not_mem]
  constructor
  · intro h p hp
    by_contra hn
    exact h _ ((cIntersect_mem_keys g ca pts _).2 ⟨not_lt.1 hn, p, hp, rfl⟩)
  · intro h k hk
    obtain ⟨h0, p, hp, rfl⟩ := (cIntersect_mem_keys g ca pts k).1 hk
    exact absurd (h p hp) (not_lt.2 h0)

/-- distinct valid cells are at most `nrows*ncols`: the kernel writes no more entries than that -/
theorem cIntersect_length (g : Geom α) (ca : α) (pts : List (Option (α × α))) :
    (cIntersect g ca pts).length ≤ (g.nrows * g.ncols).toNat := by
  rw [← List.length_map (f := Prod.fst)]
  exact length_le_of_nodup_validCell (cIntersect_nodup g ca pts) fun k hk => (cIntersect_valid g ca pts k hk).2

end Generic

section Field
variable {α : Type} [Field α]

theorem repAdd_eq_mul (af : α) (n : Nat) : repAdd af n = ((n : α) + 1) * af := by
  induction n with
  | zero => rw [repAdd, Nat.cast_zero, zero_add, one_mul]
  | succ n ih => rw [repAdd, ih, Nat.cast_succ]; ring

theorem iterate_add_one (n : Nat) (w : α) : (· + 1)^[n] w = w + n := by
  rw [add_right_iterate, nsmul_one]

theorem areafactor_mul_sq {csz : α} (hcsz : csz ≠ 0) (ca : α) : areafactor csz ca * (csz * csz) = ca * ca := by
  rw [areafactor, mul_mul_mul_comm, div_mul_cancel₀ ca hcsz]

theorem sum_map_mul_right {ι : Type} (l : List ι) (f : ι → α) (c : α) :
    (l.map fun i => f i * c).sum = (l.map f).sum * c := by
  induction l with
  | nil => rw [List.map_nil, List.map_nil, List.sum_nil, zero_mul]
  | cons x t ih => rw [List.map_cons, List.map_cons, List.sum_cons, List.sum_cons, ih, add_mul]

theorem sum_snd_bump (af : α) (c : Int) (l : List (Int × α)) :
    ((bump af c l).map Prod.snd).sum = (l.map Prod.snd).sum + af := by
  induction l with
  | nil => simp [bump]
  | cons kw t ih =>
    obtain ⟨k', w⟩ := kw
    rw [bump]
    split
    · rw [List.map_cons, List.sum_cons, List.map_cons, List.sum_cons, add_right_comm]
    · rw [List.map_cons, List.sum_cons, ih, List.map_cons, List.sum_cons, add_assoc]

theorem sum_snd_foldl_bump (af : α) (cs : List Int) (acc : List (Int × α)) :
    ((cs.foldl (fun acc c => bump af c acc) acc).map Prod.snd).sum = (acc.map Prod.snd).sum + (cs.length : α) * af := by
  induction cs generalizing acc with
  | nil => simp
  | cons c t ih => rw [List.foldl_cons, ih, sum_snd_bump, List.length_cons, Nat.cast_succ]; ring

end Field

section Floor
variable {α : Type} [Field α] [LinearOrder α] [IsStrictOrderedRing α] [FloorRing α]

instance instDecidableInFootprint (g : Geom α) (c : Int) (x y : α) : Decidable (InFootprint g c x y) := by
  unfold InFootprint; infer_instance

instance instDecidableInExtent (g : Geom α) (x y : α) : Decidable (InExtent g x y) := by
  unfold InExtent; infer_instance

/-- `C07.coord2cell_iff_inFootprint`, under the name the statements of this section use -/
theorem coord2cell_eq_iff {g : Geom α} (hcsz : 0 < g.csz) (hc : 0 < g.ncols) {c : Int}
    (hv : validCell g.nrows g.ncols c = true) {x y : α} :
    coord2cell g x y = c ↔ InFootprint g c x y :=
  coord2cell_iff_inFootprint hcsz hc hv

theorem cellOfPt_cell2coord_nonneg_iff {coarse : Geom α} (hcsz : 0 < coarse.csz) (fine : Geom α) (c : Int) :
    0 ≤ cellOfPt coarse (cell2coord fine c) ↔
      validCell fine.nrows fine.ncols c = true ∧ InExtent coarse (getcoord fine c).1 (getcoord fine c).2 := by
  unfold cell2coord
  split
  · rename_i hvc
    exact (coord2cell_nonneg_iff hcsz).trans (and_iff_right hvc).symm
  · rename_i hvc
    exact ⟨fun h => absurd (show (0 : Int) ≤ -1 from h) (by decide), fun h => absurd h.1 hvc⟩

theorem cellOfPt_cell2coord_eq_iff {coarse : Geom α} (hcsz : 0 < coarse.csz) (hc : 0 < coarse.ncols) {k : Int}
    (hv : validCell coarse.nrows coarse.ncols k = true) (fine : Geom α) (c : Int) :
    cellOfPt coarse (cell2coord fine c) = k ↔
      validCell fine.nrows fine.ncols c = true ∧ InFootprint coarse k (getcoord fine c).1 (getcoord fine c).2 := by
  unfold cell2coord
  split
  · rename_i hvc
    exact (coord2cell_eq_iff hcsz hc hv).trans (and_iff_right hvc).symm
  · rename_i hvc
    exact ⟨fun e => absurd ((show (-1 : Int) = k from e) ▸ (validCell_iff.1 hv).1) (by decide),
      fun h => absurd h.1 hvc⟩

theorem centre_mono (x0 : α) {csz : α} (hcsz : 0 ≤ csz) : Monotone fun n : Int => x0 + csz * ((n : α) + 1 / 2) :=
  fun _ _ hpq =>
    add_le_add_right (mul_le_mul_of_nonneg_left (add_le_add_left (Int.cast_le.2 hpq) _) hcsz) _

end Floor

section MinMax
variable {β : Type} [LinearOrder β] [d : DecidableLT β]

theorem listMin_spec (x : β) (xs : List β) : listMin x xs ∈ x :: xs ∧ ∀ y ∈ x :: xs, listMin x xs ≤ y := by
  -- the model's fold takes any decision procedure for `<`, `Lemmas/Extrema.lean` the order's own: they are equal
  obtain rfl : d = LinearOrder.toDecidableLT := Subsingleton.elim _ _
  exact Extrema.foldl_min_spec xs x

theorem listMax_spec (x : β) (xs : List β) : listMax x xs ∈ x :: xs ∧ ∀ y ∈ x :: xs, y ≤ listMax x xs := by
  obtain rfl : d = LinearOrder.toDecidableLT := Subsingleton.elim _ _
  exact Extrema.foldl_max_spec xs x

theorem listMin_le_listMax (x : β) (xs : List β) : listMin x xs ≤ listMax x xs :=
  ((listMin_spec x xs).2 x List.mem_cons_self).trans ((listMax_spec x xs).2 x List.mem_cons_self)

variable {γ : Type} [LinearOrder γ] [dγ : DecidableLT γ]

theorem listMin_map_comp_mono {ι : Type} {f : γ → β} (hf : Monotone f) (key : ι → γ) (a : ι) (l : List ι) :
    listMin (f (key a)) (l.map fun i => f (key i)) = f (listMin (key a) (l.map key)) := by
  obtain ⟨hm, hle⟩ := listMin_spec (key a) (l.map key)
  obtain ⟨hm', hle'⟩ := listMin_spec (f (key a)) (l.map fun i => f (key i))
  apply le_antisymm
  · obtain ⟨i, hi, e⟩ := List.mem_map.1 (show _ ∈ (a :: l).map key from hm)
    rw [← e]
    exact hle' _ (List.mem_map_of_mem (f := fun i => f (key i)) hi)
  · obtain ⟨i, hi, e⟩ := List.mem_map.1 (show _ ∈ (a :: l).map fun i => f (key i) from hm')
    rw [← e]
    exact hf (hle _ (List.mem_map_of_mem (f := key) hi))

theorem listMin_map_comp_anti {ι : Type} {f : γ → β} (hf : Antitone f) (key : ι → γ) (a : ι) (l : List ι) :
    listMin (f (key a)) (l.map fun i => f (key i)) = f (listMax (key a) (l.map key)) :=
  -- the monotone case over the reversed order of `γ`, whose `<` is decided by `dγ` with the arguments exchanged
  listMin_map_comp_mono (γ := γᵒᵈ) (dγ := fun a b => dγ b a) hf.dual_left key a l

end MinMax

section Scatter
variable {α : Type}

/-- one assignment `arr[row - rowStart, col - colStart] = w` -/
def assign (nrows ncols rowStart colStart : Int) (f : Int → Int → α) (kw : Int × α) : Int → Int → α :=
  fun i j =>
    let rc := cell2rowcol nrows ncols kw.1
    if i = rc.1 - rowStart ∧ j = rc.2 - colStart then kw.2 else f i j

theorem foldl_assign_untouched {nrows ncols rowStart colStart : Int} (kws : List (Int × α))
    (f : Int → Int → α) {i j : Int}
    (h : ∀ k ∈ keys kws,
      ¬ (i = (cell2rowcol nrows ncols k).1 - rowStart ∧ j = (cell2rowcol nrows ncols k).2 - colStart)) :
    kws.foldl (assign nrows ncols rowStart colStart) f i j = f i j := by
  induction kws generalizing f with
  | nil => rfl
  | cons kw t ih =>
    rw [List.foldl_cons, ih _ fun k hk => h k (List.mem_cons_of_mem _ hk)]
    exact if_neg (h kw.1 List.mem_cons_self)

theorem cell2rowcol_range {nrows ncols k : Int} (hc : 0 < ncols) (hv : validCell nrows ncols k = true) :
    0 ≤ (cell2rowcol nrows ncols k).1 ∧ (cell2rowcol nrows ncols k).1 < nrows ∧
      0 ≤ (cell2rowcol nrows ncols k).2 ∧ (cell2rowcol nrows ncols k).2 < ncols := by
  rw [cell2rowcol, if_pos hv]
  obtain ⟨a, b, c, d, -⟩ := valid_rowcol hc hv
  exact ⟨a, b, c, d⟩

/-- with distinct valid cells no later assignment overwrites an earlier one -/
theorem foldl_assign_mem {nrows ncols rowStart colStart : Int} (hc : 0 < ncols) (kws : List (Int × α))
    (f : Int → Int → α) (hnd : (keys kws).Nodup) (hv : ∀ k ∈ keys kws, validCell nrows ncols k = true)
    {k : Int} {w : α} (hm : (k, w) ∈ kws) :
    kws.foldl (assign nrows ncols rowStart colStart) f
      ((cell2rowcol nrows ncols k).1 - rowStart) ((cell2rowcol nrows ncols k).2 - colStart) = w := by
  induction kws generalizing f with
  | nil => cases hm
  | cons kw t ih =>
    rw [keys_cons, List.nodup_cons] at hnd
    rw [List.foldl_cons]
    rcases List.mem_cons.1 hm with e | hm'
    · subst e
      rw [foldl_assign_untouched]
      · exact if_pos ⟨rfl, rfl⟩
      · intro k' hk' hpos
        have : k = k' :=
          rowcol_inj hc (hv k List.mem_cons_self) (hv k' (List.mem_cons_of_mem _ hk'))
            (Prod.ext (by omega) (by omega))
        exact hnd.1 (this ▸ hk')
    · exact ih _ hnd.2 (fun k' hk' => hv k' (List.mem_cons_of_mem _ hk')) hm'

variable [OfNat α 0]

theorem scatterFn_eq (nrows ncols rowStart colStart : Int) (kws : List (Int × α)) :
    scatterFn nrows ncols rowStart colStart kws =
      kws.foldl (assign nrows ncols rowStart colStart) (fun _ _ => 0) := rfl

end Scatter

theorem getElem?_concat_eq_some {α : Type} {l : List α} {x y : α} {k : Nat} (h : (l ++ [x])[k]? = some y) :
    l[k]? = some y ∨ (k = l.length ∧ y = x) := by
  rw [List.getElem?_append] at h
  split at h
  · exact Or.inl h
  · rw [List.getElem?_singleton] at h
    split at h
    · exact Or.inr ⟨by omega, (Option.some.inj h).symm⟩
    · cases h

section Nearest
variable {α : Type} [LinearOrder α]

/-- `m` is the least entry of `l` and `r` the first index that holds it: what the strict `<` of `c_voronoi`'s loop selects -/
def IsFirstArgmin (l : List α) (r : Nat) (m : α) : Prop :=
  l[r]? = some m ∧ (∀ (k : Nat) (x : α), l[k]? = some x → m ≤ x) ∧ (∀ (k : Nat) (x : α), k < r → l[k]? = some x → m < x)

theorem isFirstArgmin_map {ι : Type} (f : ι → α) (l : List ι) (j : Nat) :
    (∃ m, IsFirstArgmin (l.map f) j m) ↔
      ∃ p, l[j]? = some p ∧ (∀ (k : Nat) (q : ι), l[k]? = some q → f p ≤ f q) ∧
        (∀ (k : Nat) (q : ι), k < j → l[k]? = some q → f p < f q) := by
  simp only [IsFirstArgmin, List.getElem?_map, Option.map_eq_some_iff]
  constructor
  · rintro ⟨m, ⟨p, hp, rfl⟩, h2, h3⟩
    exact ⟨p, hp, fun k q hq => h2 k _ ⟨q, hq, rfl⟩, fun k q hk hq => h3 k _ hk ⟨q, hq, rfl⟩⟩
  · rintro ⟨p, hp, h2, h3⟩
    exact ⟨_, ⟨p, hp, rfl⟩, fun k x ⟨q, hq, e⟩ => e ▸ h2 k q hq, fun k x hk ⟨q, hq, e⟩ => e ▸ h3 k q hk hq⟩

variable [d : DecidableLT α]

-- stated with the decision procedure of the section, which it does not use
set_option linter.unusedSectionVars false in
theorem IsFirstArgmin.unique {l : List α} {r r' : Nat} {m m' : α} (h : IsFirstArgmin l r m)
    (h' : IsFirstArgmin l r' m') : r = r' := by
  rcases Nat.lt_trichotomy r r' with hlt | heq | hgt
  · exact absurd (h'.2.2 r m hlt h.1) (not_lt.2 (h.2.1 r' m' h'.1))
  · exact heq
  · exact absurd (h.2.2 r' m' hgt h'.1) (not_lt.2 (h'.2.1 r m h.1))

theorem IsFirstArgmin.concat {l : List α} {r : Nat} {m : α} (h : IsFirstArgmin l r m) (x : α) :
    IsFirstArgmin (l ++ [x]) (if x < m then l.length else r) (if x < m then x else m) := by
  obtain ⟨h1, h2, h3⟩ := h
  have hr : r < l.length := (List.getElem?_eq_some_iff.1 h1).1
  by_cases hx : x < m
  · rw [if_pos hx, if_pos hx]
    refine ⟨List.getElem?_concat_length, fun k y hk => ?_, fun k y hlt hk => ?_⟩
    · rcases getElem?_concat_eq_some hk with a | ⟨-, rfl⟩
      · exact hx.le.trans (h2 k y a)
      · exact le_rfl
    · rcases getElem?_concat_eq_some hk with a | ⟨e, -⟩
      · exact hx.trans_le (h2 k y a)
      · omega
  · rw [if_neg hx, if_neg hx]
    refine ⟨(List.getElem?_append_left hr).trans h1, fun k y hk => ?_, fun k y hlt hk => ?_⟩
    · rcases getElem?_concat_eq_some hk with a | ⟨-, rfl⟩
      · exact h2 k y a
      · exact not_lt.1 hx
    · rcases getElem?_concat_eq_some hk with a | ⟨e, -⟩
      · exact h3 k y hlt a
      · omega

theorem nearestLoop_spec (t pre : List α) (m : α) (jmin : Nat) (h : IsFirstArgmin pre jmin m) :
    ∃ m', IsFirstArgmin (pre ++ t) (nearestLoop t pre.length (some m) jmin) m' := by
  induction t generalizing pre m jmin with
  | nil => exact ⟨m, by rwa [List.append_nil]⟩
  | cons x t ih =>
    have := ih (pre ++ [x]) _ _ (h.concat x)
    rw [List.append_assoc, List.singleton_append, List.length_append, List.length_singleton] at this
    rw [nearestLoop]
    by_cases hx : x < m
    · rw [if_pos hx]
      simpa only [if_pos hx] using this
    · rw [if_neg hx]
      simpa only [if_neg hx] using this

theorem nearest_spec {ds : List α} (h : ds ≠ []) : ∃ m, IsFirstArgmin ds (nearest ds) m := by
  cases ds with
  | nil => exact absurd rfl h
  | cons x t =>
    refine nearestLoop_spec (d := d) t [x] x 0 ⟨rfl, fun k y hk => ?_, fun k y hk => absurd hk (Nat.not_lt_zero k)⟩
    rcases getElem?_concat_eq_some (l := []) hk with a | ⟨-, rfl⟩
    · cases a
    · exact le_rfl

theorem nearest_lt_length {ds : List α} (h : ds ≠ []) : nearest ds < ds.length := by
  obtain ⟨m, h1, -⟩ := nearest_spec (d := d) h
  exact (List.getElem?_eq_some_iff.1 h1).1

theorem nearest_eq_iff {ds : List α} (h : ds ≠ []) (j : Nat) :
    nearest ds = j ↔ ∃ m, IsFirstArgmin ds j m := by
  constructor
  · rintro rfl; exact nearest_spec h
  · rintro ⟨m, hm⟩
    obtain ⟨m', hm'⟩ := nearest_spec (d := d) h
    exact hm'.unique hm

end Nearest

section Counts
variable {β : Type} [Add β] [OfNat β 1]

theorem incr_eq_modify (ws : List β) (j : Nat) : incr ws j = ws.modify j (· + 1) := by
  induction ws generalizing j with
  | nil => simp [incr]
  | cons w t ih =>
    cases j with
    | zero => exact (List.modify_zero_cons ..).symm
    | succ j => rw [incr, ih, List.modify_succ_cons]

theorem foldl_incr_length (N : Int → Nat) (cells : List Int) (ws : List β) :
    (cells.foldl (fun ws c => incr ws (N c)) ws).length = ws.length := by
  induction cells generalizing ws with
  | nil => rfl
  | cons c t ih => rw [List.foldl_cons, ih, incr_eq_modify, List.length_modify]

theorem foldl_incr_getElem? (N : Int → Nat) (cells : List Int) (ws : List β) (i : Nat) :
    (cells.foldl (fun ws c => incr ws (N c)) ws)[i]? =
      ws[i]?.map fun w => (· + 1)^[cells.countP fun c => N c = i] w := by
  induction cells generalizing ws with
  | nil =>
    show ws[i]? = _
    cases ws[i]? <;> rfl
  | cons c t ih =>
    rw [List.foldl_cons, ih, incr_eq_modify, List.getElem?_modify, List.countP_cons]
    cases ws[i]? with
    | none => rfl
    | some w =>
      by_cases h : N c = i
      · simp only [h, if_true, decide_true]; rfl
      · simp only [h, if_false, decide_false]; rfl

theorem sum_countP_eq_length (N : Int → Nat) (cells : List Int) (m : Nat) (h : ∀ c ∈ cells, N c < m) :
    ((List.range m).map fun j => cells.countP fun c => N c = j).sum = cells.length := by
  induction cells with
  | nil => simp
  | cons c t ih =>
    obtain ⟨hc, ht⟩ := List.forall_mem_cons.1 h
    simp only [List.countP_cons, List.sum_map_add, ih ht, List.length_cons]
    -- exactly one `j < m` is `N c`
    rw [List.sum_map_eq_nsmul_single (N c) _ fun j hj _ => if_neg (by simpa using hj.symm),
      List.count_eq_one_of_mem List.nodup_range (List.mem_range.2 hc)]
    simp

theorem eq_map_range {γ : Type} {l : List γ} {n : Nat} {f : Nat → γ} (hlen : l.length = n)
    (h : ∀ j, j < n → l[j]? = some (f j)) : l = (List.range n).map f := by
  apply List.ext_getElem?
  intro j
  by_cases hj : j < n
  · rw [h j hj, List.getElem?_map, List.getElem?_range hj]
    rfl
  · rw [List.getElem?_eq_none (by omega), List.getElem?_eq_none (by simp; omega)]

theorem sum_div_length_eq_one {K : Type} [Field K] [LinearOrder K] [IsStrictOrderedRing K] (N : Int → Nat)
    {cells : List Int} (hcells : cells ≠ []) (m : Nat) (h : ∀ c ∈ cells, N c < m) :
    ((List.range m).map fun j => ((cells.countP fun c => N c = j : ℕ) : K) / (cells.length : K)).sum = 1 := by
  have hn : (cells.length : K) ≠ 0 := Nat.cast_ne_zero.2 fun e => hcells (List.length_eq_zero_iff.1 e)
  have hs : ((List.range m).map fun j => ((cells.countP fun c => N c = j : ℕ) : K)).sum = (cells.length : K) := by
    rw [← sum_countP_eq_length N cells m h]
    exact ((map_list_sum (Nat.castRingHom K) _).trans (congrArg List.sum (List.map_map ..))).symm
  simp only [div_eq_mul_inv]
  rw [sum_map_mul_right, hs, mul_inv_cancel₀ hn]

end Counts

theorem rowsToPts_map {α : Type} (pts : List (α × α)) : rowsToPts (pts.map fun p => [p.1, p.2]) = pts := by
  induction pts with
  | nil => rfl
  | cons p t ih => rw [List.map_cons, rowsToPts, ih]

section Voronoi
variable {α : Type} [Add α] [Sub α] [Mul α] [Div α] [OfNat α 0] [OfNat α 1] [LT α] [DecidableLT α] [C07.Trunc α]

theorem counts_length (dist : α → α → α) (g : Geom α) (cells : List Int) (pts : List (α × α)) :
    (counts dist g cells pts).length = pts.length := by
  rw [counts, foldl_incr_length, List.length_map]

theorem counts_getElem? (dist : α → α → α) (g : Geom α) (cells : List Int) {pts : List (α × α)} {j : Nat}
    (hj : j < pts.length) :
    (counts dist g cells pts)[j]? =
      some ((· + 1)^[cells.countP fun c => nearest (dists dist g pts c) = j] 0) := by
  rw [counts, foldl_incr_getElem? fun c => nearest (dists dist g pts c), List.getElem?_map,
    List.getElem?_eq_getElem hj]
  rfl

theorem cVoronoi_unfold (dist : α → α → α) (g : Geom α) (cells : List Int) (pts : List (α × α)) :
    cVoronoi dist g cells pts =
      if pts = [] then .error .noPoints
      else if g.nrows < 1 ∨ g.ncols < 1 then .error .badGrid
      else if cells = [] then .ok (pts.map fun _ => none)
      else .ok ((counts dist g cells pts).map fun w => some (w / C07.Trunc.ofInt (cells.length : Int))) := by
  have e1 : pts.length < 1 ↔ pts = [] := by
    cases pts <;> simp
  have e2 : cells.length = 0 ↔ cells = [] := List.length_eq_zero_iff
  simp only [cVoronoi, e1, e2]

theorem cVoronoi_eq_ok {dist : α → α → α} {g : Geom α} {cells : List Int} {pts : List (α × α)}
    {ws : List (Option α)} (h : cVoronoi dist g cells pts = .ok ws) :
    pts ≠ [] ∧ ¬ (g.nrows < 1 ∨ g.ncols < 1) ∧
      ws = if cells = [] then pts.map fun _ => none
        else (counts dist g cells pts).map fun w => some (w / C07.Trunc.ofInt (cells.length : Int)) := by
  by_cases hp : pts = []
  · rw [cVoronoi_unfold, if_pos hp] at h
    cases h
  · by_cases hg : g.nrows < 1 ∨ g.ncols < 1
    · rw [cVoronoi_unfold, if_neg hp, if_pos hg] at h
      cases h
    · rw [cVoronoi_unfold, if_neg hp, if_neg hg, ← apply_ite Except.ok] at h
      exact ⟨hp, hg, (Except.ok.inj h).symm⟩

end Voronoi

section VoronoiOrder
variable {α : Type} [Add α] [Sub α] [Mul α] [Div α] [OfNat α 1] [LinearOrder α] [C07.Trunc α]

theorem nearest_dists_lt (dist : α → α → α) (g : Geom α) {pts : List (α × α)} (hp : pts ≠ []) (c : Int) :
    nearest (dists dist g pts c) < pts.length :=
  lt_of_lt_of_eq (nearest_lt_length (by rw [dists]; simpa using hp)) (List.length_map _)

end VoronoiOrder

section Unfold
variable {α : Type}

/-- entry `(i, j)` of the data array (rows from the top) -/
def AreaGrid.at (a : AreaGrid α) (i j : Nat) : Option α := (a.data[i]?).bind (·[j]?)

theorem AreaGrid.at_of_data {a : AreaGrid α} {nr nc : Nat} {f : Int → Int → α}
    (hd : a.data = (List.range nr).map fun (i : Nat) => (List.range nc).map fun (j : Nat) => f (i : Int) (j : Int))
    {i j : Nat} (hi : i < nr) (hj : j < nc) : a.at i j = some (f (i : Int) (j : Int)) := by
  unfold AreaGrid.at
  rw [hd]
  simp [hi, hj]

theorem setData_grid {β : Type} {nr nc : Int} (hr : 0 ≤ nr) (hc : 0 ≤ nc) (f : Nat → Nat → β) :
    setData nr nc ((List.range nr.toNat).map fun i => (List.range nc.toNat).map fun j => f i j) =
      .ok ((List.range nr.toNat).map fun i => (List.range nc.toNat).map fun j => f i j) := by
  unfold setData
  rw [if_neg, if_neg]
  · simp only [List.any_eq_true, List.mem_map, List.mem_range, decide_eq_true_eq, not_exists, not_and]
    rintro r ⟨i, -, rfl⟩
    simp only [List.length_map, List.length_range, ne_eq, not_not]
    omega
  · simp only [List.length_map, List.length_range, ne_eq, not_not]
    omega

variable [Field α] [LinearOrder α] [FloorRing α]

/-- row and column of cell `k` in the parent grid (`cell2rowcol`) -/
abbrev prow (g : Geom α) (k : Int) : Int := (cell2rowcol g.nrows g.ncols k).1
abbrev pcol (g : Geom α) (k : Int) : Int := (cell2rowcol g.nrows g.ncols k).2

/-- what `Catchment.intersect` builds from a non-empty kernel listing -/
def areaOf (coarse : Geom α) (kw0 : Int × α) (rest : List (Int × α)) : AreaGrid α :=
  let rowStart := listMin (prow coarse kw0.1) (rest.map fun kw => prow coarse kw.1)
  let rowEnd := listMax (prow coarse kw0.1) (rest.map fun kw => prow coarse kw.1)
  let colStart := listMin (pcol coarse kw0.1) (rest.map fun kw => pcol coarse kw.1)
  let colEnd := listMax (pcol coarse kw0.1) (rest.map fun kw => pcol coarse kw.1)
  { keys := (kw0 :: rest).map (·.1), weights := (kw0 :: rest).map (·.2),
    rowStart, rowEnd, colStart, colEnd,
    xll := listMin (getcoord coarse kw0.1).1 (rest.map fun kw => (getcoord coarse kw.1).1) - coarse.csz / (1 + 1),
    yll := listMin (getcoord coarse kw0.1).2 (rest.map fun kw => (getcoord coarse kw.1).2) - coarse.csz / (1 + 1),
    nrows := rowEnd - rowStart + 1, ncols := colEnd - colStart + 1,
    data := (List.range (rowEnd - rowStart + 1).toNat).map fun (i : Nat) =>
      (List.range (colEnd - colStart + 1).toNat).map fun (j : Nat) =>
        scatterFn coarse.nrows coarse.ncols rowStart colStart (kw0 :: rest) (i : Int) (j : Int),
    csz := coarse.csz, parent := coarse }

/-- `Catchment.intersect` with the guards that never fire removed: the kernel cannot overrun the buffers
(`cIntersect_length`) and the weight array always has the shape of the grid it is assigned to -/
theorem intersect_unfold (coarse fine : Geom α) (cells : List Int) :
    intersect coarse fine cells =
      if coarse.nrows * coarse.ncols < 0 then .error .badBuffer
      else match cIntersect coarse fine.csz (cells.map (cell2coord fine)) with
        | [] => .error .noOverlap
        | kw0 :: rest => .ok (areaOf coarse kw0 rest) := by
  by_cases hneg : coarse.nrows * coarse.ncols < 0
  · simp [intersect, hneg]
  · have hlen := cIntersect_length coarse fine.csz (cells.map (cell2coord fine))
    unfold intersect
    simp only [hneg, if_false, not_lt.2 hlen]
    cases hk : cIntersect coarse fine.csz (cells.map (cell2coord fine)) with
    | nil => rfl
    | cons kw0 rest =>
      simp only []
      have hr := listMin_le_listMax (cell2rowcol coarse.nrows coarse.ncols kw0.1).1
        (rest.map fun kw => (cell2rowcol coarse.nrows coarse.ncols kw.1).1)
      have hc := listMin_le_listMax (cell2rowcol coarse.nrows coarse.ncols kw0.1).2
        (rest.map fun kw => (cell2rowcol coarse.nrows coarse.ncols kw.1).2)
      rw [setData_grid (by omega) (by omega)]
      rfl

theorem intersect_eq_ok {coarse fine : Geom α} {cells : List Int} {a : AreaGrid α}
    (h : intersect coarse fine cells = .ok a) :
    ∃ kw0 rest, cIntersect coarse fine.csz (cells.map (cell2coord fine)) = kw0 :: rest ∧
      a = areaOf coarse kw0 rest := by
  rw [intersect_unfold] at h
  split at h
  · cases h
  · split at h
    · cases h
    · exact ⟨_, _, ‹_›, (Except.ok.inj h).symm⟩

theorem intersect_ok_lists {coarse fine : Geom α} {cells : List Int} {a : AreaGrid α}
    (h : intersect coarse fine cells = .ok a) :
    a.keys = keys (cIntersect coarse fine.csz (cells.map (cell2coord fine))) ∧
      a.weights = (cIntersect coarse fine.csz (cells.map (cell2coord fine))).map Prod.snd := by
  obtain ⟨kw0, rest, heq, rfl⟩ := intersect_eq_ok h
  rw [heq]
  exact ⟨rfl, rfl⟩

theorem intersect_ok_at {coarse fine : Geom α} {cells : List Int} {a : AreaGrid α}
    (h : intersect coarse fine cells = .ok a) {i j : Nat} (hi : i < a.nrows.toNat) (hj : j < a.ncols.toNat) :
    a.at i j = some (scatterFn coarse.nrows coarse.ncols a.rowStart a.colStart
      (cIntersect coarse fine.csz (cells.map (cell2coord fine))) (i : Int) (j : Int)) := by
  obtain ⟨kw0, rest, heq, rfl⟩ := intersect_eq_ok h
  rw [heq]
  exact AreaGrid.at_of_data rfl hi hj

theorem getcoord_of_valid {g : Geom α} {k : Int} (hv : validCell g.nrows g.ncols k = true) :
    getcoord g k = (g.xll + g.csz * ((pcol g k : α) + 1 / 2),
      g.yll + g.csz * (((g.nrows - 1 - prow g k : Int) : α) + 1 / 2)) := by
  rw [getcoord_eq, prow, pcol, cell2rowcol, if_pos hv]

theorem inFootprintB_iff (g : Geom α) (c : Int) (x y : α) :
    inFootprintB g c x y = true ↔ InFootprint g c x y := by
  unfold inFootprintB InFootprint cellLeft cellRight cellBottom cellTop rowUp
  simp only [ofInt_eq, Bool.and_eq_true, decide_eq_true_eq, and_assoc]

theorem inExtentB_iff (g : Geom α) (x y : α) : inExtentB g x y = true ↔ InExtent g x y := by
  unfold inExtentB InExtent
  simp only [ofInt_eq, Bool.and_eq_true, decide_eq_true_eq, and_assoc]

theorem specCount_eq (coarse fine : Geom α) (cells : List Int) (k : Int) :
    specCount coarse fine cells k = cells.countP fun c => validCell fine.nrows fine.ncols c &&
      decide (InFootprint coarse k (getcoord fine c).1 (getcoord fine c).2) := by
  unfold specCount
  apply List.countP_congr
  intro c _
  simp only [Bool.and_eq_true, decide_eq_true_eq, inFootprintB_iff]

theorem specInside_eq (coarse fine : Geom α) (cells : List Int) :
    specInside coarse fine cells = cells.countP fun c => validCell fine.nrows fine.ncols c &&
      decide (InExtent coarse (getcoord fine c).1 (getcoord fine c).2) := by
  unfold specInside
  apply List.countP_congr
  intro c _
  simp only [Bool.and_eq_true, decide_eq_true_eq, inExtentB_iff]

end Unfold

end HydroVerif.C16
