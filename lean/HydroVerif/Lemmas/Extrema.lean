/-
`np.min` / `np.max` as the models write them: a left fold that keeps the smaller (the larger) of the running value and the
next entry. What comes out is an entry of the list and bounds every entry (C06 the bounding box of an area, C08 the maximum of a group, C16 the
block of a coarse grid, C20 the range of a sample).
-/
import Mathlib.Order.Basic
import Mathlib.Order.OrderDual

namespace HydroVerif.Extrema

variable {β : Type} [LinearOrder β]

theorem foldl_min_spec (l : List β) (x : β) :
    (l.foldl (fun m y => if y < m then y else m) x ∈ x :: l) ∧
    ∀ v ∈ x :: l, l.foldl (fun m y => if y < m then y else m) x ≤ v := by
  induction l generalizing x with
  | nil => exact ⟨List.mem_singleton.2 rfl, fun v hv => (List.mem_singleton.1 hv).ge⟩
  | cons a t ih =>
    rw [List.foldl_cons]
    split <;> rename_i hax
    · obtain ⟨h1, h2⟩ := ih a
      exact ⟨List.mem_cons_of_mem _ h1,
        List.forall_mem_cons.mpr ⟨(h2 a List.mem_cons_self).trans hax.le, h2⟩⟩
    · obtain ⟨h1, h2⟩ := ih x
      obtain ⟨hx, ht⟩ := List.forall_mem_cons.mp h2
      exact ⟨List.mem_cons.mpr ((List.mem_cons.mp h1).imp_right (List.mem_cons_of_mem _)),
        List.forall_mem_cons.mpr ⟨hx, List.forall_mem_cons.mpr ⟨hx.trans (not_lt.mp hax), ht⟩⟩⟩

/-- the maximum is the minimum for the reversed order -/
theorem foldl_max_spec (l : List β) (x : β) :
    (l.foldl (fun m y => if m < y then y else m) x ∈ x :: l) ∧
    ∀ v ∈ x :: l, v ≤ l.foldl (fun m y => if m < y then y else m) x :=
  foldl_min_spec (β := βᵒᵈ) l x

end HydroVerif.Extrema
