/- C20 — the pareto front: domination of one row by another (`StrictlyBetter`, `Dominated`) for the kernel on optional
values, and (`XStrictlyBetter`, `XDominated`) for the kernel on NaN / ±inf / finite values with its two roundings, which
do not matter as long as the rounding keeps signs; both `j` loops are `anyOtherRow` (C20List) -/
import HydroVerif.Model.C20X
import HydroVerif.Lemmas.C20List
import Mathlib.Algebra.Order.Field.Basic

namespace HydroVerif.C20

variable {α : Type} [Field α] [LinearOrder α]

/-- row `rj` is strictly better (for orientation `o`) than row `ri` in every coordinate that is
present in both rows -/
def StrictlyBetter (o : α) (rj ri : List (Option α)) : Prop :=
  ∀ (k : Nat) (a b : α), rj[k]? = some (some a) → ri[k]? = some (some b) → 0 < o * (a - b)

def Dominated (o : α) (d : List (List (Option α))) (i : Nat) : Prop :=
  ∃ j ri rj, j ≠ i ∧ d[i]? = some ri ∧ d[j]? = some rj ∧ StrictlyBetter o rj ri

theorem domBy_neg (o : α) (rj ri : List (Option α)) :
    domBy (-o) rj ri = domBy o (rj.map fun x => x.map fun v => -v) (ri.map fun x => x.map fun v => -v) := by
  unfold domBy
  rw [List.zipWith_map]
  congr 2
  funext x y
  cases x <;> cases y <;> try rfl
  simp only [Option.map_some, neg_mul, mul_sub, mul_neg]

theorem isDominatedAt_eq (o : α) (d : List (List (Option α))) (i : Nat) :
    isDominatedAt o d i = anyOtherRow (domBy o) d i := by
  unfold isDominatedAt anyOtherRow
  cases d[i]? with
  | none => rfl
  | some ri =>
    simp only
    congr 1
    funext j
    cases d[j]? <;> rfl

/-- the difference `a - b` of two doubles is a number (not NaN): neither is NaN and they are not the same infinity -/
def XComparable : XVal α → XVal α → Prop
  | .nan, _ => False
  | _, .nan => False
  | .pinf, .pinf => False
  | .ninf, .ninf => False
  | _, _ => True

/-- the order of the doubles that are numbers: `-inf` below every finite value below `+inf`; NaN compares with nothing -/
def XLt : XVal α → XVal α → Prop
  | .ninf, .fin _ => True
  | .ninf, .pinf => True
  | .fin _, .pinf => True
  | .fin a, .fin b => a < b
  | _, _ => False

/-- row `rj` is strictly better than `ri` (for the sign of `o`) in every coordinate whose difference is a number -/
def XStrictlyBetter (o : α) (rj ri : List (XVal α)) : Prop :=
  ∀ (k : Nat) (a b : XVal α), rj[k]? = some a → ri[k]? = some b → XComparable a b →
    (0 < o ∧ XLt b a) ∨ (o < 0 ∧ XLt a b)

def XDominated (o : α) (d : List (List (XVal α))) (i : Nat) : Prop :=
  ∃ j ri rj, j ≠ i ∧ d[i]? = some ri ∧ d[j]? = some rj ∧ XStrictlyBetter o rj ri

theorem isDominatedAtX_eq (rnd : α → α) (o : α) (d : List (List (XVal α))) (i : Nat) :
    isDominatedAtX rnd o d i = anyOtherRow (domByX rnd o) d i := by
  unfold isDominatedAtX anyOtherRow
  cases d[i]? with
  | none => rfl
  | some ri =>
    simp only
    congr 1
    funext j
    cases d[j]? <;> rfl

theorem domByX_of_opt (o : α) (rj ri : List (Option α)) :
    domByX id o (rj.map xOfOpt) (ri.map xOfOpt) = domBy o rj ri := by
  unfold domByX domBy
  rw [List.zipWith_map]
  congr 2
  funext x y
  cases x <;> cases y <;> rfl

variable [IsStrictOrderedRing α]

section
/- stated over the ordered field although no order axiom is used: its `simp` steps run with that instance in scope -/
set_option linter.unusedSectionVars false
theorem domBy_iff (o : α) (rj ri : List (Option α)) : domBy o rj ri = true ↔ StrictlyBetter o rj ri := by
  rw [domBy, all_zipWith_iff]
  refine forall_congr' fun k => ⟨fun h a b ha hb => by simpa using h _ _ ha hb, fun h x y hx hy => ?_⟩
  cases x <;> cases y <;> try rfl
  simpa using h _ _ hx hy
end

theorem isDominatedAt_iff (o : α) (d : List (List (Option α))) (i : Nat) :
    isDominatedAt o d i = true ↔ Dominated o d i := by
  rw [isDominatedAt_eq, anyOtherRow_iff]
  simp only [domBy_iff, Dominated]

theorem mul_sub_pos_iff (o a b : α) : 0 < o * (a - b) ↔ (0 < o ∧ b < a) ∨ (o < 0 ∧ a < b) := by
  rw [mul_pos_iff, sub_pos, sub_neg]

/-- sixteen cases; only finite against finite needs `mul_sub_pos_iff`, an infinite difference reads the sign of `o`
(nothing is better for `o = 0`), a NaN difference is skipped -/
theorem coordOK_xdiffPos (o : α) (a b : XVal α) :
    coordOK (xdiffPos id o a b) = true ↔ (XComparable a b → (0 < o ∧ XLt b a) ∨ (o < 0 ∧ XLt a b)) := by
  cases a <;> cases b <;> simp [xdiffPos, coordOK, XComparable, XLt, mul_sub_pos_iff]

theorem domByX_rnd (rnd : α → α) (hp : ∀ x, 0 < rnd x ↔ 0 < x) (hn : ∀ x, rnd x < 0 ↔ x < 0) (o : α)
    (rj ri : List (XVal α)) : domByX rnd o rj ri = domByX id o rj ri := by
  unfold domByX
  congr 2
  funext a b
  cases a <;> cases b <;> try rfl
  -- only the difference and the product of two finite values are rounded
  rename_i a b
  show decide (0 < rnd (o * rnd (a - b))) = decide (0 < o * (a - b))
  rw [decide_eq_decide, hp, mul_pos_iff, mul_pos_iff, hp, hn]

theorem domByX_iff (o : α) (rj ri : List (XVal α)) : domByX id o rj ri = true ↔ XStrictlyBetter o rj ri := by
  rw [domByX, all_zipWith_iff]
  simp only [coordOK_xdiffPos, XStrictlyBetter]

theorem isDominatedAtX_iff (o : α) (d : List (List (XVal α))) (i : Nat) :
    isDominatedAtX id o d i = true ↔ XDominated o d i := by
  rw [isDominatedAtX_eq, anyOtherRow_iff]
  simp only [domByX_iff, XDominated]

theorem domBy_congr_sign (o o' : α) (hp : 0 < o ↔ 0 < o') (hn : o < 0 ↔ o' < 0) (rj ri : List (Option α)) :
    domBy o rj ri = domBy o' rj ri := by
  unfold domBy
  congr 2
  funext a b
  cases a <;> cases b <;> simp only [decide_eq_decide]
  rw [mul_sub_pos_iff, mul_sub_pos_iff, hp, hn]

theorem paretoFront_congr_sign (o o' : α) (hp : 0 < o ↔ 0 < o') (hn : o < 0 ↔ o' < 0) (d : List (List (Option α))) :
    paretoFront o d = paretoFront o' d := by
  unfold paretoFront
  simp only [isDominatedAt_eq, anyOtherRow_congr (domBy_congr_sign o o' hp hn)]

end HydroVerif.C20
