/-
C15 — the kernel's edge test against the crossing tests of the even-odd rule (one edge, ordered field), the closed edge
cycle as a list (it pairs the vertex list with its rotation by one; rotation, reversal, closing, vertex maps), the bounding
box, and the side of an edge (`isUp`, `isDown`, the sign of `cross`). In the order of what a fact needs: no arithmetic, an
order, a field, both, an ordered field. Definitions the theorems of `Props/C15.lean` are stated with: the predicates `Far`
(`FarEdge`), `Sep` (`SepEdge`), `OffEdges` and the maps `shift`, `scale` (each under a heading of the second half of the
file); for the proofs: `isUp`, `isDown`, `tpar`, `segPt`.
-/
import HydroVerif.Model.C15
import HydroVerif.Lemmas.Ordered
import Mathlib.Algebra.Order.Field.Basic
import Mathlib.Algebra.Order.AbsoluteValue.Basic
import Mathlib.Data.List.Perm.Basic
import Mathlib.Data.List.Rotate
import Mathlib.Tactic.Ring
import Mathlib.Tactic.FieldSimp

namespace HydroVerif.C15

theorem parity_append (l1 l2 : List Bool) : parity (l1 ++ l2) = xor (parity l1) (parity l2) := by
  induction l1 with
  | nil => simp [parity]
  | cons b t ih => simp [parity, ih]

theorem parity_perm {l1 l2 : List Bool} (h : l1.Perm l2) : parity l1 = parity l2 := by
  induction h with
  | nil => rfl
  | cons x _ ih => simp [parity, ih]
  | swap x y l => simp only [parity]; rw [← Bool.xor_assoc, ← Bool.xor_assoc, Bool.xor_comm y x]
  | trans _ _ ih1 ih2 => exact ih1.trans ih2

theorem parity_map_xor {β : Type} (f g : β → Bool) (l : List β) :
    parity (l.map fun e => xor (f e) (g e)) = xor (parity (l.map f)) (parity (l.map g)) := by
  induction l with
  | nil => simp [parity]
  | cons b t ih =>
    simp only [List.map_cons, parity, ih]
    generalize parity (List.map f t) = u; generalize parity (List.map g t) = v
    cases f b <;> cases g b <;> cases u <;> cases v <;> rfl

theorem parity_map_congr {β : Type} {f g : β → Bool} {l : List β} (h : ∀ e ∈ l, f e = g e) :
    parity (l.map f) = parity (l.map g) := by
  rw [List.map_congr_left h]

theorem parity_map_false {β : Type} {f : β → Bool} {l : List β} (h : ∀ e ∈ l, f e = false) :
    parity (l.map f) = false := by
  induction l with
  | nil => rfl
  | cons b t ih =>
    simp only [List.map_cons, parity, h b (List.mem_cons_self ..), Bool.false_xor]
    exact ih fun e he => h e (List.mem_cons_of_mem _ he)

theorem parity_reverse (l : List Bool) : parity l.reverse = parity l :=
  parity_perm (List.reverse_perm l)

section loop
variable {β : Type} [Add β] [Sub β] [Mul β] [Div β] [Neg β] [LT β] [DecidableLT β] [LE β] [DecidableLE β] [OfNat β 0]

theorem edgeToggle_eq (atol x y : β) (p1 p2 : β × β) : edgeToggle atol x y p1 p2 =
    (decide (fmin p1.2 p2.2 < y) && (decide (y ≤ fmax p1.2 p2.2) && (decide (x ≤ fmax p1.1 p2.1) &&
      (decide (fabs (p1.1 - p2.1) < atol) || decide (x ≤ xinters atol y p1 p2))))) := by
  unfold edgeToggle; split_ifs <;> simp [*]

theorem walk_eq (atol x y : β) (l : List (β × β)) : ∀ (p1 : β × β) (ins : Bool),
    walk atol x y p1 l ins = xor ins (parity ((edgesFrom p1 l).map fun e => edgeToggle atol x y e.1 e.2)) := by
  induction l with
  | nil => intro p1 ins; simp [walk, edgesFrom, parity]
  | cons p2 rest ih => intro p1 ins; simp [walk, edgesFrom, parity, ih]

theorem crossing_eq (atol : β) (poly : List (β × β)) (pt : β × β) :
    crossing atol poly pt = parity ((edges poly).map fun e => edgeToggle atol pt.1 pt.2 e.1 e.2) := by
  cases poly with
  | nil => rfl
  | cons v0 t => simp [crossing, edges, walk_eq]

theorem zipWith_replicate_false {γ : Type} (f : γ → Bool → Bool) (pts : List γ) :
    List.zipWith f pts (List.replicate pts.length false) = pts.map fun pt => f pt false := by
  rw [← List.map_const', List.zipWith_map_right, List.zipWith_self]

theorem pointsInsidePolygon_cons (atol : β) (pts : List (β × β)) (v0 : β × β) (t : List (β × β))
    {insideLen : Option Nat} (hlen : insideLen = none ∨ insideLen = some pts.length) :
    pointsInsidePolygon atol pts (v0 :: t) insideLen = .ok (pts.map (pointInside atol (v0 :: t))) := by
  rcases hlen with rfl | rfl
  · simp only [pointsInsidePolygon, Bool.false_eq_true, if_false, cInside, zipWith_replicate_false]
    rfl
  · simp only [pointsInsidePolygon, bne_self_eq_false, Bool.false_eq_true, if_false, cInside,
      zipWith_replicate_false]
    rfl

theorem filter_zip_map {γ : Type} (g : γ → Bool) (l : List γ) :
    ((l.zip (l.map g)).filter (·.2)).map (·.1) = l.filter g := by
  induction l with
  | nil => rfl
  | cons a t ih =>
    simp only [List.map_cons, List.zip_cons_cons, List.filter_cons]
    cases g a <;> simp [ih]

theorem cellsInside_cons [NatCast β] (nrows ncols : Nat) (xll yll csz atol : β) (v0 : β × β) (t : List (β × β)) :
    cellsInside nrows ncols xll yll csz atol (v0 :: t) =
      .ok ((List.range (nrows * ncols)).filter fun i =>
        pointInside atol (v0 :: t) (cellCentre nrows ncols xll yll csz i)) := by
  simp only [cellsInside]
  rw [pointsInsidePolygon_cons atol _ v0 t (Or.inl rfl)]
  simp only [List.map_map]
  rw [filter_zip_map]
  rfl

theorem table_zip_filter {γ δ ε : Type} (f : γ → δ) (g : δ → Bool) (h : δ → γ → ε) (l : List γ) :
    ((((l.map f).zip l).zip ((l.map f).map g)).filter (·.2)).map (fun r => h r.1.1 r.1.2) =
      (l.filter fun c => g (f c)).map fun c => h (f c) c := by
  induction l with
  | nil => rfl
  | cons a t ih =>
    simp only [List.map_cons, List.zip_cons_cons, List.filter_cons]
    cases g (f a) <;> simp only [Bool.false_eq_true, if_false, if_true, List.map_cons, ih]

theorem cellsInsideTable_cons [NatCast β] (nrows ncols : Nat) (xll yll csz atol : β) (v0 : β × β)
    (t : List (β × β)) :
    cellsInsideTable nrows ncols xll yll csz atol (v0 :: t) =
      .ok (((List.range (nrows * ncols)).filter fun i =>
          pointInside atol (v0 :: t) (cellCentre nrows ncols xll yll csz i)).map fun c =>
        ((cellCentre nrows ncols xll yll csz c).1, (cellCentre nrows ncols xll yll csz c).2, c)) := by
  simp only [cellsInsideTable]
  rw [pointsInsidePolygon_cons atol _ v0 t (Or.inl rfl)]
  simp only []  -- the `match` on `.ok _` reduces
  rw [table_zip_filter (cellCentre nrows ncols xll yll csz) (pointInside atol (v0 :: t))
    (fun p c => (p.1, p.2, c))]

/-- every "code = rule" theorem ends here: the answer is the crossing parity `r` of the vertex loop, provided the rule
answers 0 wherever the bounding-box test rejects the point -/
theorem pointInside_eq_of_crossing {atol : β} {poly : List (β × β)} {pt : β × β} {r : Bool}
    (hc : crossing atol poly pt = r)
    (hbox : ∀ v0 t, poly = v0 :: t → outsideBox (extentX v0 t) (extentY v0 t) pt = true → r = false) :
    pointInside atol poly pt = r := by
  cases poly with
  | nil => exact hc
  | cons v0 t =>
    simp only [pointInside, pointInsideFrom]
    split
    · rename_i hout; exact (hbox v0 t rfl hout).symm
    · exact hc

end loop

section edges
variable {β : Type}

theorem edgesFrom_concat (t : List (β × β)) (q : β × β) : ∀ p : β × β,
    edgesFrom p (t ++ [q]) = (p :: t).zip (t ++ [q]) := by
  induction t with
  | nil => intro p; rfl
  | cons c t ih => intro p; simp [edgesFrom, ih]

theorem edges_eq_zip (poly : List (β × β)) : edges poly = poly.zip (poly.rotate 1) := by
  cases poly with
  | nil => rfl
  | cons v0 t =>
    rw [List.rotate_cons_succ, List.rotate_zero]
    exact edgesFrom_concat t v0 v0

theorem edges_fst (poly : List (β × β)) : (edges poly).map Prod.fst = poly := by
  rw [edges_eq_zip]; exact List.map_fst_zip (List.length_rotate poly 1).ge

theorem edges_snd (poly : List (β × β)) : (edges poly).map Prod.snd = poly.rotate 1 := by
  rw [edges_eq_zip]; exact List.map_snd_zip (List.length_rotate poly 1).le

theorem edges_map {γ : Type} (f : β × β → γ × γ) (poly : List (β × β)) :
    edges (poly.map f) = (edges poly).map (Prod.map f f) := by
  rw [edges_eq_zip, edges_eq_zip, ← List.map_rotate, List.zip_map]

/-- around the closed cycle a vertex predicate changes its value an even number of times: first and second end points
run through the same vertices -/
theorem parity_switch_cycle (s : β × β → Bool) (poly : List (β × β)) :
    parity ((edges poly).map fun e => xor (s e.1) (s e.2)) = false := by
  rw [parity_map_xor]
  show xor (parity ((edges poly).map (s ∘ Prod.fst))) (parity ((edges poly).map (s ∘ Prod.snd))) = false
  rw [← List.map_map, ← List.map_map, edges_fst, edges_snd, parity_perm ((List.rotate_perm poly 1).map s),
    Bool.xor_self]

/-- two counting rules whose difference on every edge is the change of a vertex predicate along that edge count the
same parity around the closed cycle -/
theorem parity_eq_of_switch (s : β × β → Bool) {f g : (β × β) × (β × β) → Bool} {poly : List (β × β)}
    (h : ∀ e ∈ edges poly, xor (f e) (g e) = xor (s e.1) (s e.2)) :
    parity ((edges poly).map f) = parity ((edges poly).map g) := by
  refine bne_eq_false_iff_eq.1 (?_ : xor _ _ = false)
  rw [← parity_map_xor, parity_map_congr h]
  exact parity_switch_cycle s poly

theorem mem_edges_triangle {a b c : β × β} {e : (β × β) × (β × β)} :
    e ∈ edges [a, b, c] ↔ e = (a, b) ∨ e = (b, c) ∨ e = (c, a) := by
  simp [edges, edgesFrom]

theorem mem_edges {e : (β × β) × (β × β)} {poly : List (β × β)} (h : e ∈ edges poly) :
    e.1 ∈ poly ∧ e.2 ∈ poly :=
  ⟨edges_fst poly ▸ List.mem_map_of_mem h, List.mem_rotate.mp (edges_snd poly ▸ List.mem_map_of_mem h)⟩

theorem edges_rotate_perm (poly : List (β × β)) (k : Nat) : (edges (poly.rotate k)).Perm (edges poly) := by
  rw [edges_eq_zip, edges_eq_zip, List.rotate_rotate, Nat.add_comm, ← List.rotate_rotate, List.zip_eq_zipWith,
    List.zip_eq_zipWith, ← List.zipWith_rotate_distrib _ _ _ _ (List.length_rotate poly 1).symm]
  exact List.rotate_perm _ _

theorem edges_close (v0 : β × β) (t : List (β × β)) :
    edges ((v0 :: t) ++ [v0]) = edges (v0 :: t) ++ [(v0, v0)] := by
  rw [edges_eq_zip, edges_eq_zip, List.cons_append, List.rotate_cons_succ, List.rotate_zero, List.rotate_cons_succ,
    List.rotate_zero, ← List.cons_append, List.zip_append (by simp)]
  rfl

/-- reversing the vertex list reverses every edge: rotated to start at the old first vertex, the reversed polygon has
the swapped edges in reverse order -/
theorem edges_reverse_perm (poly : List (β × β)) :
    (edges poly.reverse).Perm ((edges poly).map Prod.swap) := by
  cases poly with
  | nil => exact List.Perm.refl _
  | cons a t =>
    have h1 : (a :: t).reverse.rotate t.length = a :: t.reverse := by
      rw [List.reverse_cons, ← List.length_reverse]
      exact List.rotate_append_length_eq t.reverse [a]
    have h2 : edges (a :: t.reverse) = ((edges (a :: t)).map Prod.swap).reverse := by
      rw [edges_eq_zip, edges_eq_zip, List.zip_eq_zipWith, List.zip_eq_zipWith, List.map_zipWith,
        List.reverse_zipWith (by simp)]
      simp [List.rotate_cons_succ]
      exact List.zipWith_comm
    exact (edges_rotate_perm _ t.length).symm.trans (by rw [h1, h2]; exact List.reverse_perm _)

end edges

section order
variable {α : Type} [LinearOrder α]

theorem fmin_eq (a b : α) : fmin a b = min a b := by
  unfold fmin; split <;> rename_i h
  · exact (min_eq_left h.le).symm
  · exact (min_eq_right (not_lt.mp h)).symm

theorem fmax_eq (a b : α) : fmax a b = max a b := by
  unfold fmax; split <;> rename_i h
  · exact (max_eq_right h.le).symm
  · exact (max_eq_left (not_lt.mp h)).symm

theorem straddle_iff_minmax (y : α) (p1 p2 : α × α) :
    straddle y p1 p2 = true ↔ min p1.2 p2.2 < y ∧ y ≤ max p1.2 p2.2 := by
  rw [min_lt_iff, ← not_lt, max_lt_iff]
  unfold straddle below
  by_cases h1 : p1.2 < y <;> by_cases h2 : p2.2 < y <;> simp [h1, h2]

theorem colMin_le (l : List α) : ∀ m : α, colMin m l ≤ m ∧ ∀ a ∈ l, colMin m l ≤ a := by
  induction l with
  | nil => intro m; simp [colMin]
  | cons b t ih =>
    intro m
    obtain ⟨h1, h2⟩ := ih (fmin m b)
    rw [fmin_eq] at h1 h2
    simp only [colMin, fmin_eq]
    refine ⟨h1.trans (min_le_left _ _), ?_⟩
    intro a ha
    rcases List.mem_cons.mp ha with rfl | ha
    · exact h1.trans (min_le_right _ _)
    · exact h2 a ha

theorem le_colMax (l : List α) : ∀ m : α, m ≤ colMax m l ∧ ∀ a ∈ l, a ≤ colMax m l := by
  induction l with
  | nil => intro m; simp [colMax]
  | cons b t ih =>
    intro m
    obtain ⟨h1, h2⟩ := ih (fmax m b)
    rw [fmax_eq] at h1 h2
    simp only [colMax, fmax_eq]
    refine ⟨(le_max_left _ _).trans h1, ?_⟩
    intro a ha
    rcases List.mem_cons.mp ha with rfl | ha
    · exact (le_max_right _ _).trans h1
    · exact h2 a ha

theorem extent_bounds {v0 v : α × α} {t : List (α × α)} (hv : v ∈ v0 :: t) :
    (extentX v0 t).1 ≤ v.1 ∧ v.1 ≤ (extentX v0 t).2 ∧ (extentY v0 t).1 ≤ v.2 ∧ v.2 ≤ (extentY v0 t).2 := by
  unfold extentX extentY
  rcases List.mem_cons.mp hv with rfl | hv
  · exact ⟨(colMin_le _ _).1, (le_colMax _ _).1, (colMin_le _ _).1, (le_colMax _ _).1⟩
  · exact ⟨(colMin_le _ _).2 _ (List.mem_map_of_mem hv), (le_colMax _ _).2 _ (List.mem_map_of_mem hv),
      (colMin_le _ _).2 _ (List.mem_map_of_mem hv), (le_colMax _ _).2 _ (List.mem_map_of_mem hv)⟩

theorem parity_straddle_cycle (y : α) (poly : List (α × α)) :
    parity ((edges poly).map fun e => straddle y e.1 e.2) = false :=
  parity_switch_cycle (fun p => below y p.2) poly

/-- any per-edge rule `f` that implies `straddle`, holds on a straddled edge wholly right of `x` and fails on an edge
wholly left of `x` has even parity at a point outside the box: above or below it nothing straddles, right of it nothing
counts, left of it every straddling edge counts and these are even in number -/
theorem parity_outsideBox {v0 : α × α} {t : List (α × α)} {x y : α} (f : α × α → α × α → Bool)
    (hf1 : ∀ p1 p2, f p1 p2 = true → straddle y p1 p2 = true)
    (hf2 : ∀ p1 p2, straddle y p1 p2 = true → x < min p1.1 p2.1 → f p1 p2 = true)
    (hf3 : ∀ p1 p2, max p1.1 p2.1 < x → f p1 p2 = false)
    (hout : outsideBox (extentX v0 t) (extentY v0 t) (x, y) = true) :
    parity ((edges (v0 :: t)).map fun e => f e.1 e.2) = false := by
  have hb : ∀ e ∈ edges (v0 :: t), _ := fun e he =>
    And.intro (extent_bounds (mem_edges he).1) (extent_bounds (mem_edges he).2)
  have hy' : ∀ e ∈ edges (v0 :: t), f e.1 e.2 = true → (extentY v0 t).1 < y ∧ y ≤ (extentY v0 t).2 :=
    fun e he hfe => by
      obtain ⟨⟨-, -, l1, u1⟩, ⟨-, -, l2, u2⟩⟩ := hb e he
      have := (straddle_iff_minmax ..).mp (hf1 _ _ hfe)
      exact ⟨(le_min l1 l2).trans_lt this.1, this.2.trans (max_le u1 u2)⟩
  simp only [outsideBox, Bool.or_eq_true, decide_eq_true_eq] at hout
  rcases hout with ((hx | hx) | hy) | hy
  · -- left of the box: every straddling edge counts
    rw [← parity_straddle_cycle y (v0 :: t)]
    apply parity_map_congr
    intro e he
    cases hs : straddle y e.1 e.2
    · exact Bool.eq_false_iff.mpr fun hfe => by rw [hf1 _ _ hfe] at hs; cases hs
    · exact hf2 _ _ hs (hx.trans_le (le_min (hb e he).1.1 (hb e he).2.1))
  · exact parity_map_false fun e he => hf3 _ _ ((max_le (hb e he).1.2.1 (hb e he).2.2.1).trans_lt hx)
  · exact parity_map_false fun e he => Bool.eq_false_iff.mpr fun h => lt_asymm hy (hy' e he h).1
  · exact parity_map_false fun e he => Bool.eq_false_iff.mpr fun h => not_le.mpr hy (hy' e he h).2

/-! the side of an edge: an edge that straddles the level of a point goes up or down through it, and the point is left or
right of the crossing according to the sign of `cross` -/

def isUp (y : α) (p1 p2 : α × α) : Bool := below y p1.2 && !below y p2.2
def isDown (y : α) (p1 p2 : α × α) : Bool := !below y p1.2 && below y p2.2

theorem isUp_iff {y : α} {p1 p2 : α × α} : isUp y p1 p2 = true ↔ p1.2 < y ∧ y ≤ p2.2 := by
  simp [isUp, below]

theorem isDown_iff {y : α} {p1 p2 : α × α} : isDown y p1 p2 = true ↔ p2.2 < y ∧ y ≤ p1.2 := by
  simp [isDown, below]; tauto

theorem straddle_eq_up_or_down (y : α) (p1 p2 : α × α) :
    straddle y p1 p2 = (isUp y p1 p2 || isDown y p1 p2) := by
  unfold straddle isUp isDown
  cases below y p1.2 <;> cases below y p2.2 <;> rfl

theorem isUp_straddle {y : α} {p1 p2 : α × α} (h : isUp y p1 p2 = true) : straddle y p1 p2 = true := by
  rw [straddle_eq_up_or_down, h]; rfl

theorem isDown_straddle {y : α} {p1 p2 : α × α} (h : isDown y p1 p2 = true) : straddle y p1 p2 = true := by
  rw [straddle_eq_up_or_down, h]; simp

end order

section identities
variable {α : Type} [Field α]

/-- the parameter in `[0, 1]` at which the edge `p1 p2` meets the level `y` (`tpar_y`, `tpar_mem`, `level_point`) -/
def tpar (y : α) (p1 p2 : α × α) : α := (y - p1.2) / (p2.2 - p1.2)

theorem xint_eq_tpar (y : α) (p1 p2 : α × α) : xint y p1 p2 = p1.1 + tpar y p1 p2 * (p2.1 - p1.1) := by
  unfold xint tpar; ring

theorem cross_eq_mul {x y : α} {p1 p2 : α × α} (h : p2.2 - p1.2 ≠ 0) :
    cross p1 p2 (x, y) = (p2.2 - p1.2) * (xint y p1 p2 - x) := by
  unfold cross xint; field_simp; ring

theorem cross_swap (p1 p2 q : α × α) : cross p2 p1 q = -cross p1 p2 q := by unfold cross; ring

end identities

variable {α : Type} [Field α] [LinearOrder α]

/-! ### the crossing tests, and the level point of a straddled edge -/

theorem crossR_iff {x y : α} {p1 p2 : α × α} :
    crossR x y p1 p2 = true ↔ straddle y p1 p2 = true ∧ x < xint y p1 p2 := by simp [crossR]

theorem crossL_iff {x y : α} {p1 p2 : α × α} :
    crossL x y p1 p2 = true ↔ straddle y p1 p2 = true ∧ xint y p1 p2 < x := by simp [crossL]

theorem crossRle_iff {x y : α} {p1 p2 : α × α} :
    crossRle x y p1 p2 = true ↔ straddle y p1 p2 = true ∧ x ≤ xint y p1 p2 := by simp [crossRle]

theorem straddle_ne {y : α} {p1 p2 : α × α} (h : straddle y p1 p2 = true) : p2.2 - p1.2 ≠ 0 := fun h0 => by
  rw [straddle, sub_eq_zero.mp h0, Bool.xor_self] at h
  cases h

theorem tpar_y {y : α} {p1 p2 : α × α} (h : straddle y p1 p2 = true) :
    p1.2 + tpar y p1 p2 * (p2.2 - p1.2) = y := by
  rw [tpar, div_mul_cancel₀ _ (straddle_ne h), add_sub_cancel]

theorem level_point {y : α} {p1 p2 : α × α} (hs : straddle y p1 p2 = true) :
    ((xint y p1 p2, y) : α × α) =
      (p1.1 + tpar y p1 p2 * (p2.1 - p1.1), p1.2 + tpar y p1 p2 * (p2.2 - p1.2)) := by
  rw [← xint_eq_tpar, tpar_y hs]

/-! ### `Far`: the distance of a point from the boundary -/

/-- the point of the segment `A B` at parameter `t` -/
def segPt (A B : α × α) (t : α) : α × α := (A.1 + t * (B.1 - A.1), A.2 + t * (B.2 - A.2))

/-- the point `(x, y)` is farther than `atol`, in the sup norm, from every point of the segment `p1 p2` -/
def FarEdge (atol x y : α) (p1 p2 : α × α) : Prop :=
  ∀ t : α, 0 ≤ t → t ≤ 1 →
    atol < |x - (p1.1 + t * (p2.1 - p1.1))| ∨ atol < |y - (p1.2 + t * (p2.2 - p1.2))|

/-- farther than `atol` from every edge -/
def Far (atol : α) (poly : List (α × α)) (pt : α × α) : Prop :=
  ∀ e ∈ edges poly, FarEdge atol pt.1 pt.2 e.1 e.2

theorem evenOdd_map {f : α × α → α × α}
    (hedge : ∀ q p1 p2 : α × α, crossR (f q).1 (f q).2 (f p1) (f p2) = crossR q.1 q.2 p1 p2)
    (poly : List (α × α)) (pt : α × α) : evenOdd (poly.map f) (f pt) = evenOdd poly pt := by
  unfold evenOdd
  rw [edges_map, List.map_map]
  exact parity_map_congr fun e _ => hedge pt e.1 e.2

theorem far_mono {a b : α} {poly : List (α × α)} {pt : α × α} (hab : a ≤ b) (h : Far b poly pt) : Far a poly pt :=
  fun e he t h0 h1 => (h e he t h0 h1).imp hab.trans_lt hab.trans_lt

/-! ### the maps `shift` and `scale` -/

def shift (d : α × α) (p : α × α) : α × α := (p.1 + d.1, p.2 + d.2)
def scale (c : α) (p : α × α) : α × α := (c * p.1, c * p.2)

theorem farEdge_shift {atol x y : α} {p1 p2 : α × α} (d : α × α) (h : FarEdge atol x y p1 p2) :
    FarEdge atol (x + d.1) (y + d.2) (shift d p1) (shift d p2) := by
  intro t h0 h1
  simp only [shift, add_sub_add_right_eq_sub, add_right_comm _ d.1, add_right_comm _ d.2]
  exact h t h0 h1

theorem far_shift {atol : α} {poly : List (α × α)} {pt : α × α} (d : α × α) (h : Far atol poly pt) :
    Far atol (poly.map (shift d)) (shift d pt) := by
  intro e he
  rw [edges_map] at he
  obtain ⟨e', he', rfl⟩ := List.mem_map.mp he
  exact farEdge_shift d (h e' he')

variable [IsStrictOrderedRing α]

/-! ### intervals and segments of the line -/

theorem fabs_eq (a : α) : fabs a = |a| := Ordered.ite_neg_eq_abs a

theorem lerp_mem {a b t : α} (h0 : 0 ≤ t) (h1 : t ≤ 1) : min a b ≤ a + t * (b - a) ∧ a + t * (b - a) ≤ max a b :=
  Ordered.lerp_mem ⟨min_le_left _ _, le_max_left _ _⟩ ⟨min_le_right _ _, le_max_right _ _⟩ h0 h1

theorem param_mem {a b x : α} (hab : a ≠ b) (hlo : min a b ≤ x) (hhi : x ≤ max a b) :
    0 ≤ (x - a) / (b - a) ∧ (x - a) / (b - a) ≤ 1 := by
  rcases lt_or_gt_of_ne hab with h | h
  · rw [min_eq_left h.le] at hlo; rw [max_eq_right h.le] at hhi
    exact ⟨div_nonneg (sub_nonneg.mpr hlo) (sub_pos.mpr h).le,
      (div_le_one (sub_pos.mpr h)).mpr (sub_le_sub_right hhi _)⟩
  · rw [min_eq_right h.le] at hlo; rw [max_eq_left h.le] at hhi
    exact ⟨div_nonneg_of_nonpos (sub_nonpos.mpr hhi) (sub_neg.mpr h).le,
      (div_le_one_of_neg (sub_neg.mpr h)).mpr (sub_le_sub_right hlo _)⟩

theorem exists_param {a1 a2 x : α} (hlo : min a1 a2 ≤ x) (hhi : x ≤ max a1 a2) :
    ∃ t : α, 0 ≤ t ∧ t ≤ 1 ∧ a1 + t * (a2 - a1) = x := by
  rcases eq_or_ne a1 a2 with rfl | h
  · rw [min_self] at hlo; rw [max_self] at hhi
    exact ⟨0, le_refl _, zero_le_one, by rw [zero_mul, add_zero]; exact le_antisymm hlo hhi⟩
  · exact ⟨_, (param_mem h hlo hhi).1, (param_mem h hlo hhi).2,
      by rw [div_mul_cancel₀ _ (sub_ne_zero.mpr h.symm), add_sub_cancel]⟩

theorem abs_sub_le_of_mem {a b u v : α} (hu : min a b ≤ u ∧ u ≤ max a b) (hv : min a b ≤ v ∧ v ≤ max a b) :
    |u - v| ≤ |a - b| := by
  rw [← max_sub_min_eq_abs' a b, abs_sub_le_iff]
  exact ⟨sub_le_sub hu.2 hv.1, sub_le_sub hv.2 hu.1⟩

/-! ### the kernel's edge test, far from the edge; the box -/

theorem edgeToggle_iff (atol x y : α) (p1 p2 : α × α) :
    edgeToggle atol x y p1 p2 = true ↔
      (straddle y p1 p2 = true ∧ x ≤ max p1.1 p2.1 ∧
        (|p1.1 - p2.1| < atol ∨ x ≤ xinters atol y p1 p2)) := by
  simp only [edgeToggle_eq, Bool.and_eq_true, Bool.or_eq_true, decide_eq_true_eq, fmin_eq, fmax_eq, fabs_eq,
    straddle_iff_minmax, and_assoc]

theorem tpar_mem {y : α} {p1 p2 : α × α} (h : straddle y p1 p2 = true) :
    0 ≤ tpar y p1 p2 ∧ tpar y p1 p2 ≤ 1 :=
  param_mem (fun h' => straddle_ne h (by rw [h', sub_self])) ((straddle_iff_minmax ..).mp h).1.le
    ((straddle_iff_minmax ..).mp h).2

theorem xint_mem {y : α} {p1 p2 : α × α} (h : straddle y p1 p2 = true) :
    min p1.1 p2.1 ≤ xint y p1 p2 ∧ xint y p1 p2 ≤ max p1.1 p2.1 := by
  rw [xint_eq_tpar]
  exact lerp_mem (tpar_mem h).1 (tpar_mem h).2

theorem far_level {atol x y : α} {p1 p2 : α × α} (h0 : 0 ≤ atol) (hfar : FarEdge atol x y p1 p2)
    (hs : straddle y p1 p2 = true) : atol < |x - xint y p1 p2| := by
  rcases hfar _ (tpar_mem hs).1 (tpar_mem hs).2 with h | h
  · rwa [← xint_eq_tpar] at h
  · rw [tpar_y hs, sub_self, abs_zero] at h; exact absurd h (not_lt.mpr h0)

theorem edgeToggle_eq_crossR_of_far {atol x y : α} {p1 p2 : α × α} (h0 : 0 ≤ atol)
    (hfar : FarEdge atol x y p1 p2) : edgeToggle atol x y p1 p2 = crossR x y p1 p2 := by
  rw [Bool.eq_iff_iff, edgeToggle_iff, crossR_iff]
  refine and_congr_right fun hs => ?_
  obtain ⟨hlo, hhi⟩ := xint_mem hs
  have hfx := far_level h0 hfar hs
  unfold xinters; rw [fabs_eq]
  by_cases hdy : atol < |p1.2 - p2.2|
  · rw [if_pos hdy]
    change _ ∧ (_ ∨ x ≤ xint y p1 p2) ↔ _
    constructor
    · rintro ⟨hmax, hdx | hle⟩
      · -- a point at or right of the crossing point and left of `max` is within `|p1x - p2x| < atol` of it
        by_contra hnot
        exact lt_irrefl _ (hfx.trans_le
          ((abs_sub_le_of_mem ⟨hlo.trans (not_lt.mp hnot), hmax⟩ ⟨hlo, hhi⟩).trans hdx.le))
      · exact lt_of_le_of_ne hle fun heq => by
          rw [heq, sub_self, abs_zero] at hfx; exact not_lt.mpr h0 hfx
    · intro hlt; exact ⟨hlt.le.trans hhi, Or.inr hlt.le⟩
  · rw [if_neg hdy]
    -- the whole edge is within `atol` of the height of the point: the point is left or right of it
    have hout : x < min p1.1 p2.1 ∨ max p1.1 p2.1 < x := by
      by_contra hc
      push Not at hc
      obtain ⟨t, h0t, h1t, ht⟩ := exists_param hc.1 hc.2
      rcases hfar t h0t h1t with h | h
      · rw [ht, sub_self, abs_zero] at h; exact not_lt.mpr h0 h
      · exact hdy (h.trans_le (abs_sub_le_of_mem ((straddle_iff_minmax ..).mp hs |>.imp_left le_of_lt)
          (lerp_mem h0t h1t)))
    rcases hout with hl | hr
    · have : x < p1.1 := hl.trans_le (min_le_left _ _)
      exact ⟨fun _ => hl.trans_le hlo, fun _ => ⟨this.le.trans (le_max_left _ _), Or.inr this.le⟩⟩
    · exact ⟨fun h => absurd h.1 (not_le.mpr hr), fun hlt => absurd (hlt.trans_le hhi) (not_lt.mpr hr.le)⟩

theorem evenOddLe_outsideBox {v0 : α × α} {t : List (α × α)} {pt : α × α}
    (hout : outsideBox (extentX v0 t) (extentY v0 t) pt = true) : evenOddLe (v0 :: t) pt = false :=
  parity_outsideBox (crossRle pt.1 pt.2) (fun _ _ h => (crossRle_iff.mp h).1)
    (fun _ _ hs hx => crossRle_iff.mpr ⟨hs, (hx.trans_le (xint_mem hs).1).le⟩)
    (fun _ _ hx => Bool.eq_false_iff.mpr fun h =>
      not_le.mpr hx ((crossRle_iff.mp h).2.trans (xint_mem (crossRle_iff.mp h).1).2)) hout

/-! ### `Sep`, `OffEdges`: polygons whose steps the tolerance does not see, points on no edge -/

/-- unless the coordinates agree, the kernel's guard `fabs(p1y-p2y) > atol` holds and its guard `fabs(p1x-p2x) < atol`
fails; hence `<` for the ordinates, `≤` for the abscissae -/
def SepEdge (atol : α) (p1 p2 : α × α) : Prop :=
  (p1.2 = p2.2 ∨ atol < |p1.2 - p2.2|) ∧ (p1.1 = p2.1 ∨ atol ≤ |p1.1 - p2.1|)

def Sep (atol : α) (poly : List (α × α)) : Prop := ∀ e ∈ edges poly, SepEdge atol e.1 e.2

/-- the point lies on no edge (half-open rule: the lower end point of an edge does not belong to it) -/
def OffEdges (poly : List (α × α)) (pt : α × α) : Prop :=
  ∀ e ∈ edges poly, straddle pt.2 e.1 e.2 = true → pt.1 ≠ xint pt.2 e.1 e.2

theorem edgeToggle_eq_crossRle_of_sep {atol x y : α} {p1 p2 : α × α} (hsep : SepEdge atol p1 p2) :
    edgeToggle atol x y p1 p2 = crossRle x y p1 p2 := by
  rw [Bool.eq_iff_iff, edgeToggle_iff, crossRle_iff]
  refine and_congr_right fun hs => ?_
  have hdy : atol < |p1.2 - p2.2| :=
    hsep.1.resolve_left fun h => straddle_ne hs (by rw [h, sub_self])
  unfold xinters; rw [fabs_eq, if_pos hdy]
  change _ ∧ (_ ∨ x ≤ xint y p1 p2) ↔ _
  constructor
  · rintro ⟨hmax, hdx | hle⟩
    · -- the second guard fires on a vertical edge only, whose crossing abscissa is `max p1x p2x`
      have h := hsep.2.resolve_right (not_le.mpr hdx)
      rw [show xint y p1 p2 = max p1.1 p2.1 by
        unfold xint; rw [h, sub_self, mul_zero, zero_div, add_zero, max_self]]
      exact hmax
    · exact hle
  · intro hle; exact ⟨hle.trans (xint_mem hs).2, Or.inr hle⟩

theorem far_offEdges {atol : α} {poly : List (α × α)} {pt : α × α} (h0 : 0 ≤ atol) (h : Far atol poly pt) :
    OffEdges poly pt := by
  intro e he hs heq
  have := far_level h0 (h e he) hs
  rw [heq, sub_self, abs_zero] at this
  exact not_lt.mpr h0 this

/-! ### `Far` under reversal and closing of the vertex list -/

theorem farEdge_swap {atol x y : α} {p1 p2 : α × α} (h : FarEdge atol x y p1 p2) : FarEdge atol x y p2 p1 := by
  intro t h0 h1
  have := h (1 - t) (sub_nonneg.mpr h1) (sub_le_self 1 h0)
  rw [show p1.1 + (1 - t) * (p2.1 - p1.1) = p2.1 + t * (p1.1 - p2.1) by ring,
    show p1.2 + (1 - t) * (p2.2 - p1.2) = p2.2 + t * (p1.2 - p2.2) by ring] at this
  exact this

theorem far_reverse {atol : α} {poly : List (α × α)} {pt : α × α} (h : Far atol poly pt) :
    Far atol poly.reverse pt := by
  intro e he
  have := (edges_reverse_perm poly).subset he
  obtain ⟨e', he', rfl⟩ := List.mem_map.mp this
  exact farEdge_swap (h e' he')

theorem far_close {atol : α} {v0 : α × α} {t : List (α × α)} {pt : α × α} (h : Far atol (v0 :: t) pt) :
    Far atol ((v0 :: t) ++ [v0]) pt := by
  intro e he
  rw [edges_close] at he
  rcases List.mem_append.mp he with he | he
  · exact h e he
  · -- the closing edge `v0 v0` is the start of the first edge
    rw [List.mem_singleton.mp he]
    obtain ⟨e', he', h1⟩ : ∃ e' ∈ edges (v0 :: t), e'.1 = v0 :=
      List.mem_map.mp (by rw [edges_fst]; exact List.mem_cons_self)
    intro s _ _
    simpa [h1] using h e' he' 0 (le_refl _) zero_le_one

/-! ### the open-ray test under a shift; the sign of `cross` on an edge going up / down -/

theorem crossR_shift (d : α × α) (x y : α) (p1 p2 : α × α) :
    crossR (x + d.1) (y + d.2) (shift d p1) (shift d p2) = crossR x y p1 p2 := by
  simp only [crossR, straddle, below, xint, shift, add_sub_add_right_eq_sub, add_lt_add_iff_right,
    add_right_comm _ d.1]
  rfl

theorem cross_pos_up {x y : α} {p1 p2 : α × α} (hu : isUp y p1 p2 = true) :
    0 < cross p1 p2 (x, y) ↔ x < xint y p1 p2 := by
  obtain ⟨h1, h2⟩ := isUp_iff.mp hu
  have hd : 0 < p2.2 - p1.2 := sub_pos.mpr (h1.trans_le h2)
  rw [cross_eq_mul hd.ne', mul_pos_iff_of_pos_left hd, sub_pos]

theorem cross_pos_down {x y : α} {p1 p2 : α × α} (hd : isDown y p1 p2 = true) :
    0 < cross p1 p2 (x, y) ↔ xint y p1 p2 < x := by
  obtain ⟨h1, h2⟩ := isDown_iff.mp hd
  have hlt : p2.2 < p1.2 := h1.trans_le h2
  rw [cross_eq_mul (sub_neg.mpr hlt).ne, ← neg_mul_neg, neg_sub, neg_sub, mul_pos_iff_of_pos_left (sub_pos.mpr hlt),
    sub_pos]

theorem cross_neg_down {x y : α} {p1 p2 : α × α} (hd : isDown y p1 p2 = true) :
    cross p1 p2 (x, y) < 0 ↔ x < xint y p1 p2 := by
  obtain ⟨h1, h2⟩ := isDown_iff.mp hd
  have hlt : p2.2 < p1.2 := h1.trans_le h2
  rw [← neg_pos, cross_eq_mul (sub_neg.mpr hlt).ne, ← neg_mul, neg_sub, mul_pos_iff_of_pos_left (sub_pos.mpr hlt),
    sub_pos]

end HydroVerif.C15
