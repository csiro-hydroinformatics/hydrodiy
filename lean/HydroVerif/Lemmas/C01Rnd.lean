/-
C01 — a ROUNDED instance of the transform model (helper definitions and lemmas; the property statements that use them
are in `Props/C01.lean`).

The model text of `Model/C01.lean` is generic over its carrier. Here it is instantiated at `Rd M`: real numbers on which
every arithmetic operation and every library call is followed by a rounding `M.rnd`, of which only this is assumed:
monotone, `rnd 0 = 0`, `rnd 1 = 1`, `rnd (-x) = -rnd x`, idempotent — true of IEEE-754 round-to-nearest (overflow to
±inf and gradual underflow included as far as order goes) — and `fexp ≥ 0` for the library exponential (any libm).
Statements proved over `Rd M` are exact statements about the floating-point code (NaN excluded), not about its real
idealisation; `FP.exact` (no rounding) shows the assumptions are consistent.

`Lemmas/C02Round.lean` has another `FP` / `Rd M` for the monotonicity statements of C02; the two do not serve each other:
this one needs `rnd (-x) = -rnd x` (oddness) and rounds the library results, and assumes nothing of them but `exp ≥ 0`;
that one needs `rnd (1/2) = 1/2` and monotone, sign-keeping library functions, leaves their results unrounded, and has no
oddness. `Lemmas/Round.lean` holds the order facts of any monotone rounding (`Props/C01` takes the range of the rounded
Softmax backward from `Round.rnd_div_mem`) and the relative-error steps; the latter are about error bounds, of which
neither instance assumes any.
-/
import HydroVerif.Lemmas.C01Real

namespace HydroVerif.C01

structure FP where
  rnd : ℝ → ℝ
  rnd_mono : Monotone rnd
  rnd_zero : rnd 0 = 0
  rnd_one : rnd 1 = 1
  rnd_neg : ∀ x, rnd (-x) = -rnd x
  rnd_idem : ∀ x, rnd (rnd x) = rnd x
  fexp : ℝ → ℝ
  fexp_nonneg : ∀ x, 0 ≤ fexp x
  flog : ℝ → ℝ
  fpow : ℝ → ℝ → ℝ

noncomputable def FP.exact : FP where
  rnd := id
  rnd_mono := monotone_id
  rnd_zero := rfl
  rnd_one := rfl
  rnd_neg := fun _ => rfl
  rnd_idem := fun _ => rfl
  fexp := Real.exp
  fexp_nonneg := fun x => (Real.exp_pos x).le
  flog := Real.log
  fpow := fun x y => x ^ y

structure Rd (M : FP) where
  val : ℝ

namespace Rd
variable {M : FP}

noncomputable instance : Add (Rd M) := ⟨fun a b => ⟨M.rnd (a.val + b.val)⟩⟩
noncomputable instance : Sub (Rd M) := ⟨fun a b => ⟨M.rnd (a.val - b.val)⟩⟩
noncomputable instance : Mul (Rd M) := ⟨fun a b => ⟨M.rnd (a.val * b.val)⟩⟩
noncomputable instance : Div (Rd M) := ⟨fun a b => ⟨M.rnd (a.val / b.val)⟩⟩
instance : Neg (Rd M) := ⟨fun a => ⟨-a.val⟩⟩
instance : LT (Rd M) := ⟨fun a b => a.val < b.val⟩
instance : LE (Rd M) := ⟨fun a b => a.val ≤ b.val⟩
noncomputable instance : DecidableLT (Rd M) := fun a b => inferInstanceAs (Decidable (a.val < b.val))
noncomputable instance : DecidableLE (Rd M) := fun a b => inferInstanceAs (Decidable (a.val ≤ b.val))
instance : OfNat (Rd M) 0 := ⟨⟨0⟩⟩
instance : OfNat (Rd M) 1 := ⟨⟨1⟩⟩
noncomputable instance : OfNat (Rd M) 2 := ⟨⟨M.rnd 2⟩⟩
noncomputable instance : OfScientific (Rd M) := ⟨fun m s e => ⟨M.rnd (OfScientific.ofScientific m s e)⟩⟩
noncomputable instance : Transc (Rd M) where
  exp a := ⟨M.rnd (M.fexp a.val)⟩
  log a := ⟨M.rnd (M.flog a.val)⟩
  sqrt a := ⟨M.rnd (Real.sqrt a.val)⟩
  sinh a := ⟨M.rnd (Real.sinh a.val)⟩
  cosh a := ⟨M.rnd (Real.cosh a.val)⟩
  tanh a := ⟨M.rnd (Real.tanh a.val)⟩
  asinh a := ⟨M.rnd (Real.arsinh a.val)⟩
  pow a b := ⟨M.rnd (M.fpow a.val b.val)⟩

@[simp] theorem add_val (a b : Rd M) : (a + b).val = M.rnd (a.val + b.val) := rfl
@[simp] theorem mul_val (a b : Rd M) : (a * b).val = M.rnd (a.val * b.val) := rfl
@[simp] theorem div_val (a b : Rd M) : (a / b).val = M.rnd (a.val / b.val) := rfl
@[simp] theorem neg_val (a : Rd M) : (-a).val = -a.val := rfl
@[simp] theorem zero_val : (0 : Rd M).val = 0 := rfl
@[simp] theorem one_val : (1 : Rd M).val = 1 := rfl
@[simp] theorem exp_val (a : Rd M) : (Transc.exp a : Rd M).val = M.rnd (M.fexp a.val) := rfl
theorem lt_def (a b : Rd M) : a < b ↔ a.val < b.val := Iff.rfl
theorem le_def (a b : Rd M) : a ≤ b ↔ a.val ≤ b.val := Iff.rfl

/-- `a` is a floating-point number: rounding leaves it as it is (`Rd.Repr` in Lemmas/C02Round) -/
def Fix (a : Rd M) : Prop := M.rnd a.val = a.val

/-- a monotone rounding does not cross a value it fixes, from below (`Round.rnd_mem` of `Lemmas/Round.lean`, here on the
field `M.rnd_mono`; from above it is not needed) -/
theorem le_rnd {a x : ℝ} (ha : M.rnd a = a) (h : a ≤ x) : a ≤ M.rnd x := ha.symm.trans_le (M.rnd_mono h)

theorem le_add_right {a b : Rd M} (ha : Fix a) (hb : 0 ≤ b.val) : a.val ≤ (a + b).val :=
  le_rnd ha (le_add_of_nonneg_right hb)

theorem le_add_left {a b : Rd M} (hb : Fix b) (ha : 0 ≤ a.val) : b.val ≤ (a + b).val :=
  le_rnd hb (le_add_of_nonneg_left ha)

/-! `sign`, `abs` and the multiplication by `±1` commit no rounding error: a map `x ↦ sign x * g (absv x)` (both directions
of BoxCox2sym; with `g = F · - F 0` it is `oddExt F` of Lemmas/C02, whence the names) is exactly odd and sends `0` to `0`,
whatever `g` is. -/

theorem sign_val (y : Rd M) : (sign y).val = if 0 < y.val then 1 else if y.val < 0 then -1 else 0 := by
  simp only [sign, Rd.lt_def, Rd.zero_val]
  split_ifs <;> rfl

theorem absv_neg (x : Rd M) : absv (-x) = absv x := by
  have habs : ∀ y : Rd M, absv y = ⟨|y.val|⟩ := fun y => by
    unfold absv
    split_ifs with h
    · exact congrArg Rd.mk (abs_of_neg h).symm
    · exact congrArg Rd.mk (abs_of_nonneg (not_lt.mp h)).symm
  rw [habs, habs, Rd.neg_val, abs_neg]

theorem sign_neg_val (x : Rd M) : (sign (-x)).val = -(sign x).val := by
  rw [sign_val, sign_val, Rd.neg_val]
  rcases lt_trichotomy x.val 0 with h | h | h
  · rw [if_pos (neg_pos.mpr h), if_neg h.not_gt, if_pos h, neg_neg]
  · rw [h, neg_zero, if_neg (lt_irrefl 0), if_neg (lt_irrefl 0), neg_zero]
  · rw [if_neg (not_lt.mpr (neg_nonpos.mpr h.le)), if_pos (neg_neg_of_pos h), if_pos h]

theorem oddExt_neg (g : Rd M → Rd M) (x : Rd M) : (sign (-x) * g (absv (-x))).val = -(sign x * g (absv x)).val := by
  rw [absv_neg, Rd.mul_val, Rd.mul_val, sign_neg_val, neg_mul, M.rnd_neg]

theorem oddExt_zero (a : Rd M) : (sign (0 : Rd M) * a).val = 0 := by
  rw [Rd.mul_val, sign_val, Rd.zero_val, if_neg (lt_irrefl 0), if_neg (lt_irrefl 0), zero_mul, M.rnd_zero]

end Rd

open Rd

theorem Softmax.sumFrom_rd {M : FP} : ∀ (xs : List (Rd M)) (acc : Rd M), Fix acc → 0 ≤ acc.val →
    (∀ x ∈ xs, Fix x ∧ 0 ≤ x.val) →
    Fix (Softmax.sumFrom acc xs) ∧ acc.val ≤ (Softmax.sumFrom acc xs).val ∧ ∀ x ∈ xs, x.val ≤ (Softmax.sumFrom acc xs).val
  | [], acc, hf, _, _ => ⟨hf, le_refl _, by simp⟩
  | x :: xs, acc, hf, h0, hx => by
    obtain ⟨hxf, hx0⟩ := hx x (List.mem_cons_self ..)
    have h1 := Rd.le_add_right hf hx0
    have h2 := Rd.le_add_left (a := acc) hxf h0
    obtain ⟨a, b, c⟩ := Softmax.sumFrom_rd xs (acc + x) (M.rnd_idem _) (le_trans h0 h1)
      (fun y hy => hx y (List.mem_cons_of_mem _ hy))
    refine ⟨a, le_trans h1 b, fun y hy => ?_⟩
    rcases List.mem_cons.mp hy with rfl | hm
    exacts [le_trans h2 b, c y hm]

instance {M : FP} : NanTest (Rd M) := ⟨fun _ => false⟩

end HydroVerif.C01
