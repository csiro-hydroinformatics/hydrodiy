/-
C08 — time stamps as a mixed-radix code.  The exact index of a finer time step is the index of the coarser step times
100 plus a two-digit field (`H = D·100 + h`, `D = MS·100 + d`, `MS = AS·100 + m`), and chronological order `Stamp.le`
is four nested copies of one connective, `Lex q q' P`: "`q` decides, or ties and `P` decides".  One lemma about one
two-digit place (`lex_code_iff`, and `code_eq_iff` for equality) then gives, level by level and by rewriting only, the
order embedding of every step (`raw_*_lex`), monotonicity, the `_eq_iff` results and transitivity of `Stamp.le`.
-/
import HydroVerif.Lemmas.C08

namespace HydroVerif.C08

/-- one level of a lexicographic comparison: `q` decides, or ties and `P` decides -/
def Lex (q q' : Int) (P : Prop) : Prop := q < q' ∨ q = q' ∧ P

theorem Lex.imp {q q' : Int} {P Q : Prop} (h : Lex q q' P) (hPQ : P → Q) : Lex q q' Q :=
  h.imp_right (And.imp_right hPQ)

theorem Lex.le {q q' : Int} {P : Prop} (h : Lex q q' P) : q ≤ q' := h.elim le_of_lt fun h => h.1.le

theorem Lex.trans {q q' q'' : Int} {P Q R : Prop} (h : Lex q q' P) (h' : Lex q' q'' Q) (hR : P → Q → R) :
    Lex q q'' R := by
  rcases h with h | ⟨rfl, hP⟩
  · exact Or.inl (lt_of_lt_of_le h h'.le)
  · exact h'.imp (hR hP)

/-- a code `q * 100 + r` with a two-digit `r` compares as the pair `(q, r)`, whatever decides a tie -/
theorem lex_code_iff {q q' : Int} {r r' : Nat} (hr : r < 100) (hr' : r' < 100) (P : Prop) :
    Lex (q * 100 + r) (q' * 100 + r') P ↔ Lex q q' (Lex r r' P) := by
  unfold Lex
  by_cases hP : P
  · simp only [hP, and_true]; omega
  · simp only [hP, and_false, or_false]; omega

theorem code_eq_iff {q q' : Int} {r r' : Nat} (hr : r < 100) (hr' : r' < 100) :
    q * 100 + (r : Int) = q' * 100 + r' ↔ q = q' ∧ r = r' := by omega

theorem raw_MS (t : Stamp) : aggIndexRaw .MS t = aggIndexRaw .AS t * 100 + (t.m : Int) := rfl

theorem raw_D (t : Stamp) : aggIndexRaw .D t = aggIndexRaw .MS t * 100 + (t.d : Int) := by
  simp only [aggIndexRaw]; omega

theorem raw_H (t : Stamp) : aggIndexRaw .H t = aggIndexRaw .D t * 100 + (t.h : Int) := by
  simp only [aggIndexRaw]; omega

theorem Stamp.valid.lt100 {t : Stamp} (h : t.valid) : t.m < 100 ∧ t.d < 100 ∧ t.h < 100 := by
  unfold Stamp.valid at h; omega

/-- the exact index of a calendar step is an order embedding of the fields it is made of
(`P := True`: `≤` against the lexicographic order of the fields) -/
theorem raw_MS_lex (a b : Stamp) (ha : a.valid) (hb : b.valid) (P : Prop) :
    Lex (aggIndexRaw .MS a) (aggIndexRaw .MS b) P ↔ Lex a.y b.y (Lex a.m b.m P) := by
  rw [raw_MS, raw_MS]; exact lex_code_iff ha.lt100.1 hb.lt100.1 P

theorem raw_D_lex (a b : Stamp) (ha : a.valid) (hb : b.valid) (P : Prop) :
    Lex (aggIndexRaw .D a) (aggIndexRaw .D b) P ↔ Lex a.y b.y (Lex a.m b.m (Lex a.d b.d P)) := by
  rw [raw_D, raw_D, lex_code_iff ha.lt100.2.1 hb.lt100.2.1, raw_MS_lex a b ha hb]

theorem raw_H_lex (a b : Stamp) (ha : a.valid) (hb : b.valid) (P : Prop) :
    Lex (aggIndexRaw .H a) (aggIndexRaw .H b) P ↔ Lex a.y b.y (Lex a.m b.m (Lex a.d b.d (Lex a.h b.h P))) := by
  rw [raw_H, raw_H, lex_code_iff ha.lt100.2.2 hb.lt100.2.2, raw_D_lex a b ha hb]

theorem raw_MS_eq_iff (a b : Stamp) (ha : a.valid) (hb : b.valid) :
    aggIndexRaw .MS a = aggIndexRaw .MS b ↔ a.y = b.y ∧ a.m = b.m := by
  rw [raw_MS, raw_MS]; exact code_eq_iff ha.lt100.1 hb.lt100.1

theorem raw_D_eq_iff (a b : Stamp) (ha : a.valid) (hb : b.valid) :
    aggIndexRaw .D a = aggIndexRaw .D b ↔ a.y = b.y ∧ a.m = b.m ∧ a.d = b.d := by
  rw [raw_D, raw_D, code_eq_iff ha.lt100.2.1 hb.lt100.2.1, raw_MS_eq_iff a b ha hb, and_assoc]

theorem raw_H_eq_iff (a b : Stamp) (ha : a.valid) (hb : b.valid) :
    aggIndexRaw .H a = aggIndexRaw .H b ↔ a.y = b.y ∧ a.m = b.m ∧ a.d = b.d ∧ a.h = b.h := by
  rw [raw_H, raw_H, code_eq_iff ha.lt100.2.2 hb.lt100.2.2, raw_D_eq_iff a b ha hb, and_assoc, and_assoc]

theorem Stamp.le_iff_lex (a b : Stamp) :
    Stamp.le a b ↔ Lex a.y b.y (Lex a.m b.m (Lex a.d b.d (Lex a.h b.h True))) := by
  unfold Stamp.le Lex
  simp only [and_true, Int.ofNat_lt, Int.natCast_inj, Nat.le_iff_lt_or_eq]

theorem Stamp.le_trans {a b c : Stamp} (hab : Stamp.le a b) (hbc : Stamp.le b c) : Stamp.le a c :=
  (Stamp.le_iff_lex a c).mpr <| ((Stamp.le_iff_lex a b).mp hab).trans ((Stamp.le_iff_lex b c).mp hbc) fun h h' =>
    h.trans h' fun h h' => h.trans h' fun h h' => h.trans h' fun _ _ => trivial

/-- chronological order gives a non-decreasing exact index, for every step: a coarser step forgets the finer fields -/
theorem aggIndexRaw_mono (st : Step) (he : ∀ e, st = .ASm e → 1 ≤ e ∧ e ≤ 12) (a b : Stamp)
    (ha : a.valid) (hb : b.valid) (hab : Stamp.le a b) : aggIndexRaw st a ≤ aggIndexRaw st b := by
  have h := (Stamp.le_iff_lex a b).mp hab
  cases st with
  | AS => exact h.le
  | ASm e =>
    have h2 := (he e rfl).2
    rw [aggIndexRaw_ASm e h2 a ha.1 ha.2.1, aggIndexRaw_ASm e h2 b hb.1 hb.2.1]
    unfold Lex at h
    split <;> split <;> omega
  | MS => exact ((raw_MS_lex a b ha hb True).mpr (h.imp fun h => h.imp fun _ => trivial)).le
  | D => exact ((raw_D_lex a b ha hb True).mpr (h.imp fun h => h.imp fun h => h.imp fun _ => trivial)).le
  | H => exact ((raw_H_lex a b ha hb True).mpr h).le

end HydroVerif.C08
