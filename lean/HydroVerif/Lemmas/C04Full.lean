/- C04, whole functions. The null filter is a `filterMap` (`nonull_eq_filterMap`) and `excludenull` is the removal of the incomplete
pairs from the raw series (`prep_excl_eq_removed`, with `prep_excl_noValid`: behind every `*_excl` theorem); complete data pass `prep`
unchanged (`prep_complete`); an operation on another table leaves a held table alone (`hstep_other`, `foldl_hstep_other`); the odds
ratio is the cross-product ratio (`binary_theta_eq`) and `binary` raises exactly when a margin, `FN` or `FP` is 0 (`binaryOf_table`) -/
import HydroVerif.Lemmas.C04
import HydroVerif.Lemmas.AllSome

namespace HydroVerif.C04

section removal
variable {α : Type}

theorem nonull_eq_filterMap (o s : List (Option α)) :
    nonull o s = ((o.zip s).filterMap fun p => match p with
      | (some a, some b) => some (a, b)
      | _ => none).unzip := by
  induction o generalizing s with
  | nil => cases s <;> rfl
  | cons a as ih =>
    cases s with
    | nil => cases a <;> rfl
    | cons b bs =>
      cases a <;> cases b <;>
        simp only [nonull, List.zip_cons_cons, List.filterMap_cons, List.unzip_cons, ih]

theorem finOpt_eq_some (fin : α → Bool) (x : Option α) (v : α) (h : finOpt fin x = some v) : x = some v := by
  cases x <;> simp_all [finOpt]

theorem removedRaw_length (fin : α → Bool) (f : α → Option α) (obs sim : List (Option α)) :
    (removedRaw fin f obs sim).1.length = (removedRaw fin f obs sim).2.length := by
  simp [removedRaw]

theorem allSomeL_eq_some_iff {l : List (Option α)} {v : List α} : allSomeL l = some v ↔ l = v.map some :=
  AllSome.eq_some_iff rfl (fun _ => rfl) fun _ _ => rfl

/-- both sides filter the same list of raw pairs, by the same test -/
theorem fwdL_removedRaw (fin : α → Bool) (f : α → Option α) (obs sim : List (Option α)) :
    fwdL f (removedRaw fin f obs sim).1
        = (nonull ((fwdL f obs).map (finOpt fin)) ((fwdL f sim).map (finOpt fin))).1.map some ∧
    fwdL f (removedRaw fin f obs sim).2
        = (nonull ((fwdL f obs).map (finOpt fin)) ((fwdL f sim).map (finOpt fin))).2.map some := by
  -- both sides as ONE `filterMap` over the raw pairs `obs.zip sim` …
  simp only [nonull_eq_filterMap, removedRaw, fwdL, List.unzip_fst, List.unzip_snd, List.map_map, List.zip_map,
    List.filterMap_map, List.map_filterMap, ← List.filterMap_eq_filter, Option.guard]
  -- … which agree pair by pair, by whether the two transformed values exist and are finite
  constructor <;>
  · apply List.filterMap_congr
    intro p _
    simp only [Function.comp_def, Prod.map]
    cases h1 : finOpt fin (p.1.bind f) with
    | none => simp [completeB, h1]
    | some va =>
      cases h2 : finOpt fin (p.2.bind f) with
      | none => simp [completeB, h1, h2]
      | some vb =>
        simp only [completeB, h1, h2]
        simp [finOpt_eq_some _ _ _ h1, finOpt_eq_some _ _ _ h2]

theorem prep_excl_eq_removed (fin : α → Bool) (f : α → Option α) (obs sim : List (Option α))
    (hne : (removedRaw fin f obs sim).1 ≠ []) :
    prep fin true (fwdL f obs) (fwdL f sim)
      = prep fin false (fwdL f (removedRaw fin f obs sim).1) (fwdL f (removedRaw fin f obs sim).2) := by
  obtain ⟨h1, h2⟩ := fwdL_removedRaw fin f obs sim
  rw [h1, h2]
  simp only [prep, if_true, Bool.false_eq_true, if_false, allSomeL_eq_some_iff.mpr rfl, List.isEmpty_iff]
  refine if_neg fun h0 => hne ?_
  rw [h0] at h1
  exact List.map_eq_nil_iff.mp h1

theorem nonull_map_some (o s : List α) (h : o.length = s.length) : nonull (o.map some) (s.map some) = (o, s) := by
  rw [nonull_eq_filterMap, List.zip_map, List.filterMap_map]
  exact (congrArg List.unzip List.filterMap_some).trans (List.unzip_zip h)

theorem prep_complete (fin : α → Bool) (hfin : ∀ x, fin x = true) (excl : Bool) (o s : List α)
    (hl : o.length = s.length) (hne : o ≠ []) : prep fin excl (o.map some) (s.map some) = .pairs o s := by
  cases excl with
  | false => simp only [prep, Bool.false_eq_true, if_false, allSomeL_eq_some_iff.mpr rfl]
  | true =>
    have hf : ∀ l : List α, (l.map some).map (finOpt fin) = l.map some := fun l => by simp [finOpt, hfin]
    simp only [prep, hf, nonull_map_some o s hl, if_true, List.isEmpty_iff, hne, if_false]

theorem prep_excl_noValid (fin : α → Bool) (f : α → Option α) (obs sim : List (Option α))
    (hne : (removedRaw fin f obs sim).1 = []) :
    prep fin true (fwdL f obs) (fwdL f sim) = .noValid := by
  have h1 := (fwdL_removedRaw fin f obs sim).1
  rw [hne] at h1
  simp only [prep, if_true, List.map_eq_nil_iff.mp h1.symm, List.isEmpty_nil]

end removal

theorem fwdL_some {α : Type} (l : List (Option α)) : fwdL some l = l := by
  simp [fwdL]

theorem checkEns_complete {α : Type} (o : List α) :
    checkEns (o.map some) (o.map fun x => [some x]) = o.map fun x => (some x, [some x]) := by
  induction o with
  | nil => rfl
  | cons a t ih => simpa [checkEns, present] using ih

section history

theorem modifyAt_eq_modify {β : Type} (l : List β) (k : Nat) (g : β → β) : modifyAt l k g = l.modify k g := by
  induction l generalizing k with
  | nil => simp [modifyAt]
  | cons x xs ih => cases k <;> simp [modifyAt, ih]

theorem hstep_other (held : List Table) (op : HOp) (k : Nat) (hk : k < held.length) (ht : op.target ≠ some k) :
    (hstep held op)[k]? = held[k]? := by
  cases op with
  | score obs sim ncat => simp [hstep, List.getElem?_append_left hk]
  | setCell k' _ _ _ | fill k' _ =>
    simp only [hstep, modifyAt_eq_modify]
    exact List.getElem?_modify_ne _ _ fun e => ht (congrArg some e)

theorem foldl_hstep_other (ops : List HOp) (held : List Table) (k : Nat) (hk : k < held.length)
    (ht : ∀ op ∈ ops, op.target ≠ some k) : (ops.foldl hstep held)[k]? = held[k]? := by
  induction ops generalizing held with
  | nil => rfl
  | cons op ops ih =>
    rw [List.forall_mem_cons] at ht
    have hl : held.length ≤ (hstep held op).length := by cases op <;> simp [hstep, modifyAt_eq_modify]
    rw [List.foldl_cons, ih _ (hk.trans_le hl) ht.2]
    exact hstep_other held op k hk ht.1

end history

/-! ### the complement of a share `a / (a + b)` -/
section
variable {α : Type} [Field α]

theorem one_sub_div_add_self {a b : α} (h : a + b ≠ 0) : 1 - a / (a + b) = b / (a + b) := by
  rw [one_sub_div h, add_sub_cancel_left]

variable [LinearOrder α]

theorem isZero_iff (x : α) : isZero x = true ↔ x = 0 := by
  unfold isZero
  simp only [Bool.and_eq_true, Bool.not_eq_true', decide_eq_false_iff_not, not_lt]
  exact ⟨fun h => le_antisymm h.2 h.1, fun h => h ▸ ⟨le_refl _, le_refl _⟩⟩

end

section binaryOf
variable {α : Type} [Field α] [LinearOrder α] [IsStrictOrderedRing α]

theorem proportion {a d : α} (ha : 0 < a) (had : a < d) : 0 < a / d ∧ a / d < 1 :=
  ⟨div_pos ha (ha.trans had), (div_lt_one (ha.trans had)).mpr had⟩

/-- `(a - b)² ≤ (a + b)² ≤ P Q` for non-negative `a`, `b` -/
theorem mul_self_sub_le_mul {a b P Q : α} (ha : 0 ≤ a) (hb : 0 ≤ b) (hP : a + b ≤ P) (hQ : a + b ≤ Q) :
    (a - b) * (a - b) ≤ P * Q := by
  obtain ⟨h2, h1⟩ := neg_add_le_sub_le_add ha hb
  exact (mul_self_le_mul_self_of_le_of_neg_le h1 (neg_le.mp h2)).trans
    (mul_le_mul hP hQ (add_nonneg ha hb) ((add_nonneg ha hb).trans hP))

variable (tn fp fn tp : α)

/-- the odds ratio `H(1-F)/((1-H)F)` is the cross-product ratio as soon as both rates are defined -/
theorem binary_theta_eq (a : tp + fn ≠ 0) (b : tn + fp ≠ 0) :
    (binary tn fp fn tp).theta = tp * tn / (fp * fn) := by
  show tp / (tp + fn) * (1 - fp / (tn + fp)) / (1 - tp / (tp + fn)) / (fp / (tn + fp)) = _
  rw [one_sub_div_add_self a, one_sub_div b, add_sub_cancel_right, div_mul_div_comm, div_div, div_mul_div_comm,
    div_div_div_cancel_right₀ (mul_ne_zero a b), mul_comm fn fp]

/-- the five divisions of `binary`, tested in turn, fail exactly when a margin, `FN` or `FP` vanishes: with both
observed margins non-zero, `1 - H = FN/(TP+FN)`, `F = FP/(TN+FP)`, and the MCC denominator is the product of the margins -/
theorem binaryOf_table : binaryOf [[tn, fp], [fn, tp]] =
    if tp + fn = 0 ∨ tn + fp = 0 ∨ fn = 0 ∨ fp = 0 ∨ tp + fp = 0 ∨ tn + fn = 0 then .errZeroDiv
    else .ok (binary tn fp fn tp) := by
  simp only [binaryOf, isZero_iff, binary]
  by_cases a : tp + fn = 0
  · simp only [a, true_or, if_true]
  by_cases b : tn + fp = 0
  · simp only [a, b, true_or, or_true, if_true, if_false]
  simp only [a, b, one_sub_div_add_self a, div_eq_zero_iff, mul_eq_zero, or_false, false_or, ← ite_or]

end binaryOf

end HydroVerif.C04
