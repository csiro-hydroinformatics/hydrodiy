/-
C12 — the invariants and lemmas behind `Props/C12.lean`.
`VecOk` / `WorldOk` / `MOk` are the invariants. Every entry point of `Vector` that writes is a `Mutator` (accepted on a
well-formed vector, it has the footprint `Assign` and keeps `VecOk`), every one that copies a `Spawner`. `step_cases` and
`tstep_cases` say that each operation of the two state machines is `World.update` with a `Mutator`, `World.spawn` with a
`Spawner`, or returns the world it was given: the step theorems are `update_touch`, `spawn_ok`, `update_rejected` read
through them. Constructions next to live vectors compose through `Extends`.
Underneath: IEEE-style comparison and clipping on `XR`, the margin arithmetic (`EpsOk`), element-wise list lemmas, the
array store.
-/
import HydroVerif.Model.C12
import HydroVerif.Lemmas.History
import Mathlib.Order.Lattice

namespace HydroVerif.C12
open XR

section xr
variable {α : Type}

theorem XR.isNaN_eq_nan {x : XR α} (h : x.isNaN = true) : x = .nan := by
  cases x <;> simp_all [XR.isNaN]

variable [LinearOrder α]

@[simp] theorem XR.lt_self (x : XR α) : XR.lt x x = false := by
  cases x <;> simp [XR.lt]

@[simp] theorem XR.nan_lt (y : XR α) : XR.lt .nan y = false := rfl
@[simp] theorem XR.lt_nan (x : XR α) : XR.lt x .nan = false := by cases x <;> rfl
@[simp] theorem XR.pinf_lt (y : XR α) : XR.lt .pinf y = false := by cases y <;> rfl

theorem XR.clipNp_nan (lo hi : XR α) : XR.clipNp .nan lo hi = .nan := by
  simp [XR.clipNp, XR.maxNp, XR.minNp, XR.isNaN]

theorem XR.clipPy_nan (lo hi : XR α) : XR.clipPy .nan lo hi = .nan := by
  simp [XR.clipPy]

theorem XR.clipNp_inf (x : XR α) : XR.clipNp x .ninf .pinf = x := by
  cases x <;> simp [XR.clipNp, XR.maxNp, XR.minNp, XR.isNaN, XR.lt]

theorem XR.ne_of_lt {x y : XR α} (h : XR.lt x y = true) : x ≠ y := by
  intro e; subst e; simp at h

theorem XR.clipPy_eq_clipNp (x lo hi : XR α) (hlo : lo.isNaN = false) (hhi : hi.isNaN = false) :
    XR.clipPy x lo hi = XR.clipNp x lo hi := by
  cases hx : x.isNaN
  · simp only [XR.clipPy, XR.clipNp, XR.maxNp, XR.minNp, hx, hlo, hhi]
    cases XR.lt x lo <;> simp [hx, hlo]
  · obtain rfl := XR.isNaN_eq_nan hx
    rw [XR.clipPy_nan, XR.clipNp_nan]

theorem XR.clipNp_within (x lo hi : XR α) (hx : x.isNaN = false) (hlo : lo.isNaN = false)
    (hhi : hi.isNaN = false) (hb : XR.lt hi lo = false) :
    XR.within (XR.clipNp x lo hi) lo hi = true := by
  rw [← XR.clipPy_eq_clipNp x lo hi hlo hhi]
  simp only [XR.clipPy, XR.within]
  cases h1 : XR.lt x lo
  · cases h2 : XR.lt hi x <;> simp [h1, h2, hx, hhi, hb]
  · simp [hb, hlo]

theorem XR.clipNp_of_within (x lo hi : XR α) (hlo : lo.isNaN = false) (hhi : hi.isNaN = false)
    (h : XR.within x lo hi = true) : XR.clipNp x lo hi = x := by
  simp only [XR.within, Bool.and_eq_true, Bool.not_eq_true'] at h
  obtain ⟨⟨hx, h1⟩, h2⟩ := h
  simp [XR.clipNp, XR.maxNp, XR.minNp, hx, h1, h2, hlo, hhi]

theorem XR.clipNp_ne_iff (x lo hi : XR α) (hlo : lo.isNaN = false) (hhi : hi.isNaN = false)
    (hb : XR.lt hi lo = false) : XR.clipNp x lo hi ≠ x ↔ XR.outside x lo hi = true := by
  rw [← XR.clipPy_eq_clipNp x lo hi hlo hhi]
  simp only [XR.clipPy, XR.outside]
  cases h1 : XR.lt x lo <;> simp only [Bool.false_eq_true, if_false, if_true, Bool.false_or, Bool.true_or]
  · -- not below `lo`: moved (to `hi`) exactly when above `hi`
    cases h2 : XR.lt hi x
    · simp
    · simpa using XR.ne_of_lt h2
  · -- below `lo`: moved to `lo`, as `hi` is not below `lo`
    simpa [hb] using (XR.ne_of_lt h1).symm

end xr

/-! ### the only facts about `x - EPS` / `x + EPS` the theorems use

`EpsOk eps`: subtracting the margin never moves a bound up, adding it never moves a bound down. It holds in every
ordered additive group for `0 ≤ eps` (`epsOk_of_nonneg`) AND in every arithmetic whose `+` / `-` are the exact
operations followed by a monotone rounding onto the representable values (`Rounding`, `epsOk_of_rounding`) — that is
what IEEE-754 double arithmetic is, so no theorem of C12 depends on `mins - EPS` / `maxs + EPS` being exact. Those two
instances are the only place where an ordered group is needed: `Props/C12.lean`, over `Lemmas/C12Eps.lean`. -/
structure EpsOk {α : Type} [LE α] [Add α] [Sub α] (eps : α) : Prop where
  sub_le : ∀ a : α, a - eps ≤ a
  le_add : ∀ a : α, a ≤ a + eps

section eps
variable {α : Type} [LinearOrder α] [Add α] [Sub α]

/-- the executable check the driver reports is implied by `EpsOk` -/
theorem XR.epsOkAt_of_epsOk {eps : α} (heps : EpsOk eps) (x : XR α) : XR.epsOkAt eps x = true := by
  cases x <;> simp [XR.epsOkAt, heps.sub_le, heps.le_add]

theorem XR.lt_of_lt_subEps {eps : α} (heps : EpsOk eps) (x lo : XR α)
    (h : XR.lt x (lo.subEps eps) = true) : XR.lt x lo = true := by
  cases lo with
  | fin b =>
    cases x <;> simp_all [XR.lt, XR.subEps]
    exact lt_of_lt_of_le h (heps.sub_le _)
  | _ => exact h

theorem XR.lt_of_addEps_lt {eps : α} (heps : EpsOk eps) (x hi : XR α)
    (h : XR.lt (hi.addEps eps) x = true) : XR.lt hi x = true := by
  cases hi with
  | fin b =>
    cases x <;> simp_all [XR.lt, XR.addEps]
    exact lt_of_le_of_lt (heps.le_add _) h
  | _ => exact h

theorem XR.outside_of_outsideEps {eps : α} (heps : EpsOk eps) (x lo hi : XR α)
    (h : XR.outsideEps eps x lo hi = true) : XR.outside x lo hi = true := by
  simp only [XR.outsideEps, XR.outside, Bool.or_eq_true] at *
  rcases h with h | h
  · exact Or.inl (XR.lt_of_lt_subEps heps _ _ h)
  · exact Or.inr (XR.lt_of_addEps_lt heps _ _ h)

end eps

section lists
variable {α : Type}

theorem any_isNaN_replicate (n : Nat) (x : XR α) (hx : x.isNaN = false) :
    (List.replicate n x).any XR.isNaN = false := by
  simp [List.any_replicate, hx]

/-- the two guards of `__checkvalues__` pass exactly on the right length with NaN only when allowed -/
theorem reject?_eq_none {an : Bool} {n : Nat} {xs : List (XR α)} :
    reject? an n xs = none ↔ xs.length = n ∧ (xs.any XR.isNaN = true → an = true) := by
  unfold reject?
  by_cases hl : xs.length = n
  · cases h : xs.any XR.isNaN <;> cases an <;> simp [hl]
  · simp [hl]

theorem list_induction₃ {β : Type}
    {motive : (a b c : List β) → a.length = b.length → a.length = c.length → Prop}
    (nil : motive [] [] [] rfl rfl)
    (cons : ∀ x xs y ys z zs h1 h2, motive xs ys zs h1 h2 →
      motive (x :: xs) (y :: ys) (z :: zs) (congrArg (· + 1) h1) (congrArg (· + 1) h2)) :
    ∀ a b c h1 h2, motive a b c h1 h2
  | [], [], [], _, _ => nil
  | x :: xs, y :: ys, z :: zs, h1, h2 =>
    cons x xs y ys z zs _ _ (list_induction₃ nil cons xs ys zs (Nat.succ.inj h1) (Nat.succ.inj h2))

/-! where an element of `l ++ [a]` / `l.set k a` comes from (the two ways a step changes the list of vectors or instances) -/

theorem getElem?_concat {β : Type} {l : List β} {a u : β} {i : Nat} (h : (l ++ [a])[i]? = some u) :
    (i = l.length ∧ u = a) ∨ (i ≠ l.length ∧ l[i]? = some u) := by
  rcases Nat.lt_trichotomy i l.length with hi | hi | hi
  · exact .inr ⟨Nat.ne_of_lt hi, by rwa [List.getElem?_append_left hi] at h⟩
  · subst hi; rw [List.getElem?_concat_length] at h; exact .inl ⟨rfl, (Option.some.inj h).symm⟩
  · rw [List.getElem?_eq_none (by simp; omega)] at h; cases h

theorem getElem?_set_some {β : Type} {l : List β} {a u : β} {k j : Nat} (h : (l.set k a)[j]? = some u) :
    (j = k ∧ u = a) ∨ (j ≠ k ∧ l[j]? = some u) := by
  rw [List.getElem?_set] at h
  split at h
  · rename_i e; split at h
    · exact .inl ⟨e.symm, (Option.some.inj h).symm⟩
    · cases h
  · rename_i e; exact .inr ⟨fun e' => e e'.symm, h⟩

theorem map3_length {β γ : Type} (f : β → β → β → γ) {a b c : List β} (h1 : a.length = b.length)
    (h2 : a.length = c.length) : (map3 f a b c).length = a.length := by
  induction a, b, c, h1, h2 using list_induction₃ with
  | nil => rfl
  | cons x xs y ys z zs _ _ ih => simp only [map3, List.length_cons, ih]

variable [LinearOrder α]

theorem clipAll_length {n : Nat} {xs lo hi : List (XR α)} (h1 : xs.length = n) (h2 : lo.length = n)
    (h3 : hi.length = n) : (clipAll xs lo hi).length = n :=
  (map3_length _ (h1.trans h2.symm) (h1.trans h3.symm)).trans h1

theorem boundElem_iff {l h : XR α} :
    boundElem l h = true ↔ l.isNaN = false ∧ h.isNaN = false ∧ XR.lt h l = false := by
  simp [boundElem, and_assoc]

theorem okElem_clipNp (an : Bool) (x l h : XR α) (hb : boundElem l h = true) (hx : x.isNaN = true → an = true) :
    okElem an (XR.clipNp x l h) l h = true := by
  obtain ⟨hl, hh, hlt⟩ := boundElem_iff.mp hb
  cases hn : x.isNaN
  · simp [okElem, XR.clipNp_within x l h hn hl hh hlt]
  · obtain rfl := XR.isNaN_eq_nan hn
    simp [okElem, XR.clipNp_nan, XR.isNaN, hx hn]

/-- whatever the lengths: `map3` / `all3` truncate alike -/
theorem valuesOk_clipAll (an : Bool) (xs lo hi : List (XR α)) (hb : boundsOk lo hi = true)
    (hn : xs.any XR.isNaN = true → an = true) : valuesOk an (clipAll xs lo hi) lo hi = true := by
  unfold clipAll
  fun_induction map3 XR.clipNp xs lo hi with
  | case1 x xs l lo h hi ih =>
    simp only [boundsOk, all2, Bool.and_eq_true, List.any_cons, Bool.or_eq_true] at hb hn
    simp only [valuesOk, all3, Bool.and_eq_true]
    exact ⟨okElem_clipNp an x l h hb.1 fun hx => hn (.inl hx), ih hb.2 fun hx => hn (.inr hx)⟩
  | case2 => simp [valuesOk, all3]

theorem okElem_clip_self (an : Bool) (x l h : XR α) (hb : boundElem l h = true) (hx : okElem an x l h = true) :
    XR.clipNp x l h = x := by
  obtain ⟨hl, hh, _⟩ := boundElem_iff.mp hb
  simp only [okElem, Bool.or_eq_true, Bool.and_eq_true] at hx
  rcases hx with ⟨hn, _⟩ | hw
  · obtain rfl := XR.isNaN_eq_nan hn; exact XR.clipNp_nan _ _
  · exact XR.clipNp_of_within x l h hl hh hw

theorem clipAll_eq_self (an : Bool) {xs lo hi : List (XR α)} (h1 : xs.length = lo.length)
    (h2 : xs.length = hi.length) (hb : boundsOk lo hi = true) (hv : valuesOk an xs lo hi = true) :
    clipAll xs lo hi = xs := by
  induction xs, lo, hi, h1, h2 using list_induction₃ with
  | nil => rfl
  | cons x xs l lo h hi _ _ ih =>
    simp only [boundsOk, all2, valuesOk, all3, Bool.and_eq_true] at hb hv
    simp only [clipAll, map3, List.cons.injEq]
    exact ⟨okElem_clip_self an x l h hb.1 hv.1, ih hb.2 hv.2⟩

theorem all3_set {β : Type} (p : β → β → β → Bool) : ∀ (xs lo hi : List β) (i : Nat) (x l h : β),
    all3 p xs lo hi = true → lo[i]? = some l → hi[i]? = some h → p x l h = true →
    all3 p (xs.set i x) lo hi = true
  | [], _, _, _, _, _, _, _, _, _, _ => by simp [all3]
  | y :: ys, l0 :: lo, h0 :: hi, 0, x, l, h, ha, hl, hh, hp => by
    simp only [all3, Bool.and_eq_true, List.getElem?_cons_zero, Option.some.injEq] at ha hl hh
    subst hl hh
    simp only [List.set_cons_zero, all3, hp, ha.2, Bool.and_self]
  | y :: ys, l0 :: lo, h0 :: hi, i + 1, x, l, h, ha, hl, hh, hp => by
    simp only [all3, Bool.and_eq_true, List.getElem?_cons_succ] at ha hl hh
    simp only [List.set_cons_succ, all3, ha.1, Bool.true_and]
    exact all3_set p ys lo hi i x l h ha.2 hl hh hp

theorem all2_get {β : Type} (p : β → β → Bool) : ∀ (lo hi : List β) (i : Nat) (l h : β),
    all2 p lo hi = true → lo[i]? = some l → hi[i]? = some h → p l h = true
  | l0 :: lo, h0 :: hi, 0, l, h, ha, hl, hh => by
    simp only [all2, Bool.and_eq_true, List.getElem?_cons_zero, Option.some.injEq] at ha hl hh
    subst hl hh
    exact ha.1
  | l0 :: lo, h0 :: hi, i + 1, l, h, ha, hl, hh => by
    simp only [all2, Bool.and_eq_true, List.getElem?_cons_succ] at ha hl hh
    exact all2_get p lo hi i l h ha.2 hl hh

theorem all3_get {β : Type} (p : β → β → β → Bool) : ∀ (xs lo hi : List β) (i : Nat) (x l h : β),
    all3 p xs lo hi = true → xs[i]? = some x → lo[i]? = some l → hi[i]? = some h → p x l h = true
  | y :: ys, l0 :: lo, h0 :: hi, 0, x, l, h, ha, hx, hl, hh => by
    simp only [all3, Bool.and_eq_true, List.getElem?_cons_zero, Option.some.injEq] at ha hx hl hh
    subst hx hl hh
    exact ha.1
  | y :: ys, l0 :: lo, h0 :: hi, i + 1, x, l, h, ha, hx, hl, hh => by
    simp only [all3, Bool.and_eq_true, List.getElem?_cons_succ] at ha hx hl hh
    exact all3_get p ys lo hi i x l h ha.2 hx hl hh

theorem clipAll_inf : ∀ (m : List (XR α)),
    clipAll m (List.replicate m.length .ninf) (List.replicate m.length .pinf) = m
  | [] => rfl
  | x :: m => by
    simp only [List.length_cons, List.replicate_succ, clipAll, map3, XR.clipNp_inf, List.cons.injEq, true_and]
    exact clipAll_inf m

theorem boundsOk_pinf : ∀ (lo : List (XR α)), lo.any XR.isNaN = false →
    boundsOk lo (List.replicate lo.length .pinf) = true
  | [], _ => rfl
  | l :: lo, h => by
    simp only [List.any_cons, Bool.or_eq_false_iff] at h
    have hb : boundElem l .pinf = true := boundElem_iff.mpr ⟨h.1, rfl, XR.pinf_lt l⟩
    simp only [List.length_cons, List.replicate_succ, boundsOk, all2, hb, Bool.true_and]
    exact boundsOk_pinf lo h.2

theorem boundsOk_replicate (n : Nat) :
    boundsOk (List.replicate n (.ninf : XR α)) (List.replicate n .pinf) = true := by
  simpa using boundsOk_pinf _ (any_isNaN_replicate n (.ninf : XR α) rfl)

/-- NaN-free values clipped into real intervals stay above the lower bounds (the constructor's `maxs` against
`[mins, +∞]`) -/
theorem boundsOk_clipAll {m lo hi : List (XR α)} (h1 : m.length = lo.length) (h2 : m.length = hi.length)
    (hb : boundsOk lo hi = true) (hm : m.any XR.isNaN = false) : boundsOk lo (clipAll m lo hi) = true := by
  induction m, lo, hi, h1, h2 using list_induction₃ with
  | nil => rfl
  | cons x m l lo h hi _ _ ih =>
    simp only [List.any_cons, Bool.or_eq_false_iff] at hm
    simp only [boundsOk, all2, Bool.and_eq_true] at hb
    simp only [clipAll, map3, boundsOk, all2, Bool.and_eq_true]
    refine ⟨?_, ih hb.2 hm.2⟩
    obtain ⟨hl, hh, hlt⟩ := boundElem_iff.mp hb.1
    have hw := XR.clipNp_within x l h hm.1 hl hh hlt
    simp only [XR.within, Bool.and_eq_true, Bool.not_eq_true'] at hw
    exact boundElem_iff.mpr ⟨hl, hw.1.1, hw.1.2⟩

theorem boundsOk_noNaN : ∀ {lo hi : List (XR α)}, lo.length = hi.length → boundsOk lo hi = true →
    lo.any XR.isNaN = false ∧ hi.any XR.isNaN = false
  | [], [], _, _ => ⟨rfl, rfl⟩
  | l :: lo, h :: hi, hl, hb => by
    simp only [boundsOk, all2, Bool.and_eq_true] at hb
    obtain ⟨hl', hh, _⟩ := boundElem_iff.mp hb.1
    simp [hl', hh, boundsOk_noNaN (Nat.succ.inj hl) hb.2]

end lists

section lists_eps
variable {α : Type} [LinearOrder α] [Add α] [Sub α]

/-- on the property's region the margin test of `__checkvalues__` says exactly whether `np.clip` moves the value: the
margin test implies the plain one (`EpsOk`), and a value strictly outside is, in the region, outside by more than EPS -/
theorem elem_hit_iff {eps : α} (heps : EpsOk eps) (x l h : XR α) (hb : boundElem l h = true)
    (hr : XR.inRegion eps x l h = true) : XR.outsideEps eps x l h = true ↔ XR.clipNp x l h ≠ x := by
  obtain ⟨hl, hh, hlt⟩ := boundElem_iff.mp hb
  cases hx : x.isNaN
  · rw [XR.clipNp_ne_iff x l h hl hh hlt]
    constructor
    · exact XR.outside_of_outsideEps heps x l h
    · intro ho
      simp only [XR.inRegion, hx, Bool.false_or, Bool.or_eq_true] at hr
      rcases hr with hw | he
      · -- inside the interval and strictly outside it: impossible
        simp only [XR.within, Bool.and_eq_true, Bool.not_eq_true'] at hw
        simp [XR.outside, hw.1.2, hw.2] at ho
      · exact he
  · obtain rfl := XR.isNaN_eq_nan hx
    simp [XR.clipNp_nan, XR.outsideEps]

theorem hitAll_iff {eps : α} (heps : EpsOk eps) {xs lo hi : List (XR α)} (h1 : xs.length = lo.length)
    (h2 : xs.length = hi.length) (hb : boundsOk lo hi = true) (hr : all3 (XR.inRegion eps) xs lo hi = true) :
    hitAll eps xs lo hi = true ↔ clipAll xs lo hi ≠ xs := by
  induction xs, lo, hi, h1, h2 using list_induction₃ with
  | nil => simp [hitAll, any3, clipAll, map3]
  | cons x xs l lo h hi _ _ ih =>
    simp only [boundsOk, all2, all3, Bool.and_eq_true] at hb hr
    have e2 := ih hb.2 hr.2
    simp only [hitAll, clipAll] at e2
    simp only [hitAll, any3, clipAll, map3, Bool.or_eq_true, ne_eq, List.cons.injEq, not_and_or,
      elem_hit_iff heps x l h hb.1 hr.1, e2]

/-- whatever the lengths -/
theorem inRegion_of_ok {eps : α} (an : Bool) (xs lo hi : List (XR α)) (hv : valuesOk an xs lo hi = true) :
    all3 (XR.inRegion eps) xs lo hi = true := by
  unfold valuesOk at hv
  fun_induction all3 (okElem an) xs lo hi with
  | case1 x xs l lo h hi ih =>
    simp only [all3, Bool.and_eq_true] at hv ⊢
    refine ⟨?_, ih hv.2⟩
    have hx := hv.1
    simp only [okElem, Bool.or_eq_true, Bool.and_eq_true] at hx
    rcases hx with ⟨hn, _⟩ | hw
    · simp [XR.inRegion, hn]
    · simp [XR.inRegion, hw]
  | case2 => simp [all3]
end lists_eps

section store
variable {α : Type}

@[simp] theorem alloc_next (s : Store α) (a : List (XR α)) : (s.alloc a).1.next = s.next + 1 := rfl
@[simp] theorem alloc_ref (s : Store α) (a : List (XR α)) : (s.alloc a).2 = s.next := rfl
theorem alloc_cells_old (s : Store α) (a : List (XR α)) (r : Nat) (h : r < s.next) :
    (s.alloc a).1.cells r = s.cells r := by
  have : r ≠ s.next := Nat.ne_of_lt h
  simp [Store.alloc, this]
@[simp] theorem alloc_cells_new (s : Store α) (a : List (XR α)) : (s.alloc a).1.cells s.next = a := by
  simp [Store.alloc]
@[simp] theorem write_next (s : Store α) (r : Nat) (i : Nat) (x : XR α) : (s.write r i x).next = s.next := rfl
theorem write_cells_ne (s : Store α) (r r' : Nat) (i : Nat) (x : XR α) (h : r' ≠ r) :
    (s.write r i x).cells r' = s.cells r' := by simp [Store.write, h]
@[simp] theorem write_cells_eq (s : Store α) (r : Nat) (i : Nat) (x : XR α) :
    (s.write r i x).cells r = (s.cells r).set i x := by simp [Store.write]
end store

section inv
variable {α : Type}

theorem Vec.forall_refs {v : Vec} {p : Nat → Prop} :
    (∀ r ∈ v.refs, p r) ↔ p v.values ∧ p v.mins ∧ p v.maxs ∧ p v.defaults := by
  simp [Vec.refs]

theorem Vec.nodup_refs {v : Vec} : v.refs.Nodup ↔
    (v.values ≠ v.mins ∧ v.values ≠ v.maxs ∧ v.values ≠ v.defaults) ∧ (v.mins ≠ v.maxs ∧ v.mins ≠ v.defaults)
      ∧ v.maxs ≠ v.defaults := by
  simp [Vec.refs, not_or]

theorem view_congr {s s' : Store α} {v : Vec} (hc : ∀ r ∈ v.refs, s'.cells r = s.cells r) : view s' v = view s v := by
  obtain ⟨e1, e2, e3, e4⟩ := Vec.forall_refs.mp hc
  simp only [view, e1, e2, e3, e4]

/-- the footprint of an assignment on vector `v`: no array but the one behind `v.values` changes, and `v'.values` is that
same array (`__setattr__` writes in place) or one allocated since (the `values` setter rebinds: `values_ref`); names, bounds,
defaults and the option flags are those of `v` -/
structure Assign (s : Store α) (v : Vec) (s' : Store α) (v' : Vec) : Prop where
  next_le : s.next ≤ s'.next
  frame : ∀ r, r < s.next → r ≠ v.values → s'.cells r = s.cells r
  values_ref : v'.values = v.values ∨ s.next ≤ v'.values
  names : v'.names = v.names
  mins : v'.mins = v.mins
  maxs : v'.maxs = v.maxs
  defaults : v'.defaults = v.defaults
  checkBounds : v'.checkBounds = v.checkBounds
  checkHit : v'.checkHit = v.checkHit
  acceptNan : v'.acceptNan = v.acceptNan

/-- the footprint of a copying operation: every array that existed is as it was, and all four arrays of the new vector `c`
were allocated by it -/
structure Spawn (s s' : Store α) (c : Vec) : Prop where
  next_le : s.next ≤ s'.next
  frame : ∀ r, r < s.next → s'.cells r = s.cells r
  fresh : ∀ r ∈ c.refs, s.next ≤ r

theorem indexOf_lt (nm : String) : ∀ (l : List String) (i : Nat), indexOf nm l = some i → i < l.length
  | a :: t, i, h => by
    simp only [indexOf] at h
    split at h
    · cases h; exact Nat.succ_pos _
    · obtain ⟨j, hj, rfl⟩ := Option.map_eq_some_iff.mp h
      exact Nat.succ_lt_succ (indexOf_lt nm t j hj)

theorem Assign.refs {s s' : Store α} {v v' : Vec} (a : Assign s v s' v') :
    ∀ r ∈ v'.refs, r ∈ v.refs ∨ s.next ≤ r := by
  rw [Vec.forall_refs, a.mins, a.maxs, a.defaults]
  refine ⟨a.values_ref.imp (fun h => ?_) id, .inl ?_, .inl ?_, .inl ?_⟩ <;> simp [Vec.refs, *]

variable [LinearOrder α]

/-- a vector is well formed in a store: its four arrays are allocated, pairwise distinct, of length `nval`;
names are unique; bounds are real intervals; defaults and values lie inside them (NaN only with permission);
the option flags are consistent and an unmaintained hit flag is off -/
structure VecOk (s : Store α) (v : Vec) : Prop where
  lt_next : ∀ r ∈ v.refs, r < s.next
  nodup : v.refs.Nodup
  len_values : (s.cells v.values).length = v.n
  len_mins : (s.cells v.mins).length = v.n
  len_maxs : (s.cells v.maxs).length = v.n
  len_defaults : (s.cells v.defaults).length = v.n
  names : nodupB v.names = true
  bounds : boundsOk (s.cells v.mins) (s.cells v.maxs) = true
  defaults_ok : valuesOk v.acceptNan (s.cells v.defaults) (s.cells v.mins) (s.cells v.maxs) = true
  values_ok : valuesOk v.acceptNan (s.cells v.values) (s.cells v.mins) (s.cells v.maxs) = true
  flags : v.checkHit = true → v.checkBounds = true
  hit_off : v.checkHit = false → v.hit = false

structure WorldOk (w : World α) : Prop where
  each : ∀ (k : Nat) (v : Vec), w.vecs[k]? = some v → VecOk w.store v
  sep : ∀ (i j : Nat) (vi vj : Vec), w.vecs[i]? = some vi → w.vecs[j]? = some vj → i ≠ j → ∀ r ∈ vi.refs, r ∉ vj.refs

/-- the part of `VecOk` that speaks only of what the vector shows (the rest is about its references) -/
structure View.Ok (vw : View α) : Prop where
  len_values : vw.values.length = vw.names.length
  len_mins : vw.mins.length = vw.names.length
  len_maxs : vw.maxs.length = vw.names.length
  len_defaults : vw.defaults.length = vw.names.length
  names : nodupB vw.names = true
  bounds : boundsOk vw.mins vw.maxs = true
  defaults_ok : valuesOk vw.acceptNan vw.defaults vw.mins vw.maxs = true
  values_ok : valuesOk vw.acceptNan vw.values vw.mins vw.maxs = true
  flags : vw.checkHit = true → vw.checkBounds = true
  hit_off : vw.checkHit = false → vw.hit = false

theorem VecOk.view_ok {s : Store α} {v : Vec} (h : VecOk s v) : (view s v).Ok :=
  ⟨h.len_values, h.len_mins, h.len_maxs, h.len_defaults, h.names, h.bounds, h.defaults_ok, h.values_ok, h.flags,
    h.hit_off⟩

theorem VecOk.of_view {s : Store α} {v : Vec} (hlt : ∀ r ∈ v.refs, r < s.next) (hnd : v.refs.Nodup)
    (h : (view s v).Ok) : VecOk s v :=
  ⟨hlt, hnd, h.len_values, h.len_mins, h.len_maxs, h.len_defaults, h.names, h.bounds, h.defaults_ok, h.values_ok,
    h.flags, h.hit_off⟩

theorem VecOk.congr {s s' : Store α} {v : Vec} (h : VecOk s v) (hn : s.next ≤ s'.next)
    (hc : ∀ r ∈ v.refs, s'.cells r = s.cells r) : VecOk s' v :=
  VecOk.of_view (fun r hr => Nat.lt_of_lt_of_le (h.lt_next r hr) hn) h.nodup ((view_congr hc).symm ▸ h.view_ok)

end inv

section ops
variable {α : Type} [LinearOrder α]

theorem Assign.view_eq {s s' : Store α} {v v' : Vec} (a : Assign s v s' v') (h : VecOk s v) :
    view s' v' = { view s v with values := s'.cells v'.values, hit := v'.hit } := by
  obtain ⟨⟨d1, d2, d3⟩, _⟩ := Vec.nodup_refs.mp h.nodup
  obtain ⟨_, r2, r3, r4⟩ := Vec.forall_refs.mp h.lt_next
  simp only [view, a.names, a.mins, a.maxs, a.defaults, a.checkBounds, a.checkHit, a.acceptNan,
    a.frame _ r2 d1.symm, a.frame _ r3 d2.symm, a.frame _ r4 d3.symm]

theorem Assign.view_noname {s s' : Store α} {v v' : Vec} (a : Assign s v s' v') (h : VecOk s v) (h' : VecOk s' v')
    (hn : v.names = []) (hh : v'.hit = v.hit) : view s' v' = view s v := by
  have e : ∀ {s : Store α} {u : Vec}, u.names = [] → (s.cells u.values).length = u.n → s.cells u.values = [] :=
    fun hu hl => List.eq_nil_of_length_eq_zero (by rw [hl, Vec.n, hu]; rfl)
  rw [a.view_eq h, e (a.names.trans hn) h'.len_values, hh, ← e hn h.len_values]
  rfl

theorem VecOk.assign {s s' : Store α} {v v' : Vec} (h : VecOk s v) (a : Assign s v s' v')
    (hlt : v'.values < s'.next) (hlen : (s'.cells v'.values).length = v.n)
    (hval : valuesOk v.acceptNan (s'.cells v'.values) (s.cells v.mins) (s.cells v.maxs) = true)
    (hhit : v.checkHit = false → v'.hit = false) : VecOk s' v' := by
  obtain ⟨_, r2, r3, r4⟩ := Vec.forall_refs.mp h.lt_next
  have hn := a.next_le
  have hnd := Vec.nodup_refs.mp h.nodup
  refine VecOk.of_view ?_ ?_ ?_
  · rw [Vec.forall_refs, a.mins, a.maxs, a.defaults]
    exact ⟨hlt, by omega, by omega, by omega⟩
  · rw [Vec.nodup_refs, a.mins, a.maxs, a.defaults]
    rcases a.values_ref with e | e
    · rw [e]; exact hnd
    · exact ⟨⟨by omega, by omega, by omega⟩, hnd.2⟩
  · have hv := h.view_ok
    rw [a.view_eq h]
    exact ⟨hlen, hv.len_mins, hv.len_maxs, hv.len_defaults, hv.names, hv.bounds, hv.defaults_ok, hval, hv.flags, hhit⟩

/-- an assignment: accepted on a well-formed vector, it has the footprint `Assign`, leaves the vector well formed, and
raises the hit flag only on account of some element (never on a vector without names).
Every entry point of `Vector` that writes is one, so that what holds of `World.update` for a `Mutator` holds of all -/
def Mutator (f : Store α → Vec → (Store α × Vec) × Out) : Prop :=
  ∀ s v s' v', VecOk s v → f s v = ((s', v'), .ok) →
    Assign s v s' v' ∧ VecOk s' v' ∧ (v.names = [] → v.hit = false → v'.hit = false)

theorem setAttr_accepted {s s' : Store α} {v v' : Vec} {nm : String} {x : XR α} {i : Nat}
    (hi : indexOf nm v.names = some i) (e : setAttr s v nm x = ((s', v'), .ok)) :
    ∃ lo hi, (s.cells v.mins)[i]? = some lo ∧ (s.cells v.maxs)[i]? = some hi
      ∧ (x.isNaN = true → v.acceptNan = true)
      ∧ s' = s.write v.values i (XR.clipPy x lo hi)
      ∧ v' = { v with hit := if v.checkHit then XR.outside x lo hi else v.hit } := by
  unfold setAttr at e
  simp only [hi] at e
  split at e
  · cases e
  · rename_i hnan
    split at e
    · rename_i lo hi hlo hhi
      cases e
      exact ⟨lo, hi, hlo, hhi, fun hx => by simpa [hx] using hnan, rfl, rfl⟩
    · cases e

theorem setAttr_mutator (nm : String) (x : XR α) : Mutator fun s v => setAttr s v nm x := by
  intro s v s' v' h e
  cases hidx : indexOf nm v.names with
  | none =>
    simp only [setAttr, hidx] at e
    cases e
    exact ⟨⟨Nat.le_refl _, fun _ _ _ => rfl, .inl rfl, rfl, rfl, rfl, rfl, rfl, rfl, rfl⟩, h, fun _ h => h⟩
  | some i =>
    obtain ⟨lo, hi, hlo, hhi, hx, rfl, rfl⟩ := setAttr_accepted hidx e
    have hb := all2_get boundElem _ _ i lo hi h.bounds hlo hhi
    have hok : okElem v.acceptNan (XR.clipPy x lo hi) lo hi = true := by
      rw [XR.clipPy_eq_clipNp x lo hi (boundElem_iff.mp hb).1 (boundElem_iff.mp hb).2.1]
      exact okElem_clipNp _ x lo hi hb hx
    refine ⟨?a, h.assign ?a (h.lt_next _ (by simp [Vec.refs])) ?_ ?_ ?_, fun hn => by rw [hn] at hidx; cases hidx⟩
    case a =>
      exact ⟨Nat.le_refl _, fun r _ hr => write_cells_ne _ _ _ _ _ hr, .inl rfl, rfl, rfl, rfl, rfl, rfl, rfl, rfl⟩
    · show ((s.write v.values i _).cells v.values).length = _
      rw [write_cells_eq, List.length_set]; exact h.len_values
    · show valuesOk _ ((s.write v.values i _).cells v.values) _ _ = _
      rw [write_cells_eq]; exact all3_set _ _ _ _ i _ lo hi h.values_ok hlo hhi hok
    · intro hc; simp [hc, h.hit_off hc]

theorem setKey_mutator (nm : String) (x : XR α) : Mutator fun s v => setKey s v nm x := by
  intro s v s' v' h e
  simp only [setKey] at e
  split at e
  · cases e
  · exact setAttr_mutator nm x s v s' v' h e

variable [Add α] [Sub α]

theorem VecOk.distinct {s : Store α} {v : Vec} (h : VecOk s v) :
    v.values ≠ v.mins ∧ v.values ≠ v.maxs ∧ v.values ≠ v.defaults ∧ v.mins ≠ v.maxs ∧ v.mins ≠ v.defaults
      ∧ v.maxs ≠ v.defaults := by
  obtain ⟨⟨a, b, c⟩, ⟨d, e⟩, f⟩ := Vec.nodup_refs.mp h.nodup
  exact ⟨a, b, c, d, e, f⟩

theorem setAttr_no_index {s : Store α} {v : Vec} (h : VecOk s v) (nm : String) (x : XR α) :
    (setAttr s v nm x).2 ≠ .rejected .index := by
  unfold setAttr
  split
  · simp
  · rename_i i hi
    split
    · simp
    · have hlt := indexOf_lt nm v.names i hi
      rw [List.getElem?_eq_getElem (by rw [h.len_mins]; exact hlt),
        List.getElem?_eq_getElem (by rw [h.len_maxs]; exact hlt)]
      simp

theorem setAll_mutator (eps : α) (xs : List (XR α)) : Mutator fun s v => setAll eps s v xs := by
  intro s v s' v' h e
  simp only [setAll] at e
  split at e
  · cases e
  · rename_i hrej
    obtain ⟨hlen, hnan⟩ := reject?_eq_none.mp hrej
    cases e
    refine ⟨?a, h.assign ?a (Nat.lt_succ_self _) ?_ ?_ ?_, fun hn _ => ?_⟩
    case a =>
      exact ⟨Nat.le_succ _, fun r hr _ => alloc_cells_old s _ r hr, .inr (Nat.le_refl _), rfl, rfl, rfl, rfl, rfl, rfl,
        rfl⟩
    · show ((s.alloc _).1.cells s.next).length = _
      rw [alloc_cells_new]; exact clipAll_length hlen h.len_mins h.len_maxs
    · show valuesOk _ ((s.alloc _).1.cells s.next) _ _ = _
      rw [alloc_cells_new]; exact valuesOk_clipAll _ _ _ _ h.bounds hnan
    · intro hc; simp [hc]
    · have : s.cells v.mins = [] := List.eq_nil_of_length_eq_zero (by rw [h.len_mins, Vec.n, hn]; rfl)
      rw [this, hitAll]
      cases xs <;> simp [any3]

theorem reset_mutator (eps : α) : Mutator fun s v => reset eps s v :=
  fun s v s' v' h e => setAll_mutator eps _ s v s' v' h e

end ops

section ctor
variable {α : Type}

theorem mkFrom_eq (s : Store α) (names : List String) (lo hi d : List (XR α)) (cb ch an : Bool) :
    mkFrom s names lo hi d cb ch an
      = (⟨fun r => if r = s.next + 3 then d else if r = s.next + 2 then d else if r = s.next + 1 then hi
            else if r = s.next then lo else s.cells r, s.next + 4⟩,
         ⟨names, s.next + 3, s.next, s.next + 1, s.next + 2, false, cb, ch, an⟩) := rfl

theorem mkFrom_view (s : Store α) (names : List String) (lo hi d : List (XR α)) (cb ch an : Bool) :
    view (mkFrom s names lo hi d cb ch an).1 (mkFrom s names lo hi d cb ch an).2
      = ⟨names, d, lo, hi, d, false, cb, ch, an⟩ := by
  simp [mkFrom_eq, view]

variable [LinearOrder α]

theorem ctorMins_ok {an : Bool} {n : Nat} {mins : Option (List (XR α))} {lo : List (XR α)}
    (e : ctorMins an n mins = .ok lo) (hm : ∀ m, mins = some m → m.any XR.isNaN = false) :
    lo.length = n ∧ lo.any XR.isNaN = false := by
  unfold ctorMins at e
  split at e
  · cases e; exact ⟨List.length_replicate, any_isNaN_replicate n _ rfl⟩
  · rename_i m
    split at e
    · cases e
    · rename_i hr
      obtain ⟨rfl, _⟩ := reject?_eq_none.mp hr
      rw [clipAll_inf] at e; cases e
      exact ⟨rfl, hm _ rfl⟩

structure ArraysOk (names : List String) (cb ch an : Bool) (lo hi d : List (XR α)) : Prop where
  len_lo : lo.length = names.length
  len_hi : hi.length = names.length
  len_d : d.length = names.length
  bounds : boundsOk lo hi = true
  d_ok : valuesOk an d lo hi = true
  names : nodupB names = true
  flags : ch = true → cb = true

theorem mkFrom_ok {s : Store α} {names : List String} {cb ch an : Bool} {lo hi d : List (XR α)}
    (h : ArraysOk names cb ch an lo hi d) :
    Spawn s (mkFrom s names lo hi d cb ch an).1 (mkFrom s names lo hi d cb ch an).2
      ∧ VecOk (mkFrom s names lo hi d cb ch an).1 (mkFrom s names lo hi d cb ch an).2 := by
  refine ⟨⟨Nat.le_add_right s.next 4, fun r hr => ?_, ?_⟩, VecOk.of_view ?_ ?_ ?_⟩
  · show (if r = s.next + 3 then d else if r = s.next + 2 then d else if r = s.next + 1 then hi
      else if r = s.next then lo else s.cells r) = s.cells r
    rw [if_neg (by omega), if_neg (by omega), if_neg (by omega), if_neg (by omega)]
  · simp only [mkFrom_eq, Vec.forall_refs]; omega
  · simp only [mkFrom_eq, Vec.forall_refs]; omega
  · simp only [mkFrom_eq, Vec.nodup_refs]; omega
  · rw [mkFrom_view]
    exact ⟨h.len_d, h.len_lo, h.len_hi, h.len_d, h.names, h.bounds, h.d_ok, h.d_ok, h.flags, fun _ => rfl⟩

variable [Add α] [Sub α]

theorem ctorMaxs_ok {eps : α} {an : Bool} {n : Nat} {lo : List (XR α)} {maxs : Option (List (XR α))}
    {hi : List (XR α)} (e : ctorMaxs eps an n lo maxs = .ok hi) (hlo : lo.length = n)
    (hlon : lo.any XR.isNaN = false) (hm : ∀ m, maxs = some m → m.any XR.isNaN = false) :
    hi.length = n ∧ boundsOk lo hi = true := by
  subst hlo
  have hp := boundsOk_pinf lo hlon
  unfold ctorMaxs at e
  split at e
  · cases e; exact ⟨List.length_replicate, hp⟩
  · rename_i m
    split at e
    · cases e
    · rename_i hr
      obtain ⟨hl, _⟩ := reject?_eq_none.mp hr
      split at e
      · cases e
      · cases e
        exact ⟨clipAll_length hl rfl List.length_replicate,
          boundsOk_clipAll hl (hl.trans List.length_replicate.symm) hp (hm _ rfl)⟩

theorem ctorDefaults_ok [OfNat α 0] {eps : α} {an : Bool} {n : Nat} {lo hi : List (XR α)}
    {defaults : Option (List (XR α))} {d : List (XR α)} (e : ctorDefaults eps an n lo hi defaults = .ok d)
    (hlo : lo.length = n) (hhi : hi.length = n) (hb : boundsOk lo hi = true) :
    d.length = n ∧ valuesOk an d lo hi = true := by
  unfold ctorDefaults at e
  split at e
  · cases e
    refine ⟨clipAll_length List.length_replicate hlo hhi, valuesOk_clipAll an _ lo hi hb fun h => ?_⟩
    rw [any_isNaN_replicate n _ rfl] at h
    cases h
  · rename_i dv
    split at e
    · cases e
    · rename_i hr
      obtain ⟨hl, hn⟩ := reject?_eq_none.mp hr
      split at e
      · cases e
      · cases e
        exact ⟨clipAll_length hl hlo hhi, valuesOk_clipAll an _ lo hi hb hn⟩

theorem mkArrays_inv [OfNat α 0] {eps : α} {names : List String} {defaults mins maxs : Option (List (XR α))}
    {cb ch an : Bool} {lo hi d : List (XR α)}
    (e : mkArrays eps names defaults mins maxs cb ch an = .ok (lo, hi, d)) :
    (ch = true → cb = true) ∧ nodupB names = true ∧ ctorMins an names.length mins = .ok lo
      ∧ ctorMaxs eps an names.length lo maxs = .ok hi
      ∧ ctorDefaults eps an names.length lo hi defaults = .ok d := by
  unfold mkArrays at e
  simp only at e
  split at e
  · cases e
  rename_i hf
  have hf : ch = true → cb = true := fun hch => by simpa [hch] using hf
  split at e
  · cases e
  rename_i hnd
  split at e
  · cases e
  rename_i lo' e1
  split at e
  · cases e
  rename_i hi' e2
  split at e
  · cases e
  rename_i d' e3
  cases e
  exact ⟨hf, by simpa using hnd, e1, e2, e3⟩

theorem mkArrays_ok [OfNat α 0] {eps : α} {names : List String} {defaults mins maxs : Option (List (XR α))}
    {cb ch an : Bool} {lo hi d : List (XR α)}
    (e : mkArrays eps names defaults mins maxs cb ch an = .ok (lo, hi, d))
    (hmins : ∀ m, mins = some m → m.any XR.isNaN = false)
    (hmaxs : ∀ m, maxs = some m → m.any XR.isNaN = false) : ArraysOk names cb ch an lo hi d := by
  obtain ⟨hf, hnd, e1, e2, e3⟩ := mkArrays_inv e
  obtain ⟨l1, l2⟩ := ctorMins_ok e1 hmins
  obtain ⟨h1, h2⟩ := ctorMaxs_ok e2 l1 l2 hmaxs
  obtain ⟨d1, d2⟩ := ctorDefaults_ok e3 l1 h1 h2
  exact ⟨l1, h1, d1, h2, d2, hnd, hf⟩

end ctor

section selfcopy
variable {α : Type}

theorem items_spec : ∀ (ns : List String) (vs los his ds : List (XR α)),
    vs.length = ns.length → los.length = ns.length → his.length = ns.length → ds.length = ns.length →
    (items ns vs los his ds).length = ns.length ∧ (items ns vs los his ds).map (·.name) = ns
      ∧ (items ns vs los his ds).map (·.value) = vs ∧ (items ns vs los his ds).map (·.min) = los
      ∧ (items ns vs los his ds).map (·.max) = his ∧ (items ns vs los his ds).map (·.default) = ds
  | [], [], [], [], [], _, _, _, _ => ⟨rfl, rfl, rfl, rfl, rfl, rfl⟩
  | n :: ns, v :: vs, l :: los, h :: his, d :: ds, h1, h2, h3, h4 => by
    obtain ⟨i0, i1, i2, i3, i4, i5⟩ := items_spec ns vs los his ds (Nat.succ.inj h1) (Nat.succ.inj h2)
      (Nat.succ.inj h3) (Nat.succ.inj h4)
    simp only [items, List.length_cons, List.map_cons, i0, i1, i2, i3, i4, i5, and_self]

variable [LinearOrder α]

theorem valuesOk_nan_an (an : Bool) {xs lo hi : List (XR α)} (h1 : xs.length = lo.length)
    (h2 : xs.length = hi.length) (hv : valuesOk an xs lo hi = true) (hn : xs.any XR.isNaN = true) : an = true := by
  induction xs, lo, hi, h1, h2 using list_induction₃ with
  | nil => cases hn
  | cons x xs l lo h hi _ _ ih =>
    simp only [valuesOk, all3, Bool.and_eq_true] at hv
    simp only [List.any_cons, Bool.or_eq_true] at hn
    rcases hn with hn | hn
    · simpa [okElem, XR.within, hn] using hv.1
    · exact ih hv.2 hn

/-- `maxs` as a value vector for the interval `[mins, +∞]` -/
theorem valuesOk_pinf (an : Bool) : ∀ {lo hi : List (XR α)}, lo.length = hi.length → boundsOk lo hi = true →
    valuesOk an hi lo (List.replicate lo.length .pinf) = true
  | [], [], _, _ => rfl
  | l :: lo, h :: hi, hl, hb => by
    simp only [boundsOk, all2, Bool.and_eq_true] at hb
    obtain ⟨_, hh, hlt⟩ := boundElem_iff.mp hb.1
    simp only [List.length_cons, List.replicate_succ, valuesOk, all3, Bool.and_eq_true]
    exact ⟨by simp [okElem, XR.within, hh, hlt], valuesOk_pinf an (Nat.succ.inj hl) hb.2⟩

end selfcopy

section selfcopy_eps
variable {α : Type} [LinearOrder α] [Add α] [Sub α]

theorem checkvalues_self {eps : α} (heps : EpsOk eps) (an : Bool) {n : Nat} {xs lo hi : List (XR α)}
    (h1 : xs.length = n) (h2 : lo.length = n) (h3 : hi.length = n) (hb : boundsOk lo hi = true)
    (hv : valuesOk an xs lo hi = true) :
    reject? an n xs = none ∧ hitAll eps xs lo hi = false ∧ clipAll xs lo hi = xs := by
  have h12 := h1.trans h2.symm
  have h13 := h1.trans h3.symm
  have hc := clipAll_eq_self an h12 h13 hb hv
  -- not clipped, hence (hit ⇔ clipped) no hit
  exact ⟨reject?_eq_none.mpr ⟨h1, valuesOk_nan_an an h12 h13 hv⟩,
    Bool.eq_false_iff.mpr fun hh => (hitAll_iff heps h12 h13 hb (inRegion_of_ok an _ _ _ hv)).mp hh hc, hc⟩

variable [OfNat α 0]

/-- the constructor accepts, unchanged, the bounds / defaults of a well-formed vector (`clone` and `from_dict` hand them
back to it) -/
theorem mkArrays_self {eps : α} (heps : EpsOk eps) {names : List String} {cb ch an : Bool} {lo hi d : List (XR α)}
    (h : ArraysOk names cb ch an lo hi d) :
    mkArrays eps names (some d) (some lo) (some hi) cb ch an = .ok (lo, hi, d) := by
  have hlh := h.len_lo.trans h.len_hi.symm
  obtain ⟨nl, nh⟩ := boundsOk_noNaN hlh h.bounds
  have hf : (ch && !cb) = false := by
    cases hc : ch
    · rfl
    · simp [h.flags hc]
  have r1 : reject? an _ lo = none := reject?_eq_none.mpr ⟨h.len_lo, by simp [nl]⟩
  have ci := clipAll_inf lo
  have bm := boundsOk_pinf lo nl
  have vm := valuesOk_pinf an hlh h.bounds
  rw [h.len_lo] at ci bm vm
  obtain ⟨a1, a2, a3⟩ := checkvalues_self heps an h.len_hi h.len_lo List.length_replicate bm vm
  obtain ⟨b1, b2, b3⟩ := checkvalues_self heps an h.len_d h.len_lo h.len_hi h.bounds h.d_ok
  -- flags and names pass; `mins` (`r1 ci`), `maxs` (`a1 a2 a3`), `defaults` (`b1 b2 b3`) are accepted, hit nothing and
  -- come back as given
  simp only [mkArrays, ctorMins, ctorMaxs, ctorDefaults, hf, h.names, r1, ci, a1, a2, a3, b1, b2, b3,
    Bool.false_eq_true, if_false, Bool.not_true]

theorem clone_self {eps : α} (heps : EpsOk eps) {s : Store α} {v : Vec} (h : VecOk s v) :
    ∃ s' c, clone eps s v = .ok (s', c) ∧ view s' c = view s v := by
  have ha : ArraysOk v.names v.checkBounds v.checkHit v.acceptNan (s.cells v.mins) (s.cells v.maxs)
      (s.cells v.defaults) := ⟨h.len_mins, h.len_maxs, h.len_defaults, h.bounds, h.defaults_ok, h.names, h.flags⟩
  obtain ⟨c1, _, c3⟩ := checkvalues_self heps v.acceptNan (n := v.names.length) h.len_values h.len_mins h.len_maxs
    h.bounds h.values_ok
  -- the constructor returns the arrays it was given, in four fresh allocations
  simp only [clone, rebuild, mk, mkArrays_self heps ha, mkFrom_eq]
  -- the values setter accepts the values,
  simp only [setAll, Vec.n, c1]
  -- and clips nothing (read through the new arrays); the hit flag is the source's whatever the setter found
  refine ⟨_, _, rfl, ?_⟩
  simp [c3, view, Store.alloc]

end selfcopy_eps

section world
variable {α : Type}

theorem update_cases (w : World α) (k : Nat) (f : Store α → Vec → (Store α × Vec) × Out) :
    (∃ e, w.update k f = (w, .rejected e))
    ∨ ∃ v s' v', w.vecs[k]? = some v ∧ f w.store v = ((s', v'), .ok) ∧ w.update k f = (⟨s', w.vecs.set k v'⟩, .ok) := by
  unfold World.update
  split
  · exact .inl ⟨_, rfl⟩
  · rename_i v hk
    split
    · rename_i s' v' e; exact .inr ⟨v, s', v', hk, e, rfl⟩
    · exact .inl ⟨_, rfl⟩

theorem update_rejected (w : World α) (k : Nat) (f : Store α → Vec → (Store α × Vec) × Out) (e : Err)
    (h : (w.update k f).2 = .rejected e) : (w.update k f).1 = w := by
  rcases update_cases w k f with ⟨e', h'⟩ | ⟨_, _, _, _, _, h'⟩
  · rw [h']
  · rw [h'] at h; cases h

theorem view_set_self (s : Store α) (vecs : List Vec) (k : Nat) (v' : Vec) (hk : k < vecs.length) :
    (⟨s, vecs.set k v'⟩ : World α).view k = some (view s v') := by
  simp [World.view, hk]

theorem view_some {w : World α} {k : Nat} {vw : View α} (h : w.view k = some vw) :
    ∃ v, w.vecs[k]? = some v ∧ view w.store v = vw := Option.map_eq_some_iff.mp h

theorem update_accepted {w : World α} {k : Nat} {f : Store α → Vec → (Store α × Vec) × Out} {v : Vec}
    (hk : w.vecs[k]? = some v) (h : (w.update k f).2 = .ok) :
    ∃ s' v', f w.store v = ((s', v'), .ok) ∧ (w.update k f).1.view k = some (view s' v') := by
  rcases update_cases w k f with ⟨_, h'⟩ | ⟨v0, s', v', hk', e, h'⟩ <;> rw [h'] at h ⊢
  · cases h
  · cases hk.symm.trans hk'
    exact ⟨s', v', e, view_set_self _ _ _ _ (List.getElem?_eq_some_iff.mp hk).1⟩

theorem spawn_cases (w : World α) (k : Nat) (f : Store α → Vec → Except Err (Store α × Vec)) :
    (∃ e, w.spawn k f = (w, .rejected e))
    ∨ ∃ v s' c, w.vecs[k]? = some v ∧ f w.store v = .ok (s', c) ∧ w.spawn k f = (⟨s', w.vecs ++ [c]⟩, .ok) := by
  unfold World.spawn
  split
  · exact .inl ⟨_, rfl⟩
  · rename_i v hk
    split
    · rename_i s' c e; exact .inr ⟨v, s', c, hk, e, rfl⟩
    · exact .inl ⟨_, rfl⟩

theorem spawn_rejected (w : World α) (k : Nat) (f : Store α → Vec → Except Err (Store α × Vec)) (e : Err)
    (h : (w.spawn k f).2 = .rejected e) : (w.spawn k f).1 = w := by
  rcases spawn_cases w k f with ⟨e', h'⟩ | ⟨_, _, _, _, _, h'⟩
  · rw [h']
  · rw [h'] at h; cases h

@[simp] theorem peek_fst (w : World α) (k : Nat) (f : Store α → Vec → Out) : (w.peek k f).1 = w := by
  unfold World.peek; split <;> rfl

variable [LinearOrder α]

/-- The one lifting from a vector to the world. `hvs` says the new list of vectors is the old one except at place `k`, which
covers both `set k v'` (an assignment) and `++ [c]` (a copy, `k` = the old length); `hold`: the arrays of every other vector
are framed and apart from those of `v'`. Then the new world is well formed and every other vector shows what it showed. -/
theorem WorldOk.put {w : World α} (hw : WorldOk w) {s' : Store α} {vs' : List Vec} {k : Nat} {v' : Vec}
    (hvs : ∀ {j u}, vs'[j]? = some u → (j = k ∧ u = v') ∨ (j ≠ k ∧ w.vecs[j]? = some u))
    (hn : w.store.next ≤ s'.next) (hv' : VecOk s' v')
    (hold : ∀ j u, j ≠ k → w.vecs[j]? = some u →
      (∀ r ∈ u.refs, s'.cells r = w.store.cells r) ∧ ∀ r ∈ v'.refs, r ∉ u.refs) :
    WorldOk ⟨s', vs'⟩ ∧ ∀ j, j ≠ k → vs'[j]? = w.vecs[j]? → (⟨s', vs'⟩ : World α).view j = w.view j := by
  refine ⟨⟨fun j u hu => ?_, fun i j vi vj hi hj hij r hr => ?_⟩, fun j hj e => ?_⟩
  · rcases hvs hu with ⟨_, rfl⟩ | ⟨hj, hu'⟩
    · exact hv'
    · exact (hw.each j u hu').congr hn (hold j u hj hu').1
  · rcases hvs hi with ⟨rfl, rfl⟩ | ⟨hik, hi'⟩ <;> rcases hvs hj with ⟨rfl, rfl⟩ | ⟨hjk, hj'⟩
    · exact absurd rfl hij
    · exact (hold j vj hjk hj').2 r hr
    · exact fun hm => (hold i vi hik hi').2 r hm hr
    · exact hw.sep i j vi vj hi' hj' hij r hr
  · simp only [World.view, e]
    cases hu : w.vecs[j]? with
    | none => rfl
    | some u => simp only [Option.map_some, view_congr (hold j u hj hu).1]

/-- what an operation addressed to vector `k` can do: only vector `k` may show something else afterwards, and even it keeps
what construction fixed; no vector comes or goes -/
structure Touch (w : World α) (k : Nat) (w' : World α) : Prop where
  ok : WorldOk w'
  length : w'.vecs.length = w.vecs.length
  view_other : ∀ j, j ≠ k → w'.view j = w.view j
  frozen : ∀ j, w'.frozen j = w.frozen j

theorem Touch.refl {w : World α} (hw : WorldOk w) (k : Nat) : Touch w k w := ⟨hw, rfl, fun _ _ => rfl, fun _ => rfl⟩

theorem emptyWorld_ok : WorldOk (⟨Store.empty, []⟩ : World α) :=
  ⟨fun k v h => by simp at h, fun i j vi vj h => by simp at h⟩

theorem append_ok {w : World α} {s' : Store α} {c : Vec} (hw : WorldOk w) (sp : Spawn w.store s' c)
    (okc : VecOk s' c) :
    WorldOk ⟨s', w.vecs ++ [c]⟩ ∧ ∀ j, j < w.vecs.length → (⟨s', w.vecs ++ [c]⟩ : World α).view j = w.view j := by
  obtain ⟨ok, vj⟩ := hw.put getElem?_concat sp.next_le okc fun j u _ hu => by
    have lt := (hw.each j u hu).lt_next
    refine ⟨fun r hr => sp.frame r (lt r hr), fun r hr hm => ?_⟩
    have := sp.fresh r hr
    have := lt r hm; omega
  exact ⟨ok, fun j hj => vj j (Nat.ne_of_lt hj) (List.getElem?_append_left hj)⟩

/-- a copying operation: accepted on a well-formed vector, it has the footprint `Spawn` and yields a well-formed vector;
`clone` and the dictionary round trip are the two -/
def Spawner (f : Store α → Vec → Except Err (Store α × Vec)) : Prop :=
  ∀ s v s' c, VecOk s v → f s v = .ok (s', c) → Spawn s s' c ∧ VecOk s' c

theorem spawn_ok {w : World α} {k : Nat} {f : Store α → Vec → Except Err (Store α × Vec)} (hw : WorldOk w)
    (hf : Spawner f) :
    WorldOk (w.spawn k f).1 ∧ ∀ j, j < w.vecs.length → (w.spawn k f).1.view j = w.view j := by
  rcases spawn_cases w k f with ⟨_, h⟩ | ⟨v, s', c, hk, e, h⟩ <;> rw [h]
  · exact ⟨hw, fun _ _ => rfl⟩
  · obtain ⟨sp, okc⟩ := hf _ _ _ _ (hw.each k v hk) e
    exact append_ok hw sp okc

theorem update_touch {w : World α} {k : Nat} {f : Store α → Vec → (Store α × Vec) × Out} (hw : WorldOk w)
    (hf : Mutator f) : Touch w k (w.update k f).1 := by
  rcases update_cases w k f with ⟨e', h'⟩ | ⟨v, s', v', hk, e, h'⟩ <;> rw [h']
  · exact Touch.refl hw k
  obtain ⟨as, ok', _⟩ := hf _ _ _ _ (hw.each k v hk) e
  have hklt : k < w.vecs.length := (List.getElem?_eq_some_iff.mp hk).1
  -- the arrays of another vector are old, are not the array assigned to, and are apart from the new ones
  obtain ⟨ok, vj⟩ := hw.put getElem?_set_some as.next_le ok' fun j u hj hu => by
    have sepk := hw.sep k j v u hk hu (Ne.symm hj)
    have lt := (hw.each j u hu).lt_next
    refine ⟨fun r hr => as.frame r (lt r hr) fun e => sepk v.values (by simp [Vec.refs]) (e ▸ hr), fun r hr hm => ?_⟩
    rcases as.refs r hr with h | h
    · exact sepk r h hm
    · have := lt r hm; omega
  have viewj := fun j hj => vj j hj (List.getElem?_set_ne (Ne.symm hj))
  refine ⟨ok, by simp, viewj, fun j => ?_⟩
  by_cases hj : j = k
  · subst hj
    rw [World.frozen, World.frozen, view_set_self _ _ _ _ hklt, World.view, hk]
    simp only [Option.map_some, as.view_eq (hw.each j v hk)]
    rfl
  · simp only [World.frozen, viewj j hj]

variable [Add α] [Sub α]

theorem mk_eq [OfNat α 0] {eps : α} {s s1 : Store α} {names : List String}
    {defaults mins maxs : Option (List (XR α))} {cb ch an : Bool} {c : Vec}
    (e : mk eps s names defaults mins maxs cb ch an = .ok (s1, c)) :
    ∃ lo hi d, mkArrays eps names defaults mins maxs cb ch an = .ok (lo, hi, d)
      ∧ s1 = (mkFrom s names lo hi d cb ch an).1 ∧ c = (mkFrom s names lo hi d cb ch an).2 := by
  unfold mk at e
  split at e
  · cases e
  · rename_i lo hi d ea
    cases e
    exact ⟨lo, hi, d, ea, rfl, rfl⟩

theorem clone_spawner [OfNat α 0] (eps : α) : Spawner fun s v => clone eps s v := by
  intro s v s' c hv e
  obtain ⟨n1, n2⟩ := boundsOk_noNaN (hv.len_mins.trans hv.len_maxs.symm) hv.bounds
  simp only [clone, rebuild] at e
  split at e
  · cases e
  · rename_i s1 c1 emk
    obtain ⟨lo, hi, d, ea, rfl, rfl⟩ := mk_eq emk
    obtain ⟨sp, ok1⟩ := mkFrom_ok (s := s)
      (mkArrays_ok ea (fun m hm => Option.some.inj hm ▸ n1) (fun m hm => Option.some.inj hm ▸ n2))
    split at e
    · rename_i s2 c2 eset
      cases e
      obtain ⟨as, ok2, _⟩ := setAll_mutator eps _ _ _ _ _ ok1 eset
      refine ⟨⟨Nat.le_trans sp.next_le as.next_le, fun r hr => ?_, fun r hr => ?_⟩,
        VecOk.of_view ok2.lt_next ok2.nodup { ok2.view_ok with hit_off := fun h => ?_ }⟩
      · have := sp.fresh _ (List.mem_cons_self ..)
        rw [as.frame r (Nat.lt_of_lt_of_le hr sp.next_le) (by omega), sp.frame r hr]
      · exact (as.refs r hr).elim (sp.fresh r) (Nat.le_trans sp.next_le)
      · rw [as.checkHit] at h; exact hv.hit_off h
    · cases e

theorem fromDict_toDict [OfNat α 0] (eps : α) {s : Store α} {v : Vec} (h : VecOk s v) :
    fromDict eps s (toDict s v) = clone eps s v := by
  obtain ⟨il, i1, i2, i3, i4, i5⟩ := items_spec v.names (s.cells v.values) (s.cells v.mins) (s.cells v.maxs)
    (s.cells v.defaults) h.len_values h.len_mins h.len_maxs h.len_defaults
  simp only [fromDict, toDict, Vec.n, il, Nat.lt_irrefl, if_false, List.take_of_length_le (Nat.le_of_eq il),
    i1, i2, i3, i4, i5, clone]

theorem dictRT_spawner [OfNat α 0] (eps : α) : Spawner fun s v => fromDict eps s (toDict s v) :=
  fun s v s' c h e => clone_spawner eps s v s' c h ((fromDict_toDict eps h).symm.trans e)

theorem step_cases [OfNat α 0] (eps : α) (w : World α) (op : Op α) :
    (∃ f, Mutator f ∧ step eps w op = w.update op.target f)
    ∨ (∃ f, Spawner f ∧ step eps w op = w.spawn op.target f)
    ∨ (step eps w op).1 = w := by
  cases op with
  | setAttr k nm x => exact .inl ⟨_, setAttr_mutator nm x, rfl⟩
  | setKey k nm x => exact .inl ⟨_, setKey_mutator nm x, rfl⟩
  | setAll k xs => exact .inl ⟨_, setAll_mutator eps xs, rfl⟩
  | reset k => exact .inl ⟨_, reset_mutator eps, rfl⟩
  | clone k => exact .inr (.inl ⟨_, clone_spawner eps, rfl⟩)
  | dictRT k => exact .inr (.inl ⟨_, dictRT_spawner eps, rfl⟩)
  | getKey k nm | getAttr k nm | read k | setBad k => exact .inr (.inr (by simp only [step, peek_fst]))
  | pyCopy k works =>
    cases works
    · exact .inr (.inr (by simp only [step, Bool.false_eq_true, if_false, peek_fst]))
    · exact .inr (.inl ⟨_, clone_spawner eps, rfl⟩)

theorem step_length_le [OfNat α 0] (eps : α) (w : World α) (op : Op α) :
    w.vecs.length ≤ (step eps w op).1.vecs.length := by
  rcases step_cases eps w op with ⟨f, hf, e⟩ | ⟨f, _, e⟩ | e <;> rw [e]
  · rcases update_cases w op.target f with ⟨_, h⟩ | ⟨_, _, _, _, _, h⟩ <;> simp [h]
  · rcases spawn_cases w op.target f with ⟨_, h⟩ | ⟨_, _, _, _, _, h⟩ <;> simp [h]

end world

section transforms
variable {α : Type} [LinearOrder α] [Add α] [Sub α]

/-- the inner BoxCox2 is a vector of its own: what keeps the re-sync of forward / backward / jacobian away from the
parameters and constants -/
def Trans.wf (t : Trans) : Prop := t.bc ≠ t.params ∧ t.bc ≠ t.constants

/-- the layout `tinit` / `cinit` give a transform: parameters, constants, inner vector in places 0, 1, 2 -/
theorem Trans.wf_012 (kind : TKind) : (⟨kind, 0, 1, 2⟩ : Trans).wf := ⟨Nat.succ_ne_zero 1, Nat.succ_ne_self 1⟩

theorem Trans.mem_idx {t : Trans} {j : Nat} :
    j ∈ t.idx ↔ j = t.params ∨ j = t.constants ∨ (t.kind ≠ .plain ∧ j = t.bc) := by
  unfold Trans.idx; cases t.kind <;> simp

/-- forward / backward / jacobian write, if at all, a whole-vector assignment to the inner BoxCox2 of a class that
owns one -/
theorem sync_cases (eps : α) (w : World α) (t : Trans) :
    sync eps w t = w
    ∨ ∃ xs, t.kind ≠ .plain ∧ sync eps w t = (w.update t.bc fun s v => setAll eps s v xs).1 := by
  unfold sync
  split
  · exact .inl rfl
  · rename_i xs h
    refine .inr ⟨xs, fun hk => ?_, rfl⟩
    unfold syncValues at h
    split at h
    · simp only [hk] at h; cases h
    · cases h

theorem tstep_cases (eps : α) (w : World α) (t : Trans) (op : TOp α) :
    (∃ o, tstep eps w t op = (w, o))
    ∨ (∃ k f, Mutator f ∧ (k = t.params ∨ k = t.constants) ∧ op.readOnly = false ∧ tstep eps w t op = w.update k f)
    ∨ (∃ f, Mutator f ∧ t.kind ≠ .plain ∧ tstep eps w t op = ((w.update t.bc f).1, .ok)) := by
  cases op with
  | forward | backward | jacobian =>
    rcases sync_cases eps w t with e | ⟨xs, hk, e⟩
    · exact .inl ⟨.ok, by simp only [tstep, e]⟩
    · exact .inr (.inr ⟨_, setAll_mutator eps xs, hk, by simp only [tstep, e]⟩)
  | sample | logprior | print => exact .inl ⟨_, rfl⟩
  | getItem nm =>
    simp only [tstep]
    split
    · exact .inl ⟨_, Prod.ext (peek_fst ..) rfl⟩
    · exact .inl ⟨_, rfl⟩
  | getAttr nm => simp only [tstep]; split <;> exact .inl ⟨_, rfl⟩
  | setItem nm x =>
    simp only [tstep]
    split
    · split
      · exact .inr (.inl ⟨_, _, setKey_mutator nm x, .inl rfl, rfl, rfl⟩)
      · split
        · exact .inr (.inl ⟨_, _, setKey_mutator nm x, .inl rfl, rfl, rfl⟩)
        · exact .inr (.inl ⟨_, _, setKey_mutator nm x, .inr rfl, rfl, rfl⟩)
    · exact .inl ⟨_, rfl⟩
  | setAttr nm x =>
    simp only [tstep]
    split
    · split
      · exact .inr (.inl ⟨_, _, setAttr_mutator nm x, .inl rfl, rfl, rfl⟩)
      · split
        · exact .inr (.inl ⟨_, _, setAttr_mutator nm x, .inr rfl, rfl, rfl⟩)
        · exact .inl ⟨_, rfl⟩
    · exact .inl ⟨_, rfl⟩
  | reset => exact .inr (.inl ⟨_, _, reset_mutator eps, .inl rfl, rfl, rfl⟩)
  | setParams xs => exact .inr (.inl ⟨_, _, setAll_mutator eps xs, .inl rfl, rfl, rfl⟩)
  | setConstants xs => exact .inr (.inl ⟨_, _, setAll_mutator eps xs, .inr rfl, rfl, rfl⟩)

theorem tstep_touch (eps : α) {w : World α} (hw : WorldOk w) (t : Trans) (op : TOp α) :
    (tstep eps w t op).1 = w
    ∨ ∃ k, Touch w k (tstep eps w t op).1 ∧ k ∈ t.idx ∧ (op.readOnly = true → k = t.bc ∧ t.kind ≠ .plain) := by
  rcases tstep_cases eps w t op with ⟨o, e⟩ | ⟨k, f, hf, hk, hro, e⟩ | ⟨f, hf, hk, e⟩ <;> rw [e]
  · exact .inl rfl
  · exact .inr ⟨k, update_touch hw hf, Trans.mem_idx.mpr (hk.imp_right .inl), fun h => by rw [hro] at h; cases h⟩
  · exact .inr ⟨t.bc, update_touch hw hf, Trans.mem_idx.mpr (.inr (.inr ⟨hk, rfl⟩)), fun _ => ⟨rfl, hk⟩⟩

theorem tstep_readonly (eps : α) {w : World α} (hw : WorldOk w) (t : Trans) (op : TOp α)
    (ht : t.kind ≠ .plain → t.wf) (hro : op.readOnly = true) :
    (tstep eps w t op).1.view t.params = w.view t.params
      ∧ (tstep eps w t op).1.view t.constants = w.view t.constants := by
  rcases tstep_touch eps hw t op with e | ⟨k, tc, _, hk⟩
  · rw [e]; exact ⟨rfl, rfl⟩
  · obtain ⟨rfl, hp⟩ := hk hro
    exact ⟨tc.view_other _ (ht hp).1.symm, tc.view_other _ (ht hp).2.symm⟩

theorem tstep_spec (eps : α) {w : World α} (hw : WorldOk w) (t : Trans) (op : TOp α) :
    WorldOk (tstep eps w t op).1 ∧ (tstep eps w t op).1.vecs.length = w.vecs.length
      ∧ ∀ j, (tstep eps w t op).1.frozen j = w.frozen j := by
  rcases tstep_touch eps hw t op with e | ⟨k, tc, _⟩
  · rw [e]; exact ⟨hw, rfl, fun _ => rfl⟩
  · exact ⟨tc.ok, tc.length, tc.frozen⟩

/-- the world a history of operations on the transform `t` ends in; the statements of `Props/C12.lean` write the fold out -/
abbrev trun (eps : α) (t : Trans) (w : World α) (ops : List (TOp α)) : World α :=
  ops.foldl (fun w op => (tstep eps w t op).1) w

theorem trun_spec (eps : α) (t : Trans) (ops : List (TOp α)) {w : World α} (hw : WorldOk w) :
    WorldOk (trun eps t w ops) ∧ ∀ j, (trun eps t w ops).frozen j = w.frozen j :=
  (History.Run.foldl _).preserves (fun u => WorldOk u ∧ ∀ j, u.frozen j = w.frozen j)
    (fun _ op _ hu => ⟨(tstep_spec eps hu.1 t op).1, fun j => ((tstep_spec eps hu.1 t op).2.2 j).trans (hu.2 j)⟩)
    ⟨hw, fun _ => rfl⟩

theorem trun_readonly (eps : α) (t : Trans) (ht : t.kind ≠ .plain → t.wf) {w : World α} (hw : WorldOk w)
    (history : List (TOp α)) (op : TOp α) (hro : op.readOnly = true) :
    let w' := trun eps t w history
    WorldOk w' ∧ (tstep eps w' t op).1.view t.params = w'.view t.params
      ∧ (tstep eps w' t op).1.view t.constants = w'.view t.constants
      ∧ ∀ j, (tstep eps w' t op).1.frozen j = w.frozen j := by
  intro w'
  obtain ⟨hw', fr⟩ := trun_spec eps t history hw
  obtain ⟨r0, r1⟩ := tstep_readonly eps hw' t op ht hro
  exact ⟨hw', r0, r1, fun j => ((tstep_spec eps hw' t op).2.2 j).trans (fr j)⟩

end transforms

section instances
variable {α : Type} [LinearOrder α]

/-- the quantifier's "finite or infinite bounds": no NaN among the bounds given to the constructor -/
def Spec.nanFree (sp : Spec α) : Prop :=
  (∀ m, sp.mins = some m → m.any XR.isNaN = false) ∧ (∀ m, sp.maxs = some m → m.any XR.isNaN = false)

/-- what constructor calls next to live vectors do: the old vectors show what they showed, the new ones their defaults with
the hit flag off. Transitive, so a constructor that builds two or three vectors is handled call by call. -/
structure Extends (w w' : World α) : Prop where
  ok : WorldOk w'
  le : w.vecs.length ≤ w'.vecs.length
  old : ∀ j, j < w.vecs.length → w'.view j = w.view j
  fresh : ∀ j, w.vecs.length ≤ j → j < w'.vecs.length →
    ∃ vw, w'.view j = some vw ∧ vw.values = vw.defaults ∧ vw.hit = false

theorem Extends.trans {w w1 w2 : World α} (h1 : Extends w w1) (h2 : Extends w1 w2) : Extends w w2 := by
  refine ⟨h2.ok, Nat.le_trans h1.le h2.le, fun j hj => ?_, fun j hj hj2 => ?_⟩
  · rw [h2.old j (Nat.lt_of_lt_of_le hj h1.le), h1.old j hj]
  · by_cases h : j < w1.vecs.length
    · rw [h2.old j h]; exact h1.fresh j hj h
    · exact h2.fresh j (Nat.le_of_not_lt h) hj2

/-- the instances of a process: the world is well formed, each non-plain instance has its inner vector apart from
its own params / constants, the vectors of an instance exist, and NO vector belongs to two instances -/
structure MOk (m : MWorld α) : Prop where
  world : WorldOk m.world
  wf : ∀ (i : Nat) (t : Trans), m.insts[i]? = some t → t.kind ≠ .plain → t.bc ≠ t.params ∧ t.bc ≠ t.constants
  lt : ∀ (i : Nat) (t : Trans), m.insts[i]? = some t → ∀ j ∈ t.idx, j < m.world.vecs.length
  sep : ∀ (i i' : Nat) (t t' : Trans), m.insts[i]? = some t → m.insts[i']? = some t' → i ≠ i' →
    ∀ j ∈ t'.idx, j ∉ t.idx

theorem MOk.push {m : MWorld α} (hm : MOk m) {w' : World α} (hw' : WorldOk w')
    (hle : m.world.vecs.length ≤ w'.vecs.length) (t : Trans)
    (hwf : t.kind ≠ .plain → t.wf)
    (hidx : ∀ j ∈ t.idx, m.world.vecs.length ≤ j ∧ j < w'.vecs.length) : MOk ⟨w', m.insts ++ [t]⟩ := by
  refine ⟨hw', fun i u hu hk => ?_, fun i u hu j hj => ?_, fun i i' u u' hu hu' hne j hj => ?_⟩
  · rcases getElem?_concat hu with ⟨_, rfl⟩ | ⟨_, h⟩
    · exact hwf hk
    · exact hm.wf i u h hk
  · rcases getElem?_concat hu with ⟨_, rfl⟩ | ⟨_, h⟩
    · exact (hidx j hj).2
    · exact Nat.lt_of_lt_of_le (hm.lt i u h j hj) hle
  · rcases getElem?_concat hu with ⟨rfl, rfl⟩ | ⟨_, h⟩ <;> rcases getElem?_concat hu' with ⟨rfl, rfl⟩ | ⟨_, h'⟩
    · exact absurd rfl hne
    · intro hc
      have := hm.lt i' u' h' j hj
      have := (hidx j hc).1; omega
    · intro hc
      have := hm.lt i u h j hc
      have := (hidx j hj).1; omega
    · exact hm.sep i i' u u' h h' hne j hj

variable [Add α] [Sub α]

theorem add_eq [OfNat α 0] {eps : α} {w w' : World α} {sp : Spec α} (e : World.add eps w sp = .ok w') :
    ∃ s v, mk eps w.store sp.names sp.defaults sp.mins sp.maxs sp.checkBounds sp.checkHit sp.acceptNan = .ok (s, v)
      ∧ w' = ⟨s, w.vecs ++ [v]⟩ := by
  unfold World.add at e
  split at e
  · cases e
  · rename_i s v emk; cases e; exact ⟨s, v, emk, rfl⟩

theorem add_extends [OfNat α 0] {eps : α} {w w' : World α} {sp : Spec α} (hw : WorldOk w)
    (e : World.add eps w sp = .ok w') (hn : sp.nanFree) : Extends w w' ∧ w'.vecs.length = w.vecs.length + 1 := by
  obtain ⟨s, v, emk, rfl⟩ := add_eq e
  obtain ⟨lo, hi, d, ea, rfl, rfl⟩ := mk_eq emk
  obtain ⟨sp', ok⟩ := mkFrom_ok (s := w.store) (mkArrays_ok ea hn.1 hn.2)
  obtain ⟨h1, h2⟩ := append_ok hw sp' ok
  have vw := mkFrom_view w.store sp.names lo hi d sp.checkBounds sp.checkHit sp.acceptNan
  generalize mkFrom w.store sp.names lo hi d sp.checkBounds sp.checkHit sp.acceptNan = p at *
  refine ⟨⟨h1, by simp, h2, fun j hj hj2 => ?_⟩, by simp⟩
  have : j = w.vecs.length := by simp at hj2; omega
  subst this
  exact ⟨view p.1 p.2, by simp [World.view], by rw [vw], by rw [vw]⟩

theorem init_eq_add [OfNat α 0] (eps : α) (names : List String) (defaults mins maxs : Option (List (XR α)))
    (cb ch an : Bool) :
    init eps names defaults mins maxs cb ch an
      = World.add eps ⟨Store.empty, []⟩ ⟨names, defaults, mins, maxs, cb, ch, an⟩ := by
  unfold init World.add
  split <;> simp_all

/-- a freshly constructed transform. The bounds are NaN-free as a consequence of the calls having been accepted (`hn`:
directly assumed by `tinit_ok`, derived from the classes' own guards by `classSpecs_nanFree`), so all calls are taken
apart before the first is used -/
theorem tinit_extends [OfNat α 0] {eps : α} {p c : Spec α} {b : Option (Spec α)} {w : World α}
    (e : tinit eps p c b = .ok w)
    (hn : (∃ w0 w', World.add eps w0 p = .ok w') → (∀ sb, b = some sb → ∃ w0 w', World.add eps w0 sb = .ok w') →
      p.nanFree ∧ c.nanFree ∧ ∀ sb, b = some sb → sb.nanFree) :
    Extends ⟨Store.empty, []⟩ w ∧ w.vecs.length = if b.isSome then 3 else 2 := by
  unfold tinit at e
  split at e
  · cases e
  rename_i w1 e1
  split at e
  · cases e
  rename_i w2 e2
  obtain ⟨hp, hc, hb⟩ := hn ⟨_, _, e1⟩ fun sb h => by
    subst h; exact ⟨_, _, e⟩
  obtain ⟨x1, l1⟩ := add_extends emptyWorld_ok e1 hp
  obtain ⟨x2, l2⟩ := add_extends x1.ok e2 hc
  split at e
  · cases e; exact ⟨x1.trans x2, by simp [l2, l1]⟩
  · rename_i sb
    obtain ⟨x3, l3⟩ := add_extends x2.ok e (hb sb rfl)
    exact ⟨(x1.trans x2).trans x3, by simp [l3, l2, l1]⟩

/-- `Class(**kwargs)` next to live instances: one more instance, on two or three freshly constructed vectors -/
theorem madd_extends [OfNat α 0] {eps : α} {m m' : MWorld α} {kind : TKind} {p c : Spec α} {b : Option (Spec α)}
    (hm : MOk m) (e : madd eps m kind p c b = .ok m')
    (hn : (∃ w0 w', World.add eps w0 p = .ok w') →
      (∀ sb, b = some sb → kind ≠ .plain → ∃ w0 w', World.add eps w0 sb = .ok w') →
      p.nanFree ∧ c.nanFree ∧ ∀ sb, b = some sb → sb.nanFree) :
    MOk m' ∧ Extends m.world m'.world ∧ ∃ t, m'.insts = m.insts ++ [t] := by
  unfold madd at e
  simp only at e
  split at e
  · cases e
  rename_i w1 e1
  split at e
  · cases e
  rename_i w2 e2
  obtain ⟨hp, hc, hb⟩ := hn ⟨_, _, e1⟩ fun sb hsb hk => by
    subst hsb
    rw [if_neg hk] at e
    simp only at e
    split at e
    · cases e
    · exact ⟨_, _, ‹_›⟩
  obtain ⟨x1, l1⟩ := add_extends hm.world e1 hp
  obtain ⟨x2, l2⟩ := add_extends x1.ok e2 hc
  have x12 := x1.trans x2
  split at e
  · cases e
    refine ⟨hm.push x12.ok x12.le _ (fun h => absurd rfl h) fun j hj => ?_, x12, _, rfl⟩
    simp only [Trans.idx, List.mem_cons, List.not_mem_nil, or_false] at hj
    omega
  · split at e
    · cases e
    rename_i sb
    split at e
    · cases e
    rename_i w3 e3
    cases e
    obtain ⟨x3, l3⟩ := add_extends x2.ok e3 (hb sb rfl)
    have x := x12.trans x3
    refine ⟨hm.push x.ok x.le _ (fun _ => ⟨by simp, by simp⟩) fun j hj => ?_, x, _, rfl⟩
    simp only [Trans.mem_idx] at hj
    omega

end instances


end HydroVerif.C12
