/-
What `from_stream` accepts, read off the model: the parent attributes it collects are numbers, the dtype is a supported
one, the grid comes from `Grid.__init__` (used by the closure theorems of `Props/C13.lean`).
-/
import HydroVerif.Lemmas.C13Machine

namespace HydroVerif.C13

def ParentNumeric {ν : Type} (p : List (Str × PVal ν)) : Prop := ∀ e ∈ p, ∀ s, e.2 ≠ .text s

theorem dictSet_numeric {ν : Type} {p : List (Str × PVal ν)} {k : Str} {v : PVal ν} (hp : ParentNumeric p)
    (hv : ∀ s, v ≠ .text s) : ParentNumeric (dictSet p k v) :=
  Assoc.forall_mem_upsert (P := fun e : Str × PVal ν => ∀ s, e.2 ≠ .text s) hp hv

theorem parseLines_numeric {ν : Type} (io : NumIO ν) (ls : List Str) : ∀ (c c' : Config ν), parseLines io c ls = .ok c' →
    ParentNumeric c.parent → ParentNumeric c'.parent := by
  induction ls with
  | nil => intro c c' h hp; cases h; exact hp
  | cons l ls ih =>
    intro c c' h hp
    unfold parseLines at h
    split at h
    · cases h
    · rename_i c1 h1
      refine ih c1 c' h ?_
      -- one line: the setter it calls stores a number under a `parent…` key or leaves the parent attributes alone
      rcases parseLine_cases io c c1 l h1 with rfl | ⟨k, v, rfl⟩ | ⟨k, n, rfl⟩ | ⟨k, v, rfl⟩ | ⟨k, x, rfl⟩
      · exact hp
      · rw [setText_parent]; exact hp
      · rw [setInt_parent]
        split
        · exact dictSet_numeric hp (fun _ => nofun)
        · exact hp
      · rw [setNodata_parent]; exact hp
      · rw [setNum_parent]
        split
        · exact dictSet_numeric hp (fun _ => nofun)
        · exact hp

theorem dtypeOfStr_supported {s : Str} {bo : ByteOrder} {t : DType} (h : dtypeOfStr s = some (bo, t)) :
    t.supported = true := by
  unfold dtypeOfStr at h
  simp only at h
  split at h
  · split at h
    · split at h
      · cases h; assumption
      · cases h
    · cases h
  · cases h

theorem mkGrid_ok {ν : Type} {io : NumIO ν} {name : Str} {ncols nrows : Int} {csz xll yll : ν} {t : DType} {nd : NVal ν}
    {comment : Str} {g : Grid ν} (h : mkGrid io name ncols nrows csz xll yll t nd comment = .ok g) :
    g.dtype = t ∧ nodataWord io t nd = .ok g.nodata ∧ g.nrows = nrows ∧ g.ncols = ncols ∧ 0 ≤ nrows ∧ 0 ≤ ncols ∧
      g.lo = none ∧ g.hi = none ∧ g.parent = [] ∧ g.data = zeros nrows.toNat ncols.toNat := by
  unfold mkGrid at h
  split at h
  · cases h
  · rename_i w hw
    split at h
    · cases h
    · rename_i hs
      cases h
      exact ⟨rfl, hw, rfl, rfl, by omega, by omega, rfl, rfl, rfl, rfl⟩

theorem finishConfig_ok {ν : Type} (io : NumIO ν) (c : Config ν) (hi : HeaderInfo ν) (h : finishConfig io c = .ok hi) :
    ∃ t ncols nrows csz xll yll nd, t.supported = true ∧
      mkGrid io c.name ncols nrows csz xll yll t nd c.comment = .ok hi.grid := by
  -- one rung per early return of `finishConfig`, in its order
  unfold finishConfig at h
  split at h
  · cases h -- `badByteorder`
  · simp only at h
    split at h
    · cases h -- `badDtype`
    · rename_i bo t hdt
      split at h
      · cases h -- `xdimYdim`
      · split at h
        · cases h -- `missingKey`
        · split at h
          · cases h -- `missingDims`
          · split at h
            · cases h -- an error of `mkGrid`
            · rename_i g hg
              cases h
              exact ⟨t, _, _, _, _, _, _, dtypeOfStr_supported hdt, hg⟩

end HydroVerif.C13
