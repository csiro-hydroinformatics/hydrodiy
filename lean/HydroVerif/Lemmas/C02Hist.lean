/-
C02 — lemmas about the object model of `Model/C02Hist.lean` over ℝ: clipping lands inside the bounds (`clip` is `clipv`
of Model/C01Obj, its two facts are `clipv_mem`, `clipv_eq_self` of Lemmas/C01Obj), the three
setters keep every stored value inside its slot, the constructors establish that invariant (`Obj.Inv`), a call on a
well-formed object of each class returns the class's formula at the stored values (`X.of_inv`, `callOp_total`), and
every public operation preserves the invariant.

Model/C01Obj (with Lemmas/C01Obj) is another model of the same `Vector` / `Transform` code, written for the round trips:
all four methods, every way of assigning, replies of every operation. This one was written for the Jacobian property: only
`forward` / `jacobian`, the repaired Sinh Jacobian (`Sinh.jacobianH`), the constructor guards one by one, `dutils.cast`.
What relates them: `clip` IS `clipv` (by `rfl`), the setters test and clip in the same order, and the invariants say the same
of a stored value (`Slot.holds` = `okSlot`); no theorem relates a run of one to a run of the other.
-/
import HydroVerif.Model.C02Hist
import HydroVerif.Lemmas.C01Obj
import HydroVerif.Lemmas.History

namespace HydroVerif.C02
open HydroVerif.C01

/-- the declared bounds of the slot are not empty (`VSpec.WF` of Model/C01Obj, for one slot) -/
def Slot.ok (s : Slot ℝ) : Prop := ∀ l h, s.lo = some l → s.hi = some h → l ≤ h

/-- a stored value is admissible: a number inside the bounds, or NaN where the vector accepts NaN (`okSlot` of Model/C01Obj) -/
def Slot.holds (s : Slot ℝ) (acceptNan : Bool) : Option ℝ → Prop
  | none => acceptNan = true
  | some x => (∀ l, s.lo = some l → l ≤ x) ∧ (∀ h, s.hi = some h → x ≤ h)

theorem clipO_holds (s : Slot ℝ) (hs : s.ok) (acc : Bool) (x : Option ℝ) (hx : x = none → acc = true) :
    s.holds acc (clipO s.lo s.hi x) := by
  cases x with
  | none => exact hx rfl
  | some v => exact clipv_mem hs v

theorem clip_of_holds (s : Slot ℝ) (acc : Bool) (v : ℝ) (h : s.holds acc (some v)) : clip s.lo s.hi v = v :=
  clipv_eq_self h.1 h.2

/-- one admissible value per slot, and no slot with empty bounds -/
structure Vec.Inv (v : Vec ℝ) : Prop where
  all : List.Forall₂ (fun s x => Slot.holds s v.acceptNan x) v.slots v.vals
  ok : ∀ s ∈ v.slots, Slot.ok s

theorem clipAll_holds (slots : List (Slot ℝ)) (acc : Bool) (xs : List (Option ℝ)) (hlen : xs.length = slots.length)
    (hok : ∀ s ∈ slots, Slot.ok s) (hnan : ∀ x ∈ xs, x = none → acc = true) :
    List.Forall₂ (fun s x => Slot.holds s acc x) slots (Vec.clipAll slots xs) := by
  induction slots generalizing xs with
  | nil => cases xs <;> simp [Vec.clipAll]
  | cons s ss ih =>
    cases xs with
    | nil => simp at hlen
    | cons x xt =>
      simp only [Vec.clipAll]
      refine List.Forall₂.cons (clipO_holds s (hok s List.mem_cons_self) acc x (hnan x List.mem_cons_self)) ?_
      exact ih xt (Nat.succ.inj hlen) (fun t ht => hok t (List.mem_cons_of_mem _ ht))
        fun y hy => hnan y (List.mem_cons_of_mem _ hy)

theorem setIdx_holds (slots : List (Slot ℝ)) (acc : Bool) (vals : List (Option ℝ)) (nm : String) (x : Option ℝ)
    (h : List.Forall₂ (fun s v => Slot.holds s acc v) slots vals) (hok : ∀ s ∈ slots, Slot.ok s)
    (hx : x = none → acc = true) :
    List.Forall₂ (fun s v => Slot.holds s acc v) slots (Vec.setIdx slots vals nm x) := by
  induction h with
  | nil => simp [Vec.setIdx]
  | @cons s v ss vs hsv _ ih =>
    simp only [Vec.setIdx]
    split_ifs
    · exact List.Forall₂.cons (clipO_holds s (hok s List.mem_cons_self) acc x hx) (by assumption)
    · exact List.Forall₂.cons hsv (ih fun t ht => hok t (List.mem_cons_of_mem _ ht))

theorem Vec.setName_inv (v : Vec ℝ) (hv : v.Inv) (nm : String) (x : Option ℝ) (v' : Vec ℝ)
    (h : v.setName nm x = .ok v') : v'.Inv ∧ v'.slots = v.slots ∧ v'.acceptNan = v.acceptNan := by
  unfold Vec.setName at h
  split_ifs at h with h1 h2
  cases h
  refine ⟨⟨?_, hv.ok⟩, rfl, rfl⟩
  refine setIdx_holds v.slots v.acceptNan v.vals nm x hv.all hv.ok ?_
  intro hx
  subst hx
  simpa using h2

theorem Vec.setAll_inv (v : Vec ℝ) (hv : v.Inv) (xs : List (Option ℝ)) (v' : Vec ℝ)
    (h : v.setAll xs = .ok v') : v'.Inv ∧ v'.slots = v.slots ∧ v'.acceptNan = v.acceptNan := by
  unfold Vec.setAll at h
  split_ifs at h with h1 h2
  cases h
  refine ⟨⟨?_, hv.ok⟩, rfl, rfl⟩
  refine clipAll_holds v.slots v.acceptNan xs (not_not.mp h1) hv.ok fun x hx hnone => ?_
  subst hnone
  by_contra hc
  exact h2 (Bool.and_eq_true_iff.mpr ⟨List.any_eq_true.mpr ⟨none, hx, rfl⟩, by simpa using hc⟩)

theorem Vec.reset_ok (v : Vec ℝ) (hd : ∀ s ∈ v.slots, s.dflt = none → v.acceptNan = true) :
    ∃ v', v.reset = .ok v' := by
  unfold Vec.reset Vec.setAll
  rw [if_neg (by simp)]
  split_ifs with h
  · exfalso
    simp only [Bool.and_eq_true, List.any_eq_true, Bool.not_eq_eq_eq_not, Bool.not_true] at h
    obtain ⟨⟨x, hx, hnone⟩, hacc⟩ := h
    rw [List.mem_map] at hx
    obtain ⟨s, hs, rfl⟩ := hx
    have := hd s hs (by simpa using hnone)
    rw [this] at hacc
    cases hacc
  · exact ⟨_, rfl⟩

theorem Vec.ofSlots_inv (slots : List (Slot ℝ)) (acc : Bool) (hok : ∀ s ∈ slots, Slot.ok s)
    (hd : ∀ s ∈ slots, s.dflt = none → acc = true) : (Vec.ofSlots slots acc).Inv := by
  refine ⟨?_, hok⟩
  refine clipAll_holds slots acc _ (by simp) hok ?_
  intro x hx hnone
  rw [List.mem_map] at hx
  obtain ⟨s, hs, rfl⟩ := hx
  exact hd s hs hnone

/-- what the guards of the constructor leave of the options: `minilam ∈ [-3, 1 + EPS]` for the four Box-Cox classes, a positive
base for `Log` -/
def Ctor.ok (cls : Cls) (c : Ctor ℝ) : Prop :=
  (cls = .BoxCox2 ∨ cls = .BoxCox1lam ∨ cls = .BoxCox1nu ∨ cls = .BoxCox2sym → -3 ≤ c.minilam ∧ c.minilam ≤ 1 + eps) ∧
  (cls = .Log → ∀ b, c.base = some b → 0 < b)

/-- the object invariant. The slot lists are pinned to the class's own (`paramSlots`, `constSlots`), so that a proof about one
class can read off how many values there are and which bounds they obey (`X.of_inv`); `inner` is a case distinction because
only the delegating classes hold an inner `BoxCox2`, whose vector then obeys the Box-Cox bounds of the same options -/
structure Obj.Inv (o : Obj ℝ) : Prop where
  ctor : Ctor.ok o.cls o.ctor
  pslots : o.params.slots = paramSlots o.cls o.ctor
  cslots : o.consts.slots = constSlots o.cls o.ctor
  pacc : o.params.acceptNan = false
  cacc : o.consts.acceptNan = true
  pinv : o.params.Inv
  cinv : o.consts.Inv
  inner : if hasInner o.cls then ∃ b, o.bc = some b ∧ b.slots = bcSlots o.ctor ∧ b.acceptNan = false ∧ b.Inv
          else o.bc = none

theorem minilam_le_three {c : Ctor ℝ} (h : c.minilam ≤ 1 + eps) : c.minilam ≤ 3.0 :=
  h.trans (by unfold eps; norm_num)

/-- "fine": bounds non-empty and the default a number, what `Vec.ofSlots_inv` asks of a parameter slot -/
theorem bcSlots_fine (c : Ctor ℝ) (h : c.minilam ≤ 1 + eps) : ∀ s ∈ bcSlots c, Slot.ok s ∧ s.dflt ≠ none := by
  intro s hs
  simp only [bcSlots, List.mem_cons, List.mem_nil_iff, or_false] at hs
  rcases hs with rfl | rfl
  · exact ⟨fun _ _ _ hh => (nomatch hh), nofun⟩
  · exact ⟨fun _ _ hl hh => Option.some.inj hl ▸ Option.some.inj hh ▸ minilam_le_three h, nofun⟩

theorem paramSlots_fine (cls : Cls) (c : Ctor ℝ) (h : Ctor.ok cls c) :
    ∀ s ∈ paramSlots cls c, Slot.ok s ∧ s.dflt ≠ none := by
  intro s hs
  cases cls <;> simp only [paramSlots, List.mem_cons, or_false, List.not_mem_nil] at hs
  case BoxCox2 => exact bcSlots_fine c (h.1 (Or.inl rfl)).2 s hs
  case BoxCox2sym => exact bcSlots_fine c (h.1 (Or.inr (Or.inr (Or.inr rfl)))).2 s hs
  case BoxCox1lam =>
    subst hs
    exact ⟨fun _ _ hl hh => Option.some.inj hl ▸ Option.some.inj hh ▸
      minilam_le_three (h.1 (Or.inr (Or.inl rfl))).2, nofun⟩
  -- the other eight classes have literal bounds: `lo ≤ hi` is a numeral comparison, slot by slot
  all_goals
    rcases hs with rfl | rfl | rfl <;> refine ⟨fun l hh hl hh' => ?_, nofun⟩ <;> cases hl <;> cases hh' <;> norm_num

theorem constSlots_ok (cls : Cls) (c : Ctor ℝ) (h : Ctor.ok cls c) : ∀ s ∈ constSlots cls c, Slot.ok s := by
  intro s hs
  cases cls <;> simp only [constSlots, List.mem_cons, or_false, List.not_mem_nil] at hs
  case BoxCox1nu =>
    subst hs
    exact fun _ _ hl hh => Option.some.inj hl ▸ Option.some.inj hh ▸
      minilam_le_three (h.1 (Or.inr (Or.inr (Or.inl rfl)))).2
  all_goals
    subst hs
    exact fun _ _ _ hh => nomatch hh

theorem bcGuard_ok (c : Ctor ℝ) (h : bcGuard c = .ok ()) : -3 ≤ c.minilam ∧ c.minilam ≤ 1 + eps := by
  unfold bcGuard at h
  split_ifs at h with h1 h2 h3
  exact ⟨le_trans (by norm_num) (not_lt.mp h1), sub_le_iff_le_add.mp (not_lt.mp h3)⟩

theorem build_inv (cls : Cls) (c : Ctor ℝ) (hc : Ctor.ok cls c) : (build cls c).Inv := by
  refine ⟨hc, rfl, rfl, rfl, rfl, ?_, ?_, ?_⟩
  · exact Vec.ofSlots_inv _ _ (fun s hs => (paramSlots_fine cls c hc s hs).1)
      fun s hs hn => absurd hn (paramSlots_fine cls c hc s hs).2
  · exact Vec.ofSlots_inv _ _ (constSlots_ok cls c hc) (fun _ _ _ => rfl)
  · show if hasInner cls = true then _ else _
    split_ifs with hi
    · have hf := bcSlots_fine c (hc.1 (by cases cls <;> simp [hasInner] at hi ⊢)).2
      exact ⟨Vec.ofSlots (bcSlots c) false, if_pos hi, rfl, rfl,
        Vec.ofSlots_inv _ _ (fun s hs => (hf s hs).1) fun s hs hn => absurd hn (hf s hs).2⟩
    · exact if_neg hi

theorem ctorGuard_bc {cls : Cls} (hcls : cls = .BoxCox2 ∨ cls = .BoxCox1lam ∨ cls = .BoxCox1nu ∨ cls = .BoxCox2sym)
    (c : Ctor ℝ) : ctorGuard cls c = bcGuard c := by
  rcases hcls with rfl | rfl | rfl | rfl <;> rfl

theorem ctorGuard_ok (cls : Cls) (c : Ctor ℝ) (u : Unit) (h : ctorGuard cls c = .ok u) : Ctor.ok cls c := by
  refine ⟨fun hcl => bcGuard_ok c (ctorGuard_bc hcl c ▸ h), ?_⟩
  rintro rfl b hb
  simp only [ctorGuard, hb] at h
  split_ifs at h with hle
  exact lt_of_not_ge hle

theorem mk_eq_build {cls : Cls} {c : Ctor ℝ} {o : Obj ℝ} (h : mk cls c = .ok o) : Ctor.ok cls c ∧ o = build cls c := by
  unfold mk at h
  cases hg : ctorGuard cls c with
  | error e => rw [hg] at h; cases h
  | ok u =>
    rw [hg] at h
    cases h
    exact ⟨ctorGuard_ok cls c u hg, rfl⟩

theorem mk_inv (cls : Cls) (c : Ctor ℝ) (o : Obj ℝ) (h : mk cls c = .ok o) : o.Inv :=
  (mk_eq_build h).2 ▸ build_inv cls c (mk_eq_build h).1

theorem Obj.Inv.withParams {o : Obj ℝ} (ho : o.Inv) {p : Vec ℝ}
    (h : p.Inv ∧ p.slots = o.params.slots ∧ p.acceptNan = o.params.acceptNan) :
    ({ o with params := p } : Obj ℝ).Inv :=
  ⟨ho.ctor, h.2.1.trans ho.pslots, ho.cslots, h.2.2.trans ho.pacc, ho.cacc, h.1, ho.cinv, ho.inner⟩

theorem Obj.Inv.withConsts {o : Obj ℝ} (ho : o.Inv) {p : Vec ℝ}
    (h : p.Inv ∧ p.slots = o.consts.slots ∧ p.acceptNan = o.consts.acceptNan) :
    ({ o with consts := p } : Obj ℝ).Inv :=
  ⟨ho.ctor, ho.pslots, h.2.1.trans ho.cslots, ho.pacc, h.2.2.trans ho.cacc, ho.pinv, h.1, ho.inner⟩

theorem map_eq_ok {ε β γ : Type} {e : Except ε β} {f : β → γ} {c : γ} (h : e.map f = .ok c) :
    ∃ b, e = .ok b ∧ f b = c := by
  cases e with
  | error _ => cases h
  | ok b => exact ⟨b, rfl, Except.ok.inj h⟩

theorem setAttr_inv (o : Obj ℝ) (ho : o.Inv) (nm : String) (v : Option ℝ) (o' : Obj ℝ)
    (h : setAttr o nm v = .ok o') : o'.Inv ∧ o'.cls = o.cls ∧ o'.ctor = o.ctor := by
  unfold setAttr at h
  split_ifs at h
  · obtain ⟨p, hs, rfl⟩ := map_eq_ok h
    exact ⟨ho.withParams (Vec.setName_inv _ ho.pinv _ _ _ hs), rfl, rfl⟩
  · obtain ⟨p, hs, rfl⟩ := map_eq_ok h
    exact ⟨ho.withConsts (Vec.setName_inv _ ho.cinv _ _ _ hs), rfl, rfl⟩
  · cases h
    exact ⟨ho, rfl, rfl⟩

theorem setItem_inv (o : Obj ℝ) (ho : o.Inv) (nm : String) (v : Option ℝ) (o' : Obj ℝ)
    (h : setItem o nm v = .ok o') : o'.Inv ∧ o'.cls = o.cls ∧ o'.ctor = o.ctor := by
  unfold setItem at h
  split_ifs at h
  · obtain ⟨p, hs, rfl⟩ := map_eq_ok h
    exact ⟨ho.withParams (Vec.setName_inv _ ho.pinv _ _ _ hs), rfl, rfl⟩
  · obtain ⟨p, hs, rfl⟩ := map_eq_ok h
    exact ⟨ho.withParams (Vec.setName_inv _ ho.pinv _ _ _ hs), rfl, rfl⟩
  · obtain ⟨p, hs, rfl⟩ := map_eq_ok h
    exact ⟨ho.withConsts (Vec.setName_inv _ ho.cinv _ _ _ hs), rfl, rfl⟩

theorem forall2_one {β γ : Type} {R : β → γ → Prop} {s : β} {l : List γ} (h : List.Forall₂ R [s] l) :
    ∃ x, l = [x] ∧ R s x := by
  cases h with
  | cons h1 h2 => cases h2; exact ⟨_, rfl, h1⟩

theorem vals_one {s : Slot ℝ} {l : List (Option ℝ)} (h : List.Forall₂ (fun s x => Slot.holds s false x) [s] l) :
    ∃ v, l = [some v] ∧ s.holds false (some v) := by
  obtain ⟨_ | v, rfl, hv⟩ := forall2_one h
  · cases hv
  · exact ⟨v, rfl, hv⟩

theorem vals_two {s t : Slot ℝ} {l : List (Option ℝ)}
    (h : List.Forall₂ (fun s x => Slot.holds s false x) [s, t] l) :
    ∃ v w, l = [some v, some w] ∧ s.holds false (some v) ∧ t.holds false (some w) := by
  cases h with
  | @cons _ x _ _ hx h2 =>
    obtain ⟨w, rfl, hw⟩ := vals_one h2
    cases x with
    | none => cases hx
    | some v => exact ⟨v, w, rfl, hx, hw⟩

theorem vals_three {s t u : Slot ℝ} {l : List (Option ℝ)}
    (h : List.Forall₂ (fun s x => Slot.holds s false x) [s, t, u] l) :
    ∃ v w z, l = [some v, some w, some z] ∧ s.holds false (some v) ∧ t.holds false (some w) ∧
      u.holds false (some z) := by
  cases h with
  | @cons _ x _ _ hx h2 =>
    obtain ⟨w, z, rfl, hw, hz⟩ := vals_two h2
    cases x with
    | none => cases hx
    | some v => exact ⟨v, w, z, rfl, hx, hw, hz⟩

theorem Obj.Inv.pvals {o : Obj ℝ} (ho : o.Inv) :
    List.Forall₂ (fun s x => Slot.holds s false x) (paramSlots o.cls o.ctor) o.params.vals := by
  have h := ho.pinv.all
  rwa [ho.pslots, ho.pacc] at h

theorem Obj.Inv.cvals {o : Obj ℝ} (ho : o.Inv) :
    List.Forall₂ (fun s x => Slot.holds s true x) (constSlots o.cls o.ctor) o.consts.vals := by
  have h := ho.cinv.all
  rwa [ho.cslots, ho.cacc] at h

theorem Identity.of_inv (o : Obj ℝ) (ho : o.Inv) (hc : o.cls = .Identity) (jac : Bool) (xs : List ℝ) :
    callOp o jac xs = .ok (o, applyArr (if jac then Identity.jacobian {} else Identity.forward {}) xs) := by
  obtain ⟨cls, ctor, ⟨ps, pa, pv⟩, ⟨cs, ca, cv⟩, bc⟩ := o
  cases hc
  obtain rfl := List.forall₂_nil_left_iff.mp ho.cvals
  obtain rfl := List.forall₂_nil_left_iff.mp ho.pvals
  rfl

theorem Logit.of_inv (o : Obj ℝ) (ho : o.Inv) (hc : o.cls = .Logit) (jac : Bool) (xs : List ℝ) :
    ∃ p : Logit.Params ℝ, Logit.admissible p ∧
      callOp o jac xs = .ok (o, applyArr (if jac then Logit.jacobian p else Logit.forward p) xs) := by
  obtain ⟨cls, ctor, ⟨ps, pa, pv⟩, ⟨cs, ca, cv⟩, bc⟩ := o
  cases hc
  obtain rfl := List.forall₂_nil_left_iff.mp ho.cvals
  obtain ⟨lower, ld, rfl, -, h1, h2⟩ := vals_two ho.pvals
  exact ⟨⟨lower, ld⟩, ⟨h1 _ rfl, h2 _ rfl⟩, rfl⟩

theorem Log.of_inv (o : Obj ℝ) (ho : o.Inv) (hc : o.cls = .Log) (jac : Bool) (xs : List ℝ) :
    ∃ nu : ℝ, o.ctor.mininu ≤ nu ∧ (∀ b, o.ctor.base = some b → 0 < b) ∧
      callOp o jac xs = .ok (o, applyArr (if jac then Log.jacobian ⟨nu, o.ctor.base, o.ctor.mininu⟩
        else Log.forward ⟨nu, o.ctor.base, o.ctor.mininu⟩) xs) := by
  obtain ⟨cls, ctor, ⟨ps, pa, pv⟩, ⟨cs, ca, cv⟩, bc⟩ := o
  cases hc
  obtain rfl := List.forall₂_nil_left_iff.mp ho.cvals
  obtain ⟨nu, rfl, h1, -⟩ := vals_one ho.pvals
  exact ⟨nu, h1 _ rfl, ho.ctor.2 rfl, rfl⟩

theorem BoxCox2.of_inv (o : Obj ℝ) (ho : o.Inv) (hc : o.cls = .BoxCox2) (jac : Bool) (xs : List ℝ) :
    ∃ nu lam : ℝ, o.ctor.mininu ≤ nu ∧ o.ctor.minilam ≤ lam ∧ lam ≤ 3 ∧
      callOp o jac xs = .ok (o, applyArr (if jac then BoxCox2.jacobian ⟨nu, lam, o.ctor.mininu⟩
        else BoxCox2.forward ⟨nu, lam, o.ctor.mininu⟩) xs) := by
  obtain ⟨cls, ctor, ⟨ps, pa, pv⟩, ⟨cs, ca, cv⟩, bc⟩ := o
  cases hc
  obtain rfl := List.forall₂_nil_left_iff.mp ho.cvals
  obtain ⟨nu, lam, rfl, ⟨h1, -⟩, h2, h3⟩ := vals_two ho.pvals
  exact ⟨nu, lam, h1 _ rfl, h2 _ rfl, (h3 _ rfl).trans_eq ofScientific_three, rfl⟩

/-- `self.BC.params.values = [nu, lam]` with values inside the (identical) bounds of the inner object stores exactly
`[nu, lam]`, and the object stays well-formed -/
theorem syncInner_exact (o : Obj ℝ) (ho : o.Inv) (hi : hasInner o.cls = true) (nu lam : ℝ)
    (h1 : o.ctor.mininu ≤ nu) (h2 : o.ctor.minilam ≤ lam) (h3 : lam ≤ 3) :
    syncInner o nu lam = .ok { o with bc := some ⟨bcSlots o.ctor, false, [some nu, some lam]⟩ } ∧
      ({ o with bc := some ⟨bcSlots o.ctor, false, [some nu, some lam]⟩ } : Obj ℝ).Inv := by
  have hin := ho.inner
  rw [if_pos hi] at hin
  obtain ⟨b, hb, hsl, hac, hinv⟩ := hin
  have e1 : clip (some o.ctor.mininu) none nu = nu :=
    clipv_eq_self (lo := some o.ctor.mininu) (hi := none) (fun _ e => Option.some.inj e ▸ h1) nofun
  have e2 : clip (some o.ctor.minilam) (some 3.0) lam = lam :=
    clipv_eq_self (lo := some o.ctor.minilam) (hi := some 3.0) (fun _ e => Option.some.inj e ▸ h2) fun _ e => Option.some.inj e ▸ h3.trans_eq ofScientific_three.symm
  have : b.setAll [some nu, some lam] = .ok ⟨bcSlots o.ctor, false, [some nu, some lam]⟩ := by
    unfold Vec.setAll
    rw [hsl, hac]
    simp [bcSlots, Vec.clipAll, clipO, e1, e2]
  refine ⟨?_, ho.ctor, ho.pslots, ho.cslots, ho.pacc, ho.cacc, ho.pinv, ho.cinv, ?_⟩
  · rw [syncInner, hb]
    simp only
    rw [this]
    rfl
  · rw [if_pos hi]
    exact ⟨_, rfl, rfl, rfl, (Vec.setAll_inv b hinv _ _ this).1⟩

theorem BoxCox1lam.of_inv (o : Obj ℝ) (ho : o.Inv) (hc : o.cls = .BoxCox1lam) (jac : Bool) (xs : List ℝ) :
    ∃ (lam : ℝ) (nu : Option ℝ), o.ctor.minilam ≤ lam ∧ lam ≤ 3 ∧ (∀ v, nu = some v → o.ctor.mininu ≤ v) ∧
      callOp o jac xs = match nu with
        | none => .error (.call .nuUnset)
        | some nu => .ok ({ o with bc := some ⟨bcSlots o.ctor, false, [some nu, some lam]⟩ },
            applyArr (if jac then BoxCox2.jacobian ⟨nu, lam, o.ctor.mininu⟩
              else BoxCox2.forward ⟨nu, lam, o.ctor.mininu⟩) xs) := by
  obtain ⟨cls, ctor, ⟨ps, pa, pv⟩, ⟨cs, ca, cv⟩, bc⟩ := o
  cases hc
  obtain ⟨lam, rfl, h2, h3⟩ := vals_one ho.pvals
  obtain ⟨nu, rfl, hnu⟩ := forall2_one ho.cvals
  have hl3 : lam ≤ 3 := (h3 _ rfl).trans_eq ofScientific_three
  refine ⟨lam, nu, h2 _ rfl, hl3, by rintro v rfl; exact hnu.1 _ rfl, ?_⟩
  cases nu with
  | none => rfl
  | some nu =>
    have hs := (syncInner_exact _ ho rfl nu lam (hnu.1 _ rfl) (h2 _ rfl) hl3).1
    simp only [callOp, bind, Except.bind, hs, pure, Except.pure]

theorem BoxCox1nu.of_inv (o : Obj ℝ) (ho : o.Inv) (hc : o.cls = .BoxCox1nu) (jac : Bool) (xs : List ℝ) :
    ∃ (nu : ℝ) (lam : Option ℝ), o.ctor.mininu ≤ nu ∧ (∀ v, lam = some v → o.ctor.minilam ≤ v ∧ v ≤ 3) ∧
      callOp o jac xs = match lam with
        | none => .error (.call .lamUnset)
        | some lam => .ok ({ o with bc := some ⟨bcSlots o.ctor, false, [some nu, some lam]⟩ },
            applyArr (if jac then BoxCox2.jacobian ⟨nu, lam, o.ctor.mininu⟩
              else BoxCox2.forward ⟨nu, lam, o.ctor.mininu⟩) xs) := by
  obtain ⟨cls, ctor, ⟨ps, pa, pv⟩, ⟨cs, ca, cv⟩, bc⟩ := o
  cases hc
  obtain ⟨nu, rfl, h1, -⟩ := vals_one ho.pvals
  obtain ⟨lam, rfl, hlam⟩ := forall2_one ho.cvals
  have hb : ∀ v, lam = some v → ctor.minilam ≤ v ∧ v ≤ 3 :=
    by rintro v rfl; exact ⟨hlam.1 _ rfl, (hlam.2 _ rfl).trans_eq ofScientific_three⟩
  refine ⟨nu, lam, h1 _ rfl, hb, ?_⟩
  cases lam with
  | none => rfl
  | some lam =>
    have hs := (syncInner_exact _ ho rfl nu lam (h1 _ rfl) (hb lam rfl).1 (hb lam rfl).2).1
    simp only [callOp, bind, Except.bind, hs, pure, Except.pure]

theorem BoxCox2sym.of_inv (o : Obj ℝ) (ho : o.Inv) (hc : o.cls = .BoxCox2sym) (jac : Bool) (xs : List ℝ) :
    ∃ nu lam : ℝ, o.ctor.mininu ≤ nu ∧ o.ctor.minilam ≤ lam ∧ lam ≤ 3 ∧
      callOp o jac xs = .ok ({ o with bc := some ⟨bcSlots o.ctor, false, [some nu, some lam]⟩ },
        applyArr (if jac then BoxCox2sym.jacobian ⟨nu, lam, o.ctor.mininu⟩
          else BoxCox2sym.forward ⟨nu, lam, o.ctor.mininu⟩) xs) := by
  obtain ⟨cls, ctor, ⟨ps, pa, pv⟩, ⟨cs, ca, cv⟩, bc⟩ := o
  cases hc
  obtain rfl := List.forall₂_nil_left_iff.mp ho.cvals
  obtain ⟨nu, lam, rfl, ⟨h1, -⟩, h2, h3⟩ := vals_two ho.pvals
  have hl3 : lam ≤ 3 := (h3 _ rfl).trans_eq ofScientific_three
  have hs := (syncInner_exact _ ho rfl nu lam (h1 _ rfl) (h2 _ rfl) hl3).1
  refine ⟨nu, lam, h1 _ rfl, h2 _ rfl, hl3, ?_⟩
  simp only [callOp, bind, Except.bind, hs, pure, Except.pure]

theorem YeoJohnson.of_inv (o : Obj ℝ) (ho : o.Inv) (hc : o.cls = .YeoJohnson) (jac : Bool) (xs : List ℝ) :
    ∃ p : YeoJohnson.Params ℝ, YeoJohnson.admissible p ∧
      callOp o jac xs = .ok (o, applyArr (if jac then YeoJohnson.jacobian p else YeoJohnson.forward p) xs) := by
  obtain ⟨cls, ctor, ⟨ps, pa, pv⟩, ⟨cs, ca, cv⟩, bc⟩ := o
  cases hc
  obtain rfl := List.forall₂_nil_left_iff.mp ho.cvals
  obtain ⟨nu, sc, lam, rfl, -, ⟨h1, -⟩, h2, h3⟩ := vals_three ho.pvals
  exact ⟨⟨nu, sc, lam⟩, ⟨h1 _ rfl, h2 _ rfl, h3 _ rfl⟩, rfl⟩

theorem LogSinh.of_inv (o : Obj ℝ) (ho : o.Inv) (hc : o.cls = .LogSinh) (jac : Bool) (xs : List ℝ) :
    ∃ (loga logb : ℝ) (xmax : Option ℝ), (∀ xm, xmax = some xm → LogSinh.admissible ⟨loga, logb, xm⟩) ∧
      callOp o jac xs = match xmax with
        | none => .error (.call .xmaxUnset)
        | some xm => .ok (o, applyArr (if jac then LogSinh.jacobian ⟨loga, logb, xm⟩
            else LogSinh.forward ⟨loga, logb, xm⟩) xs) := by
  obtain ⟨cls, ctor, ⟨ps, pa, pv⟩, ⟨cs, ca, cv⟩, bc⟩ := o
  cases hc
  obtain ⟨la, lb, rfl, ⟨h1, h2⟩, h3, h4⟩ := vals_two ho.pvals
  obtain ⟨xm, rfl, hxm⟩ := forall2_one ho.cvals
  refine ⟨la, lb, xm, by rintro v rfl; exact ⟨h1 _ rfl, h2 _ rfl, h3 _ rfl, h4 _ rfl, hxm.1 _ rfl⟩, ?_⟩
  cases xm <;> rfl

theorem Reciprocal.of_inv (o : Obj ℝ) (ho : o.Inv) (hc : o.cls = .Reciprocal) (jac : Bool) (xs : List ℝ) :
    ∃ nu : ℝ, o.ctor.mininu ≤ nu ∧
      callOp o jac xs = .ok (o, applyArr (if jac then Reciprocal.jacobian ⟨nu, o.ctor.mininu⟩
        else Reciprocal.forward ⟨nu, o.ctor.mininu⟩) xs) := by
  obtain ⟨cls, ctor, ⟨ps, pa, pv⟩, ⟨cs, ca, cv⟩, bc⟩ := o
  cases hc
  obtain rfl := List.forall₂_nil_left_iff.mp ho.cvals
  obtain ⟨nu, rfl, h1, -⟩ := vals_one ho.pvals
  exact ⟨nu, h1 _ rfl, rfl⟩

theorem Sinh.of_inv (o : Obj ℝ) (ho : o.Inv) (hc : o.cls = .Sinh) (jac : Bool) (xs : List ℝ) :
    ∃ p : Sinh.Params ℝ, Sinh.admissible p ∧
      callOp o jac xs = .ok (o, applyArr (if jac then C02.Sinh.jacobianH p else Sinh.forward p) xs) := by
  obtain ⟨cls, ctor, ⟨ps, pa, pv⟩, ⟨cs, ca, cv⟩, bc⟩ := o
  cases hc
  obtain rfl := List.forall₂_nil_left_iff.mp ho.cvals
  obtain ⟨nu, sc, rfl, -, h1, -⟩ := vals_two ho.pvals
  exact ⟨⟨nu, sc⟩, h1 _ rfl, rfl⟩

theorem Manly.of_inv (o : Obj ℝ) (ho : o.Inv) (hc : o.cls = .Manly) (jac : Bool) (xs : List ℝ) :
    ∃ (lam : ℝ) (xmax : Option ℝ), (∀ xm, xmax = some xm → Manly.admissible ⟨lam, xm⟩) ∧
      callOp o jac xs = match xmax with
        | none => .error (.call .xmaxUnset)
        | some xm => .ok (o, applyArr (if jac then Manly.jacobian ⟨lam, xm⟩ else Manly.forward ⟨lam, xm⟩) xs) := by
  obtain ⟨cls, ctor, ⟨ps, pa, pv⟩, ⟨cs, ca, cv⟩, bc⟩ := o
  cases hc
  obtain ⟨lam, rfl, h1, h2⟩ := vals_one ho.pvals
  obtain ⟨xm, rfl, hxm⟩ := forall2_one ho.cvals
  refine ⟨lam, xm, by rintro v rfl; exact ⟨h1 _ rfl, h2 _ rfl, hxm.1 _ rfl⟩, ?_⟩
  cases xm <;> rfl

/-- the call succeeds, answers one value per element, changes neither parameters nor constants, and leaves a well-formed
object of the same class and options (only the inner vector of a delegating class may differ) -/
def CallOk (o : Obj ℝ) (jac : Bool) (xs : List ℝ) : Prop :=
  ∃ o' ys, callOp o jac xs = .ok (o', ys) ∧ ys.length = xs.length ∧
    o'.params = o.params ∧ o'.consts = o.consts ∧ o'.Inv ∧ o'.cls = o.cls ∧ o'.ctor = o.ctor

/-- a call on ANY well-formed object never meets a state the model does not cover and fails only for an unset
constant -/
theorem callOp_total (o : Obj ℝ) (hi : o.Inv) (jac : Bool) (xs : List ℝ) :
    (∃ e, callOp o jac xs = .error (.call e)) ∨ CallOk o jac xs := by
  have same : ∀ {f : ℝ → Option ℝ}, callOp o jac xs = .ok (o, applyArr f xs) → CallOk o jac xs :=
    fun {f} h => ⟨o, _, h, List.length_map f, rfl, rfl, hi, rfl, rfl⟩
  have sync : ∀ {nu lam : ℝ} {f : ℝ → Option ℝ}, hasInner o.cls = true → o.ctor.mininu ≤ nu →
      o.ctor.minilam ≤ lam → lam ≤ 3 →
      callOp o jac xs = .ok ({ o with bc := some ⟨bcSlots o.ctor, false, [some nu, some lam]⟩ }, applyArr f xs) →
      CallOk o jac xs :=
    fun {nu lam f} hin h1 h2 h3 h => ⟨_, _, h, List.length_map f, rfl, rfl,
      (syncInner_exact o hi hin nu lam h1 h2 h3).2, rfl, rfl⟩
  cases hc : o.cls
  case Identity => exact Or.inr (same (Identity.of_inv o hi hc jac xs))
  case Logit => obtain ⟨p, _, h⟩ := Logit.of_inv o hi hc jac xs; exact Or.inr (same h)
  case Log => obtain ⟨nu, _, _, h⟩ := Log.of_inv o hi hc jac xs; exact Or.inr (same h)
  case BoxCox2 => obtain ⟨nu, lam, _, _, _, h⟩ := BoxCox2.of_inv o hi hc jac xs; exact Or.inr (same h)
  case BoxCox1lam =>
    obtain ⟨lam, nu, h2, h3, h1, h⟩ := BoxCox1lam.of_inv o hi hc jac xs
    cases nu with
    | none => exact Or.inl ⟨_, h⟩
    | some nu => exact Or.inr (sync (hc ▸ rfl) (h1 nu rfl) h2 h3 h)
  case BoxCox1nu =>
    obtain ⟨nu, lam, h1, h2, h⟩ := BoxCox1nu.of_inv o hi hc jac xs
    cases lam with
    | none => exact Or.inl ⟨_, h⟩
    | some lam => exact Or.inr (sync (hc ▸ rfl) h1 (h2 lam rfl).1 (h2 lam rfl).2 h)
  case BoxCox2sym =>
    obtain ⟨nu, lam, h1, h2, h3, h⟩ := BoxCox2sym.of_inv o hi hc jac xs
    exact Or.inr (sync (hc ▸ rfl) h1 h2 h3 h)
  case YeoJohnson => obtain ⟨p, _, h⟩ := YeoJohnson.of_inv o hi hc jac xs; exact Or.inr (same h)
  case LogSinh =>
    obtain ⟨la, lb, xm, _, h⟩ := LogSinh.of_inv o hi hc jac xs
    cases xm with
    | none => exact Or.inl ⟨_, h⟩
    | some xm => exact Or.inr (same h)
  case Reciprocal => obtain ⟨nu, _, h⟩ := Reciprocal.of_inv o hi hc jac xs; exact Or.inr (same h)
  case Sinh => obtain ⟨p, _, h⟩ := Sinh.of_inv o hi hc jac xs; exact Or.inr (same h)
  case Manly =>
    obtain ⟨lam, xm, _, h⟩ := Manly.of_inv o hi hc jac xs
    cases xm with
    | none => exact Or.inl ⟨_, h⟩
    | some xm => exact Or.inr (same h)

/-- what one operation can do: it is rejected and returns the object as it was, or it answers something else and returns
an object that is again well-formed, of the same class and constructor options. (`TObj.Outcome` of Lemmas/C01Obj plays the
same part for the other object model and says more, which vector changed, because C01's frame theorems need it.) -/
def Outcome (o : Obj ℝ) (res : Obj ℝ × Out ℝ) : Prop :=
  (∃ e, res = (o, .rejected e)) ∨
    ((∀ e, res.2 ≠ .rejected e) ∧ (o.Inv → res.1.Inv ∧ res.1.cls = o.cls ∧ res.1.ctor = o.ctor))

theorem step_outcome (o : Obj ℝ) (op : Op ℝ) : Outcome o (step o op) := by
  cases op with
  | setAttr nm v =>
    simp only [step]
    cases hs : setAttr o nm v with
    | error e => exact .inl ⟨e, rfl⟩
    | ok o' => exact .inr ⟨fun _ => nofun, fun ho => setAttr_inv o ho nm v o' hs⟩
  | setItem nm v =>
    simp only [step]
    cases hs : setItem o nm v with
    | error e => exact .inl ⟨e, rfl⟩
    | ok o' => exact .inr ⟨fun _ => nofun, fun ho => setItem_inv o ho nm v o' hs⟩
  | setValues vs =>
    simp only [step]
    cases hs : o.params.setAll vs with
    | error e => exact .inl ⟨e, rfl⟩
    | ok p => exact .inr ⟨fun _ => nofun, fun ho => ⟨ho.withParams (Vec.setAll_inv o.params ho.pinv vs p hs), rfl, rfl⟩⟩
  | reset =>
    simp only [step]
    cases hs : o.params.reset with
    | error e => exact .inl ⟨e, rfl⟩
    | ok p => exact .inr ⟨fun _ => nofun, fun ho => ⟨ho.withParams (Vec.setAll_inv o.params ho.pinv _ p hs), rfl, rfl⟩⟩
  | call jac xs =>
    simp only [step]
    cases hs : callOp o jac xs with
    | error e => exact .inl ⟨e, rfl⟩
    | ok r =>
      refine .inr ⟨fun _ => nofun, fun ho => ?_⟩
      rcases callOp_total o ho jac xs with ⟨e, he⟩ | ⟨o', ys, h', _, _, _, hi, hc, hct⟩
      · rw [he] at hs; cases hs
      · rw [h'] at hs; cases hs; exact ⟨hi, hc, hct⟩

theorem step_inv' (o : Obj ℝ) (ho : o.Inv) (op : Op ℝ) :
    (step o op).1.Inv ∧ (step o op).1.cls = o.cls ∧ (step o op).1.ctor = o.ctor := by
  rcases step_outcome o op with ⟨e, h⟩ | ⟨-, h⟩
  · rw [h]; exact ⟨ho, rfl, rfl⟩
  · exact h ho

theorem run_history : History.Run (fun o op => (step o op).1) (run (α := ℝ)) := ⟨fun _ => rfl, fun _ _ _ => rfl⟩

theorem run_inv (o : Obj ℝ) (ho : o.Inv) (ops : List (Op ℝ)) :
    (run o ops).Inv ∧ (run o ops).cls = o.cls ∧ (run o ops).ctor = o.ctor :=
  run_history.preserves_rel Obj.Inv (fun a b => b.cls = a.cls ∧ b.ctor = a.ctor) (fun _ => ⟨rfl, rfl⟩)
    (fun _ _ _ h1 h2 => ⟨h2.1.trans h1.1, h2.2.trans h1.2⟩)
    (fun t op _ ht _ => ⟨(step_inv' t ht op).1, (step_inv' t ht op).2⟩) ho

/-- `get_transform`'s chain of assignments stops at the first failing one -/
theorem foldlM_step_inv {f : Obj ℝ → Op ℝ → Except SErr (Obj ℝ)}
    (hf : ∀ o op o', f o op = .ok o' → o' = (step o op).1) (ops : List (Op ℝ)) (o0 o : Obj ℝ) (hi : o0.Inv)
    (h : ops.foldlM f o0 = .ok o) : o.Inv ∧ o.cls = o0.cls ∧ o.ctor = o0.ctor := by
  induction ops generalizing o0 with
  | nil => cases h; exact ⟨hi, rfl, rfl⟩
  | cons op rest ih =>
    rw [List.foldlM_cons] at h
    cases h1 : f o0 op with
    | error e => rw [h1] at h; cases h
    | ok o1 =>
      rw [h1] at h
      obtain rfl := hf _ _ _ h1
      obtain ⟨a, b, c⟩ := step_inv' o0 hi op
      obtain ⟨g1, g2, g3⟩ := ih _ a h
      exact ⟨g1, g2.trans b, g3.trans c⟩

end HydroVerif.C02
