/-
C03 — the extension-level entry point (`kernelGen`, `stepOp`, `runOps` of Model/C03.lean): with `use_weights ≠ 1`,
`is_sorted = 0` it is the loop of `kernel` followed by `finishInto` (`kernelGen_plain`, through `loopW_uniform`); the loop
sees `qsort` through its results only (`loopW_congr_srt`) and refuses unsorted rows when it is skipped (`loopW_id_unsorted`);
non-zero output cells are an offset (`foldl_accRow_offset`); `runOps` is a history (`opsTrace`). The array form of the
Python entry point (`reshape_length`, `reshape_row_len`, `reshape_map`), the executable `definitionCrps` against `energy`
(`definitionCrps_eq`), and the test vector of the examples of `Props/C03.lean` (`demo_shape`, `demo_entryShape`).
-/
import HydroVerif.Model.C03
import HydroVerif.Lemmas.History
import HydroVerif.Lemmas.C03
import HydroVerif.Lemmas.C03Entry

set_option linter.unusedSectionVars false
namespace HydroVerif.C03

section AnyCarrier
variable {β : Type} [Add β] [Sub β] [Mul β] [Div β] [LT β] [DecidableLT β] [LE β] [DecidableLE β]
  [BEq β] [OfNat β 0] [OfNat β 1] [NatCast β]

theorem loopW_uniform (srt : List β → List β) (w : β) :
    ∀ (F : List (β × List β)) (prev : List β) (s : Acc β),
      loopW srt (prev.map fun yk => (yk, w)) (F.map fun p => ((p.1, w), p.2)) s = loop srt w prev F s
  | [], prev, s => rfl
  | (y, row) :: rest, prev, s => by
    simp only [List.map_cons]
    unfold loopW loop
    simp only
    split
    · rfl
    · split
      · rename_i f l _ _
        have hst : stepW w (prev.map fun yk => (yk, w)) y (srt row) f l s = step w prev y (srt row) f l s := by
          unfold stepW step uncStepW uncStep
          rw [List.foldl_map]
        rw [hst]
        have := loopW_uniform srt w rest (prev ++ [y]) (step w prev y (srt row) f l s)
        simpa using this
      · rfl

theorem kernelGen_plain (sort : List β → List β) {useW : Int} (hw : useW ≠ 1) (m : ℕ) (obs : List β)
    (ens : List (List β)) (weights : List β) (out : Result β) :
    kernelGen sort useW 0 m obs ens weights out
      = if ens.length ≠ obs.length ∨ m = 0 ∨ ens.any (fun r => r.length != m) then .error .shape
        else (loop sort (1 / (obs.length : β)) [] (obs.zip ens) (init m)).map fun s => finishInto m s out := by
  unfold kernelGen
  split
  · rfl
  · have := loopW_uniform sort (1 / (obs.length : β)) (obs.zip ens) [] (init m)
    rw [List.map_nil] at this
    rw [if_neg (fun h => hw h.1)]
    dsimp only
    have hz : (obs.zip (List.replicate obs.length (1 / (obs.length : β)))).zip ens
        = (obs.zip ens).map fun p => ((p.1, 1 / (obs.length : β)), p.2) := by
      rw [zip_replicate_map, List.zip_map_left]; rfl
    rw [if_pos rfl, hz, this]
    cases loop sort (1 / (obs.length : β)) [] (obs.zip ens) (init m) <;> rfl

theorem loopW_congr_srt (srt srt' : List β → List β) :
    ∀ (F : List ((β × β) × List β)) (prev : List (β × β)) (s : Acc β), (∀ p ∈ F, srt p.2 = srt' p.2) →
      loopW srt prev F s = loopW srt' prev F s
  | [], _, _, _ => rfl
  | ((y, w), row) :: rest, prev, s, h => by
    have h1 : srt row = srt' row := h ((y, w), row) List.mem_cons_self
    unfold loopW
    simp only [h1]
    split
    · rfl
    · split
      · exact loopW_congr_srt srt srt' rest _ _ (fun p hp => h p (List.mem_cons_of_mem _ hp))
      · rfl

theorem loopW_id_unsorted :
    ∀ (F : List ((β × β) × List β)) (prev : List (β × β)) (s : Acc β), (∀ r ∈ F.map Prod.snd, r ≠ []) →
      (∃ r ∈ F.map Prod.snd, unsortedAt r = true) → loopW id prev F s = .error .edom
  | [], _, _, _, ⟨_, hr, _⟩ => nomatch hr
  | ((y, w), row) :: rest, prev, s, hne, h => by
    unfold loopW
    simp only [id]
    by_cases hu : unsortedAt row = true
    · rw [if_pos hu]
    · rw [if_neg hu]
      obtain ⟨f, l, hf, hl⟩ := head_last_of_ne_nil (hne row List.mem_cons_self)
      simp only [hf, hl]
      apply loopW_id_unsorted rest _ _ (fun r hr => hne r (List.mem_cons_of_mem _ hr))
      obtain ⟨r, hr, hru⟩ := h
      rcases List.mem_cons.mp hr with rfl | hr
      · exact absurd hru hu
      · exact ⟨r, hr, hru⟩

theorem opsTrace (sort : List β → List β) (m : ℕ) : History.PairTrace (stepOp sort m) (runOps sort m) :=
  .of_eqns (fun _ => rfl) fun _ _ _ => rfl

theorem reshape_length {γ : Type} (m : ℕ) : ∀ (n : ℕ) (l : List γ), (reshape m n l).length = n
  | 0, _ => rfl
  | n + 1, l => by simp [reshape, reshape_length m n]

theorem reshape_row_len {γ : Type} (m : ℕ) : ∀ (n : ℕ) (l : List γ), l.length = n * m →
    ∀ r ∈ reshape m n l, r.length = m
  | 0, _, _, r, hr => by simp [reshape] at hr
  | n + 1, l, hl, r, hr => by
    simp only [reshape, List.mem_cons] at hr
    rcases hr with rfl | hr
    · rw [List.length_take, hl]
      exact Nat.min_eq_left (by rw [Nat.succ_mul]; omega)
    · apply reshape_row_len m n (l.drop m) _ r hr
      rw [List.length_drop, hl, Nat.succ_mul]; omega

theorem reshape_map {γ δ : Type} (f : γ → δ) (m : ℕ) : ∀ (n : ℕ) (l : List γ),
    reshape m n (l.map f) = (reshape m n l).map (List.map f)
  | 0, _ => rfl
  | n + 1, l => by
    simp only [reshape, List.map_cons, List.map_take]
    rw [← List.map_drop, reshape_map f m n]

end AnyCarrier

section Field
variable {α : Type} [Field α] [LinearOrder α] [IsStrictOrderedRing α]

theorem sort_fixed_of_sorted {sort : List α → List α} (hsort : SortOK sort) {r : List α}
    (h : r.Pairwise (· ≤ ·)) : sort r = r :=
  hsort.unique h (List.Perm.refl r)

theorem option_add_offset (d : α) (a b : Option α) :
    ((a.map (d + ·)).bind fun x => b.map (x + ·)) = (a.bind fun x => b.map (x + ·)).map (d + ·) := by
  cases a <;> cases b <;> simp [add_assoc]

theorem foldl_accRow_offset (d0 d1 : α) (rows : List (Row α)) (t : Tot α) :
    rows.foldl accRow { crps := d0 + t.crps, reli := t.reli.map (d1 + ·), pot := t.pot }
      = { crps := d0 + (rows.foldl accRow t).crps, reli := (rows.foldl accRow t).reli.map (d1 + ·),
          pot := (rows.foldl accRow t).pot } :=
  List.foldl_hom (fun t : Tot α => ({ crps := d0 + t.crps, reli := t.reli.map (d1 + ·), pot := t.pot } : Tot α))
    fun t r => by
      unfold accRow
      simp only [option_add_offset, add_assoc]
      split_ifs <;> rfl

theorem foldr_add_eq_sum {γ : Type} (f : γ → α) (l : List γ) :
    l.foldr (fun a acc => f a + acc) 0 = (l.map f).sum :=
  List.foldr_map.symm

theorem sumAbs_eq (y : α) (row : List α) : sumAbs y row = (row.map fun x => |x - y|).sum := by
  rw [sumAbs, foldr_add_eq_sum]
  simp only [absv_eq]

/-- the executable definition (run by the driver over `Rat`) is the `energy` the theorems speak about -/
theorem energyM_eq_energy (y : α) (row : List α) : energyM y row = energy y row := by
  unfold energyM energy
  rw [sumAbs_eq, foldr_add_eq_sum]
  have : (row.map fun a => sumAbs a row) = row.map fun a => (row.map fun b => |b - a|).sum := by
    apply List.map_congr_left; intro a _; exact sumAbs_eq a row
  rw [this]
  congr 2
  ring

theorem definitionCrps_eq (obs : List (Option α)) (rows : List (List α)) :
    definitionCrps obs rows
      = ((keptPairs obs rows).map fun p => energy p.1 p.2).sum / ((keptPairs obs rows).length : α) := by
  unfold definitionCrps
  simp only
  rw [foldr_add_eq_sum]
  have : (fun p : α × List α => energyM p.1 p.2) = fun p => energy p.1 p.2 := by
    funext p; exact energyM_eq_energy _ _
  rw [this]
  rfl

end Field

/-- two forecasts, two members: a tie between a member and the observation, an observation above the ensemble -/
theorem demo_shape : Shape (α := ℚ) 2 [3, 5] [[3, 1], [2, 2]] := ⟨rfl, by decide, by decide, by simp⟩

theorem demo_entryShape : EntryShape (α := ℚ) 2 [some 3, none, some 5] [[3, 1], [7, 7], [2, 2]] :=
  ⟨rfl, by decide, by simp, by simp [keptPairs]⟩

end HydroVerif.C03
