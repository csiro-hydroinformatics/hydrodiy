/-
C10 — facts about the Cramer-von Mises table regenerated from the source (Generated/CvmTable.lean), checked by
kernel evaluation on the mantissas, and their consequences for `cvmPvalue`.
-/
import HydroVerif.Model.C10
import Mathlib.Algebra.Order.Field.Basic
import Batteries.Data.List.Lemmas

namespace HydroVerif.C10

/-- by how much the entries of `l` exceed `b`, in total (truncated subtraction): zero iff every entry is at most `b`.
Written with the recursor and the bare `Nat` operations, not by pattern matching and `≤`: that is the form the kernel
evaluates fastest, and it runs over every entry of the table -/
noncomputable def excess (b : Nat) (l : List Nat) : Nat := List.rec 0 (fun m _ ih => Nat.add (Nat.sub m b) ih) l

theorem le_of_excess {b : Nat} : ∀ {l : List Nat}, excess b l = 0 → ∀ m ∈ l, m ≤ b
  | [], _, _, hm => by simp at hm
  | a :: t, h, m, hm => by
    have h' : (a - b) + excess b t = 0 := h
    rcases List.mem_cons.mp hm with rfl | hm
    · exact Nat.sub_eq_zero_iff_le.mp (Nat.add_eq_zero_iff.mp h').1
    · exact le_of_excess (Nat.add_eq_zero_iff.mp h').2 m hm

theorem qq_increasing : Gen.qq.IsChain (· < ·) := by decide +kernel

/-- every mantissa of every column is at most `10^scale`: every tabulated p-value lies in [0, 1] -/
theorem columns_in_unit : (Gen.columns.all fun c => Nat.beq (excess (10 ^ Gen.scale) c) 0) = true := by
  decide +kernel

theorem sizes_ne_nil : Gen.sizes ≠ [] := by decide +kernel

theorem columns_length : Gen.columns.length = Gen.sizes.length := by decide +kernel

theorem columns_ne_nil : (Gen.columns.all fun c => !c.isEmpty) = true := by decide +kernel

theorem qq_ne_nil : Gen.qq ≠ [] := by decide +kernel

section field
variable {α : Type} [Field α] [LinearOrder α] [IsStrictOrderedRing α]

theorem scale_pos : (0 : α) < ((10 ^ Gen.scale : Nat) : α) :=
  Nat.cast_pos.mpr (Nat.pow_pos (by decide))

theorem ofMant_lt {a b : Nat} (h : a < b) : ofMant (α := α) a < ofMant b :=
  div_lt_div_of_pos_right (Nat.cast_lt.mpr h) scale_pos

theorem ofMant_unit {m : Nat} (h : m ≤ 10 ^ Gen.scale) : (0 : α) ≤ ofMant m ∧ ofMant (α := α) m ≤ 1 :=
  ⟨div_nonneg (Nat.cast_nonneg _) scale_pos.le, (div_le_one scale_pos).mpr (Nat.cast_le.mpr h)⟩

theorem qq_pairwise : (Gen.qq.map (ofMant (α := α))).Pairwise (· < ·) :=
  qq_increasing.pairwise.map _ fun _ _ h => ofMant_lt h

theorem column_unit (col : List Nat) (hc : col ∈ Gen.columns) :
    ∀ f ∈ col.map (ofMant (α := α)), 0 ≤ f ∧ f ≤ 1 := by
  intro f hf
  obtain ⟨m, hm, rfl⟩ := List.mem_map.mp hf
  exact ofMant_unit (le_of_excess (Nat.eq_of_beq_eq_true (List.all_eq_true.mp columns_in_unit col hc)) m hm)

end field

theorem closestIdx_go_lt (d : Nat → Nat) (rest : List Nat) (best bestd i : Nat) (h : best < i) :
    closestIdx.go d best bestd i rest < i + rest.length := by
  fun_induction closestIdx.go d best bestd i rest with
  | case1 => simpa using h
  | case2 best bestd i t ts _ ih => have := ih (by omega); simp only [List.length_cons]; omega
  | case3 best bestd i t ts _ ih => have := ih (by omega); simp only [List.length_cons]; omega

theorem closestIdx_some (n : Nat) {l : List Nat} (h : l ≠ []) : ∃ j, closestIdx n l = some j ∧ j < l.length := by
  cases l with
  | nil => exact absurd rfl h
  | cons s rest =>
    refine ⟨_, rfl, ?_⟩
    have := closestIdx_go_lt (fun a => if a < n then n - a else a - n) rest 0
      (if s < n then n - s else s - n) 1 (by omega)
    simp only [List.length_cons]; omega

end HydroVerif.C10
