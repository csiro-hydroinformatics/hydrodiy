/-
"Every entry is present": `allSome l` is the list of the values of `l`, or `none` if one is missing. Five models write
this function (`C03.optAll`, `C04.allSomeL`, `C10.allSome`, `C17.allSome`, `C19.allSome`), and `Proto.lean` for the drivers
(`HydroVerif.allSome`); the lemmas are about ANY function
with its three equations.  A model's function meets them by `rfl`, or, where it writes the `some` case with a `match`
instead of `Option.map`, after one case split (`C17.allSome_cons` in `Lemmas/C17.lean`). No Mathlib.
-/
namespace HydroVerif.AllSome

universe u
variable {α : Type u} {f : List (Option α) → Option (List α)} (hnil : f [] = some []) (hnone : ∀ t, f (none :: t) = none)
  (hsome : ∀ a t, f (some a :: t) = (f t).map (a :: ·))
include hnil hnone hsome

theorem eq_some_iff : ∀ {l : List (Option α)} {v : List α}, f l = some v ↔ l = v.map some
  | [], [] => by simp [hnil]
  | [], _ :: _ => by simp [hnil]
  | none :: t, v => by cases v <;> simp [hnone]
  | some a :: t, [] => by cases h : f t <;> simp [hsome, h]
  | some a :: t, b :: v => by
    rw [hsome, List.map_cons, List.cons.injEq, Option.some.injEq, ← eq_some_iff (l := t) (v := v)]
    cases f t <;> simp [and_comm]

theorem eq_none_iff : ∀ {l : List (Option α)}, f l = none ↔ none ∈ l
  | [] => by simp [hnil]
  | none :: t => by simp [hnone]
  | some a :: t => by rw [hsome, Option.map_eq_none_iff, eq_none_iff (l := t)]; simp

theorem map_some (v : List α) : f (v.map some) = some v :=
  (eq_some_iff hnil hnone hsome).2 rfl

end HydroVerif.AllSome
