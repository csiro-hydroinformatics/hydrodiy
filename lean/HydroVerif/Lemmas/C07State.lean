/-
Lemmas for `Model/C07State.lean`: the constructor written with `Option.getD` for its defaults; `finalGeom` and `run`
are the final state and the answers of a history in the sense of `Lemmas/History.lean`.
-/
import HydroVerif.Model.C07State
import HydroVerif.Lemmas.History

namespace HydroVerif.C07

theorem mkGrid_eq {α : Type} [OfNat α 0] [OfNat α 1] (ncols : Int) (nrows : Option Int) (csz xll yll : Option α) :
    mkGrid ncols nrows csz xll yll =
      if nrows.getD ncols < 0 ∨ ncols < 0 then .error .valueError
      else .ok ⟨nrows.getD ncols, ncols, xll.getD 0, yll.getD 0, csz.getD 1⟩ := by
  cases nrows <;> cases csz <;> cases xll <;> cases yll <;> rfl

section Machine
variable {β : Type} [Add β] [Sub β] [Mul β] [Div β] [OfNat β 0] [OfNat β 1] [LE β] [DecidableLE β] [LT β]
  [DecidableLT β] [Trunc β] [FloorNum β]

theorem trace : History.Trace (step (α := β)) finalGeom run :=
  ⟨⟨fun _ => rfl, fun _ _ _ => rfl⟩, fun _ => rfl, fun _ _ _ => rfl⟩

end Machine

end HydroVerif.C07
