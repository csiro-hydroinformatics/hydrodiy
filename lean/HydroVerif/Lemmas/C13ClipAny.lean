/-
`Grid.clip` in ANY arithmetic (no field axioms: the statements hold for IEEE doubles with rounding as well as for exact
numbers): python slices, the block of an array they cut out, what `clip` returns whenever it returns a grid, and blocks of
blocks are blocks (`IsBlockOf.trans`).
-/
import HydroVerif.Lemmas.C07Coord
import HydroVerif.Lemmas.C13

namespace HydroVerif.C13
open HydroVerif.C07

theorem slice_length {β : Type} {l : List β} {a b : Int} (ha : 0 ≤ a) (hab : a ≤ b) (hb : b ≤ l.length) :
    ((slice l a b).length : Int) = b - a := by
  have h : b.toNat - a.toNat ≤ l.length - a.toNat := Nat.sub_le_sub_right (Int.toNat_le.mpr hb) _
  rw [slice, List.length_take, List.length_drop, Nat.min_eq_left h, Int.natCast_sub (Int.toNat_le_toNat hab),
    Int.toNat_of_nonneg ha, Int.toNat_of_nonneg (ha.trans hab)]

theorem slice_getElem? {β : Type} {l : List β} {a b : Int} {i : Nat} (hi : (i : Int) < b - a) (ha : 0 ≤ a) :
    (slice l a b)[i]? = l[a.toNat + i]? := by
  unfold slice
  rw [List.getElem?_take_of_lt (by omega), List.getElem?_drop]

theorem mem_of_mem_slice {β : Type} {l : List β} {a b : Int} {x : β} (h : x ∈ slice l a b) : x ∈ l :=
  List.mem_of_mem_drop (List.mem_of_mem_take h)

/-- rows `R1 … R0` and columns `C0 … C1` (all inclusive) of an array -/
def block (data : List (List Nat)) (R1 R0 C0 C1 : Int) : List (List Nat) :=
  (slice data R1 (R0 + 1)).map fun r => slice r C0 (C1 + 1)

section Block
variable {data : List (List Nat)} {nrows ncols R1 R0 C0 C1 : Int}

theorem block_length (hr : (data.length : Int) = nrows) (hR1 : 0 ≤ R1) (hR : R1 ≤ R0 + 1) (hR0 : R0 < nrows) :
    ((block data R1 R0 C0 C1).length : Int) = R0 - R1 + 1 := by
  rw [block, List.length_map, slice_length hR1 hR (by omega)]
  omega

theorem block_row_length (hc : ∀ r ∈ data, (r.length : Int) = ncols) (hC0 : 0 ≤ C0) (hC : C0 ≤ C1 + 1)
    (hC1 : C1 < ncols) :
    ∀ r ∈ block data R1 R0 C0 C1, (r.length : Int) = C1 - C0 + 1 := by
  intro r hrm
  obtain ⟨r0, hr0, rfl⟩ := List.mem_map.mp hrm
  have := hc r0 (mem_of_mem_slice hr0)
  rw [slice_length hC0 hC (by omega)]
  omega

theorem block_get (hr : (data.length : Int) = nrows) (hc : ∀ r ∈ data, (r.length : Int) = ncols)
    (hR1 : 0 ≤ R1) (hR0 : R0 < nrows) (hC0 : 0 ≤ C0) (hC1 : C1 < ncols) (i j : Nat)
    (hi : (i : Int) < R0 - R1 + 1) (hj : (j : Int) < C1 - C0 + 1) :
    ∃ v, ((block data R1 R0 C0 C1)[i]?.bind (·[j]?)) = some v ∧
      (data[R1.toNat + i]?.bind (·[C0.toNat + j]?)) = some v := by
  have hlen : R1.toNat + i < data.length := by omega
  rw [block, List.getElem?_map, slice_getElem? (by omega) hR1, List.getElem?_eq_getElem hlen]
  have hrl := hc _ (List.getElem_mem hlen)
  have hlen2 : C0.toNat + j < (data[R1.toNat + i]).length := by omega
  simp only [Option.map_some, Option.bind_some]
  rw [slice_getElem? (by omega) hC0, List.getElem?_eq_getElem hlen2]
  exact ⟨_, rfl, rfl⟩

theorem block_mem : ∀ r ∈ block data R1 R0 C0 C1, ∀ w ∈ r, ∃ r0 ∈ data, w ∈ r0 := by
  intro r hrm w hw
  obtain ⟨r0, hr0, rfl⟩ := List.mem_map.mp hrm
  exact ⟨r0, mem_of_mem_slice hr0, mem_of_mem_slice hw⟩

end Block

section AnyArithmetic
variable {α : Type} [Add α] [Sub α] [Mul α] [Div α] [OfNat α 1] [C07.Trunc α]

/-- `ng` is what `clip` builds from the parent `g` when the lower-left corner falls in cell `c0` and the upper-right
corner in cell `c1`. Nothing is assumed of `g` or of the arithmetic: the shape of the array comes from the check of the
data setter, the numbers of the eight attributes `save` writes are the integers and floats `clip` stores. -/
structure ClipOf (g : Grid α) (c0 c1 : Int) (ng : Grid α) : Prop where
  valid0 : validCell g.nrows g.ncols c0 = true
  valid1 : validCell g.nrows g.ncols c1 = true
  nrows : ng.nrows = rowOf g.ncols c0 - rowOf g.ncols c1 + 1
  ncols : ng.ncols = colOf g.ncols c1 - colOf g.ncols c0 + 1
  nrows_nonneg : 0 ≤ ng.nrows
  ncols_nonneg : 0 ≤ ng.ncols
  dtype : ng.dtype = g.dtype
  nodata : ng.nodata = g.nodata
  csz : ng.csz = g.csz
  xll : ng.xll = (getcoord (geom g) c0).1 - g.csz / (1 + 1)
  yll : ng.yll = (getcoord (geom g) c0).2 - g.csz / (1 + 1)
  lo : ng.lo = none
  hi : ng.hi = none
  data : ng.data = block g.data (rowOf g.ncols c1) (rowOf g.ncols c0) (colOf g.ncols c0) (colOf g.ncols c1)
  rows : (ng.data.length : Int) = ng.nrows
  cols : ∀ r ∈ ng.data, (r.length : Int) = ng.ncols
  parent_numeric : ∀ a ∈ parentAttrs, ∀ s, lookup ng.parent a ≠ some (.text s)

/-- the one text `clip` stores, the parent's name, is not among the attributes `save` writes -/
theorem parentgrid_name_not_attr : "parentgrid_name".toList ∉ parentAttrs := by decide +kernel

theorem clip_ok_inv (io : NumIO α) (g : Grid α) (x0 y0 x1 y1 : α) (ng : Grid α)
    (h : clip io g x0 y0 x1 y1 = .ok ng) : ClipOf g (coord2cell (geom g) x0 y0) (coord2cell (geom g) x1 y1) ng := by
  generalize hc0 : coord2cell (geom g) x0 y0 = c0
  generalize hc1 : coord2cell (geom g) x1 y1 = c1
  unfold clip at h
  simp only [hc0, hc1] at h
  split at h
  · cases h
  · rename_i hv
    obtain ⟨v0, v1⟩ : validCell g.nrows g.ncols c0 = true ∧ validCell g.nrows g.ncols c1 = true := by simpa using hv
    simp only [cell2rowcol, v0, v1, if_true, mkGrid, nodataWord] at h
    by_cases hneg : rowOf g.ncols c0 - rowOf g.ncols c1 + 1 < 0 ∨ colOf g.ncols c1 - colOf g.ncols c0 + 1 < 0
    · rw [if_pos hneg] at h
      cases h
    · simp only [if_neg hneg] at h
      split at h
      · cases h
      · rename_i ng' hset
        obtain ⟨rfl, hrows, hcols⟩ := setData_eq_ok hset
        cases h
        have hd := clipData_default' g.dtype (block g.data (rowOf g.ncols c1) (rowOf g.ncols c0) (colOf g.ncols c0) (colOf g.ncols c1))
        refine ⟨v0, v1, rfl, rfl, ?_, ?_, rfl, rfl, rfl, rfl, rfl, rfl, rfl, hd, ?_, ?_, ?_⟩
        · show 0 ≤ rowOf g.ncols c0 - rowOf g.ncols c1 + 1; omega
        · show 0 ≤ colOf g.ncols c1 - colOf g.ncols c0 + 1; omega
        · exact (congrArg (fun d => (d.length : Int)) hd).trans hrows
        · intro r hrm; exact hcols r (hd.subst (motive := (r ∈ ·)) hrm)
        · intro a ha s hl
          have hm := lookup_mem hl
          simp only [List.mem_cons, Prod.mk.injEq, reduceCtorEq, and_false, or_false, List.not_mem_nil] at hm
          exact parentgrid_name_not_attr (hm.1 ▸ ha)

theorem ClipOf.block_of_parent {g ng : Grid α} {c0 c1 : Int} (k : ClipOf g c0 c1 ng) (hnc : 0 < g.ncols)
    (hr : (g.data.length : Int) = g.nrows) (hc : ∀ r ∈ g.data, (r.length : Int) = g.ncols) :
    0 ≤ rowOf g.ncols c1 ∧ rowOf g.ncols c1 + ng.nrows ≤ g.nrows ∧
    0 ≤ colOf g.ncols c0 ∧ colOf g.ncols c0 + ng.ncols ≤ g.ncols ∧
    ∀ i j : Nat, (i : Int) < ng.nrows → (j : Int) < ng.ncols →
      ∃ v, (ng.data[i]?.bind (·[j]?)) = some v ∧
        (g.data[(rowOf g.ncols c1).toNat + i]?.bind (·[(colOf g.ncols c0).toNat + j]?)) = some v := by
  obtain ⟨_, a1, a2, _, _⟩ := valid_rowcol hnc k.valid0
  obtain ⟨b0, _, _, b3, _⟩ := valid_rowcol hnc k.valid1
  have h1 := k.nrows
  have h2 := k.ncols
  refine ⟨b0, by omega, a2, by omega, fun i j hi hj => ?_⟩
  rw [k.data]
  exact block_get hr hc b0 a1 a2 b3 i j (by omega) (by omega)

theorem ClipOf.mem_parent {g ng : Grid α} {c0 c1 : Int} (k : ClipOf g c0 c1 ng) :
    ∀ r ∈ ng.data, ∀ w ∈ r, ∃ r0 ∈ g.data, w ∈ r0 := by
  rw [k.data]; exact block_mem

theorem clip_ok_of_cells (io : NumIO α) (g : Grid α) (hnc : 0 < g.ncols)
    (hr : (g.data.length : Int) = g.nrows) (hc : ∀ r ∈ g.data, (r.length : Int) = g.ncols)
    (x0 y0 x1 y1 : α)
    (v0 : validCell g.nrows g.ncols (coord2cell (geom g) x0 y0) = true)
    (v1 : validCell g.nrows g.ncols (coord2cell (geom g) x1 y1) = true)
    (hcol : colOf g.ncols (coord2cell (geom g) x0 y0) ≤ colOf g.ncols (coord2cell (geom g) x1 y1))
    (hrow : rowOf g.ncols (coord2cell (geom g) x1 y1) ≤ rowOf g.ncols (coord2cell (geom g) x0 y0)) :
    ∃ ng, clip io g x0 y0 x1 y1 = .ok ng ∧ 0 < ng.nrows ∧ 0 < ng.ncols := by
  obtain ⟨_, a1, a2, _, _⟩ := valid_rowcol hnc v0
  obtain ⟨b0, _, _, b3, _⟩ := valid_rowcol hnc v1
  generalize hc0 : coord2cell (geom g) x0 y0 = c0 at *
  generalize hc1 : coord2cell (geom g) x1 y1 = c1 at *
  unfold clip
  simp only [hc0, hc1, v0, v1, Bool.and_self, Bool.not_true, Bool.false_eq_true, if_false, cell2rowcol, if_true]
  have hshape : ¬ (rowOf g.ncols c0 - rowOf g.ncols c1 + 1 < 0 ∨ colOf g.ncols c1 - colOf g.ncols c0 + 1 < 0) := by omega
  simp only [mkGrid, nodataWord, if_neg hshape]
  rw [setData_id' _ _ ⟨rfl, rfl⟩ (by exact block_length hr b0 (by omega) a1)
    (by exact block_row_length hc a2 (by omega) b3)]
  exact ⟨_, rfl, by dsimp only; omega, by dsimp only; omega⟩

theorem clip_ok_of_monotone [LE α] (io : NumIO α) (g : Grid α) (hnc : 0 < g.ncols)
    (hr : (g.data.length : Int) = g.nrows) (hc : ∀ r ∈ g.data, (r.length : Int) = g.ncols)
    (hmono : ∀ a b o : α, a ≤ b → Trunc.floorToInt ((a - o) / g.csz) ≤ Trunc.floorToInt ((b - o) / g.csz))
    (x0 y0 x1 y1 : α) (hx : x0 ≤ x1) (hy : y0 ≤ y1)
    (v0 : validCell g.nrows g.ncols (coord2cell (geom g) x0 y0) = true)
    (v1 : validCell g.nrows g.ncols (coord2cell (geom g) x1 y1) = true) :
    ∃ ng, clip io g x0 y0 x1 y1 = .ok ng ∧ 0 < ng.nrows ∧ 0 < ng.ncols := by
  obtain ⟨c0, r0⟩ := coord2cell_rowcol (geom g) x0 y0 (validCell_iff.1 v0).1
  obtain ⟨c1, r1⟩ := coord2cell_rowcol (geom g) x1 y1 (validCell_iff.1 v1).1
  have hcx := hmono x0 x1 g.xll hx
  have hcy := hmono y0 y1 g.yll hy
  refine clip_ok_of_cells io g hnc hr hc x0 y0 x1 y1 v0 v1 (c0.trans_le (hcx.trans_eq c1.symm)) ?_
  rw [show g.ncols = (geom g).ncols from rfl, r0, r1]
  show (geom g).nrows - 1 - Trunc.floorToInt ((y1 - g.yll) / g.csz) ≤ (geom g).nrows - 1 - Trunc.floorToInt ((y0 - g.yll) / g.csz)
  omega

end AnyArithmetic

section Blocks
variable {α : Type} [Add α] [Mul α] [Div α] [OfNat α 1] [C07.Trunc α]

/-- `ng` is the block of `g` that starts `top` rows down and `left` columns in: same cell centres, same words -/
def IsBlockOf (g ng : Grid α) (top left : Int) : Prop :=
  0 < ng.nrows ∧ 0 < ng.ncols ∧ 0 ≤ top ∧ top + ng.nrows ≤ g.nrows ∧ 0 ≤ left ∧ left + ng.ncols ≤ g.ncols ∧
    ∀ i j : Nat, (i : Int) < ng.nrows → (j : Int) < ng.ncols →
      (∃ xy, cell2coord (geom ng) (cellOf ng.ncols i j) = some xy ∧
             cell2coord (geom g) (cellOf g.ncols (top + i) (left + j)) = some xy) ∧
      (∃ v, (ng.data[i]?.bind (·[j]?)) = some v ∧ (g.data[top.toNat + i]?.bind (·[left.toNat + j]?)) = some v)

theorem IsBlockOf.trans {g mid ng : Grid α} {t1 l1 t2 l2 : Int} (h1 : IsBlockOf g mid t1 l1)
    (h2 : IsBlockOf mid ng t2 l2) : IsBlockOf g ng (t1 + t2) (l1 + l2) := by
  obtain ⟨_, _, a0, a1, b0, b1, hg⟩ := h1
  obtain ⟨pr, pc, c0, c1, d0, d1, hm⟩ := h2
  refine ⟨pr, pc, Int.add_nonneg a0 c0, by omega, Int.add_nonneg b0 d0, by omega, fun i j hi hj => ?_⟩
  obtain ⟨⟨xy, e1, e2⟩, v, f1, f2⟩ := hm i j hi hj
  have ci : ((t2.toNat + i : Nat) : Int) = t2 + i := by rw [Int.natCast_add, Int.toNat_of_nonneg c0]
  have cj : ((l2.toNat + j : Nat) : Int) = l2 + j := by rw [Int.natCast_add, Int.toNat_of_nonneg d0]
  obtain ⟨⟨xy', e3, e4⟩, v', f3, f4⟩ := hg (t2.toNat + i) (l2.toNat + j) (by rw [ci]; omega) (by rw [cj]; omega)
  rw [ci, cj, e2] at e3
  rw [ci, cj, ← add_assoc, ← add_assoc] at e4
  rw [f2] at f3
  rw [Int.toNat_add a0 c0, Int.toNat_add b0 d0, Nat.add_assoc, Nat.add_assoc]
  exact ⟨⟨xy, e1, e3 ▸ e4⟩, v, f1, f3 ▸ f4⟩

end Blocks

end HydroVerif.C13
