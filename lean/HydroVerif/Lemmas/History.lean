/-
Histories of operations on an object, for ANY transition function.

The stateful models each have a one-operation transition `step : σ → ι → σ × ω` and a `run` over a list of operations,
written by its own recursion or with `List.foldl`, that returns the final state, the outputs, or both.  A run is given
by its two equations (empty history, one operation followed by a history); a model supplies them by `rfl`:
`Run next fin` for the final state, `Trace step fin outs` for the outputs as well, `PairTrace step run` when one
function returns both, `Run.foldl` for a fold.  What holds of a run because of what holds of a step is proved here
once, from those equations: composition of histories, invariants (alone, or with a reflexive-transitive relation to the
starting state), operations that change nothing, two machines in lockstep, the outputs of a prefix, output number `i`,
outputs that depend on the operation alone.
-/

namespace HydroVerif.History

universe u v w
variable {σ : Type u} {ι : Type v} {ω : Type w}

/-- `fin s ops` is the state in which the history `ops`, started in `s`, ends -/
structure Run (next : σ → ι → σ) (fin : σ → List ι → σ) : Prop where
  nil : ∀ s, fin s [] = s
  cons : ∀ s op ops, fin s (op :: ops) = fin (next s op) ops

/-- `List.foldl` is a run -/
theorem Run.foldl (next : σ → ι → σ) : Run next fun s ops => ops.foldl next s := ⟨fun _ => rfl, fun _ _ _ => rfl⟩

namespace Run
variable {next : σ → ι → σ} {fin : σ → List ι → σ} (h : Run next fin)
include h

theorem append (s : σ) (a b : List ι) : fin s (a ++ b) = fin (fin s a) b := by
  induction a generalizing s with
  | nil => rw [List.nil_append, h.nil]
  | cons op a ih => rw [List.cons_append, h.cons, h.cons, ih]

/-- what every operation of the history preserves holds at its end -/
theorem preserves (P : σ → Prop) {ops : List ι} (hstep : ∀ s, ∀ op ∈ ops, P s → P (next s op)) {s : σ} (hs : P s) :
    P (fin s ops) := by
  induction ops generalizing s with
  | nil => rwa [h.nil]
  | cons op ops ih =>
    rw [h.cons]
    exact ih (fun t o ho => hstep t o (List.mem_cons_of_mem _ ho)) (hstep s op List.mem_cons_self hs)

/-- an invariant together with a reflexive and transitive relation to the state the history started in ("same shape",
"same class", "the earlier objects are still there"); a step may use both of the state it starts from -/
theorem preserves_rel (P : σ → Prop) (R : σ → σ → Prop) (hrefl : ∀ s, R s s)
    (htrans : ∀ a b c, R a b → R b c → R a c) {ops : List ι} {s : σ}
    (hstep : ∀ t, ∀ op ∈ ops, P t → R s t → P (next t op) ∧ R t (next t op)) (hs : P s) :
    P (fin s ops) ∧ R s (fin s ops) :=
  h.preserves (fun t => P t ∧ R s t)
    (fun t op ho ht => ⟨(hstep t op ho ht.1 ht.2).1, htrans _ _ _ ht.2 (hstep t op ho ht.1 ht.2).2⟩) ⟨hs, hrefl s⟩

/-- operations that change no state (queries, rejected calls, copies) can be erased from a history -/
theorem filter (p : ι → Bool) (hkeep : ∀ s op, p op = false → next s op = s) (s : σ) (ops : List ι) :
    fin s ops = fin s (ops.filter p) := by
  induction ops generalizing s with
  | nil => rfl
  | cons op ops ih =>
    cases hp : p op
    · rw [List.filter_cons_of_neg (by rw [hp]; exact Bool.false_ne_true), h.cons, hkeep s op hp, ih]
    · rw [List.filter_cons_of_pos hp, h.cons, h.cons, ih]

end Run

/-- two machines driven by the same history stay related if every operation keeps them related: an abstract
interpretation and the concrete run, a projection of the state, two runs on different inputs -/
theorem Run.sim {τ : Type u} {next : σ → ι → σ} {fin : σ → List ι → σ} {next' : τ → ι → τ} {fin' : τ → List ι → τ}
    (h : Run next fin) (h' : Run next' fin') (R : σ → τ → Prop) {ops : List ι}
    (hstep : ∀ s t, ∀ op ∈ ops, R s t → R (next s op) (next' t op)) {s : σ} {t : τ} (hst : R s t) :
    R (fin s ops) (fin' t ops) := by
  induction ops generalizing s t with
  | nil => rwa [h.nil, h'.nil]
  | cons op ops ih =>
    rw [h.cons, h'.cons]
    exact ih (fun a b o ho => hstep a b o (List.mem_cons_of_mem _ ho)) (hstep s t op List.mem_cons_self hst)

/-- a `Run` together with `outs s ops`, what the caller saw on the way: one output per operation -/
structure Trace (step : σ → ι → σ × ω) (fin : σ → List ι → σ) (outs : σ → List ι → List ω) : Prop
    extends Run (fun s op => (step s op).1) fin where
  outs_nil : ∀ s, outs s [] = []
  outs_cons : ∀ s op ops, outs s (op :: ops) = (step s op).2 :: outs (step s op).1 ops

namespace Trace
variable {step : σ → ι → σ × ω} {fin : σ → List ι → σ} {outs : σ → List ι → List ω} (h : Trace step fin outs)
include h

/-- the outputs of a prefix are a prefix of the outputs; the rest is a history of its own from where the prefix ended -/
theorem outs_append (s : σ) (a b : List ι) : outs s (a ++ b) = outs s a ++ outs (fin s a) b := by
  induction a generalizing s with
  | nil => rw [List.nil_append, h.outs_nil, h.nil, List.nil_append]
  | cons op a ih => rw [List.cons_append, h.outs_cons, h.outs_cons, h.cons, ih, List.cons_append]

theorem outs_length (s : σ) (ops : List ι) : (outs s ops).length = ops.length := by
  induction ops generalizing s with
  | nil => rw [h.outs_nil]; rfl
  | cons op ops ih => rw [h.outs_cons, List.length_cons, ih, List.length_cons]

/-- output number `i` is the output of operation `i` on the state its predecessors left -/
theorem outs_getElem? (s : σ) (ops : List ι) (i : Nat) :
    (outs s ops)[i]? = ops[i]?.map fun op => (step (fin s (ops.take i)) op).2 := by
  induction ops generalizing s i with
  | nil => rw [h.outs_nil]; rfl
  | cons op ops ih =>
    cases i with
    | zero => rw [h.outs_cons, List.take_zero, h.nil]; rfl
    | succ i => rw [h.outs_cons, List.getElem?_cons_succ, List.getElem?_cons_succ, List.take_succ_cons, h.cons, ih]

/-- under an invariant that every operation of the history keeps, and under which the output of an operation is a function
`g` of the operation alone, the outputs are `ops.map g`: nothing leaks from one operation to the next -/
theorem outs_eq_map (P : σ → Prop) (g : ι → ω) {ops : List ι} {s : σ}
    (hstep : ∀ t, ∀ op ∈ ops, P t → P (step t op).1 ∧ (step t op).2 = g op) (hs : P s) : outs s ops = ops.map g := by
  induction ops generalizing s with
  | nil => rw [h.outs_nil]; rfl
  | cons op ops ih =>
    obtain ⟨h1, h2⟩ := hstep s op List.mem_cons_self hs
    rw [h.outs_cons, h2, ih (fun t o ho => hstep t o (List.mem_cons_of_mem _ ho)) h1]; rfl

theorem outs_concat_getLast? (s : σ) (ops : List ι) (op : ι) :
    (outs s (ops ++ [op])).getLast? = some (step (fin s ops) op).2 := by
  rw [h.outs_append, h.outs_cons, h.outs_nil]
  exact List.getLast?_concat

end Trace

/-- a `run` that returns the final state and the outputs as a pair -/
abbrev PairTrace (step : σ → ι → σ × ω) (run : σ → List ι → σ × List ω) : Prop :=
  Trace step (fun s ops => (run s ops).1) (fun s ops => (run s ops).2)

theorem PairTrace.of_eqns {step : σ → ι → σ × ω} {run : σ → List ι → σ × List ω} (hnil : ∀ s, run s [] = (s, []))
    (hcons : ∀ s op ops, run s (op :: ops) = ((run (step s op).1 ops).1, (step s op).2 :: (run (step s op).1 ops).2)) :
    PairTrace step run :=
  ⟨⟨fun s => (congrArg Prod.fst (hnil s) :), fun s op ops => (congrArg Prod.fst (hcons s op ops) :)⟩,
    fun s => (congrArg Prod.snd (hnil s) :), fun s op ops => (congrArg Prod.snd (hcons s op ops) :)⟩

theorem PairTrace.run_append {step : σ → ι → σ × ω} {run : σ → List ι → σ × List ω} (h : PairTrace step run)
    (s : σ) (a b : List ι) : run s (a ++ b) = ((run (run s a).1 b).1, (run s a).2 ++ (run (run s a).1 b).2) :=
  Prod.ext (h.append s a b) (h.outs_append s a b)

end HydroVerif.History
