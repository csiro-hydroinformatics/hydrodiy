/-
C09 — the header: the python-dict association list (`dictSet`), the key sort, the decimal digits of the counts, and the
reader's loop over header elements taken one element or one block at a time.
-/
import HydroVerif.Lemmas.C09
import Mathlib.Data.List.Nodup
import Mathlib.Data.List.Perm.Basic

namespace HydroVerif.C09

theorem foldl_dictSet_fresh (kvs d : List (Str × Str)) (h : (d.map (·.1) ++ kvs.map (·.1)).Nodup) :
    kvs.foldl (fun acc kv => dictSet acc kv.1 kv.2) d = d ++ kvs :=
  Assoc.foldl_upsert_fresh kvs d h

theorem insertKey_perm (kv : Str × Str) (l : List (Str × Str)) : (insertKey kv l).Perm (kv :: l) := by
  induction l with
  | nil => exact List.Perm.refl _
  | cons x xs ih =>
    unfold insertKey
    split
    · exact List.Perm.refl _
    · exact (List.Perm.cons x ih).trans (List.Perm.swap kv x xs)

theorem sortKeys_perm (l : List (Str × Str)) : (sortKeys l).Perm l := by
  induction l with
  | nil => exact List.Perm.refl _
  | cons x xs ih => exact (insertKey_perm x _).trans (List.Perm.cons x ih)

def isDigitChar (c : Char) : Prop := 48 ≤ c.toNat ∧ c.toNat ≤ 57

theorem digitVal_digitChar : ∀ d, d < 10 → digitVal (digitChar d) = d := by decide

theorem digitChar_isDigit : ∀ d, d < 10 → isDigitChar (digitChar d) := by unfold isDigitChar; decide

theorem isDigit_not_space (c : Char) (h : isDigitChar c) : isSpace c = false := by
  by_contra hs
  have := isSpace_toNat_le (Bool.not_eq_false _ ▸ hs)
  unfold isDigitChar at h
  omega

theorem natStrAux_fuel (n : Nat) : ∀ f, n < f → natStrAux f n = natStr n := by
  induction n using Nat.strong_induction_on with
  | _ n ih =>
    intro f hf
    obtain ⟨f, rfl⟩ := Nat.exists_eq_succ_of_ne_zero (Nat.ne_zero_of_lt hf)
    rw [natStr, natStrAux, natStrAux]
    split
    · rfl
    · have hlt : n / 10 < n := Nat.div_lt_self (by omega) (by decide)
      rw [ih _ hlt f (by omega), ih _ hlt n hlt]

theorem natStr_eq (n : Nat) : natStr n = if n < 10 then [digitChar n] else natStr (n / 10) ++ [digitChar (n % 10)] := by
  rw [natStr, natStrAux]
  split
  · rfl
  · rw [natStrAux_fuel _ n (Nat.div_lt_self (by omega) (by decide))]

theorem natVal_append_single (s : Str) (c : Char) : natVal (s ++ [c]) = 10 * natVal s + digitVal c := by
  simp [natVal, List.foldl_append]

theorem natVal_natStr (n : Nat) : natVal (natStr n) = n := by
  induction n using Nat.strong_induction_on with
  | _ n ih =>
    rw [natStr_eq]
    split
    · simp [natVal, digitVal_digitChar n ‹_›]
    · rw [natVal_append_single, ih (n / 10) (by omega), digitVal_digitChar _ (Nat.mod_lt _ (by decide))]
      omega

theorem natStr_digits (n : Nat) : ∀ c ∈ natStr n, isDigitChar c := by
  induction n using Nat.strong_induction_on with
  | _ n ih =>
    intro c hc
    rw [natStr_eq] at hc
    split at hc
    · rw [List.mem_singleton.mp hc]; exact digitChar_isDigit n ‹_›
    · rcases List.mem_append.mp hc with hc | hc
      · exact ih (n / 10) (by omega) c hc
      · rw [List.mem_singleton.mp hc]; exact digitChar_isDigit _ (Nat.mod_lt _ (by decide))

theorem natStr_ne_nil (n : Nat) : natStr n ≠ [] := by
  rw [natStr_eq]; split <;> simp

theorem readerStrip_hash_blank (c : Char) (s : Str) (hc : c ≠ ' ') :
    readerStrip ('#' :: ' ' :: c :: (s ++ ['\n'])) = c :: s := by
  have hd : (' ' :: c :: (s ++ ['\n'])).dropWhile (· == ' ') = c :: (s ++ ['\n']) := by
    rw [List.dropWhile_cons_of_pos rfl, List.dropWhile_cons_of_neg (by simpa using hc)]
  have hr : (c :: (s ++ ['\n'])).reverse = '\n' :: (c :: s).reverse := by simp
  simp only [readerStrip, hd, hr, List.reverse_reverse]

theorem h2cLoop_cons (i : Nat) (d : List (Str × Str)) (e : Str) (es : List Str) :
    h2cLoop i d (e :: es)
      = h2cLoop (h2cElem i e).2 ((h2cElem i e).1.elim d fun kv => dictSet d kv.1 kv.2) es := by
  rw [h2cLoop]
  rcases h2cElem i e with ⟨_ | ⟨k, v⟩, i'⟩ <;> rfl

/-- the `comment_nn` counter after a list of header elements -/
def h2cLoopIdx : Nat → List Str → Nat
  | i, [] => i
  | i, e :: es => h2cLoopIdx (h2cElem i e).2 es

theorem h2cLoop_append (xs ys : List Str) (i : Nat) (d : List (Str × Str)) :
    h2cLoop i d (xs ++ ys) = h2cLoop (h2cLoopIdx i xs) (h2cLoop i d xs) ys := by
  induction xs generalizing i d with
  | nil => rfl
  | cons x xs ih => rw [List.cons_append, h2cLoop_cons, h2cLoop_cons, h2cLoopIdx, ih]

theorem h2cLoop_map {α : Type} (f : α → Str) (g : α → Option (Str × Str)) (l : List α)
    (h : ∀ a ∈ l, ∀ j, h2cElem j (f a) = (g a, j)) (i : Nat) (d : List (Str × Str)) :
    h2cLoop i d (l.map f) = (l.filterMap g).foldl (fun acc kv => dictSet acc kv.1 kv.2) d := by
  induction l generalizing d with
  | nil => rfl
  | cons a l ih =>
    rw [List.map_cons, h2cLoop_cons, h a List.mem_cons_self, ih (fun b hb => h b (List.mem_cons_of_mem _ hb)),
      List.filterMap_cons]
    cases g a <;> rfl

end HydroVerif.C09
