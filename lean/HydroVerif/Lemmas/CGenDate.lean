/-
C05 — the definitions GENERATED from `data/c_dateutils.c` and of `c_combi` (`data/c_dutils.c`; `Generated/CKernels.lean`): what each function returns
(`cgen_f_eq'`), for all arguments of its type (`int` fields, a date buffer of at least three fields) — from which safety
(no fault) and the values follow. A primed lemma `cgen_f_…'` is what `Props/C05.lean` restates, word for word, as the
property theorem `cgen_f_…`.
Two hand-written footprint models are treated here beside the generated kernel because they share its argument:
`combi` (`combi_eq`, `combi_sentinel'`: the loop against `combi_round`, as `cgen_combi_eq`) and `comparedates`
(`comparedates_code`: `cmp3_fields`). The other return codes of hand-written models are in `Lemmas/C05.lean`.
-/
import HydroVerif.Lemmas.CGen
import Mathlib.Data.Nat.Choose.Basic
import Mathlib.Data.Int.Range

namespace HydroVerif.C05
open HydroVerif.CSem HydroVerif.CGen

theorem cgen_isleapyear_eq' (y : Int) : c_dateutils_isleapyear y =
    .ok (if y.tmod 4 = 0 ∧ (y.tmod 100 ≠ 0 ∨ y.tmod 400 = 0) then 1 else 0) := by
  unfold c_dateutils_isleapyear
  rw [mod32_ok (a := y) (b := 4) (by decide) (.inl (by decide)),
    mod32_ok (a := y) (b := 100) (by decide) (.inl (by decide)),
    mod32_ok (a := y) (b := 400) (by decide) (.inl (by decide))]
  simp only [ok_bind, or_pure, and_pure, pure_bind, decide_eq_true_eq]
  rfl

/-- `nbdayOf 1 m`: the length of month `m` in a year that is not a leap year (the year `1`), as the tables of the C text have it -/
theorem days_in_month_table (m : Int) (h : 1 ≤ m ∧ m ≤ 12) :
    ([0, 31, 28, 31, 30, 31, 30, 31, 31, 30, 31, 30, 31] : List Int).getD m.toNat 0 = nbdayOf 1 m :=
  (by decide : ∀ m : Int, 1 ≤ m → m ≤ 12 →
    ([0, 31, 28, 31, 30, 31, 30, 31, 31, 30, 31, 30, 31] : List Int).getD m.toNat 0 = nbdayOf 1 m) m h.1 h.2

theorem nbdayOf_leap (y m : Int) : nbdayOf y m =
    if (y.tmod 4 = 0 ∧ (y.tmod 100 ≠ 0 ∨ y.tmod 400 = 0)) ∧ m = 2 then nbdayOf 1 m + 1 else nbdayOf 1 m := by
  by_cases hm : m = 2 <;> by_cases hl : y.tmod 4 = 0 ∧ (y.tmod 100 ≠ 0 ∨ y.tmod 400 = 0) <;> simp [nbdayOf, hm, hl]

theorem cgen_daysinmonth_eq' (y m : Int) : c_dateutils_daysinmonth y m =
    .ok (if 1 ≤ m ∧ m ≤ 12 then nbdayOf y m else -1) := by
  unfold c_dateutils_daysinmonth
  by_cases h : 1 ≤ m ∧ m ≤ 12
  · have hr := nbdayOf_range 1 m
    have e : ∀ c : Prop, [Decidable c] → ((if c then (1 : Int) else 0) = 1 ↔ c) := by
      intro c _; split <;> simp [*]
    rw [if_neg (by omega), if_pos h, rd_ok (by omega) (by simp only [List.length_cons, List.length_nil]; omega),
      days_in_month_table m h, cgen_isleapyear_eq', nbdayOf_leap y m]
    simp only [ok_bind, e]
    exact ite_eq_ok (fun _ => ci32_ok (by omega) (by omega)) (fun _ => rfl)
  · rw [if_pos (by omega), if_neg h]
    rfl

/-- days before month `m` in a year that is not a leap year: the table `day_of_year` of the C text ignores leap years -/
def daysBefore (m : Int) : Int := (((List.range (m - 1).toNat).map fun k => nbdayOf 1 ((k : Int) + 1))).sum

theorem daysBefore_vals : daysBefore 1 = 0 ∧ daysBefore 2 = 31 ∧ daysBefore 3 = 59 ∧ daysBefore 4 = 90 ∧
    daysBefore 5 = 120 ∧ daysBefore 6 = 151 ∧ daysBefore 7 = 181 ∧ daysBefore 8 = 212 ∧ daysBefore 9 = 243 ∧
    daysBefore 10 = 273 ∧ daysBefore 11 = 304 ∧ daysBefore 12 = 334 := by decide

theorem day_of_year_table (m : Int) (h : 1 ≤ m ∧ m ≤ 12) :
    ([0, 0, 31, 59, 90, 120, 151, 181, 212, 243, 273, 304, 334] : List Int).getD m.toNat 0 = daysBefore m ∧
      0 ≤ daysBefore m ∧ daysBefore m ≤ 334 :=
  (by decide : ∀ m : Int, 1 ≤ m → m ≤ 12 →
    ([0, 0, 31, 59, 90, 120, 151, 181, 212, 243, 273, 304, 334] : List Int).getD m.toNat 0 = daysBefore m ∧
      0 ≤ daysBefore m ∧ daysBefore m ≤ 334) m h.1 h.2

theorem cgen_dayofyear_eq' (m d : Int) : c_dateutils_dayofyear m d =
    .ok (if 1 ≤ m ∧ m ≤ 12 ∧ 1 ≤ d ∧ d ≤ 31 then daysBefore m + d else -1) := by
  unfold c_dateutils_dayofyear
  by_cases h : 1 ≤ m ∧ m ≤ 12 ∧ 1 ≤ d ∧ d ≤ 31
  · obtain ⟨ht, h0, h1⟩ := day_of_year_table m ⟨h.1, h.2.1⟩
    rw [if_neg (by omega), if_neg (by omega), if_pos h,
      rd_ok (by omega) (by simp only [List.length_cons, List.length_nil]; omega), ht, ok_bind,
      ci32_ok (by omega) (by omega)]
  · rw [if_neg h]
    by_cases hm : m < 1 ∨ m > 12
    · rw [if_pos hm]; rfl
    · rw [if_neg hm, if_pos (by omega)]; rfl

/-- the value of `c_dateutils_comparedates`: `1` when the first date is the EARLIER one, `0` same, `-1` later (the C
convention, the reverse of `compare`) -/
def cmp3 (y1 m1 d1 y2 m2 d2 : Int) : Int :=
  if y1 < y2 ∨ (y1 = y2 ∧ (m1 < m2 ∨ (m1 = m2 ∧ d1 < d2))) then 1
  else if y1 = y2 ∧ m1 = m2 ∧ d1 = d2 then 0 else -1

/-- answer of a lexicographic comparison: `lt` = the first field that differs is smaller, `eq` = no field differs -/
def cmpOf (lt eq : Prop) [Decidable lt] [Decidable eq] : Int := if lt then 1 else if eq then 0 else -1

/-- one field in front of a comparison of the remaining fields -/
theorem cmp_field {a b : Int} {lt eq : Prop} [Decidable lt] [Decidable eq] {r : R Int} (h : r = .ok (cmpOf lt eq)) :
    (if a < b then pure 1 else if a > b then pure (-1) else r) = .ok (cmpOf (a < b ∨ (a = b ∧ lt)) (a = b ∧ eq)) := by
  subst h
  unfold cmpOf
  rcases Int.lt_trichotomy a b with h | rfl | h
  · rw [if_pos h, if_pos (.inl h)]; rfl
  · simp only [Int.lt_irrefl, gt_iff_lt, if_false, false_or, true_and]
  · rw [if_neg (by omega), if_pos h, if_neg (by omega), if_neg (by omega)]; rfl

theorem cmp3_fields (y1 m1 d1 y2 m2 d2 : Int) :
    (if y1 < y2 then pure 1 else if y1 > y2 then pure (-1) else if m1 < m2 then pure 1
      else if m1 > m2 then pure (-1) else if d1 < d2 then pure 1 else if d1 > d2 then pure (-1) else pure 0 : R Int) =
      .ok (cmp3 y1 m1 d1 y2 m2 d2) := by
  have h := cmp_field (a := y1) (b := y2) (cmp_field (a := m1) (b := m2) (cmp_field (a := d1) (b := d2)
    (lt := False) (eq := True) (r := pure 0) rfl))
  simp only [and_false, or_false, and_true] at h
  exact h

theorem cgen_comparedates_eq' (y1 m1 d1 y2 m2 d2 : Int) (r1 r2 : List Int) :
    c_dateutils_comparedates (y1 :: m1 :: d1 :: r1) (y2 :: m2 :: d2 :: r2) = .ok (cmp3 y1 m1 d1 y2 m2 d2) := by
  unfold c_dateutils_comparedates
  simp only [rd_cons_zero, rd_cons_one, rd_cons_two, ok_bind]
  exact cmp3_fields y1 m1 d1 y2 m2 d2

theorem clip_day (y m d : Int) (r : List Int) (hm : 1 ≤ m ∧ m ≤ 12) :
    (c_dateutils_daysinmonth y m >>= fun v0 =>
      if v0 < 0 then pure (1, y :: m :: d :: r)
      else do
        let date ← (if d > v0 then wr (.arg 0) (y :: m :: d :: r) 2 v0 else pure (y :: m :: d :: r))
        pure (0, date) : R (Int × List Int)) =
      .ok (0, y :: m :: (if d > nbdayOf y m then nbdayOf y m else d) :: r) := by
  have h1 := nbdayOf_range y m
  rw [cgen_daysinmonth_eq', if_pos hm, ok_bind, if_neg (by omega)]
  simp only [wr_cons_two]
  split <;> rfl

theorem cgen_add1month_eq' (y m d : Int) (r : List Int) (hy : I32 y) (hm : I32 m) :
    c_dateutils_add1month (y :: m :: d :: r) = .ok (
      if m < 12 then
        (if m + 1 < 1 then (1, y :: (m + 1) :: d :: r)
         else (0, y :: (m + 1) :: (if d > nbdayOf y (m + 1) then nbdayOf y (m + 1) else d) :: r))
      else if y = 2147483647 then (1, y :: m :: d :: r)
      else (0, (y + 1) :: 1 :: (if d > 31 then 31 else d) :: r)) := by
  unfold I32 at hy hm
  unfold c_dateutils_add1month
  simp only [rd_cons_zero, rd_cons_one, rd_cons_two, wr_cons_zero, wr_cons_one, ok_bind]
  refine ite_eq_ok (fun h12 => ?_) (fun h12 => ite_eq_ok (fun _ => rfl) (fun hy' => ?_))
  · rw [ci32_ok (by omega) (by omega)]
    simp only [ok_bind]
    by_cases h1 : m + 1 < 1
    · rw [cgen_daysinmonth_eq', if_neg (by omega), ok_bind, if_pos (by decide), if_pos h1]; rfl
    · rw [if_neg h1]; exact clip_day y (m + 1) d r (by omega)
  · rw [ci32_ok (by omega) (by omega)]
    simp only [ok_bind]
    have h31 : nbdayOf (y + 1) 1 = 31 := by simp [nbdayOf]
    rw [← h31]; exact clip_day (y + 1) 1 d r (by omega)

theorem cgen_add1day_eq' (y m d : Int) (r : List Int) (hy : I32 y) (hm : I32 m) (hd : I32 d) :
    c_dateutils_add1day (y :: m :: d :: r) = .ok (
      if m < 1 ∨ m > 12 then (1, y :: m :: d :: r)
      else if d < nbdayOf y m then (0, y :: m :: (d + 1) :: r)
      else if d = nbdayOf y m then
        (if m = 12 ∧ y = 2147483647 then (1, y :: m :: d :: r)
         else if m < 12 then (0, y :: (m + 1) :: 1 :: r) else (0, (y + 1) :: 1 :: 1 :: r))
      else (1, y :: m :: d :: r)) := by
  unfold I32 at hy hm hd
  have h1 := nbdayOf_range y m
  unfold c_dateutils_add1day
  simp only [rd_cons_zero, rd_cons_one, rd_cons_two, wr_cons_zero, wr_cons_one, wr_cons_two, ok_bind,
    cgen_daysinmonth_eq', and_pure, pure_bind, decide_eq_true_eq]
  by_cases hm' : m < 1 ∨ m > 12
  · rw [if_neg (c := 1 ≤ m ∧ m ≤ 12) (by omega), if_pos (by decide), if_pos hm']; rfl
  rw [if_pos (c := 1 ≤ m ∧ m ≤ 12) (by omega), if_neg (by omega), if_neg hm']
  -- from here on the code and the specification branch on the same conditions
  have e12 : (m ≥ 12 ∧ y = 2147483647) ↔ (m = 12 ∧ y = 2147483647) := by omega
  simp only [e12]
  refine ite_eq_ok (fun hlt => ?_) (fun _ => ite_eq_ok (fun heq => ite_eq_ok (fun _ => rfl) (fun hl =>
    ite_eq_ok (fun h12 => ?_) (fun h12 => ?_))) (fun _ => rfl))
  · rw [ci32_ok (by omega) (by omega)]; rfl
  · rw [ci32_ok (by omega) (by omega)]; rfl
  · rw [ci32_ok (by omega) (by omega)]; rfl

theorem three_of_length {l : List Int} (h : 3 ≤ l.length) : ∃ x y z r, l = x :: y :: z :: r := by
  match l, h with
  | x :: y :: z :: r, _ => exact ⟨x, y, z, r, rfl⟩

theorem cgen_combi_sentinel' (n k : Int) (hn : I32 n) (hk : I32 k) (h : n < 0 ∨ k < 0 ∨ k > 30 ∨ n - k > 30) :
    c_combi n k = .ok (-1) := by
  unfold I32 at hn hk
  unfold c_combi
  by_cases h0 : n < 0 ∨ k < 0 ∨ k > 30
  · rw [if_pos h0]; rfl
  · rw [if_neg h0, ci32_ok (x := n - k) (by omega) (by omega), ok_bind, pure_bind, if_pos (by simpa using by omega)]
    rfl

/-- both runs end without fault and with the same value (the Boolean `cgen_combi_same_table` is stated with) -/
def sameOk (a b : R Int) : Bool :=
  match a, b with
  | .ok x, .ok y => x == y
  | _, _ => false

/-! `c_combi`, the generated definition and the footprint model together: the loop multiplies up `C(n, i+1) = C(n, i) * (n - i) / (i + 1)`;
each of the three ways the C text forms the quotient is exact, and the largest value ever formed is
`C(n, i+1) * (i+1) ≤ C(60, 30) * 30`, which is a `long long` -/

/-- the one number the C text depends on: the largest product it forms below the sentinel -/
theorem combi_largest : Nat.descFactorial 60 30 / Nat.factorial 30 * 30 ≤ 9223372036854775807 := by decide

theorem choose_mul_le {N : Nat} (hN : N ≤ 60) (r : Nat) : N.choose r * 30 ≤ 9223372036854775807 := by
  have h1 := Nat.choose_le_choose r hN
  have h2 : Nat.choose 60 r ≤ Nat.choose 60 30 := Nat.choose_le_middle r 60
  have h3 := combi_largest
  rw [← Nat.choose_eq_descFactorial_div_factorial] at h3
  omega

/-- one round of the loop, with `a = C(N, i)`, `m = N - i`, `j = i + 1`: the three quotients, and that nothing leaves its type -/
theorem combi_round {N i : Nat} (hN : N ≤ 60) (hi : i < 30) (hiN : i < N) {a m j c : Int} (ha : a = N.choose i)
    (hm : m = N - i) (hj : j = i + 1) (hc : c = N.choose (i + 1)) :
    (m.tmod j = 0 → a * m.tdiv j = c) ∧ (a.tmod j = 0 → a.tdiv j * m = c) ∧ (a * m).tdiv j = c ∧
      (0 ≤ m.tdiv j ∧ m.tdiv j ≤ m) ∧ (0 ≤ a.tdiv j ∧ a.tdiv j ≤ a) ∧ (0 ≤ a * m ∧ a * m ≤ 9223372036854775807) ∧
      (0 ≤ a ∧ a ≤ 9223372036854775807) ∧ 0 ≤ c ∧ c ≤ 9223372036854775807 := by
  have hj0 : j ≠ 0 := by omega
  have e : a * m = c * j := by
    have := Nat.choose_succ_right_eq N i
    subst ha hm hj hc
    rw [← Nat.cast_sub hiN.le]
    exact_mod_cast this.symm
  have ha0 : 0 ≤ a := ha ▸ Int.natCast_nonneg _
  have hc0 : 0 ≤ c := hc ▸ Int.natCast_nonneg _
  have hm0 : 0 ≤ m := by omega
  have ba : a * 30 ≤ 9223372036854775807 := by subst ha; exact_mod_cast choose_mul_le hN i
  have bc : c * 30 ≤ 9223372036854775807 := by subst hc; exact_mod_cast choose_mul_le hN (i + 1)
  have bj : c * j ≤ c * 30 := Int.mul_le_mul_of_nonneg_left (by omega) hc0
  refine ⟨fun h => ?_, fun h => ?_, by rw [e, Int.mul_tdiv_cancel _ hj0], ⟨Int.tdiv_nonneg hm0 (by omega), Int.tdiv_le_self _ hm0⟩,
    ⟨Int.tdiv_nonneg ha0 (by omega), Int.tdiv_le_self _ ha0⟩, ⟨Int.mul_nonneg ha0 hm0, by omega⟩, ⟨ha0, by omega⟩, hc0, by omega⟩
  · refine Int.eq_of_mul_eq_mul_left hj0 ?_
    rw [Int.mul_left_comm, Int.mul_tdiv_cancel_of_tmod_eq_zero h, e, Int.mul_comm]
  · refine Int.eq_of_mul_eq_mul_left hj0 ?_
    rw [← Int.mul_assoc, Int.mul_tdiv_cancel_of_tmod_eq_zero h, e, Int.mul_comm]

theorem cgen_combi_eq {n k : Int} (h : ¬ (n < 0 ∨ k < 0 ∨ k > 30 ∨ n - k > 30)) :
    c_combi n k = .ok (n.toNat.choose (min k (n - k)).toNat) := by
  obtain ⟨N, rfl⟩ := Int.eq_ofNat_of_zero_le (show 0 ≤ n by omega)
  unfold c_combi
  rw [if_neg (by omega), ci32_ok (x := N - k) (by omega) (by omega)]
  simp only [ok_bind, pure_bind, decide_eq_true_eq]
  rw [if_neg (by omega)]
  have e5 : (if k > (N : Int) - k then (Except.ok (N - k) : R Int) else pure k) = .ok (min k (N - k)) := by
    split
    · rw [min_eq_right (by omega)]
    · rw [min_eq_left (by omega)]; rfl
  rw [e5, ok_bind]
  generalize hK : min k ((N : Int) - k) = K
  have e6 : (if 1 ≤ K then ci32 (K + 1) else pure 1 : R Int) = .ok ((K.toNat : Int) + 1) := by
    split
    · rw [ci32_ok (by omega) (by omega), Int.toNat_of_nonneg (by omega)]
    · rw [Int.toNat_of_nonpos (by omega)]; rfl
  rw [e6, ok_bind, Int.add_sub_cancel, Int.toNat_natCast,
    forLoop_trace (fun i : Nat => ((N : Int) - i, (N.choose i : Int))) K.toNat 1 (by simp) ?_, Int.toNat_natCast]
  · rfl
  · intro i hi
    obtain ⟨r1, r2, r3, q1, q2, p, ha, _, hc⟩ := combi_round (N := N) (i := i) (j := 1 + i) (by omega) (by omega) (by omega)
      rfl rfl (by omega) rfl
    simp only []
    rw [mod32_ok (by omega) (.inl (by omega)), ok_bind, ci32_ok (x := (N : Int) - i - 1) (by omega) (by omega)]
    refine bind_eq_of_ok (x := (N.choose (i + 1) : Int)) ?_ (by rw [Nat.cast_succ, ← Int.sub_sub]; rfl)
    split
    · rw [div32_ok (by omega) (by omega) (by omega), ok_bind, r1 ‹_›, ci64_ok (by omega) (by omega)]
    · rw [mod64_ok (by omega) (.inl (by omega)), ok_bind]
      split
      · rw [div64_ok (by omega) (by omega) (by omega), ok_bind, r2 ‹_›, ci64_ok (by omega) (by omega)]
      · rw [ci64_ok (by omega) p.2, ok_bind, div64_ok (by omega) (by omega) (by omega), r3]

theorem combi_eq {n k : Int} (h : ¬ (n < 0 ∨ k < 0 ∨ k > 30 ∨ n - k > 30)) :
    combi n k = .ok (n.toNat.choose (min k (n - k)).toNat) := by
  obtain ⟨N, rfl⟩ := Int.eq_ofNat_of_zero_le (show 0 ≤ n by omega)
  unfold combi
  rw [if_neg (by omega), i32_ok (x := N - k) (by omega), ok_bind, if_neg (by omega)]
  have e5 : (if k > (N : Int) - k then (N : Int) - k else k) = min k (N - k) := by
    split
    · rw [min_eq_right (by omega)]
    · rw [min_eq_left (by omega)]
  simp only [e5]
  generalize hK : min k ((N : Int) - k) = K
  rw [forLoop_trace (fun i : Nat => ((N.choose i : Int), (N : Int) - i)) K.toNat 1 (by simp) ?_, Int.toNat_natCast]
  · rfl
  · intro i hi
    obtain ⟨r1, r2, r3, q1, q2, p, ha, _, hc⟩ := combi_round (N := N) (i := i) (j := 1 + i) (by omega) (by omega) (by omega)
      rfl rfl (by omega) rfl
    unfold combiBody
    simp only []
    rw [cmod_ok (by omega), ok_bind, Nat.cast_succ, ← Int.sub_sub]
    split
    · rw [cdiv_ok (by omega), ok_bind, r1 ‹_›, i64_ok (by omega)]; rfl
    · rw [cmod_ok (by omega), ok_bind]
      split
      · rw [cdiv_ok (by omega), ok_bind, r2 ‹_›, i64_ok (by omega)]; rfl
      · rw [i64_ok ⟨by omega, p.2⟩, ok_bind, cdiv_ok (by omega), r3]; rfl

/-- `C(n, min k (n-k)) = C(n, k)`: the C text shortens the loop by the symmetry of the coefficient -/
theorem cgen_combi_choose' (n k : Int) (hk : 0 ≤ k) (hkn : k ≤ n) (hk30 : k ≤ 30) (hd : n - k ≤ 30) :
    c_combi n k = .ok (Nat.choose n.toNat k.toNat) := by
  rw [cgen_combi_eq (by omega)]
  rcases le_total k (n - k) with h | h
  · rw [min_eq_left h]
  · rw [min_eq_right h, show (n - k).toNat = n.toNat - k.toNat by omega, Nat.choose_symm (by omega)]

theorem cgen_combi_safe' (n k : Int) (hn : I32 n) (hk : I32 k) : Safe (c_combi n k) := by
  by_cases h : n < 0 ∨ k < 0 ∨ k > 30 ∨ n - k > 30
  · exact ⟨_, cgen_combi_sentinel' n k hn hk h⟩
  · exact ⟨_, cgen_combi_eq h⟩

theorem combi_sentinel' (n k : Int) (hn : I32 n) (h : n < 0 ∨ k < 0 ∨ k > 30 ∨ n - k > 30) :
    combi n k = .ok (-1) := by
  unfold I32 at hn
  unfold combi
  by_cases h0 : n < 0 ∨ k < 0 ∨ k > 30
  · rw [if_pos h0]; rfl
  · rw [if_neg h0, i32_ok (by omega), ok_bind, if_pos (by omega)]; rfl

/-- the generated definition and the footprint model of `c_combi` are the same function on `int` arguments -/
theorem cgen_combi_eq_combi (n k : Int) (hn : I32 n) (hk : I32 k) : c_combi n k = combi n k := by
  by_cases h : n < 0 ∨ k < 0 ∨ k > 30 ∨ n - k > 30
  · rw [cgen_combi_sentinel' n k hn hk h, combi_sentinel' n k hn h]
  · rw [cgen_combi_eq h, combi_eq h]

/-- the statement the check of `c_combi` names: on the arguments `n < 61`, `k < 31` (they contain every argument that is not
answered with the sentinel) the generated definition and the footprint model agree — an instance of `cgen_combi_eq_combi`,
which says it of every `int` argument -/
theorem cgen_combi_same_table : ∀ n : Fin 61, ∀ k : Fin 31,
    sameOk (c_combi (n : Nat) (k : Nat)) (combi (n : Nat) (k : Nat)) = true := by
  intro n k
  have hn : I32 (n : Nat) := by unfold I32; omega
  have hk : I32 (k : Nat) := by unfold I32; omega
  obtain ⟨x, hx⟩ := cgen_combi_safe' n k hn hk
  rw [← cgen_combi_eq_combi _ _ hn hk, hx]
  simp [sameOk]

/-- a date buffer has (at least) its three fields -/
theorem date_fields {e : Ext} {b : Buf} (d : Nat → Int) (h : 3 ≤ e b) :
    rdI e b d 0 = .ok (d 0) ∧ rdI e b d 1 = .ok (d 1) ∧ rdI e b d 2 = .ok (d 2) :=
  ⟨rdI_ok (by omega), rdI_ok (by omega), rdI_ok (by omega)⟩

theorem comparedates_code (e : Ext) (a b : Nat → Int) (h1 : 3 ≤ e .date1) (h2 : 3 ≤ e .date2) :
    wp (comparedates e a b) (fun c => c = cmp3 (a 0) (a 1) (a 2) (b 0) (b 1) (b 2)) := by
  obtain ⟨a0, a1, a2⟩ := date_fields a h1
  obtain ⟨b0, b1, b2⟩ := date_fields b h2
  unfold comparedates
  simp only [a0, a1, a2, b0, b1, b2, ok_bind]
  exact ⟨_, cmp3_fields _ _ _ _ _ _, rfl⟩

theorem getD_I32 (l : List Int) (hI : ∀ x ∈ l, I32 x) (k : Nat) : I32 (l.getD k 0) := by
  by_cases h : k < l.length
  · exact hI _ (getD_mem h)
  · have hn : l[k]? = none := List.getElem?_eq_none (by omega)
    simp only [List.getD_eq_getElem?_getD, hn, Option.getD_none]
    unfold I32; omega

end HydroVerif.C05
