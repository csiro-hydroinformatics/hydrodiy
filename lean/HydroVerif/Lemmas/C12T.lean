/-
C12 — helper lemmas for the transform classes (`Model/C12T.lean`): a constructor call that is accepted without
`accept_nan` has NaN-free bounds (so the "finite or infinite bounds" hypothesis of `init_ok` / `tinit_ok` is discharged
by the class's own guards), the per-class table, `get_transform`.
-/
import HydroVerif.Lemmas.C12
import HydroVerif.Model.C12T

namespace HydroVerif.C12

section
variable {α : Type}

theorem reject?_false_noNaN {n : Nat} {xs : List (XR α)} (h : reject? false n xs = none) :
    xs.any XR.isNaN = false := by
  obtain ⟨_, h2⟩ := reject?_eq_none.mp h
  cases hx : xs.any XR.isNaN
  · rfl
  · exact absurd (h2 hx) (by simp)

theorem emptySpec_nanFree : (emptySpec : Spec α).nanFree := by
  constructor <;> intro m h <;> simp [emptySpec] at h

theorem nanFree_of_lists {sp : Spec α} {lo hi : List (XR α)} (h1 : sp.mins = some lo) (h2 : sp.maxs = some hi)
    (n1 : lo.any XR.isNaN = false) (n2 : hi.any XR.isNaN = false) : sp.nanFree := by
  constructor
  · intro m hm; rw [h1] at hm; cases hm; exact n1
  · intro m hm; rw [h2] at hm; cases hm; exact n2

theorem bc2Spec_args_noNaN {K : TConsts α} {a : CArgs α} (h : (bc2Spec K a).nanFree) :
    a.mininu.isNaN = false ∧ a.minilam.isNaN = false := by
  have := h.1 [a.mininu, a.minilam] rfl
  simpa [List.any_cons, Bool.or_eq_false_iff] using this

variable [LinearOrder α]

theorem classSpecs_bc {K : TConsts α} {cls : TClass} {a : CArgs α} {p c : Spec α} {b : Option (Spec α)}
    (e : classSpecs K cls a = .ok (p, c, b)) : b.isSome = true ↔ cls.kind ≠ .plain := by
  cases cls
  case boxcox2 | boxcox2sym | boxcox1lam | boxcox1nu =>
    simp only [classSpecs] at e
    split at e
    · cases e
    · cases e; simp [TClass.kind]
  all_goals cases e; simp [TClass.kind]

theorem gtAssign_ok {w w' : World α} {nm : String} {x : XR α} (hw : WorldOk w) (e : gtAssign w nm x = .ok w') :
    WorldOk w' ∧ w'.vecs.length = w.vecs.length ∧ ∀ j, w'.frozen j = w.frozen j := by
  unfold gtAssign at e
  split at e
  · simp only at e
    split at e
    · cases e
    · rename_i w1 h1
      have t1 : Touch w 0 w1 := by
        split at h1
        · have := update_touch (k := 0) hw (setKey_mutator nm x); rwa [h1] at this
        · cases h1; exact Touch.refl hw 0
      split at e
      · split at e
        · cases e
        · rename_i w2 h2
          cases e
          have t2 := update_touch (k := 1) t1.ok (setKey_mutator nm x)
          rw [h2] at t2
          exact ⟨t2.ok, t2.length.trans t1.length, fun j => (t2.frozen j).trans (t1.frozen j)⟩
      · cases e; exact ⟨t1.ok, t1.length, t1.frozen⟩
  · cases e

theorem gtAssignAll_ok : ∀ (kw : List (String × XR α)) {w w' : World α}, WorldOk w → gtAssignAll w kw = .ok w' →
    WorldOk w' ∧ w'.vecs.length = w.vecs.length ∧ ∀ j, w'.frozen j = w.frozen j := by
  intro kw
  induction kw with
  | nil => intro w w' hw e; cases e; exact ⟨hw, rfl, fun _ => rfl⟩
  | cons kv rest ih =>
    intro w w' hw e
    simp only [gtAssignAll] at e
    split at e
    · cases e
    · rename_i w1 e1
      obtain ⟨o1, l1, f1⟩ := gtAssign_ok hw e1
      obtain ⟨o2, l2, f2⟩ := ih o1 e
      exact ⟨o2, l2.trans l1, fun j => (f2 j).trans (f1 j)⟩

variable [Add α] [Sub α] [OfNat α 0]

/-- GUARD ⇒ HYPOTHESIS: a `Vector(...)` call WITHOUT `accept_nan` that is accepted was given NaN-free bounds
(`__checkvalues__` rejects a NaN in `mins` / `maxs`) -/
theorem mkArrays_nanFree {eps : α} {names : List String} {defaults mins maxs : Option (List (XR α))}
    {cb ch : Bool} {r : List (XR α) × List (XR α) × List (XR α)}
    (e : mkArrays eps names defaults mins maxs cb ch false = .ok r) :
    (∀ m, mins = some m → m.any XR.isNaN = false) ∧ (∀ m, maxs = some m → m.any XR.isNaN = false) := by
  obtain ⟨lo, hi, d⟩ := r
  obtain ⟨_, _, e1, e2, _⟩ := mkArrays_inv e
  constructor <;> rintro m rfl
  · simp only [ctorMins] at e1
    split at e1
    · cases e1
    · rename_i hr; exact reject?_false_noNaN hr
  · simp only [ctorMaxs] at e2
    split at e2
    · cases e2
    · rename_i hr; exact reject?_false_noNaN hr

theorem add_nanFree {eps : α} {w w' : World α} {sp : Spec α} (e : World.add eps w sp = .ok w')
    (han : sp.acceptNan = false) : sp.nanFree := by
  obtain ⟨s, v, emk, _⟩ := add_eq e
  obtain ⟨lo, hi, d, ea, _⟩ := mk_eq emk
  rw [han] at ea
  exact mkArrays_nanFree ea

theorem add_accept_indep {eps : α} (w1 w2 : World α) (sp : Spec α) {w1' : World α}
    (e : World.add eps w1 sp = .ok w1') : ∃ w2', World.add eps w2 sp = .ok w2' := by
  -- acceptance is decided by `mkArrays`, which does not look at the world
  obtain ⟨s, v, emk, _⟩ := add_eq e
  obtain ⟨lo, hi, d, ea, _⟩ := mk_eq emk
  simp only [World.add, mk, ea]
  exact ⟨_, rfl⟩

/-- THE CLASS TABLE IS SOUND FOR THE QUANTIFIER: whenever every `Vector(...)` call of `Class(mininu, minilam)` is
accepted, all the bounds involved are NaN-free — for the vectors built without `accept_nan` by their own NaN guard,
for the `accept_nan` constants (`nu` of BoxCox1lam, `lam` of BoxCox1nu, `xmax`) because their bounds are literals or
are vouched for by the inner `BoxCox2(mininu, minilam)` call -/
theorem classSpecs_nanFree {eps : α} {K : TConsts α} {cls : TClass} {a : CArgs α} {p c : Spec α} {b : Option (Spec α)}
    (e : classSpecs K cls a = .ok (p, c, b))
    (ap : ∃ w w', World.add eps w p = .ok w')
    (ab : ∀ sb, b = some sb → ∃ w w', World.add eps w sb = .ok w') :
    p.nanFree ∧ c.nanFree ∧ ∀ sb, b = some sb → sb.nanFree := by
  obtain ⟨wp, wp', ep⟩ := ap
  have hb2 : ∀ sb, b = some sb → sb.acceptNan = false → sb.nanFree := by
    intro sb hsb han
    obtain ⟨w, w', ew⟩ := ab sb hsb
    exact add_nanFree ew han
  cases cls
  case identity | softmax | logit | yeojohnson | sinh | log | reciprocal =>
    cases e
    exact ⟨add_nanFree ep rfl, emptySpec_nanFree, by simp⟩
  case logsinh | manly =>
    cases e
    exact ⟨add_nanFree ep rfl, nanFree_of_lists rfl rfl rfl rfl, by simp⟩
  case boxcox2 =>
    simp only [classSpecs] at e
    split at e
    · cases e
    · cases e
      exact ⟨add_nanFree ep rfl, emptySpec_nanFree, by simp⟩
  case boxcox2sym =>
    simp only [classSpecs] at e
    split at e
    · cases e
    · cases e
      exact ⟨add_nanFree ep rfl, emptySpec_nanFree, fun sb hsb => Option.some.inj hsb ▸ add_nanFree ep rfl⟩
  case boxcox1lam | boxcox1nu =>
    simp only [classSpecs] at e
    split at e
    · cases e
    · cases e
      have hb := hb2 (bc2Spec K a) rfl rfl
      obtain ⟨n1, n2⟩ := bc2Spec_args_noNaN hb
      exact ⟨add_nanFree ep rfl, nanFree_of_lists rfl rfl (by simp [n1, n2]) rfl,
        fun sb hsb => Option.some.inj hsb ▸ hb⟩

end

/-- one evaluation of the thirteen names -/
theorem ofName_all : ∀ cls ∈ TClass.all, TClass.ofName? cls.name = some cls := by decide +kernel

/-- `get_transform` finds a class under its own name -/
theorem ofName_name (cls : TClass) : TClass.ofName? cls.name = some cls :=
  ofName_all cls (by cases cls <;> decide)

end HydroVerif.C12
