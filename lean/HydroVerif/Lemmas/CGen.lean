/-
C05 — helper lemmas for the definitions GENERATED from the C text (`Generated/CKernels.lean`), about the primitives of
`Model/CSem.lean`: the equations that say when one does not fault and what it returns (`rd_ok …`: a scalar function is
evaluated with them statement by statement, by `rw`), and `wp` of each as an equivalence under the attribute `vc` of
`Lemmas/C05.lean` (`wp_rd_iff …`, `wp_or_ci64_iff` for a translated `||`): the body of a loop is rewritten into its condition,
whose bounds are then proved together. Loops and calls go through the loop rules and specifications of `Lemmas/C05.lean`.
-/
import HydroVerif.Lemmas.C05
import HydroVerif.Generated.CKernels

namespace HydroVerif.C05
open HydroVerif.CSem

theorem rd_ok {b : Buf} {m : List Int} {i : Int} (h0 : 0 ≤ i) (h1 : i < (m.length : Int)) :
    rd b m i = .ok (m.getD i.toNat 0) := by
  unfold rd; rw [if_pos ⟨h0, h1⟩]

theorem wr_ok {b : Buf} {m : List Int} {i v : Int} (h0 : 0 ≤ i) (h1 : i < (m.length : Int)) :
    wr b m i v = .ok (m.set i.toNat v) := by
  unfold wr; rw [if_pos ⟨h0, h1⟩]

theorem ci32_ok {x : Int} (h0 : -2147483648 ≤ x) (h1 : x ≤ 2147483647) : ci32 x = .ok x := by
  unfold ci32 i32; rw [if_pos ⟨h0, h1⟩]

theorem ci64_ok {x : Int} (h0 : -9223372036854775808 ≤ x) (h1 : x ≤ 9223372036854775807) : ci64 x = .ok x := by
  unfold ci64 i64; rw [if_pos ⟨h0, h1⟩]

theorem mod32_ok {a b : Int} (hb : b ≠ 0) (hm : b ≠ -1 ∨ a ≠ -2147483648) : mod32 a b = .ok (a.tmod b) := by
  unfold mod32; rw [if_neg hb, if_neg (by unfold i32min; omega)]

theorem mod64_ok {a b : Int} (hb : b ≠ 0) (hm : b ≠ -1 ∨ a ≠ -9223372036854775808) :
    mod64 a b = .ok (a.tmod b) := by
  unfold mod64; rw [if_neg hb, if_neg (by unfold i64min; omega)]

theorem div32_ok {a b : Int} (hb : b ≠ 0) (h0 : -2147483648 ≤ a.tdiv b) (h1 : a.tdiv b ≤ 2147483647) :
    div32 a b = .ok (a.tdiv b) := by
  unfold div32 i32; rw [if_neg hb, if_pos ⟨h0, h1⟩]

theorem div64_ok {a b : Int} (hb : b ≠ 0) (h0 : -9223372036854775808 ≤ a.tdiv b)
    (h1 : a.tdiv b ≤ 9223372036854775807) : div64 a b = .ok (a.tdiv b) := by
  unfold div64 i64; rw [if_neg hb, if_pos ⟨h0, h1⟩]

/-! `wp` of the primitives as equivalences (attribute `vc`, as for the footprint primitives in `Lemmas/C05.lean`): the condition of
a block of a generated definition is computed by rewriting, with the values of its buffers as `List.set` / `List.getD` terms -/

@[vc] theorem wp_rd_iff {b : Buf} {m : List Int} {i : Int} {Q : Int → Prop} :
    wp (rd b m i) Q ↔ (0 ≤ i ∧ i < (m.length : Int)) ∧ Q (m.getD i.toNat 0) := by
  unfold rd; exact wp_check_iff

@[vc] theorem wp_wr_iff {b : Buf} {m : List Int} {i v : Int} {Q : List Int → Prop} :
    wp (wr b m i v) Q ↔ (0 ≤ i ∧ i < (m.length : Int)) ∧ Q (m.set i.toNat v) := by
  unfold wr; exact wp_check_iff

@[vc] theorem wp_ci64_iff {x : Int} {Q : Int → Prop} :
    wp (ci64 x) Q ↔ (-9223372036854775808 ≤ x ∧ x ≤ 9223372036854775807) ∧ Q x := by
  unfold ci64; exact wp_i64_iff

/-- the translation of `c || (b > t)` with `t` an expression that can overflow: `t` is formed only when `c` fails -/
@[vc high] theorem wp_or_ci64_iff {β : Type} {c : Prop} [Decidable c] {x : Int} {P : Int → Prop} [DecidablePred P]
    {f : Bool → R β} {Q : β → Prop} :
    wp ((if c then pure true else ci64 x >>= fun t => pure (decide (P t))) >>= f) Q ↔
      (¬ c → -9223372036854775808 ≤ x ∧ x ≤ 9223372036854775807) ∧ wp (f (decide (c ∨ P x))) Q := by
  by_cases h : c
  · simp [h]
  · simp [h, wp_bind_iff, wp_ci64_iff]

theorem rd_cons_zero (b : Buf) (x : Int) (l : List Int) : rd b (x :: l) 0 = .ok x :=
  rd_ok (le_refl 0) (by simp)
theorem rd_cons_one (b : Buf) (x y : Int) (l : List Int) : rd b (x :: y :: l) 1 = .ok y :=
  rd_ok (by omega) (by simp)
theorem rd_cons_two (b : Buf) (x y z : Int) (l : List Int) : rd b (x :: y :: z :: l) 2 = .ok z :=
  rd_ok (by omega) (by simp; omega)
theorem wr_cons_zero (b : Buf) (x v : Int) (l : List Int) : wr b (x :: l) 0 v = .ok (v :: l) :=
  wr_ok (le_refl 0) (by simp)
theorem wr_cons_one (b : Buf) (x y v : Int) (l : List Int) : wr b (x :: y :: l) 1 v = .ok (x :: v :: l) :=
  wr_ok (by omega) (by simp)
theorem wr_cons_two (b : Buf) (x y z v : Int) (l : List Int) :
    wr b (x :: y :: z :: l) 2 v = .ok (x :: y :: v :: l) :=
  wr_ok (by omega) (by simp; omega)

/-! the translation of `a && b`, `a || b` with an operand `b` that cannot fault -/

theorem and_pure {c₁ c₂ : Prop} [Decidable c₁] [Decidable c₂] :
    (if c₁ then pure (decide c₂) else pure false : R Bool) = pure (decide (c₁ ∧ c₂)) := by
  by_cases h : c₁ <;> simp [h]

theorem or_pure {c₁ c₂ : Prop} [Decidable c₁] [Decidable c₂] :
    (if c₁ then pure true else pure (decide c₂) : R Bool) = pure (decide (c₁ ∨ c₂)) := by
  by_cases h : c₁ <;> simp [h]

theorem ite_eq_ok {α : Type} {c : Prop} [Decidable c] {a b : R α} {x y : α} (ht : c → a = .ok x)
    (hf : ¬ c → b = .ok y) : (if c then a else b) = .ok (if c then x else y) := by
  split
  · exact ht ‹_›
  · exact hf ‹_›

theorem wp_div32 {a b : Int} {Q : Int → Prop} (hb : b ≠ 0)
    (hr : -2147483648 ≤ a.tdiv b ∧ a.tdiv b ≤ 2147483647) (h : Q (a.tdiv b)) : wp (div32 a b) Q :=
  wp_of_eq_ok (div32_ok hb hr.1 hr.2) h

end HydroVerif.C05
