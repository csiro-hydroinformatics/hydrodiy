/-
C10 — `c_ensrank` against the Weigel–Mason specification: what is assumed of the sort and of the values (`PairOK`,
`RanksOK`), the specification (`wmF`, `wmU`, `wmRanks`), the kernel's `fpair`, `uOf`, `ranksOf` against it, and the
dependence of the specification on the order of the values only.
-/
import HydroVerif.Lemmas.C10WM
import HydroVerif.Lemmas.C04
import HydroVerif.Lemmas.C10List
import Mathlib.Data.List.Nodup
import Mathlib.Data.List.Forall2

namespace HydroVerif.C10

open HydroVerif.C04 (sumL_eq_sum)

section
variable {α : Type}

theorem forall₂_map_eq {β γ δ : Type} {R : β → γ → Prop} {f : β → δ} {g : γ → δ} {l : List β} {l' : List γ}
    (h : List.Forall₂ R l l') (hfg : ∀ a b, R a b → f a = g b) : l.map f = l'.map g := by
  induction h with
  | nil => rfl
  | cons hab _ ih => rw [List.map_cons, List.map_cons, hfg _ _ hab, ih]

theorem forall₂_perm_length {rows rows' : List (List α)} (hp : List.Forall₂ List.Perm rows rows') (m : ℕ)
    (h : ∀ e ∈ rows, e.length = m) : ∀ e ∈ rows', e.length = m := by
  induction hp with
  | nil => intro e he; simp at he
  | cons hab _ ih =>
    intro e he
    rcases List.mem_cons.mp he with h1 | h1
    · rw [h1, ← hab.length_eq]; exact h _ (by simp)
    · exact ih (fun e' he' => h e' (by simp [he'])) e h1

end

section
variable {α : Type} [Field α]

theorem sum_zipIdx_skip {β : Type} (g : β → α) {l : List β} {k : ℕ} {x : β} {i : ℕ} (hx : (x, i) ∈ l.zipIdx k) :
    ((l.zipIdx k).map fun y => if y.2 = i then 0 else g y.1).sum = (l.map g).sum - g x := by
  induction l generalizing k with
  | nil => simp at hx
  | cons a l ih =>
    simp only [List.zipIdx_cons, List.mem_cons] at hx
    simp only [List.zipIdx_cons, List.map_cons, List.sum_cons]
    rcases hx with he | hmem
    · injection he with h1 h2
      subst h1; subst h2
      have hrest : ((l.zipIdx (i + 1)).map fun y => if y.2 = i then 0 else g y.1).sum = (l.map g).sum := by
        have : ((l.zipIdx (i + 1)).map fun y => if y.2 = i then 0 else g y.1)
            = ((l.zipIdx (i + 1)).map fun y => g y.1) := by
          apply List.map_congr_left
          intro y hy
          have := List.le_snd_of_mem_zipIdx hy
          rw [if_neg (by omega)]
        rw [this]
        rw [map_fst_zipIdx]
      rw [hrest]; simp
    · have hki : k ≠ i := by
        have := List.le_snd_of_mem_zipIdx hmem
        simp at this; omega
      rw [if_neg hki, ih hmem]; ring

end

section
variable {α : Type} [LinearOrder α]

theorem stableRanks_map {f : α → α} (hf : StrictMono f) (obs : List α) :
    stableRanks (obs.map f) = stableRanks obs := by
  unfold stableRanks
  rw [List.zipIdx_map, List.map_map]
  apply List.map_congr_left
  intro xi _
  simp only [Function.comp_def, List.filter_map, List.length_map, Prod.map, id, hf.lt_iff_lt]

end

variable {α : Type} [Field α] [LinearOrder α]

/-- what is assumed of `qsort` on the pooled array (entries tagged with their input position):
the output is a permutation of the input, ascending for the comparator, and entries that compare equal
keep their input order (a stable sort) -/
def StableSortedBy (cmp : α → α → Int) (input output : List (α × ℕ)) : Prop :=
  output.Perm input ∧
    output.Pairwise fun x y => cmp x.1 y.1 = -1 ∨ (cmp x.1 y.1 = 0 ∧ x.2 < y.2)

/-- values are pairwise exactly tied or separated by more than the tolerance (the scan's `eps`
and the comparator's `ceps`) -/
def Separated (eps ceps : α) (l : List α) : Prop :=
  ∀ a ∈ l, ∀ b ∈ l, a = b ∨ (eps < |a - b| ∧ ceps < |a - b|)

/-- what the comparison of one pair of ensembles assumes: pooled values tied or separated, and the pooled array stably sorted -/
def PairOK (sort : List (α × ℕ) → List (α × ℕ)) (eps ceps : α) (e1 e2 : List α) : Prop :=
  Separated eps ceps (e1 ++ e2) ∧ StableSortedBy (cmpTol ceps) (pool e1 e2) (sort (pool e1 e2))

/-- eq. 1: `F(e1, e2)`, the proportion of member pairs in which `e1` exceeds `e2` (ties count ½) -/
def wmF (e1 e2 : List α) : α := wm e1 e2 / (e1.length : α) / (e1.length : α)

/-- eq. 2: 1 if ensemble `ei` beats `ek`, ½ if they tie, 0 otherwise -/
def wmU (ei ek : List α) : α :=
  if wm ei ek < wm ek ei then 0 else if wm ek ei < wm ei ek then 1 else 1 / 2

/-- eq. 2: rank of ensemble `i` = 1 + Σ_{k ≠ i} u(i, k) -/
def wmRank (rows : List (List α)) (i : ℕ) (ei : List α) : α :=
  1 + (rows.zipIdx.map fun ek => if ek.2 = i then 0 else wmU ei ek.1).sum

def wmRanks (rows : List (List α)) : List α := rows.zipIdx.map fun ei => wmRank rows ei.2 ei.1

theorem wmU_self (e : List α) : wmU e e = 1 / 2 := by simp [wmU]

theorem wmU_map {f : α → α} (hf : StrictMono f) (ei ek : List α) : wmU (ei.map f) (ek.map f) = wmU ei ek := by
  unfold wmU; rw [wm_map hf, wm_map hf]

theorem wmU_perm {ei ei' ek ek' : List α} (h1 : ei.Perm ei') (h2 : ek.Perm ek') : wmU ei ek = wmU ei' ek' := by
  unfold wmU; rw [wm_perm h1 h2, wm_perm h2 h1]

theorem wmF_map {f : α → α} (hf : StrictMono f) (e1 e2 : List α) : wmF (e1.map f) (e2.map f) = wmF e1 e2 := by
  unfold wmF; rw [wm_map hf, List.length_map]

theorem wmF_perm {e1 e1' e2 e2' : List α} (h1 : e1.Perm e1') (h2 : e2.Perm e2') : wmF e1 e2 = wmF e1' e2' := by
  unfold wmF; rw [wm_perm h1 h2, h1.length_eq]

theorem upperF_wmF_map {f : α → α} (hf : StrictMono f) (rows : List (List α)) :
    upperF wmF (rows.map (List.map f)) = upperF wmF rows := by
  induction rows with
  | nil => rfl
  | cons e rest ih => simp [upperF, ih, wmF_map hf, Function.comp_def]

theorem upperF_wmF_perm {rows rows' : List (List α)} (h : List.Forall₂ List.Perm rows rows') :
    upperF wmF rows = upperF wmF rows' := by
  induction h with
  | nil => rfl
  | cons hab hrest ih => rw [upperF, upperF, ih, forall₂_map_eq hrest fun _ _ hcd => wmF_perm hab hcd]

theorem ranksOf_length (F : List α → List α → α) (rows : List (List α)) : (ranksOf F rows).length = rows.length := by
  simp [ranksOf]

/-- what forecast `y` adds to the rank of forecast `x` in `rankAt`: `1 - u` if `y` comes first in the pair, `u` if `x` does -/
def rankTerm (F : List α → List α → α) (x y : List α × ℕ) : α :=
  if y.2 < x.2 then 1 - uOf (F y.1 x.1) else if x.2 < y.2 then uOf (F x.1 y.1) else 0

theorem rankTerm_pair (F : List α → List α → α) (x y : List α × ℕ) (h : x.2 < y.2) :
    rankTerm F x y + rankTerm F y x = 1 := by
  unfold rankTerm
  rw [if_neg (by omega), if_pos h, if_pos h]
  ring

theorem rankTerm_self (F : List α → List α → α) (x : List α × ℕ) : rankTerm F x x = 0 := by
  unfold rankTerm; simp

theorem ensrank_ok_inv {sort : List (α × ℕ) → List (α × ℕ)} {epsmin eps : α} {ncol : ℕ} {rows : List (List α)}
    {r : List (List α) × List α} (h : ensrank sort epsmin eps ncol rows = .ok r) :
    r = (upperF (fpair sort eps) rows, ranksOf (fpair sort eps) rows) ∧ ¬ eps < epsmin ∧ ncol ≠ 0 ∧ rows ≠ [] := by
  unfold ensrank at h
  split at h
  · cases h
  · rename_i h1
    split at h
    · cases h
    · rename_i h2
      injection h with h
      rw [not_or] at h2
      exact ⟨h.symm, h1, h2.1, by simpa [List.length_eq_zero_iff] using h2.2⟩

variable [IsStrictOrderedRing α]

theorem cmpTol_of_sep {ceps a b : α} (hc : 0 ≤ ceps) (h : a = b ∨ ceps < |a - b|) :
    cmpTol ceps a b = if a < b then -1 else if b < a then 1 else 0 := by
  unfold cmpTol
  rcases lt_trichotomy a b with hlt | rfl | hgt
  · have hd := h.resolve_left hlt.ne
    rw [abs_of_neg (sub_neg.mpr hlt), lt_neg] at hd
    simp only [hd, hlt, if_true]
  · simp [not_lt.mpr hc]
  · have hd := h.resolve_left hgt.ne'
    rw [abs_of_pos (sub_pos.mpr hgt)] at hd
    have hn : ¬ a - b < -ceps := not_lt.mpr ((neg_nonpos.mpr hc).trans (hc.trans hd.le))
    simp only [hn, hd, hgt, hgt.not_gt, if_true, if_false]

theorem wmU_swap (ei ek : List α) : 1 - wmU ek ei = wmU ei ek := by
  unfold wmU
  rcases lt_trichotomy (wm ei ek) (wm ek ei) with h | h | h
  · simp [h, not_lt.mpr h.le]
  · simp [h]; norm_num
  · simp [h, not_lt.mpr h.le]

theorem wmF_nonneg (e1 e2 : List α) : 0 ≤ wmF e1 e2 :=
  div_nonneg (div_nonneg (wm_nonneg e1 e2) (Nat.cast_nonneg _)) (Nat.cast_nonneg _)

theorem wmF_add_swap {e1 e2 : List α} (hlen : e1.length = e2.length) (hpos : 0 < e1.length) :
    wmF e1 e2 + wmF e2 e1 = 1 := by
  have hm : (e1.length : α) ≠ 0 := Nat.cast_ne_zero.mpr hpos.ne'
  unfold wmF
  rw [← hlen, ← add_div, ← add_div, wm_add_swap, ← hlen, mul_div_assoc, div_self hm, mul_one, div_self hm]

theorem lt_half_iff {x y : α} (h : x + y = 1) : x < 1 / 2 ↔ x < y := by
  rw [lt_div_iff₀ two_pos, mul_two, ← h, add_lt_add_iff_left]

theorem half_lt_iff {x y : α} (h : x + y = 1) : 1 / 2 < x ↔ y < x := by
  rw [div_lt_iff₀ two_pos, mul_two, ← h, add_lt_add_iff_left]

theorem wmF_lt_iff {ei ek : List α} (hlen : ei.length = ek.length) (hpos : 0 < ei.length) :
    wmF ei ek < wmF ek ei ↔ wm ei ek < wm ek ei := by
  have hm : (0 : α) < (ei.length : α) := Nat.cast_pos.mpr hpos
  unfold wmF
  rw [← hlen, div_lt_div_iff_of_pos_right hm, div_lt_div_iff_of_pos_right hm]

theorem uOf_wmF {ei ek : List α} (hlen : ei.length = ek.length) (hpos : 0 < ei.length) :
    uOf (wmF ei ek) = wmU ei ek := by
  have hsum := wmF_add_swap hlen hpos
  unfold uOf wmU
  simp only [lt_half_iff hsum, half_lt_iff hsum, wmF_lt_iff hlen hpos,
    wmF_lt_iff hlen.symm (hlen ▸ hpos)]

theorem ranksOf_eq_wmRanks {F : List α → List α → α} {rows : List (List α)} {m : ℕ} (hm : 0 < m)
    (hlen : ∀ e ∈ rows, e.length = m)
    (hF : rows.Pairwise fun e1 e2 => F e1 e2 = wmF e1 e2) :
    ranksOf F rows = wmRanks rows := by
  unfold ranksOf wmRanks
  apply List.map_congr_left
  intro ei hei
  unfold rankAt wmRank
  rw [sumL_eq_sum]
  congr 1
  apply sum_map_congr
  intro ek hek
  have hli : ei.1.length = m := hlen _ (List.fst_mem_of_mem_zipIdx hei)
  have hlk : ek.1.length = m := hlen _ (List.fst_mem_of_mem_zipIdx hek)
  rcases lt_trichotomy ek.2 ei.2 with h | h | h
  · rw [if_pos h, if_neg h.ne, pairwise_zipIdx hF hek hei h,
      uOf_wmF (by rw [hli, hlk]) (by rw [hlk]; exact hm), wmU_swap]
  · rw [if_neg (by omega), if_neg (by omega), if_pos h]
  · rw [if_neg (by omega), if_pos h, if_neg h.ne', pairwise_zipIdx hF hei hek h,
      uOf_wmF (by rw [hli, hlk]) (by rw [hli]; exact hm)]

theorem wmRanks_eq (rows : List (List α)) :
    wmRanks rows = rows.map fun ei => 1 / 2 + (rows.map (wmU ei)).sum := by
  unfold wmRanks
  rw [← map_fst_zipIdx (fun e => 1 / 2 + (rows.map (wmU e)).sum) rows 0]
  refine List.map_congr_left fun ei hei => ?_
  unfold wmRank
  rw [sum_zipIdx_skip (wmU ei.1) hei, wmU_self]
  ring

theorem wmRanks_map {f : α → α} (hf : StrictMono f) (rows : List (List α)) :
    wmRanks (rows.map (List.map f)) = wmRanks rows := by
  rw [wmRanks_eq, wmRanks_eq, List.map_map]
  exact List.map_congr_left fun ei _ => by simp only [Function.comp_def, List.map_map, wmU_map hf]

theorem wmRanks_perm {rows rows' : List (List α)} (h : List.Forall₂ List.Perm rows rows') :
    wmRanks rows = wmRanks rows' := by
  rw [wmRanks_eq, wmRanks_eq]
  exact forall₂_map_eq h fun ei ei' hi => by rw [forall₂_map_eq h fun ek ek' hk => wmU_perm hi hk]

theorem rowScore_eq_counts (a : α) (l : List α) :
    rowScore a l = (((l.filter fun b => decide (b < a)).length : ℕ) : α)
      + (((l.filter fun b => !decide (b < a) && !decide (a < b)).length : ℕ) : α) / 2 := by
  induction l with
  | nil => simp
  | cons b l ih =>
    rw [rowScore_cons, ih]
    rcases lt_trichotomy b a with h | h | h
    · simp [ps_of_lt h, h, not_lt.mpr h.le]; ring
    · subst h; simp [ps_self]; ring
    · simp [ps_of_gt h, h, not_lt.mpr h.le]

theorem midRanks_eq (l : List α) : midRanks l = l.map fun a => 1 / 2 + rowScore a l := by
  unfold midRanks
  apply List.map_congr_left
  intro a _
  rw [rowScore_eq_counts]; ring

theorem wmU_singleton (a b : α) : wmU [a] [b] = ps a b := by
  have hw : ∀ c d : α, wm [c] [d] = ps c d := fun c d => by simp [wm, rowScore]
  unfold wmU
  rw [hw, hw]
  rcases lt_trichotomy a b with h | h | h
  · simp [ps_of_gt h, ps_of_lt h]
  · subst h; simp [ps_self]
  · simp [ps_of_gt h, ps_of_lt h]

theorem midRanks_singletons (col : List α) :
    midRanks ((col.map fun a => [a]).flatten) = wmRanks (col.map fun a => [a]) := by
  rw [flatten_singletons, midRanks_eq, wmRanks_eq, List.map_map]
  apply List.map_congr_left
  intro a _
  simp only [Function.comp_def, List.map_map, wmU_singleton, rowScore]

/-- the conditions under which `dscore` obtains its forecast ranks: a valid kernel call on `n ≥ 1` forecasts of
`m ≥ 1` members, every pair of ensembles tied-or-separated and stably sorted (not needed for `m = 1`,
where the kernel is not used) -/
def RanksOK (sort : List (α × ℕ) → List (α × ℕ)) (epsmin eps ceps : α) (m : ℕ) (rows : List (List α)) : Prop :=
  epsmin ≤ eps ∧ 0 < eps ∧ 0 ≤ ceps ∧ 0 < m ∧ rows ≠ [] ∧ (∀ e ∈ rows, e.length = m) ∧
    (m ≠ 1 → rows.Pairwise (PairOK sort eps ceps))

theorem sum_rankTerm (F : List α → List α → α) (L : List (List α × ℕ)) (hL : L.Pairwise fun x y => x.2 < y.2) :
    (L.map fun x => (L.map fun y => rankTerm F x y).sum).sum = (L.length : α) * ((L.length : α) - 1) / 2 := by
  induction L with
  | nil => simp
  | cons x t ih =>
    have hx : ∀ y ∈ t, x.2 < y.2 := fun y hy => List.rel_of_pairwise_cons hL hy
    have h1 : (t.map fun y => rankTerm F x y).sum + (t.map fun y => rankTerm F y x).sum = (t.length : α) := by
      rw [← List.sum_map_add, sum_map_congr t _ (fun _ => (1 : α)) (fun y hy => rankTerm_pair F x y (hx y hy))]
      simp
    simp only [List.map_cons, List.sum_cons, rankTerm_self, zero_add, List.length_cons, Nat.cast_add, Nat.cast_one]
    rw [List.sum_map_add, ih (List.Pairwise.of_cons hL), eq_sub_of_add_eq h1]
    ring

theorem ranksOf_sum (F : List α → List α → α) (rows : List (List α)) :
    (ranksOf F rows).sum = (rows.length : α) * ((rows.length : α) + 1) / 2 := by
  have h : ranksOf F rows = rows.zipIdx.map fun x => 1 + (rows.zipIdx.map fun y => rankTerm F x y).sum := by
    unfold ranksOf rankAt
    apply List.map_congr_left
    intro x _
    rw [sumL_eq_sum]
    rfl
  rw [h, List.sum_map_add, sum_rankTerm F rows.zipIdx (zipIdx_pairwise_snd rows 0)]
  simp only [List.map_const', List.sum_replicate, List.length_zipIdx]
  simp only [nsmul_eq_mul, mul_one]
  ring

end HydroVerif.C10
