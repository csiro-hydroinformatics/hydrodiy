/-
C15 — segments and polygonal paths that miss the boundary (`SegFree`, `PathFree`): the frame `rot d P` keeps a segment
free, and along a horizontal free segment the crossing parity does not change. On these rests the topological content of
"interior under the even-odd rule" in `Props/C15.lean`: the answer is constant along free paths, so the points answered
1 cannot be joined to a point outside the bounding box without meeting an edge.
-/
import HydroVerif.Lemmas.C15Direction

namespace HydroVerif.C15

section identities
variable {α : Type} [Field α]

theorem rot_segPt (d P p q : α × α) (t : α) : rot d P (segPt p q t) = segPt (rot d P p) (rot d P q) t := by
  simp only [rot, segPt]; exact Prod.ext (by ring) (by ring)

end identities

variable {α : Type} [Field α] [LinearOrder α]

def SegFree (poly : List (α × α)) (P Q : α × α) : Prop :=
  ∀ e ∈ edges poly, ∀ s t : α, 0 ≤ s → s ≤ 1 → 0 ≤ t → t ≤ 1 → segPt P Q s ≠ segPt e.1 e.2 t

theorem segFree_map {f : α × α → α × α} (hinj : Function.Injective f)
    (haff : ∀ (p q : α × α) (t : α), f (segPt p q t) = segPt (f p) (f q) t)
    {poly : List (α × α)} {P Q : α × α} (h : SegFree poly P Q) : SegFree (poly.map f) (f P) (f Q) := by
  intro e he s t hs0 hs1 ht0 ht1 heq
  rw [edges_map] at he
  obtain ⟨e', he', rfl⟩ := List.mem_map.mp he
  apply h e' he' s t hs0 hs1 ht0 ht1
  apply hinj
  rw [haff, haff]
  exact heq

variable [IsStrictOrderedRing α]

theorem segFree_far {poly : List (α × α)} {P Q : α × α} (h : SegFree poly P Q) : Far 0 poly P ∧ Far 0 poly Q := by
  refine ⟨fun e he => far0_edge_iff.mpr fun t h0 h1 heq => ?_, fun e he => far0_edge_iff.mpr fun t h0 h1 heq => ?_⟩
  · refine h e he 0 t (le_refl _) zero_le_one h0 h1 ?_
    simp only [segPt, zero_mul, add_zero]
    exact heq
  · refine h e he 1 t zero_le_one (le_refl _) h0 h1 ?_
    simp only [segPt, one_mul, add_sub_cancel]
    exact heq

theorem rot_injective {d : α × α} (hd : d ≠ (0, 0)) (P : α × α) : Function.Injective (rot d P) := by
  intro p q h
  rw [rot_eq, rot_eq] at h
  have h' := lin_injective (det_rot_ne hd) h
  simp only [shift, Prod.mk.injEq, add_left_inj] at h'
  exact Prod.ext h'.1 h'.2

/-- an edge crossing the ray between the two points would meet the segment -/
theorem evenOdd_horizontal_free {poly : List (α × α)} {x1 x2 y : α} (hx : x1 < x2)
    (h : SegFree poly (x1, y) (x2, y)) : evenOdd poly (x1, y) = evenOdd poly (x2, y) := by
  unfold evenOdd
  apply parity_map_congr
  intro e he
  unfold crossR
  cases hs : straddle y e.1 e.2
  · rfl
  · simp only [Bool.true_and, decide_eq_decide]
    refine ⟨fun h1 => ?_, fun h2 => hx.trans h2⟩
    by_contra h2
    have hd : 0 < x2 - x1 := sub_pos.mpr hx
    apply h e he ((xint y e.1 e.2 - x1) / (x2 - x1)) (tpar y e.1 e.2)
      (div_nonneg (sub_nonneg.mpr h1.le) hd.le) ((div_le_one hd).mpr (sub_le_sub_right (not_lt.mp h2) _))
      (tpar_mem hs).1 (tpar_mem hs).2
    simp only [segPt]
    rw [← level_point hs, div_mul_cancel₀ _ hd.ne', add_sub_cancel, sub_self, mul_zero, add_zero]

def PathFree (poly : List (α × α)) : List (α × α) → Prop
  | [] => True
  | [_] => True
  | p :: q :: rest => SegFree poly p q ∧ PathFree poly (q :: rest)

end HydroVerif.C15
