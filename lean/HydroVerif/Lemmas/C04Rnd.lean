/- helper lemmas for the rounded-arithmetic carrier `Rnd α r` of C04: what survives a monotone, odd rounding operator that fixes
0 and 1 (`IsRounding`; as IEEE round-to-nearest, round-toward-zero ... do, in every precision, while nothing overflows): signs and the
bound 1 (`IsRounding.nonneg`, `nonpos`, `le_one`), a rounded quotient of rounded numbers in `[-1, 1]` (`quot_range`), a part of a rounded sum
in `[0, 1]` (`part_of_sum`); the value of each operation of `Rnd` (`Rnd.add_val` …); sums of squares (`sse_val_nonneg`, `sse_self_val`); the
ORSS of a non-negative odds ratio (`orss_aux`); a rounding that is not the identity (`fixR_isRounding`) -/
import HydroVerif.Lemmas.C04
import HydroVerif.Lemmas.Round
import Mathlib.Algebra.Order.Floor.Ring
import Mathlib.Data.Rat.Floor

set_option linter.unusedSectionVars false

namespace HydroVerif.C04
variable {α : Type} [Field α] [LinearOrder α] [IsStrictOrderedRing α]

structure IsRounding (r : α → α) : Prop where
  mono : Monotone r
  zero : r 0 = 0
  one : r 1 = 1
  neg : ∀ x, r (-x) = -r x

namespace IsRounding
variable {r : α → α}
theorem nonneg (hr : IsRounding r) {x : α} (h : 0 ≤ x) : 0 ≤ r x := by
  have := hr.mono h; rwa [hr.zero] at this
theorem nonpos (hr : IsRounding r) {x : α} (h : x ≤ 0) : r x ≤ 0 := by
  have := hr.mono h; rwa [hr.zero] at this
theorem le_one (hr : IsRounding r) {x : α} (h : x ≤ 1) : r x ≤ 1 := by
  have := hr.mono h; rwa [hr.one] at this
theorem quot_range (hr : IsRounding r) {a b : α} (hb : 0 < r b) (h1 : a ≤ b) (h2 : -b ≤ a) :
    -1 ≤ r (r a / r b) ∧ r (r a / r b) ≤ 1 :=
  Round.rnd_mem hr.mono (by rw [hr.neg, hr.one]) hr.one
    ((le_div_iff₀ hb).mpr (by rw [neg_one_mul, ← hr.neg]; exact hr.mono h2)) ((div_le_one hb).mpr (hr.mono h1))
theorem part_of_sum (hr : IsRounding r) {a b : α} (ha : 0 ≤ a) (hb : 0 ≤ b) (ea : r a = a) :
    0 ≤ r (a / r (a + b)) ∧ r (a / r (a + b)) ≤ 1 :=
  Round.rnd_div_mem hr.mono hr.zero hr.one ha (ea.symm.trans_le (hr.mono (le_add_of_nonneg_right hb)))
end IsRounding

namespace Rnd
variable {r : α → α}
@[simp] theorem add_val (a b : Rnd α r) : (a + b).val = r (a.val + b.val) := rfl
@[simp] theorem sub_val (a b : Rnd α r) : (a - b).val = r (a.val - b.val) := rfl
@[simp] theorem mul_val (a b : Rnd α r) : (a * b).val = r (a.val * b.val) := rfl
@[simp] theorem div_val (a b : Rnd α r) : (a / b).val = r (a.val / b.val) := rfl
@[simp] theorem neg_val (a : Rnd α r) : (-a).val = -a.val := rfl
@[simp] theorem zero_val : (0 : Rnd α r).val = 0 := rfl
@[simp] theorem one_val : (1 : Rnd α r).val = 1 := rfl
@[simp] theorem two_val : (2 : Rnd α r).val = 2 := rfl
@[simp] theorem natCast_val (n : Nat) : ((n : Rnd α r)).val = r (n : α) := rfl
theorem lt_iff (a b : Rnd α r) : a < b ↔ a.val < b.val := Iff.rfl
theorem ext_val {a b : Rnd α r} (h : a.val = b.val) : a = b := by
  cases a; cases b; simp_all
/-- comparisons, `-1` and `1` are exact, so clipping commutes with reading the value -/
theorem clip1_val (x : Rnd α r) : (clip1 x).val = clip1 x.val := by
  unfold clip1
  rw [apply_ite Rnd.val, apply_ite Rnd.val]
  rfl
end Rnd

section sums
variable {r : α → α}

theorem sumL_val_nonneg (hr : IsRounding r) (l : List (Rnd α r)) (h : ∀ x ∈ l, 0 ≤ x.val) : 0 ≤ (sumL l).val := by
  induction l with
  | nil => simp [sumL]
  | cons x xs ih =>
    rw [List.forall_mem_cons] at h
    exact hr.nonneg (add_nonneg h.1 (ih h.2))

theorem sse_val_nonneg (hr : IsRounding r) (o s : List (Rnd α r)) : 0 ≤ (sse o s).val := by
  induction o generalizing s with
  | nil => simp [sse]
  | cons x xs ih =>
    cases s with
    | nil => simp [sse]
    | cons y ys =>
      simp only [sse, Rnd.add_val, Rnd.mul_val, Rnd.sub_val]
      exact hr.nonneg (add_nonneg (hr.nonneg (mul_self_nonneg _)) (ih ys))

theorem sse_self_val (hr : IsRounding r) (o : List (Rnd α r)) : (sse o o).val = 0 := by
  induction o with
  | nil => simp [sse]
  | cons x xs ih =>
    simp only [sse, Rnd.add_val, Rnd.mul_val, Rnd.sub_val, ih, sub_self, hr.zero, mul_zero, add_zero]

end sums

section orss
variable {r : α → α}

/-- for `θ ≥ 0` the guard `-1 < θ` passes and `|θ - 1| ≤ θ + 1` survives the three roundings -/
theorem orss_aux (hr : IsRounding r) (θ : Rnd α r) (ht : 0 ≤ θ.val) :
    ∃ v, (if -1 < θ then some ((θ - 1) / (θ + 1)) else (none : Option (Rnd α r))) = some v ∧ -1 ≤ v.val ∧ v.val ≤ 1 := by
  have hg : (-1 : Rnd α r) < θ := show (-1 : α) < θ.val from neg_one_lt_zero.trans_le ht
  have hd : 0 < r (θ.val + 1) := by
    have := hr.mono (le_add_of_nonneg_left ht : 1 ≤ θ.val + 1)
    rw [hr.one] at this
    exact one_pos.trans_le this
  obtain ⟨h2, h1⟩ := neg_add_le_sub_le_add ht zero_le_one
  exact ⟨_, if_pos hg, hr.quot_range hd h1 h2⟩

end orss

/-- round toward zero to an integer (the coarsest "floating point": no fraction bits) -/
def fixR (x : ℚ) : ℚ := if 0 ≤ x then (⌊x⌋ : ℚ) else -(⌊-x⌋ : ℚ)

theorem fixR_isRounding : IsRounding fixR where
  mono := fun x y hxy => by
    unfold fixR
    split_ifs with hx hy hy
    · exact_mod_cast Int.floor_mono hxy
    · exact absurd (hx.trans hxy) hy
    · have h1 := Int.floor_nonneg.mpr (neg_nonneg.mpr (not_le.mp hx).le)
      have h2 := Int.floor_nonneg.mpr hy
      exact_mod_cast (by omega : -⌊-x⌋ ≤ ⌊y⌋)
    · exact_mod_cast neg_le_neg (Int.floor_mono (neg_le_neg hxy))
  zero := by simp [fixR]
  one := by simp [fixR]
  neg := fun x => by
    unfold fixR
    rcases lt_trichotomy x 0 with h | rfl | h
    · rw [if_pos (neg_nonneg.mpr h.le), if_neg (not_le.mpr h), neg_neg]
    · simp
    · rw [if_neg (not_le.mpr (neg_neg_of_pos h)), if_pos h.le, neg_neg]

end HydroVerif.C04
