/-
C08 — the roundings and two facts that the `example`s of `Props/C08.lean` use more than once: a genuinely lossy rounding
(round down to an integer), the exact one (every relative error bound holds of it), and the index `compute_aggindex`
builds for two stamps around the start of an `AS-JUL` year.
-/
import HydroVerif.Lemmas.C08Round
import Mathlib.Algebra.Order.Field.Rat

namespace HydroVerif.C08

/-- a genuinely lossy rounding for the `example`s: round down to an integer -/
def floorRounding : Rounding ℚ where
  rnd := fun a => ((⌊a⌋ : Int) : ℚ)
  mono := fun a b h => by exact_mod_cast Int.floor_mono h
  idem := fun a => by simp
  zero := by simp

def idRounding : Rounding ℚ where
  rnd := id
  mono := fun _ _ h => h
  idem := fun _ => rfl
  zero := rfl

def flInt (n : Int) : Fl floorRounding := ⟨(n : ℚ), by simp [floorRounding]⟩
def flQ (q : ℚ) : Fl idRounding := ⟨q, rfl⟩

theorem idRounding_err {u : ℚ} (hu : 0 ≤ u) (a : ℚ) : |idRounding.rnd a - a| ≤ u * |a| := by
  show |a - a| ≤ u * |a|
  rw [sub_self, abs_zero]
  exact mul_nonneg hu (abs_nonneg a)

theorem computeAggindex_asJul :
    computeAggindex "AS-JUL".toList [⟨1999, 7, 31, 0⟩, ⟨1999, 8, 1, 0⟩] = .ok [1998, 1999] := by decide

end HydroVerif.C08
