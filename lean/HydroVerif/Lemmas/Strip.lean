/-
`str.strip()` as the models of C09 and C13 write it, `dropWhile` at both ends (the second through `reverse`), on a text
that holds none of the characters stripped: alone, and followed by one of them (a written token before its blank or line
feed). And the scan that stops at the first separator (`takeWhile` / `dropWhile` up to a point, a colon, the last dot of a file name).
-/

namespace HydroVerif.Strip

variable {α : Type} (p : α → Bool) {s : List α}

theorem dropWhile_of_forall_false (h : ∀ c ∈ s, p c = false) : s.dropWhile p = s := by
  cases s with
  | nil => rfl
  | cons c s => exact List.dropWhile_cons_of_neg (by simp [h c List.mem_cons_self])

theorem strip_eq_self (h : ∀ c ∈ s, p c = false) : ((s.dropWhile p).reverse.dropWhile p).reverse = s := by
  rw [dropWhile_of_forall_false p h, dropWhile_of_forall_false p fun c hc => h c (List.mem_reverse.mp hc),
    List.reverse_reverse]

theorem strip_concat (h : ∀ c ∈ s, p c = false) {c : α} (hc : p c = true) :
    (((s ++ [c]).dropWhile p).reverse.dropWhile p).reverse = s := by
  cases s with
  | nil => simp [hc]
  | cons a t =>
    rw [List.cons_append, List.dropWhile_cons_of_neg (by simp [h a List.mem_cons_self]), ← List.cons_append,
      List.reverse_append, List.reverse_singleton, List.singleton_append, List.dropWhile_cons_of_pos hc,
      dropWhile_of_forall_false p fun x hx => h x (List.mem_reverse.mp hx), List.reverse_reverse]

theorem takeWhile_append_stop (k : List α) (c : α) (rest : List α) (hk : ∀ x ∈ k, p x = true) (hc : p c = false) :
    (k ++ c :: rest).takeWhile p = k := by
  rw [List.takeWhile_append_of_pos hk, List.takeWhile_cons_of_neg (by simp [hc]), List.append_nil]

theorem dropWhile_append_stop (k : List α) (c : α) (rest : List α) (hk : ∀ x ∈ k, p x = true) (hc : p c = false) :
    (k ++ c :: rest).dropWhile p = c :: rest := by
  rw [List.dropWhile_append_of_pos hk, List.dropWhile_cons_of_neg (by simp [hc])]

end HydroVerif.Strip
