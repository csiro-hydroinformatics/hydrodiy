/- grouping lemmas for C20: `groupBy` puts every row in the bucket of its category, buckets in key order -/
import HydroVerif.Model.C20
import Mathlib.Data.List.Basic
import Mathlib.Tactic.Linarith.Frontend


namespace HydroVerif.C20

variable {β : Type}

/-- the rows of category `k`, in order -/
def bucket (cats : List Int) (data : List β) (k : Int) : List β :=
  ((cats.zip data).filter fun kv => kv.1 = k).map fun kv => kv.2

/-- `bucket` on rows already zipped (`bucket cats data k` is `rowsBucket (cats.zip data) k` by `rfl`): the form the scan
invariant needs, since the scan consumes the zipped rows one by one -/
def rowsBucket (rows : List (Int × β)) (k : Int) : List β :=
  (rows.filter fun kv => kv.1 = k).map fun kv => kv.2

theorem lookup_none_of_lt {γ : Type} (g : List (Int × γ)) (k : Int) (h : ∀ kv ∈ g, k < kv.1) : g.lookup k = none :=
  List.lookup_eq_none_iff.mpr fun p hp => by simpa using (h p hp).ne

theorem lookup_cons_ite {γ : Type} (k k' : Int) (x : γ) (t : List (Int × γ)) :
    ((k, x) :: t).lookup k' = if k' = k then some x else t.lookup k' := by
  by_cases h : k' = k
  · simp [h]
  · simp [List.lookup_cons, h, show (k' == k) = false by simpa using h]

theorem lookup_insertGroup (g : List (Int × List β)) (hs : (g.map fun kv => kv.1).Pairwise (· < ·)) (k : Int) (v : β)
    (k' : Int) :
    (insertGroup k v g).lookup k' = if k' = k then some ((g.lookup k).getD [] ++ [v]) else g.lookup k' := by
  induction g with
  | nil =>
    rw [insertGroup, lookup_cons_ite]
    rfl
  | cons a t ih =>
    obtain ⟨k0, vs0⟩ := a
    rw [List.map_cons, List.pairwise_cons] at hs
    rw [insertGroup]
    by_cases h1 : k < k0
    · have hnone : ((k0, vs0) :: t).lookup k = none := lookup_none_of_lt _ k fun kv hkv => by
        rcases List.mem_cons.mp hkv with rfl | hkv
        · exact h1
        · exact h1.trans (hs.1 _ (List.mem_map_of_mem hkv))
      rw [if_pos h1, lookup_cons_ite, hnone]
      rfl
    · rw [if_neg h1]
      by_cases h2 : k = k0
      · subst h2
        rw [if_pos rfl, lookup_cons_ite, lookup_cons_ite, lookup_cons_ite, if_pos rfl]
        split_ifs <;> rfl
      · rw [if_neg h2, lookup_cons_ite, ih hs.2, lookup_cons_ite k0 k, if_neg h2, lookup_cons_ite]
        by_cases a : k' = k0
        · rw [if_pos a, if_neg fun b => h2 (b.symm.trans a), if_pos a]
        · rw [if_neg a, if_neg a]

theorem keys_insertGroup (g : List (Int × List β)) (k : Int) (v : β) :
    ∀ x ∈ (insertGroup k v g).map (fun kv => kv.1), x = k ∨ x ∈ g.map (fun kv => kv.1) := by
  induction g with
  | nil => simp [insertGroup]
  | cons a t ih =>
    obtain ⟨k0, vs0⟩ := a
    intro x hx
    rw [insertGroup] at hx
    split_ifs at hx
    · exact List.mem_cons.mp hx
    · exact Or.inr hx
    · rcases List.mem_cons.mp hx with rfl | hx
      · exact Or.inr (List.mem_cons_self ..)
      · exact (ih x hx).imp_right (List.mem_cons_of_mem _)

theorem sorted_insertGroup (g : List (Int × List β)) (hs : (g.map fun kv => kv.1).Pairwise (· < ·)) (k : Int) (v : β) :
    ((insertGroup k v g).map fun kv => kv.1).Pairwise (· < ·) := by
  induction g with
  | nil => simp [insertGroup]
  | cons a t ih =>
    obtain ⟨k0, vs0⟩ := a
    simp only [List.map_cons, List.pairwise_cons] at hs
    simp only [insertGroup]
    by_cases h1 : k < k0
    · simp only [h1, if_true, List.map_cons, List.pairwise_cons]
      refine ⟨?_, hs⟩
      intro x hx
      rcases List.mem_cons.mp hx with rfl | hx
      · exact h1
      · exact lt_trans h1 (hs.1 x hx)
    · by_cases h2 : k = k0
      · subst h2
        simp only [h1, if_false, if_true, List.map_cons, List.pairwise_cons]
        exact hs
      · simp only [h1, h2, if_false, List.map_cons, List.pairwise_cons]
        refine ⟨?_, ih hs.2⟩
        intro x hx
        rcases keys_insertGroup t k v x hx with rfl | hx
        · omega
        · exact hs.1 x hx

theorem rowsBucket_append (rows : List (Int × β)) (k : Int) (v : β) (k' : Int) :
    rowsBucket (rows ++ [(k, v)]) k' = rowsBucket rows k' ++ (if k' = k then [v] else []) := by
  unfold rowsBucket
  rw [List.filter_append, List.map_append]
  congr 1
  by_cases h : k' = k
  · simp [h]
  · have : ¬ k = k' := fun h' => h h'.symm
    simp [h, this]

/-- the invariant of the scan of `groupBy`: the keys stay increasing, and looking up `k` gives the rows of category `k`
consumed so far (nothing, if there is none yet) -/
theorem foldl_insertGroup_inv (rest done : List (Int × β)) (acc : List (Int × List β))
    (hs : (acc.map fun kv => kv.1).Pairwise (· < ·))
    (hl : ∀ k, acc.lookup k = if (rowsBucket done k).isEmpty then none else some (rowsBucket done k)) :
    ((rest.foldl (fun acc kv => insertGroup kv.1 kv.2 acc) acc).map fun kv => kv.1).Pairwise (· < ·) ∧
    ∀ k, (rest.foldl (fun acc kv => insertGroup kv.1 kv.2 acc) acc).lookup k =
      if (rowsBucket (done ++ rest) k).isEmpty then none else some (rowsBucket (done ++ rest) k) := by
  induction rest generalizing done acc with
  | nil =>
    simp only [List.foldl_nil, List.append_nil]
    exact ⟨hs, hl⟩
  | cons kv t ih =>
    obtain ⟨k, v⟩ := kv
    simp only [List.foldl_cons]
    have hs' := sorted_insertGroup acc hs k v
    have hl' : ∀ k', (insertGroup k v acc).lookup k' =
        if (rowsBucket (done ++ [(k, v)]) k').isEmpty then none else some (rowsBucket (done ++ [(k, v)]) k') := by
      intro k'
      rw [lookup_insertGroup acc hs k v k', rowsBucket_append]
      by_cases h : k' = k
      · subst h
        rw [hl k']
        cases hb : rowsBucket done k' with
        | nil => simp
        | cons x xs => simp
      · simp only [h, if_false, List.append_nil]
        exact hl k'
    have := ih (done ++ [(k, v)]) (insertGroup k v acc) hs' hl'
    rw [List.append_assoc, List.singleton_append] at this
    exact this

theorem groupBy_keys_sorted (cats : List Int) (data : List β) :
    ((groupBy cats data).map fun kv => kv.1).Pairwise (· < ·) := by
  have := foldl_insertGroup_inv (cats.zip data) [] [] (by simp) (by simp [rowsBucket])
  exact this.1

theorem groupBy_lookup (cats : List Int) (data : List β) (k : Int) :
    (groupBy cats data).lookup k = if (bucket cats data k).isEmpty then none else some (bucket cats data k) := by
  have := (foldl_insertGroup_inv (cats.zip data) [] [] (by simp) (by simp [rowsBucket])).2 k
  rw [List.nil_append] at this
  exact this

theorem mem_iff_lookup_of_sorted_keys {γ : Type} (g : List (Int × γ)) (hg : (g.map fun kv => kv.1).Pairwise (· < ·))
    (k : Int) (x : γ) : (k, x) ∈ g ↔ g.lookup k = some x := by
  induction g with
  | nil => simp
  | cons a t ih =>
    obtain ⟨k0, x0⟩ := a
    rw [List.map_cons, List.pairwise_cons] at hg
    rw [lookup_cons_ite, List.mem_cons, ih hg.2]
    by_cases h : k = k0
    · -- the head holds the key; the tail, with larger keys only, does not
      subst h
      have ht : t.lookup k = none := lookup_none_of_lt t k fun p hp => hg.1 _ (List.mem_map_of_mem hp)
      rw [if_pos rfl, ht]
      simp [eq_comm]
    · rw [if_neg h]
      simp [h]

end HydroVerif.C20
