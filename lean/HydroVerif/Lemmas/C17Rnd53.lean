/-
C17 — `rnd53` (round to nearest, ties to even, 53-bit significand, unbounded exponent; the function the
driver runs against the real kernels) commits a relative error of at most `2^-53`.
-/
import HydroVerif.Model.C17Round
import HydroVerif.Lemmas.Round
import Mathlib.Algebra.Order.Field.Basic
import Mathlib.Data.Rat.Floor
import Mathlib.Algebra.Order.Floor.Ring
import Mathlib.Tactic.Ring
import Mathlib.Tactic.Positivity

namespace HydroVerif.C17

-- the model's `pow2` / `roundHalfEven` unfold to `Round.pow2` / `Round.rne` (`Lemmas/Round.lean`) but are constants of
-- their own, which `rw [Round.pow2_eq]` does not see: the two transports `pow2_eq`, `roundHalfEven_err` are what `rw` uses
theorem pow2_eq (k : Int) : pow2 k = (2 : ℚ) ^ k := Round.pow2_eq k

theorem ilog2_le (a : ℚ) (ha : 0 < a) : (2 : ℚ) ^ (ilog2 a) ≤ a := by
  unfold ilog2
  simp only
  split
  · rename_i h; rw [pow2_eq] at h; exact h
  · -- `2^⌊log₂ num⌋ ≤ num` and `den ≤ 2^(⌊log₂ den⌋+1)`
    have hnum : 0 < a.num := Rat.num_pos.mpr ha
    have hn : ((2 ^ a.num.toNat.log2 : ℕ) : ℤ) ≤ a.num :=
      (Int.ofNat_le.mpr (Nat.log2_self_le (by omega))).trans_eq (Int.toNat_of_nonneg hnum.le)
    have hnq : (2 : ℚ) ^ a.num.toNat.log2 ≤ a.num := by exact_mod_cast hn
    have hdq : (a.den : ℚ) ≤ (2 : ℚ) ^ (a.den.log2 + 1) := by exact_mod_cast (@Nat.lt_log2_self a.den).le
    rw [sub_sub, ← Nat.cast_succ, zpow_sub₀ two_ne_zero, zpow_natCast, zpow_natCast]
    exact (div_le_div₀ (by positivity) hnq (by exact_mod_cast a.den_pos) hdq).trans_eq (Rat.num_div_den a)

theorem roundHalfEven_err (q : ℚ) : |((roundHalfEven q : ℤ) : ℚ) - q| ≤ 1 / 2 := Round.rne_err q

/-- the quantum `2^(e-52)` is `2 · 2^-53 · 2^e`, and `2^e ≤ a` -/
theorem rnd_pos_err (a : ℚ) (ha : 0 < a) :
    |((roundHalfEven (a * pow2 (-(ilog2 a - 52))) : ℤ) : ℚ) * pow2 (ilog2 a - 52) - a| ≤ (2 : ℚ) ^ (-53 : ℤ) * a := by
  rw [pow2_eq, pow2_eq, zpow_neg, ← div_eq_mul_inv]
  exact (Round.abs_mul_zpow_sub_le (p := 53) (roundHalfEven_err _) ((ilog2_le a ha).trans (le_abs_self a)) (by ring)).trans_eq
    (by rw [abs_of_pos ha])

theorem rnd53_err (x : ℚ) : |rnd53 x - x| ≤ (2 : ℚ) ^ (-53 : ℤ) * |x| := by
  unfold rnd53 rndWith
  by_cases hx : x = 0
  · simp [hx]
  · simp only [hx, if_false]
    by_cases hneg : x < 0
    · simp only [hneg, if_true]
      have := rnd_pos_err (-x) (neg_pos.mpr hneg)
      rw [sub_neg_eq_add] at this
      rwa [← abs_neg, neg_sub, sub_neg_eq_add, add_comm, abs_of_neg hneg]
    · simp only [hneg, if_false]
      have ha : 0 < x := lt_of_le_of_ne (not_lt.mp hneg) (Ne.symm hx)
      have := rnd_pos_err x ha
      rw [abs_of_pos ha]
      exact this

end HydroVerif.C17
