/-
C10 — the scan of `c_ensrank` on a stably sorted pooled array of tied-or-separated values: the link between the scan
(C10Scan) and what is assumed of the sort and the values (C10Rank).
-/
import HydroVerif.Lemmas.C10Scan
import HydroVerif.Lemmas.C10Rank

namespace HydroVerif.C10

variable {α : Type} [Field α] [LinearOrder α] [IsStrictOrderedRing α]

theorem scan_pool {eps ceps : α} (heps : 0 < eps) (hc : 0 ≤ ceps) {e1 e2 : List α}
    {sorted : List (α × ℕ)} (hsep : Separated eps ceps (e1 ++ e2))
    (hs : StableSortedBy (cmpTol ceps) (pool e1 e2) sorted) :
    scan eps e1.length sorted = relSpec e1.length 0 (pool e1 e2) := by
  obtain ⟨hperm, hpw⟩ := hs
  have hsep' : ∀ x ∈ sorted, ∀ y ∈ sorted, x.1 = y.1 ∨ (eps < |x.1 - y.1| ∧ ceps < |x.1 - y.1|) :=
    fun x hx y hy => hsep x.1 (List.fst_mem_of_mem_zipIdx (hperm.mem_iff.mp hx)) y.1
      (List.fst_mem_of_mem_zipIdx (hperm.mem_iff.mp hy))
  have hrel : sorted.Pairwise (rel e1.length) := by
    refine hpw.imp_of_mem fun {x y} hx hy hxy => ?_
    rw [cmpTol_of_sep hc ((hsep' x hx y hy).imp id (·.2))] at hxy
    rcases lt_trichotomy x.1 y.1 with h | h | h
    · exact Or.inl h
    · rcases hxy with hxy | ⟨_, hlt⟩
      · simp [h] at hxy
      · exact Or.inr ⟨h, fun hy' => lt_trans hlt hy'⟩
    · simp [h, h.not_gt] at hxy
  have h := (scanAux_spec heps hrel
    (fun x hx y hy => (hsep' x hx y hy).imp id (·.1.le)) 0 none ⟨0, none, 0, 0⟩).1 rfl
    (by intro p hp; cases hp)
  unfold scan
  rw [h, relSpec_perm hperm]
  simp

end HydroVerif.C10
