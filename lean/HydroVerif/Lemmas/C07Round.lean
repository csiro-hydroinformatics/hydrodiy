/-
Lemmas for `Model/C07Round.lean`: error propagation through the rounded kernels under the standard model of floating
point arithmetic (`|rnd t - t| ≤ u |t|` for every exact result `t`), over any ordered field with floor. That `round53`
satisfies that model (`Props/C07.lean: round53_standard_model`) rests on `Lemmas/Round.lean` (rounding to a grid).
Here the rounded kernels are a second text with `rnd` written at each of the few arithmetic results (`coord2cellR`,
`centreR`): the conversions to integers between them are exact and must stay so. The hypothesis is `RelErr rnd u`, and the
accumulated errors are kept as exact polynomials in `u` (`quotBudget`, `centreBudget`, `rtBudget`), to be compared with
half a cell for any `u`. C15 rounds every operation of its one generic model through a wrapper type and keeps errors
linear in `u` (`Lemmas/C15Round.lean`); C16 needs order and exact counts, not an error bound (`Lemmas/C16Rnd.lean`).
-/
import HydroVerif.Model.C07Round
import HydroVerif.Lemmas.C07Kernel
import HydroVerif.Lemmas.Round
import HydroVerif.Lemmas.Ordered
import Mathlib.Algebra.Order.AbsoluteValue.Basic
import Mathlib.Data.Rat.Floor

namespace HydroVerif.C07

variable {α : Type} [Field α] [LinearOrder α] [IsStrictOrderedRing α]

/-- the standard model of floating point arithmetic: every rounded result is within the relative error `u` of the
exact one (IEEE double, round to nearest, away from underflow / overflow: `u = 2^-53`) -/
def RelErr (rnd : α → α) (u : α) : Prop := ∀ t, |rnd t - t| ≤ u * |t|

/-- accumulated relative error of `rnd(rnd(a)/c)` -/
def quotBudget (u : α) : α := 2 * u + u ^ 2
/-- accumulated relative error of `rnd(ll + rnd(c * rnd(m)))`, relative to `|ll| + |c| |m|` -/
def centreBudget (u : α) : α := 3 * u + 3 * u ^ 2 + u ^ 3
/-- error, in cell sizes per unit of `|ll|/csz + k + 1/2`, of the quotient recomputed from a computed centre -/
def rtBudget (u : α) : α := centreBudget u + quotBudget u + centreBudget u * quotBudget u

theorem quotBudget_nonneg {u : α} (hu : 0 ≤ u) : 0 ≤ quotBudget u := by unfold quotBudget; positivity
theorem rtBudget_nonneg {u : α} (hu : 0 ≤ u) : 0 ≤ rtBudget u := by
  unfold rtBudget centreBudget quotBudget; positivity

/-- relative errors compose as `(1 + ε)(1 + η) - 1`: if `b` is within `ε M` of `a`, where `|a| ≤ M`, and `b'` is within
`η |b|` of `b`, then `b'` is within `(ε + η + ε η) M` of `a`: `Round.rel_step` at `E = ε M`, in the product form in which
the budgets of this file are written. -/
theorem abs_sub_le_of_rel {a b b' ε η M : α} (hη : 0 ≤ η) (hM : |a| ≤ M) (h1 : |b - a| ≤ ε * M)
    (h2 : |b' - b| ≤ η * |b|) : |b' - a| ≤ (ε + η + ε * η) * M :=
  (Round.rel_step hη hM h1 h2).trans_eq (by ring)

theorem quot_err {rnd : α → α} {u : α} (hr : RelErr rnd u) (hu : 0 ≤ u) (a c : α) :
    |rnd (rnd a / c) - a / c| ≤ quotBudget u * |a / c| := by
  have h1 : |rnd a / c - a / c| ≤ u * |a / c| := by
    rw [← sub_div, abs_div, abs_div, ← mul_div_assoc]
    exact div_le_div_of_nonneg_right (hr a) (abs_nonneg c)
  exact (abs_sub_le_of_rel hu le_rfl h1 (hr _)).trans_eq (by unfold quotBudget; ring)

variable [FloorRing α]

theorem centreR_err {rnd : α → α} {u : α} (hr : RelErr rnd u) (hu : 0 ≤ u) (ll c : α) (k : Int) :
    |centreR rnd ll c k - (ll + c * ((k : α) + 1 / 2))| ≤ centreBudget u * (|ll| + |c| * |(k : α) + 1 / 2|) := by
  rw [centreR, ofInt_eq, half_eq]
  generalize (k : α) + 1 / 2 = m
  have e1 : |c * rnd m - c * m| ≤ u * |c * m| := by
    rw [← mul_sub, abs_mul, abs_mul, mul_left_comm]
    exact mul_le_mul_of_nonneg_left (hr m) (abs_nonneg c)
  have e2 := abs_sub_le_of_rel hu le_rfl e1 (hr _)
  have hM : |ll + c * m| ≤ |ll| + |c| * |m| := (abs_add_le _ _).trans_eq (by rw [abs_mul])
  have e3 : |ll + rnd (c * rnd m) - (ll + c * m)| ≤ (u + u + u * u) * (|ll| + |c| * |m|) := by
    rw [add_sub_add_left_eq_sub, ← abs_mul]
    exact e2.trans (mul_le_mul_of_nonneg_left (le_add_of_nonneg_left (abs_nonneg ll))
      (add_nonneg (add_nonneg hu hu) (mul_nonneg hu hu)))
  exact (abs_sub_le_of_rel hu hM e3 (hr _)).trans_eq (by unfold centreBudget; ring)

/-- **one axis of the round trip.** The quotient recomputed (with rounding) from the centre of interval `k`
(computed with rounding) has floor `k`, as long as the accumulated error stays below half a cell; `K` is any bound of
the distance `|ll|/csz + k + 1/2` of that centre from zero, in cell sizes -/
theorem axis_roundtrip {rnd : α → α} {u : α} (hr : RelErr rnd u) (hu : 0 ≤ u) {ll csz K : α} (hcsz : 0 < csz)
    {k : Int} (hk : 0 ≤ k) (hK : |ll| / csz + ((k : α) + 1 / 2) ≤ K) (hB : rtBudget u * K < 1 / 2) :
    ⌊rnd (rnd (centreR rnd ll csz k - ll) / csz)⌋ = k := by
  have hm : (0 : α) < (k : α) + 1 / 2 := add_pos_of_nonneg_of_pos (Int.cast_nonneg hk) one_half_pos
  have hM : |(k : α) + 1 / 2| ≤ |ll| / csz + ((k : α) + 1 / 2) := by
    rw [abs_of_pos hm]; exact le_add_of_nonneg_left (div_nonneg (abs_nonneg _) hcsz.le)
  have h1 : |(centreR rnd ll csz k - ll) / csz - ((k : α) + 1 / 2)| ≤
      centreBudget u * (|ll| / csz + ((k : α) + 1 / 2)) := by
    have e := centreR_err hr hu ll csz k
    rw [abs_of_pos hcsz, abs_of_pos hm] at e
    rwa [div_sub' hcsz.ne', abs_div, abs_of_pos hcsz, div_le_iff₀ hcsz, mul_assoc, add_mul,
      div_mul_cancel₀ _ hcsz.ne', mul_comm _ csz, sub_sub]
  have tot := (abs_sub_le_of_rel (quotBudget_nonneg hu) hM h1 (quot_err hr hu _ csz)).trans
    (mul_le_mul_of_nonneg_left hK (rtBudget_nonneg hu))
  exact floor_eq_of_abs_sub_half_lt (tot.trans_lt hB)

theorem ratAbs_eq (t : ℚ) : ratAbs t = |t| := Ordered.ite_neg_eq_abs t

/-- the model's `pow2` and `roundHalfEven` are those of `Lemmas/Round.lean`, which has their lemmas -/
theorem pow2_eq_round : pow2 = Round.pow2 := rfl
theorem roundHalfEven_eq_rne : roundHalfEven = Round.rne := rfl

/-- quotients of at most `2^21` cell sizes are evaluated within `1e-9` cell sizes: `(2u + u²) 2^21 ≈ 2^-31 ≈ 4.7e-10` -/
theorem quotBudget_double {q : ℚ} (h : |q| ≤ 2 ^ 21) : quotBudget ((1 : ℚ) / 2 ^ 53) * |q| ≤ 1 / 10 ^ 9 :=
  (mul_le_mul_of_nonneg_left h (quotBudget_nonneg (by positivity))).trans (by norm_num [quotBudget])

/-- centres at most `2^48` cell sizes from zero come back within half a cell: `rtBudget u ≈ 5u`, `5 · 2^-53 · 2^48 = 5/32` -/
theorem rtBudget_double {K : ℚ} (h : K ≤ 2 ^ 48) : rtBudget ((1 : ℚ) / 2 ^ 53) * K < 1 / 2 :=
  (mul_le_mul_of_nonneg_left h (rtBudget_nonneg (by positivity))).trans_lt
    (by norm_num [rtBudget, centreBudget, quotBudget])

end HydroVerif.C07
