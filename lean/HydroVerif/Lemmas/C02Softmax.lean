/-
C02 — Softmax helper lemmas (none of these is a property statement): the matrix of partial derivatives
`J = diag(1/x) + (1/(1-s)) 1 1ᵀ` over `Fin n`, its determinant for every `n` by the matrix determinant lemma
(`J = diag(1/x) (1 + x cᵀ)`, `det(1 + u vᵀ) = 1 + v·u`), the partial derivatives of the coordinate functions, and
the bridges between the list model (`sumL`, `prodL`, `fwdRow`, `pdEntry`) and `Fin n → ℝ`; then, after the namespace, the
executable determinant of Model/C02: Laplace expansion along the first row on nested lists (`detL`) is `Matrix.det`
(`detL_toL`, through `eraseIdx_ofFn`, `toL`, `laplaceRow_ofFn`).
-/
import HydroVerif.Lemmas.C02
import Mathlib.LinearAlgebra.Matrix.SchurComplement
import Mathlib.Algebra.BigOperators.Fin
import Mathlib.LinearAlgebra.Matrix.Determinant.Basic

namespace HydroVerif.C02
open HydroVerif.C01 Matrix Finset

namespace Softmax
open HydroVerif.C01.Softmax

noncomputable def pdMat {n : ℕ} (x : Fin n → ℝ) : Matrix (Fin n) (Fin n) ℝ :=
  Matrix.of fun i j => (if i = j then 1 / x i else 0) + 1 / (1 - ∑ k, x k)

noncomputable def fwdFn {n : ℕ} (x : Fin n → ℝ) (i : Fin n) : ℝ := Real.log (x i / (1 - ∑ k, x k))

theorem pdMat_factor {n : ℕ} (x : Fin n → ℝ) (hx : ∀ i, x i ≠ 0) :
    pdMat x = Matrix.diagonal (fun i => 1 / x i) *
      (1 + replicateCol Unit x * replicateRow Unit (fun _ => 1 / (1 - ∑ k, x k))) := by
  rw [Matrix.mul_add, Matrix.mul_one]
  ext i j
  rw [Matrix.add_apply, Matrix.diagonal_mul]
  simp only [pdMat, Matrix.of_apply, Matrix.diagonal_apply, Matrix.mul_apply, replicateCol_apply,
    replicateRow_apply, Finset.univ_unique, Finset.sum_singleton]
  rw [← mul_assoc, one_div_mul_cancel (hx i), one_mul]

theorem det_pdMat {n : ℕ} (x : Fin n → ℝ) (hx : ∀ i, x i ≠ 0) :
    (pdMat x).det = (1 + (∑ k, x k) / (1 - ∑ k, x k)) / ∏ k, x k := by
  rw [pdMat_factor x hx, Matrix.det_mul, Matrix.det_diagonal, det_one_add_replicateCol_mul_replicateRow]
  have h1 : (fun _ : Fin n => 1 / (1 - ∑ k, x k)) ⬝ᵥ x = (∑ k, x k) / (1 - ∑ k, x k) := by
    simp only [dotProduct, ← Finset.mul_sum]
    ring
  rw [h1, Finset.prod_div_distrib, Finset.prod_const_one]
  ring

/-- the numerator `x_i` moves only when `i = j`, the denominator `1 - Σ x` always does -/
theorem hasDerivAt_fwdFn {n : ℕ} (x : Fin n → ℝ) (hpos : ∀ k, 0 < x k) (hs : ∑ k, x k < 1) (i j : Fin n) :
    HasDerivAt (fun t => fwdFn (Function.update x j t) i) (pdMat x i j) (x j) := by
  have ha : HasDerivAt (fun t => Function.update x j t i) (if i = j then 1 else 0) (x j) := by
    split_ifs with h
    · subst h
      simpa only [Function.update_self] using hasDerivAt_id' (x i)
    · simpa only [Function.update_of_ne h] using hasDerivAt_const (x j) (x i)
  have hb : HasDerivAt (fun t => 1 - ∑ k, Function.update x j t k) (-1) (x j) := by
    simp only [Finset.sum_update_of_mem (Finset.mem_univ j), Finset.sdiff_singleton_eq_erase,
      Finset.sum_erase_eq_sub (Finset.mem_univ j)]
    exact ((hasDerivAt_id' (x j)).add_const _).const_sub 1
  have h := hasDerivAt_log_div ha hb
  rw [Function.update_eq_self] at h
  refine (h (hpos i).ne' (sub_pos.mpr hs).ne').congr_deriv ?_
  rw [pdMat, Matrix.of_apply, ite_div, zero_div, neg_div, sub_neg_eq_add]

theorem prodFrom_eq (acc : ℝ) (xs : List ℝ) : prodFrom acc xs = acc * xs.prod := by
  induction xs generalizing acc with
  | nil => simp [prodFrom]
  | cons x xs ih => simp [prodFrom, ih, mul_assoc]

theorem prodL_eq (xs : List ℝ) : prodL xs = xs.prod := by
  simp [prodL, prodFrom_eq]

-- the library's `Fin.sum_univ_getElem` / `Fin.prod_univ_getElem` with the index written `xs[k]`, `k : Fin _`, as `pdEntry` has it
theorem sum_get (xs : List ℝ) : ∑ k : Fin xs.length, xs[k] = xs.sum := Fin.sum_univ_getElem xs

theorem prod_get (xs : List ℝ) : ∏ k : Fin xs.length, xs[k] = xs.prod := Fin.prod_univ_getElem xs

theorem fwdRow_ofFn {n : ℕ} (x : Fin n → ℝ) : fwdRow (List.ofFn x) = List.ofFn (fwdFn x) := by
  simp only [fwdRow, sumL_eq, List.sum_ofFn, transc_log, List.map_ofFn]
  rfl

theorem det_pdEntry (xs : List ℝ) (hx : ∀ x ∈ xs, x ≠ 0) :
    Matrix.det (Matrix.of fun i j : Fin xs.length => C02.Softmax.pdEntry xs i j) = jacRow xs := by
  have hM : (Matrix.of fun i j : Fin xs.length => C02.Softmax.pdEntry xs i j)
      = pdMat (fun k : Fin xs.length => xs[k]) := by
    ext i j
    rw [Matrix.of_apply, C02.Softmax.pdEntry, sumL_eq, ← sum_get]
    rfl
  rw [hM, det_pdMat (fun k : Fin xs.length => xs[k]) fun i => hx _ (List.getElem_mem i.isLt), sum_get, prod_get,
    jacRow, sumL_eq, prodL_eq]

theorem jacobian_of_dom {xs : List ℝ} (hd : dom xs) : jacobian xs = .ok (jacRow xs) := by
  rw [jacobian, anyNeg_false hd.1, sumTooBig_false hd.2]
  rfl

end Softmax

theorem eraseIdx_ofFn {α : Type} {n : ℕ} (f : Fin (n + 1) → α) (k : Fin (n + 1)) :
    (List.ofFn f).eraseIdx k = List.ofFn fun i => f (k.succAbove i) := by
  apply List.ext_getElem
  · have := k.isLt
    simp [List.length_eraseIdx]
    omega
  · intro i h1 h2
    simp only [List.length_ofFn] at h2
    rw [List.getElem_eraseIdx]
    split_ifs with h
    · rw [List.getElem_ofFn, List.getElem_ofFn]; congr 1
      apply Fin.ext
      rw [Fin.succAbove_of_castSucc_lt _ _ (Fin.lt_def.mpr (by simpa using h))]; rfl
    · rw [List.getElem_ofFn, List.getElem_ofFn]; congr 1
      apply Fin.ext
      rw [Fin.succAbove_of_le_castSucc _ _ (Fin.le_def.mpr (by simpa using not_lt.mp h))]; rfl

noncomputable def toL {m n : ℕ} (A : Matrix (Fin m) (Fin n) ℝ) : List (List ℝ) :=
  List.ofFn fun i => List.ofFn fun j => A i j

theorem laplaceRow_ofFn {n : ℕ} (g : ℕ → ℝ) (s : ℝ) (k : ℕ) (f : Fin n → ℝ) :
    C02.Softmax.laplaceRow g s k (List.ofFn f) = ∑ j : Fin n, s * (-1) ^ (j : ℕ) * f j * g (k + j) := by
  induction n generalizing s k with
  | zero => simp [C02.Softmax.laplaceRow]
  | succ n ih =>
    rw [List.ofFn_succ, C02.Softmax.laplaceRow, ih, Fin.sum_univ_succ]
    simp only [Fin.val_zero, pow_zero, mul_one, add_zero, Fin.val_succ]
    congr 1
    apply Finset.sum_congr rfl
    intro j _
    rw [pow_succ]
    have : k + 1 + (j : ℕ) = k + ((j : ℕ) + 1) := by ring
    rw [this]; ring

theorem detL_toL {n : ℕ} (A : Matrix (Fin n) (Fin n) ℝ) : C02.Softmax.detL n (toL A) = A.det := by
  induction n with
  | zero => simp [C02.Softmax.detL]
  | succ n ih =>
    have hL : toL A = (List.ofFn fun j => A 0 j) :: toL (fun i : Fin n => A i.succ) := by
      unfold toL; rw [List.ofFn_succ]
    rw [hL, C02.Softmax.detL, laplaceRow_ofFn, Matrix.det_succ_row_zero]
    apply Finset.sum_congr rfl
    intro j _
    have hm : (toL (fun i : Fin n => A i.succ)).map (fun row => row.eraseIdx (0 + (j : ℕ)))
        = toL (A.submatrix Fin.succ j.succAbove) := by
      unfold toL
      rw [List.map_ofFn]
      congr 1; funext i
      simp only [Function.comp, zero_add]
      rw [eraseIdx_ofFn]; rfl
    rw [hm, ih]
    ring

end HydroVerif.C02
