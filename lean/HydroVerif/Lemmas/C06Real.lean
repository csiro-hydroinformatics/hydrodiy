/-
C06 — the real numbers with `Real.sqrt` as an instance of the numeric interface of the length model
(`pathLength`, `hypot` only use `sqrt`; the other functions of the shared class `Transc` play no role in
C06 and are given placeholder values here). The instance is a plain definition (not a global instance):
the theorems that use it say so with `letI`.
-/
import HydroVerif.Lemmas.C06
import Mathlib.Analysis.Real.Sqrt

namespace HydroVerif.C06

@[reducible] noncomputable def realTransc : Transc ℝ where
  exp := fun x => x
  log := fun x => x
  sqrt := Real.sqrt
  sinh := fun x => x
  cosh := fun x => x
  tanh := fun x => x
  asinh := fun x => x
  pow := fun x _ => x

theorem realTransc_sqrt_two : realTransc.sqrt (1 + 1 : ℝ) = Real.sqrt 2 := by
  show Real.sqrt (1 + 1) = Real.sqrt 2
  norm_num

end HydroVerif.C06
