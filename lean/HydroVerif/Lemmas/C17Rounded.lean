/-
C17 — the kernels in an arithmetic that ROUNDS every result (the standard model of floating-point
arithmetic: `fl(x op y) = (x op y)(1 + δ)`, `|δ| ≤ u`, no overflow / underflow): the very same model text
instantiated at `Fl rnd`, whose `+ - *` are the exact operations of an ordered field followed by `rnd`.

The shape of the loops does not depend on the arithmetic (`Lemmas/C17Loops.lean`: accumulator `acc`, buffer shifted by
one lag, `shift`; here `nf` means "nothing overflows to NaN", not exactness).  Three statements carry the file:
* `acc_err`: forward error of an accumulator after `k` terms, factor `(1+u)^(2k) - 1` (one product and one sum per term);
* `coupled_run`: the two kernels run side by side, their lag buffers within `2((1+u)^2-1)S` of each other at every step, give
  `|residual(sim e)[t] - e[t]| ≤ 2 (1 + Σ|φ|) ((1+u)^(2p+2) - 1) S` for every order `p`, every length;
* `recursion_run`: every output misses the exact recursion (`recDefects`: exact subtraction, exact dot product) by at most
  `(1 + Σ|φ|) ((1+u)^(2p) - 1 + 2u) S`.
`S` bounds mean, innovations and the lag buffer of the rounded simulation at every step.
-/
import HydroVerif.Lemmas.C17
import HydroVerif.Model.C17Round
import HydroVerif.Lemmas.Round
import Mathlib.Algebra.Order.Field.Basic
import Mathlib.Algebra.Order.BigOperators.Group.Finset
import Mathlib.Algebra.Order.BigOperators.Ring.Finset

namespace HydroVerif.C17

open Finset

section exact
variable {F : Type} [Field F] {rnd : F → F} {p : Nat}

@[simp] theorem Fl.add_val (a b : Fl rnd) : (a + b).val = rnd (a.val + b.val) := rfl

/-- `(1+u)^2`: one product and one sum -/
def G (u : F) : F := (1 + u) ^ 2

theorem G_pow (u : F) (n : Nat) : G u ^ n = (1 + u) ^ (2 * n) := (pow_mul _ _ _).symm

/-- term `j` of the EXACT dot product of the (rounded) coefficients with real lags `w`; 0 from `p` on, so that sums may
run over `range k` -/
def tv (ps : Vector (Fl rnd) p) (w : Vector F p) (j : Nat) : F := if h : j < p then ps[j].val * w[j] else 0

/-- `Σ_{j<p} φ_j w_j` in the field, no rounding: what the accumulators are compared with (`dotF_eq_sum`: the sum of the `tv`) -/
def dotF (ps : Vector (Fl rnd) p) (w : Vector F p) : F :=
  ∑ j ∈ range p, (if h : j < p then ps[j].val * w[j] else 0)

theorem dotF_eq_sum (ps : Vector (Fl rnd) p) (w : Vector F p) : dotF ps w = ∑ j ∈ range p, tv ps w j := rfl

/-- the value of `zeroNaN e` (`zeroNaN_val`): the innovation as a field element, a missing one read as 0; it lets the
bounds speak of `e` without the `Fl` wrapper -/
def z0 : Option (Fl rnd) → F
  | none => 0
  | some x => x.val

theorem zeroNaN_val (e : Option (Fl rnd)) : (zeroNaN e).val = z0 e := by cases e <;> rfl

end exact

section rounded
variable {F : Type} [Field F] [LinearOrder F] [IsStrictOrderedRing F] {rnd : F → F} {p : Nat}

section
-- each of the three is `rfl` and mentions no order; they are stated over the ordered field of this section
-- (`Fl.add_val` stands in the section without order)
set_option linter.unusedSectionVars false
@[simp] theorem Fl.sub_val (a b : Fl rnd) : (a - b).val = rnd (a.val - b.val) := rfl
@[simp] theorem Fl.mul_val (a b : Fl rnd) : (a * b).val = rnd (a.val * b.val) := rfl
@[simp] theorem Fl.zero_val : (0 : Fl rnd).val = 0 := rfl
end

/-- the standard model of floating-point arithmetic for the rounding `rnd`: relative error at most `u` on EVERY `x`,
so neither overflow nor the subnormal range; nothing else is asked of `rnd` (not monotone, not idempotent) -/
def StdModel (rnd : F → F) (u : F) : Prop := 0 ≤ u ∧ ∀ x, |rnd x - x| ≤ u * |x|

/-- a rounding that is not the identity and meets the standard model: every result too large by the factor `1 + c` -/
theorem stdModel_inflate {c : F} (hc : 0 ≤ c) : StdModel (fun x : F => x * (1 + c)) c :=
  ⟨hc, fun x => by
    show |x * (1 + c) - x| ≤ c * |x|
    rw [mul_one_add, add_sub_cancel_left, abs_mul, abs_of_nonneg hc, mul_comm]⟩

theorem G_ge_one {u : F} (hu : 0 ≤ u) : 1 ≤ G u := one_le_pow₀ (le_add_of_nonneg_right hu)

theorem one_rounding {u : F} (h : StdModel rnd u) {x A : F} (hx : |x| ≤ A) : |rnd x - x| ≤ u * A :=
  (h.2 x).trans (mul_le_mul_of_nonneg_left hx h.1)

theorem two_roundings {u : F} (h : StdModel rnd u) {x y A : F} (hy : |y| ≤ A) (hxy : |x - y| ≤ u * A) :
    |rnd x - y| ≤ (G u - 1) * A :=
  (Round.rel_step h.1 hy hxy (h.2 x)).trans_eq (by unfold G; ring)

/-- one `tmp ± params[k]*prev[k]` with both roundings (`sgn = ±1`) -/
theorem step_err {u : F} (h : StdModel rnd u) (tmp t sgn : F) (hs : |sgn| = 1) :
    |rnd (tmp + sgn * rnd t) - (tmp + sgn * t)| ≤ (G u - 1) * (|tmp| + |t|) ∧
    |rnd (tmp + sgn * rnd t)| ≤ G u * (|tmp| + |t|) := by
  have hy : |tmp + sgn * t| ≤ |tmp| + |t| := by
    refine (abs_add_le _ _).trans_eq ?_
    rw [abs_mul, hs, one_mul]
  have hxy : |tmp + sgn * rnd t - (tmp + sgn * t)| ≤ u * (|tmp| + |t|) := by
    rw [add_sub_add_left_eq_sub, ← mul_sub, abs_mul, hs, one_mul]
    exact one_rounding h (le_add_of_nonneg_left (abs_nonneg tmp))
  have e := two_roundings h hy hxy
  exact ⟨e, (Round.abs_le_add_of_abs_sub_le hy e).trans_eq (by ring)⟩

/-- the centred value recomputed from an output, `fl(s+m) - m` (exact subtraction), is within one rounding of `s` -/
theorem recentre_err {u : F} (h : StdModel rnd u) {s m : Fl rnd} {S : F} (hs : |s.val| ≤ S) (hm : |m.val| ≤ S) :
    |(s + m).val - m.val - s.val| ≤ u * (S + S) := by
  rw [Fl.add_val, sub_sub, add_comm m.val]
  exact one_rounding h ((abs_add_le _ _).trans (add_le_add hs hm))


/-- `Σ_{j<p} |φ_j|`: the gain by which a bound on the lags becomes a bound on the dot product -/
def absSum (ps : Vector (Fl rnd) p) : F := ∑ j ∈ range p, (if h : j < p then |ps[j].val| else 0)

theorem sum_abs_tv_le (ps : Vector (Fl rnd) p) (w : Vector F p) (B : F) (hB : ∀ k (hk : k < p), |w[k]| ≤ B) :
    ∑ j ∈ range p, |tv ps w j| ≤ absSum ps * B := by
  unfold absSum
  rw [sum_mul]
  refine sum_le_sum fun j hj => ?_
  have hjp : j < p := mem_range.mp hj
  rw [tv, dif_pos hjp, dif_pos hjp, abs_mul]
  exact mul_le_mul_of_nonneg_left (hB j hjp) (abs_nonneg _)

theorem dotF_diff_le (ps : Vector (Fl rnd) p) (w w' : Vector F p) (d : F)
    (hd : ∀ k (hk : k < p), |w[k] - w'[k]| ≤ d) : |dotF ps w - dotF ps w'| ≤ absSum ps * d := by
  unfold dotF absSum
  rw [← sum_sub_distrib, sum_mul]
  refine (abs_sum_le_sum_abs _ _).trans (sum_le_sum fun j hj => ?_)
  have hjp : j < p := mem_range.mp hj
  rw [dif_pos hjp, dif_pos hjp, dif_pos hjp, ← mul_sub, abs_mul]
  exact mul_le_mul_of_nonneg_left (hd j hjp) (abs_nonneg _)


/-- the induction step of `acc_err` as algebra: `b` is the error of the first update (term `k`, giving the
rounded `sh`), `a` the error of the remaining `k` terms started from `sh` (induction hypothesis); the slack
`gk (g-1) A` is dropped -/
theorem acc_bound_step {g gk T A B a b sh : F} (hg : 1 ≤ g) (hgk : 1 ≤ gk) (hA : 0 ≤ A)
    (ha : a ≤ (gk - 1) * (sh + A)) (hsh : sh ≤ g * (T + B)) (hb : b ≤ (g - 1) * (T + B)) :
    a + b ≤ (gk * g - 1) * (T + (A + B)) :=
  calc a + b ≤ (gk - 1) * (g * (T + B) + A) + (g - 1) * (T + B) :=
        add_le_add (ha.trans (mul_le_mul_of_nonneg_left (add_le_add hsh le_rfl) (sub_nonneg.mpr hgk))) hb
    _ = (gk * g - 1) * (T + (A + B)) - gk * (g - 1) * A := by ring
    _ ≤ _ := sub_le_self _ (mul_nonneg (mul_nonneg (zero_le_one.trans hgk) (sub_nonneg.mpr hg)) hA)

theorem acc_err {u : F} (h : StdModel rnd u) (op : Fl rnd → Fl rnd → Fl rnd) (sgn : F) (hs : |sgn| = 1)
    (hop : ∀ a b : Fl rnd, (op a b).val = rnd (a.val + sgn * b.val)) (ps buf : Vector (Fl rnd) p) :
    ∀ (k : Nat) (hk : k ≤ p) (t : Fl rnd),
      |(acc op ps buf k hk t).val - (t.val + sgn * ∑ j ∈ range k, tv ps (buf.map Fl.val) j)| ≤
        (G u ^ k - 1) * (|t.val| + ∑ j ∈ range k, |tv ps (buf.map Fl.val) j|) := by
  intro k; induction k with
  | zero => intro hk t; simp [acc]
  | succ k ih =>
    intro hk t
    have htv : tv ps (buf.map Fl.val) k = ps[k].val * buf[k].val := by
      rw [tv, dif_pos (show k < p from hk), Vector.getElem_map]
    obtain ⟨e1, e2⟩ := step_err h t.val (tv ps (buf.map Fl.val) k) sgn hs
    have IH := ih (Nat.le_of_succ_le hk) (op t (ps[k] * buf[k]))
    rw [hop, Fl.mul_val, ← htv] at IH
    rw [acc, sum_range_succ, sum_range_succ, pow_succ]
    have e : ∀ a sh D tk : F,
        a - (t.val + sgn * (D + tk)) = (a - (sh + sgn * D)) + (sh - (t.val + sgn * tk)) := by
      intros; ring
    rw [e _ (rnd (t.val + sgn * rnd (tv ps (buf.map Fl.val) k)))]
    exact (abs_add_le _ _).trans (acc_bound_step (G_ge_one h.1) (one_le_pow₀ (G_ge_one h.1))
      (sum_nonneg fun j _ => abs_nonneg _) IH e2 e1)

theorem acc_err_le {u : F} (h : StdModel rnd u) (op : Fl rnd → Fl rnd → Fl rnd) (sgn : F) (hs : |sgn| = 1)
    (hop : ∀ a b : Fl rnd, (op a b).val = rnd (a.val + sgn * b.val)) (ps buf : Vector (Fl rnd) p) (t : Fl rnd)
    {T B : F} (ht : |t.val| ≤ T) (hB : ∀ k (hk : k < p), |buf[k].val| ≤ B) :
    |(acc op ps buf p (Nat.le_refl p) t).val - (t.val + sgn * dotF ps (buf.map Fl.val))| ≤
      (G u ^ p - 1) * (T + absSum ps * B) := by
  rw [dotF_eq_sum]
  exact (acc_err h op sgn hs hop ps buf p (Nat.le_refl p) t).trans (mul_le_mul_of_nonneg_left
    (add_le_add ht (sum_abs_tv_le ps _ B fun k hk => by rw [Vector.getElem_map]; exact hB k hk))
    (sub_nonneg.mpr (one_le_pow₀ (G_ge_one h.1))))

theorem accS_err {u : F} (h : StdModel rnd u) (ps buf : Vector (Fl rnd) p) (t : Fl rnd)
    {T B : F} (ht : |t.val| ≤ T) (hB : ∀ k (hk : k < p), |buf[k].val| ≤ B) :
    |(acc (· + ·) ps buf p (Nat.le_refl p) t).val - (t.val + dotF ps (buf.map Fl.val))| ≤
      (G u ^ p - 1) * (T + absSum ps * B) := by
  have := acc_err_le h (· + ·) 1 abs_one (fun a b => by rw [one_mul]; rfl) ps buf t ht hB
  rwa [one_mul] at this

theorem accR_err {u : F} (h : StdModel rnd u) (ps buf : Vector (Fl rnd) p) (t : Fl rnd)
    {T B : F} (ht : |t.val| ≤ T) (hB : ∀ k (hk : k < p), |buf[k].val| ≤ B) :
    |(acc (· - ·) ps buf p (Nat.le_refl p) t).val - (t.val - dotF ps (buf.map Fl.val))| ≤
      (G u ^ p - 1) * (T + absSum ps * B) := by
  have := acc_err_le h (· - ·) (-1) (by rw [abs_neg, abs_one])
    (fun a b => by rw [neg_one_mul, ← sub_eq_add_neg]; rfl) ps buf t ht hB
  rwa [neg_one_mul, ← sub_eq_add_neg] at this

theorem four_errors {r v0 vv s Dc Db E1 E2 E3 E4 : F} (h1 : |r - (vv - Dc)| ≤ E1) (h2 : |vv - s| ≤ E2)
    (h3 : |s - (v0 + Db)| ≤ E3) (h4 : |Dc - Db| ≤ E4) : |r - v0| ≤ E1 + E2 + E3 + E4 := by
  rw [show r - v0 = (r - (vv - Dc)) + (vv - s) + (s - (v0 + Db)) - (Dc - Db) by ring]
  exact (abs_sub _ _).trans (add_le_add ((abs_add_three _ _ _).trans (add_le_add (add_le_add h1 h2) h3)) h4)

/-- The invariant: the buffers still agree within `2(G-1)S` after a step (the residual kernel recomputes the centred value
as `fl(fl(s+m) - m)`).  The error of one residual splits into: the residual accumulator, the recomputed centred
value, the simulation accumulator, the two dot products. -/
theorem coupled_run {u : F} (h : StdModel rnd u) (ps : Vector (Fl rnd) p) (m : Fl rnd) (S : F) (hm : |m.val| ≤ S) :
    ∀ (es : List (Option (Fl rnd))) (b c : Vector (Fl rnd) p),
      (∀ k (hk : k < p), |c[k].val - b[k].val| ≤ (G u - 1) * (S + S)) →
      (∀ e ∈ es, |z0 e| ≤ S) →
      (∀ n k (hk : k < p), |(simBuf nf ps b (es.take n))[k].val| ≤ S) →
      ∀ (t : Nat) (r : Fl rnd) (e : Option (Fl rnd)),
        (resRun nf ps m c ((simRun nf ps m b es).map some))[t]? = some r → es[t]? = some e →
        |r.val - z0 e| ≤ 2 * (1 + absSum ps) * (G u ^ (p + 1) - 1) * S := by
  intro es; induction es with
  | nil => intro b c _ _ _ t r e _ he; simp at he
  | cons e0 es ih =>
    intro b c hinv he hbuf t r e hr het
    rw [simRun_cons_acc, List.map_cons, resRun_cons_acc] at hr
    have hv0 : |(zeroNaN e0).val| ≤ S := by
      rw [zeroNaN_val]; exact he e0 List.mem_cons_self
    obtain ⟨hb0, hs, hbuf'⟩ := simBuf_forall_cons (fun x : Fl rnd => |x.val| ≤ S) ps b e0 es hv0 hbuf
    have hE3 := accS_err h ps b (zeroNaN e0) hv0 hb0
    generalize acc (· + ·) ps b p (Nat.le_refl p) (zeroNaN e0) = s at hr hs hbuf' hE3
    have hvv : |((s + m) - m).val - s.val| ≤ (G u - 1) * (S + S) :=
      two_roundings h (hs.trans (le_add_of_nonneg_right ((abs_nonneg _).trans hm))) (recentre_err h hs hm)
    cases t with
    | zero =>
      simp only [List.getElem?_cons_zero, Option.some.injEq] at hr het
      subst hr; subst het
      rw [← zeroNaN_val]
      exact (four_errors
        (accR_err h ps c _ (Round.abs_le_add_of_abs_sub_le hs hvv) fun k hk => Round.abs_le_add_of_abs_sub_le (hb0 k hk) (hinv k hk)) hvv hE3
        (dotF_diff_le ps _ _ _ fun k hk => by rw [Vector.getElem_map, Vector.getElem_map]; exact hinv k hk)).trans_eq
        (by rw [pow_succ]; ring)
    | succ t =>
      simp only [List.getElem?_cons_succ] at hr het
      exact ih _ _ (shift_forall₂ (fun x y : Fl rnd => |x.val - y.val| ≤ (G u - 1) * (S + S)) hvv hinv)
        (fun e h => he e (List.mem_cons_of_mem _ h)) hbuf' t r e hr het


/-- by how much each output misses the exact recursion `y[t]-m = Σ_k φ_k (y[t-k]-m) + e[t]`, the lags before
the start of the series being `w` (exact subtraction, exact dot product) -/
def recDefects (ps : Vector (Fl rnd) p) (m : F) : Vector F p → List F → List F → List F
  | w, e :: es, y :: ys => ((y - m) - (dotF ps w + e)) :: recDefects ps m (shift (y - m) w) es ys
  | _, _, _ => []

/-- the exact lags `w` the defects are measured against stay within one rounding (`2uS`) of the lag buffer -/
theorem recursion_run {u : F} (h : StdModel rnd u) (ps : Vector (Fl rnd) p) (m : Fl rnd) (S : F) (hm : |m.val| ≤ S) :
    ∀ (es : List (Option (Fl rnd))) (b : Vector (Fl rnd) p) (w : Vector F p),
      (∀ k (hk : k < p), |w[k] - b[k].val| ≤ u * (S + S)) →
      (∀ e ∈ es, |z0 e| ≤ S) →
      (∀ n k (hk : k < p), |(simBuf nf ps b (es.take n))[k].val| ≤ S) →
      ∀ d ∈ recDefects ps m.val w (es.map z0) ((simRun nf ps m b es).map Fl.val),
        |d| ≤ (1 + absSum ps) * (G u ^ p - 1 + 2 * u) * S := by
  intro es; induction es with
  | nil => intro b w _ _ _ d hd; simp [recDefects] at hd
  | cons e0 es ih =>
    intro b w hinv he hbuf d hd
    rw [simRun_cons_acc, List.map_cons, List.map_cons, recDefects] at hd
    have hv0 : |(zeroNaN e0).val| ≤ S := by
      rw [zeroNaN_val]; exact he e0 List.mem_cons_self
    obtain ⟨hb0, hs, hbuf'⟩ := simBuf_forall_cons (fun x : Fl rnd => |x.val| ≤ S) ps b e0 es hv0 hbuf
    have hE3 := accS_err h ps b (zeroNaN e0) hv0 hb0
    generalize acc (· + ·) ps b p (Nat.le_refl p) (zeroNaN e0) = s at hd hs hbuf' hE3
    have hy := recentre_err h hs hm
    rcases List.mem_cons.mp hd with rfl | hd
    · rw [← zeroNaN_val, sub_add_eq_sub_sub]
      have hE4 : |dotF ps w - dotF ps (b.map Fl.val)| ≤ absSum ps * (u * (S + S)) :=
        dotF_diff_le ps _ _ _ fun k hk => by rw [Vector.getElem_map]; exact hinv k hk
      exact (four_errors (E1 := 0) (by rw [sub_self, abs_zero]) hy hE3 hE4).trans_eq (by ring)
    · exact ih _ _ (shift_forall₂ (fun (x : F) (y : Fl rnd) => |x - y.val| ≤ u * (S + S)) hy hinv)
        (fun e h => he e (List.mem_cons_of_mem _ h)) hbuf' d hd

end rounded

end HydroVerif.C17
