/- C20 — latin hypercube sampling: `linspace`, the stratum of a sample, one column of `lhs` in closed form, the list-wise
input and output predicates `LhsInputsOK`, `OnePerStratum` and their form on the constant ranges of `lhs_norm` -/
import HydroVerif.Model.C20X
import HydroVerif.Lemmas.C20List
import HydroVerif.Lemmas.Ordered
import Mathlib.Algebra.Order.Field.Basic
import Mathlib.Tactic.Ring
import Mathlib.Data.List.Nodup


namespace HydroVerif.C20

section
variable {α : Type} [Field α]

theorem linspace_length (a b : α) (k : Nat) : (linspace a b k).length = k := by
  match k with
  | 0 => rfl
  | 1 => rfl
  | m + 2 => simp [linspace]

variable [LinearOrder α] [IsStrictOrderedRing α]

theorem linspace_mem_Icc (a b : α) (hab : a ≤ b) (k : Nat) : ∀ q ∈ linspace a b k, a ≤ q ∧ q ≤ b := by
  match k with
  | 0 => simp [linspace]
  | 1 => simp [linspace, hab]
  | m + 2 =>
    intro q hq
    simp only [linspace, List.mem_append, List.mem_map, List.mem_range, List.mem_singleton] at hq
    rcases hq with ⟨i, hi, rfl⟩ | rfl
    · -- the point of the segment from `a` to `b` at the parameter `i / (m + 1)`
      have hm : (0 : α) < ((m + 1 : Nat) : α) := Nat.cast_pos.mpr (Nat.succ_pos m)
      rw [show (i : α) * ((b - a) / ((m + 1 : Nat) : α)) + a = a + (i : α) / ((m + 1 : Nat) : α) * (b - a) by ring]
      exact Ordered.lerp_mem ⟨le_rfl, hab⟩ ⟨hab, le_rfl⟩ (div_nonneg (Nat.cast_nonneg i) hm.le)
        ((div_le_one hm).mpr (Nat.cast_le.mpr hi.le))
    · exact ⟨hab, le_rfl⟩

theorem linspace_getElem? (a step : α) (n k : Nat) (hk : k < n) :
    (linspace a (a + ((n : α) - 1) * step) n)[k]? = some (a + (k : α) * step) := by
  match n, hk with
  | 1, hk =>
    obtain rfl : k = 0 := by omega
    simp [linspace]
  | m + 2, hk =>
    have hm1 : ((m + 1 : Nat) : α) ≠ 0 := Nat.cast_ne_zero.mpr (Nat.succ_ne_zero m)
    have hs : (a + (((m + 2 : Nat) : α) - 1) * step - a) / ((m + 1 : Nat) : α) = step := by
      rw [div_eq_iff hm1]; push_cast; ring
    simp only [linspace, hs]
    rcases Nat.lt_succ_iff_lt_or_eq.mp hk with hlast | rfl
    · rw [List.getElem?_append_left (by simpa using hlast), List.getElem?_map, List.getElem?_range hlast,
        Option.map_some, add_comm]
    · rw [List.getElem?_append_right (by simp)]
      simp only [List.length_map, List.length_range, Nat.sub_self, List.getElem?_cons_zero]
      push_cast
      ring_nf

/-- the one idea of `lhs`: the sample `pmin + (p + r) du` with `r ∈ [0, 1)` lies in stratum `k` exactly when `p = k` -/
theorem stratum_iff (pmin du : α) (hdu : 0 < du) (p k : Nat) (r : α) (hr0 : 0 ≤ r) (hr1 : r < 1) :
    (pmin + (k : α) * du ≤ pmin + ((p : α) + r) * du ∧ pmin + ((p : α) + r) * du < pmin + ((k : α) + 1) * du)
      ↔ p = k := by
  rw [add_le_add_iff_left, add_lt_add_iff_left, mul_le_mul_iff_of_pos_right hdu, mul_lt_mul_iff_of_pos_right hdu]
  constructor
  · rintro ⟨h1, h2⟩
    have a : k < p + 1 := by exact_mod_cast lt_of_le_of_lt h1 ((add_lt_add_iff_left _).mpr hr1)
    have b : p < k + 1 := by exact_mod_cast lt_of_le_of_lt (le_add_of_nonneg_right hr0) h2
    omega
  · rintro rfl
    exact ⟨le_add_of_nonneg_right hr0, (add_lt_add_iff_left _).mpr hr1⟩

/-- hence stratum `k` receives as many samples as `k` occurs in `perm` (once, for a permutation) -/
theorem countP_zipWith_stratum (pmin du : α) (hdu : 0 < du) (k : Nat) (perm : List Nat) (r : List α)
    (hr : ∀ x ∈ r, 0 ≤ x ∧ x < 1) (hlen : perm.length = r.length) :
    (List.zipWith (fun (p : Nat) ri => pmin + ((p : α) + ri) * du) perm r).countP
      (fun x => decide (pmin + (k : α) * du ≤ x ∧ x < pmin + ((k : α) + 1) * du)) = perm.count k := by
  induction perm generalizing r with
  | nil => simp
  | cons p t ih =>
    cases r with
    | nil => simp at hlen
    | cons ri rt =>
      obtain ⟨hri, hrt⟩ := List.forall_mem_cons.mp hr
      simp only [List.zipWith_cons_cons, List.countP_cons, List.count_cons, ih rt hrt (Nat.succ.inj hlen),
        stratum_iff pmin du hdu p k ri hri.1 hri.2, beq_iff_eq, decide_eq_true_eq]

/-- stratum centre plus jitter in closed form: sample `i` is `pmin + (perm[i] + r[i]) du`, `du = (pmax - pmin) / n` -/
theorem lhsColumn_eq (n : Nat) (pmin pmax : α) (perm : List Nat) (r : List α)
    (hp : perm.length = n) (hr : r.length = n) (hk : ∀ k ∈ perm, k < n) :
    lhsColumn n pmin pmax perm r =
      .ok (List.zipWith (fun (p : Nat) ri => pmin + ((p : α) + ri) * ((pmax - pmin) / (n : α))) perm r) := by
  -- `n du = pmax - pmin` needs `n ≠ 0`, which is known only when there is an index `k < n`: hence under `k ∈ perm`
  have hdu : ∀ k ∈ perm, (n : α) * ((pmax - pmin) / (n : α)) = pmax - pmin := fun k hk' =>
    mul_div_cancel₀ _ (Nat.cast_ne_zero.mpr (Nat.ne_zero_of_lt (hk k hk')))
  unfold lhsColumn
  simp only [hp, hr, ne_eq, not_true_eq_false, or_self, if_false]
  generalize (pmax - pmin) / (n : α) = du at hdu ⊢
  -- the stratum centres: `linspace(pmin + du/2, pmax - du/2, n)[k] = pmin + du/2 + k du`
  rw [gather_eq_some _ (fun k => pmin + du / 2 + (k : α) * du) perm fun k hk' => by
    rw [show pmax - du / 2 = pmin + du / 2 + ((n : α) - 1) * du by rw [sub_mul, hdu k hk']; ring]
    exact linspace_getElem? _ du n k (hk k hk')]
  simp only [List.zipWith_map_left]
  congr
  funext p ri
  ring

end

section
variable {α : Type} [Field α] [LinearOrder α]

/-- what `lhs` needs of its inputs, parameter by parameter: a proper range, a permutation of `0..n-1`
and `n` unit draws in `[0, 1)` -/
def LhsInputsOK (n : Nat) : List α → List α → List (List Nat) → List (List α) → Prop
  | a :: pmin, b :: pmax, p :: perms, r :: rs =>
    a < b ∧ p.Perm (List.range n) ∧ r.length = n ∧ (∀ x ∈ r, 0 ≤ x ∧ x < 1) ∧ LhsInputsOK n pmin pmax perms rs
  | [], [], [], [] => True
  | _, _, _, _ => False

/-- every column has `n` samples, exactly one in each of the `n` equal strata of its range -/
def OnePerStratum (n : Nat) : List α → List α → List (List α) → Prop
  | a :: pmin, b :: pmax, c :: cols =>
    c.length = n ∧
    (∀ k, k < n → c.countP (fun x => decide (a + (k : α) * ((b - a) / (n : α)) ≤ x ∧
                                            x < a + ((k : α) + 1) * ((b - a) / (n : α)))) = 1) ∧
    OnePerStratum n pmin pmax cols
  | [], [], [] => True
  | _, _, _ => False

theorem LhsInputsOK.length_eq {n : Nat} {pmin pmax : List α} {perms : List (List Nat)} {rs : List (List α)}
    (h : LhsInputsOK n pmin pmax perms rs) : pmax.length = pmin.length := by
  fun_induction LhsInputsOK n pmin pmax perms rs with
  | case1 a pmin b pmax p perms r rs ih => simp [ih h.2.2.2.2]
  | case2 => rfl
  | case3 => exact h.elim

theorem LhsInputsOK_replicate (n m : Nat) (a b : α) (hab : a < b) (perms : List (List Nat)) (rs : List (List α))
    (hp : perms.length = m) (hr : rs.length = m) (hperm : ∀ p ∈ perms, p.Perm (List.range n))
    (hdraw : ∀ r ∈ rs, r.length = n ∧ ∀ x ∈ r, 0 ≤ x ∧ x < 1) :
    LhsInputsOK n (List.replicate m a) (List.replicate m b) perms rs := by
  induction m generalizing perms rs with
  | zero =>
    obtain rfl := List.eq_nil_of_length_eq_zero hp
    obtain rfl := List.eq_nil_of_length_eq_zero hr
    trivial
  | succ m ih =>
    match perms, rs, hp, hr, hperm, hdraw with
    | p :: tp, r :: tr, hp, hr, hperm, hdraw =>
      obtain ⟨hp1, hp2⟩ := List.forall_mem_cons.mp hperm
      obtain ⟨hr1, hr2⟩ := List.forall_mem_cons.mp hdraw
      exact ⟨hab, hp1, hr1.1, hr1.2, ih tp tr (Nat.succ.inj hp) (Nat.succ.inj hr) hp2 hr2⟩

theorem OnePerStratum_replicate (n m : Nat) (a b : α) (cols : List (List α))
    (h : OnePerStratum n (List.replicate m a) (List.replicate m b) cols) :
    cols.length = m ∧ ∀ c ∈ cols, c.length = n ∧
      ∀ k, k < n → c.countP (fun x => decide (a + (k : α) * ((b - a) / (n : α)) ≤ x ∧
                                              x < a + ((k : α) + 1) * ((b - a) / (n : α)))) = 1 := by
  induction m generalizing cols with
  | zero =>
    match cols, h with
    | [], _ => simp
  | succ m ih =>
    match cols, h with
    | c :: cs, ⟨hl, hc, hrest⟩ =>
      obtain ⟨ihl, ihc⟩ := ih cs hrest
      exact ⟨by simp [ihl], List.forall_mem_cons.mpr ⟨⟨hl, hc⟩, ihc⟩⟩

variable [IsStrictOrderedRing α]

theorem LhsInputsOK.no_empty_range {n : Nat} {pmin pmax : List α} {perms : List (List Nat)} {rs : List (List α)}
    (h : LhsInputsOK n pmin pmax perms rs) :
    (List.zipWith (fun a b => decide (b - a ≤ 0)) pmin pmax).any id = false := by
  fun_induction LhsInputsOK n pmin pmax perms rs with
  | case1 a pmin b pmax p perms r rs ih =>
    simp only [List.zipWith_cons_cons, List.any_cons, ih h.2.2.2.2, Bool.or_false, id, decide_eq_false_iff_not,
      not_le, sub_pos]
    exact h.1
  | case2 => rfl
  | case3 => exact h.elim

end

end HydroVerif.C20
