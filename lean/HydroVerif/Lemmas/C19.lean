/-
C19 — lemmas behind `Props/C19.lean`: the closed form of numpy's `array_split` arithmetic, python dictionaries as
association lists (`dictSet`, `dictOf`), the anchored patterns of `find` on plain values, the loops of `find`,
`SiteBatch.search` and `from_cartesian_product`, what one `step` of a history can touch, the inputs of the `example`s.
The general statements the property theorems are read off: `arraySplitAt_eq`, `flatten_slices`, `getBatch_guards`,
`fillOptions_append`, `findLoop_of_ok`, `step_frame`.
-/
import HydroVerif.Model.C19
import HydroVerif.Lemmas.Assoc
import HydroVerif.Lemmas.AllSome
import HydroVerif.Lemmas.History
import Std.Data.String.ToInt
import Mathlib.Data.List.Range
import Mathlib.Data.List.Nodup
import Mathlib.Data.List.Basic
import Mathlib.Algebra.BigOperators.Group.List.Basic

namespace HydroVerif.C19

/-! ### batches: the closed form `bstart` / `bsize` and numpy's `array_split` arithmetic (`arraySplitAt_eq`, `flatten_slices`) -/

theorem batch_eq_range' (n k i : Nat) : batch n k i = List.range' (bstart n k i) (bsize n k i) := by
  unfold batch
  rw [List.range_eq_range', List.map_add_range']
  simp

theorem bstart_succ (n k i : Nat) : bstart n k (i+1) = bstart n k i + bsize n k i := by
  unfold bstart bsize
  rw [Nat.succ_mul]
  split <;> rename_i h
  · rw [Nat.min_eq_left h, Nat.min_eq_left (Nat.le_of_lt h)]; exact Nat.add_add_add_comm _ _ i 1
  · rw [Nat.min_eq_right (Nat.le_of_not_lt h), Nat.min_eq_right (Nat.le_succ_of_le (Nat.le_of_not_lt h))]
    exact Nat.add_right_comm ..

theorem bstart_zero (n k : Nat) : bstart n k 0 = 0 := by
  rw [bstart, Nat.zero_mul, Nat.zero_min]

theorem bstart_last (n k : Nat) (hk : 0 < k) : bstart n k k = n := by
  unfold bstart
  rw [Nat.min_eq_right (Nat.le_of_lt (Nat.mod_lt _ hk))]
  exact Nat.div_add_mod n k

theorem bstart_mono (n k : Nat) {i j : Nat} (h : i ≤ j) : bstart n k i ≤ bstart n k j :=
  Nat.add_le_add (Nat.mul_le_mul_right _ h) (Nat.le_min.mpr ⟨Nat.le_trans (Nat.min_le_left ..) h, Nat.min_le_right ..⟩)

theorem bstart_add_bsize_le (n k i : Nat) (hk : 0 < k) (hi : i < k) : bstart n k i + bsize n k i ≤ n := by
  rw [← bstart_succ]
  exact (bstart_mono n k hi).trans_eq (bstart_last n k hk)

theorem cumsum_length (acc : Nat) (l : List Nat) : (cumsum acc l).length = l.length + 1 := by
  induction l generalizing acc with
  | nil => rfl
  | cons a t ih => rw [cumsum, List.length_cons, ih, List.length_cons]

theorem cumsum_getElem? (acc : Nat) (l : List Nat) (i : Nat) (hi : i ≤ l.length) :
    (cumsum acc l)[i]? = some (acc + (l.take i).sum) := by
  induction l generalizing acc i with
  | nil => rw [Nat.le_zero.mp hi]; rfl
  | cons a t ih =>
    cases i with
    | zero => rfl
    | succ i =>
      rw [cumsum, List.getElem?_cons_succ, ih _ _ (Nat.le_of_succ_le_succ hi), List.take_succ_cons, List.sum_cons,
        Nat.add_assoc]

theorem cumsum_map_range' (f g : Nat → Nat) (h : ∀ i, f (i + 1) = f i + g i) (s k : Nat) :
    cumsum (f s) ((List.range' s k).map g) = (List.range' s (k + 1)).map f := by
  induction k generalizing s with
  | zero => rfl
  | succ k ih => rw [List.range'_succ, List.map_cons, cumsum, ← h, ih, List.range'_succ (n := k + 1), List.map_cons]

theorem sectionSizes_eq_map (n k : Nat) (hk : 0 < k) : sectionSizes n k = (List.range k).map (bsize n k) := by
  have hr := Nat.le_of_lt (Nat.mod_lt n hk)
  unfold sectionSizes bsize
  generalize n % k = r at *
  obtain ⟨d, rfl⟩ := Nat.exists_eq_add_of_le hr
  rw [Nat.add_sub_cancel_left, List.range_add, List.map_append, List.map_map]
  congr 1
  · rw [List.map_congr_left fun i hi => by rw [if_pos (List.mem_range.mp hi)], List.map_const', List.length_range]
  · rw [List.map_congr_left fun i _ => by
      rw [Function.comp_apply, if_neg (Nat.not_lt.mpr (Nat.le_add_right r i)), Nat.add_zero],
      List.map_const', List.length_range]

/-- the division points telescope: each is the previous one plus a section size (`bstart_succ`) -/
theorem divPoints_eq_map (n k : Nat) (hk : 0 < k) : divPoints n k = (List.range (k + 1)).map (bstart n k) := by
  have h := cumsum_map_range' (bstart n k) (bsize n k) (bstart_succ n k) 0 k
  rw [bstart_zero] at h
  rw [divPoints, sectionSizes_eq_map n k hk, List.range_eq_range', List.range_eq_range']
  exact h

theorem divPoints_getElem? (n k i : Nat) (hk : 0 < k) (hi : i ≤ k) :
    (divPoints n k)[i]? = some (bstart n k i) := by
  rw [divPoints_eq_map n k hk, List.getElem?_map, List.getElem?_range (Nat.lt_succ_of_le hi)]
  rfl

theorem arraySplitAt_eq {α : Type} (l : List α) (k i : Nat) (hk : 0 < k) (hi : i < k) :
    arraySplitAt l k i = some ((l.drop (bstart l.length k i)).take (bsize l.length k i)) := by
  rw [arraySplitAt, if_neg (Nat.ne_of_gt hk), if_neg (Nat.not_le.mpr hi)]
  simp only [divPoints_getElem? _ _ _ hk (Nat.le_of_lt hi), divPoints_getElem? _ _ _ hk hi]
  rw [slice, bstart_succ, Nat.add_sub_cancel_left]

theorem arraySplitAt_range (n k i : Nat) (hk : 0 < k) (hi : i < k) :
    arraySplitAt (List.range n) k i = some (batch n k i) := by
  rw [arraySplitAt_eq _ _ _ hk hi, batch_eq_range', List.length_range, List.range_eq_range', List.drop_range',
    Nat.mul_one, Nat.zero_add,
    List.take_range'_of_length_ge (Nat.le_sub_of_add_le' (bstart_add_bsize_le n k i hk hi))]

theorem length_slice {α : Type} (l : List α) (k i : Nat) (hk : 0 < k) (hi : i < k) :
    ((l.drop (bstart l.length k i)).take (bsize l.length k i)).length = bsize l.length k i := by
  rw [List.length_take, List.length_drop]
  exact Nat.min_eq_left (Nat.le_sub_of_add_le' (bstart_add_bsize_le l.length k i hk hi))

theorem flatten_slices {α : Type} (l : List α) (k j : Nat) :
    ((List.range j).map fun i => (l.drop (bstart l.length k i)).take (bsize l.length k i)).flatten
      = l.take (bstart l.length k j) := by
  induction j with
  | zero => rw [bstart_zero]; rfl
  | succ j ih =>
    rw [List.range_succ, List.map_append, List.flatten_append, ih, bstart_succ, List.take_add]
    simp

/-! ### `get_batch`: the guards -/

theorem length_batch (n k i : Nat) : (batch n k i).length = bsize n k i := by
  rw [batch, List.length_map, List.length_range]

theorem getBatch_guards (n k i : Int) : (1 ≤ k ∧ k ≤ n ∧ 0 ≤ i ∧ i < k) ↔ ¬ (n < 1 ∨ n < k ∨ i < 0 ∨ k ≤ i) := by
  omega

theorem getBatch_natCast (n k i : Nat) (hi : i < k) (hkn : k ≤ n) : getBatch n k i = .ok (batch n k i) := by
  have h1 : ¬ (n : Int) < 1 := Int.not_lt.mpr (Int.ofNat_le.mpr (Nat.le_trans (Nat.zero_lt_of_lt hi) hkn))
  have h2 : ¬ (n : Int) < k := Int.not_lt.mpr (Int.ofNat_le.mpr hkn)
  have h3 : ¬ ((i : Int) < 0 ∨ (i : Int) ≥ k) :=
    not_or.mpr ⟨Int.not_lt.mpr (Int.natCast_nonneg i), Int.not_le.mpr (Int.ofNat_lt.mpr hi)⟩
  rw [getBatch, if_neg h1, if_neg h2, if_neg h3]
  simp only [Int.toNat_natCast]
  rw [arraySplitAt_range n k i (Nat.zero_lt_of_lt hi) hi]

/-! ### `allSome`, `nunique` -/

theorem allSome_map_some {α} (l : List α) : allSome (l.map some) = some l :=
  AllSome.map_some rfl (fun _ => rfl) (fun _ _ => rfl) l

theorem allSome_eq_some_iff {α} (l : List (Option α)) (r : List α) : allSome l = some r ↔ l = r.map some :=
  AllSome.eq_some_iff rfl (fun _ => rfl) fun _ _ => rfl

theorem allSome_map {α β} (l : List α) (f : α → Option β) (g : α → β) (h : ∀ a ∈ l, f a = some (g a)) :
    allSome (l.map f) = some (l.map g) := by
  rw [List.map_congr_left h, show (fun a => some (g a)) = some ∘ g from rfl, ← List.map_map]
  exact allSome_map_some _

theorem allSome_mapIdx {α β : Type} (l : List α) (f : Nat → α → β) (g : β → Option α) (h : ∀ i a, g (f i a) = some a) :
    allSome ((l.mapIdx f).map g) = some l := by
  rw [List.mapIdx_eq_zipIdx_map, List.map_map, allSome_map _ _ (·.1) fun p _ => h p.2 p.1, List.zipIdx_map_fst]

theorem nunique_le {α : Type} [DecidableEq α] (l : List α) : nunique l ≤ l.length := by
  induction l with
  | nil => exact Nat.le_refl 0
  | cons a t ih =>
    rw [nunique, List.length_cons]
    split
    · exact Nat.le_succ_of_le ih
    · exact Nat.succ_le_succ ih

theorem nunique_eq_length_iff {α : Type} [DecidableEq α] (l : List α) : nunique l = l.length ↔ l.Nodup := by
  induction l with
  | nil => simp [nunique]
  | cons a t ih =>
    have := nunique_le t
    rw [nunique, List.length_cons, List.nodup_cons, ← ih]
    split <;> rename_i h
    · exact ⟨fun h' => absurd (h' ▸ this) (Nat.not_succ_le_self _), fun h' => absurd h h'.1⟩
    · exact ⟨fun h' => ⟨h, Nat.succ.inj h'⟩, fun h' => congrArg (· + 1) h'.2⟩

/-! ### `SiteBatch`: fancy indexing and the search loop -/

theorem gather_range' {α : Type} (ids : List α) (st sz : Nat) (h : st + sz ≤ ids.length) :
    gather ids (List.range' st sz) = some ((ids.drop st).take sz) := by
  rw [gather, allSome_eq_some_iff]
  induction sz generalizing st with
  | zero => rfl
  | succ sz ih =>
    have hst : st < ids.length := Nat.lt_of_lt_of_le (Nat.lt_add_of_pos_right (Nat.succ_pos sz)) h
    rw [List.range'_succ, List.map_cons, List.drop_eq_getElem_cons hst, List.take_succ_cons, List.map_cons,
      List.getElem?_eq_getElem hst, ih (st + 1) ((Nat.add_right_comm st 1 sz).trans_le h)]

theorem getElem_mem_gather {α : Type} (ids : List α) (hn : ids.Nodup) (idx : List Nat) (items : List α)
    (hg : gather ids idx = some items) (s : Nat) (hs : s < ids.length) : ids[s] ∈ items ↔ s ∈ idx := by
  rw [gather, allSome_eq_some_iff] at hg
  rw [← List.mem_map_of_injective fun _ _ => Option.some.inj, ← hg, List.mem_map]
  constructor
  · rintro ⟨j, hj, e⟩
    obtain ⟨_, e'⟩ := List.getElem?_eq_some_iff.mp e
    exact (hn.getElem_inj_iff.mp e') ▸ hj
  · exact fun h => ⟨s, h, List.getElem?_eq_getElem hs⟩

theorem gather_batch {α : Type} (ids : List α) (k i : Nat) (hk : 0 < k) (hi : i < k) :
    gather ids (batch ids.length k i) = some ((ids.drop (bstart ids.length k i)).take (bsize ids.length k i)) := by
  rw [batch_eq_range']
  exact gather_range' _ _ _ (bstart_add_bsize_le _ _ _ hk hi)

theorem SiteBatch.searchLoop_eq_find {α : Type} [BEq α] (sb : SiteBatch α) (id : α) (p : Nat → Bool) (L : List Nat)
    (h : ∀ i ∈ L, ∃ s, sb.getItem (i : Nat) = .ok s ∧ s.contains id = p i) :
    sb.searchLoop id L = .ok (L.find? p) := by
  induction L with
  | nil => rfl
  | cons i rest ih =>
    obtain ⟨⟨s, hs, hp⟩, h2⟩ := List.forall_mem_cons.mp h
    rw [SiteBatch.searchLoop, hs, List.find?_cons]
    simp only [hp]
    cases p i
    · exact ih h2
    · rfl

/-! ### dictionaries (`dictSet` is `Assoc.upsert`, `dictOf` a dict literal) -/

/-- the overwriting branch keeps the key it found, which is the key given: `dictSet` is the assignment of `Lemmas/Assoc.lean` -/
theorem dictSet_eq {β : Type} (d : List (String × β)) (k : String) (v : β) : dictSet d k v = Assoc.upsert d k v := by
  rw [dictSet, Assoc.upsert]
  congr 1
  exact List.map_congr_left fun e _ => by split <;> rename_i h <;> [rw [beq_iff_eq.mp h]; rfl]

theorem dictSet_nodup {β : Type} (d : List (String × β)) (k : String) (v : β) (h : (d.map (·.1)).Nodup) :
    ((dictSet d k v).map (·.1)).Nodup :=
  dictSet_eq d k v ▸ Assoc.upsert_nodup d k v h

theorem lookup_dictSet {β : Type} (d : List (String × β)) (k k' : String) (v : β) :
    (dictSet d k v).lookup k' = if k' = k then some v else d.lookup k' := by
  rw [dictSet_eq, Assoc.lookup_upsert]
  simp only [beq_iff_eq]

theorem dictOf_concat {β : Type} (kvs : List (String × β)) (kv : String × β) :
    dictOf (kvs ++ [kv]) = dictSet (dictOf kvs) kv.1 kv.2 := by
  rw [dictOf, List.foldl_append]; rfl

theorem dictOf_nodup {β : Type} (kvs : List (String × β)) : ((dictOf kvs).map (·.1)).Nodup := by
  induction kvs using List.reverseRecOn with
  | nil => exact List.nodup_nil
  | append_singleton l kv ih => rw [dictOf_concat]; exact dictSet_nodup _ _ _ ih

theorem dictOf_eq_self {β : Type} (kvs : List (String × β)) (h : (kvs.map (·.1)).Nodup) : dictOf kvs = kvs := by
  rw [dictOf, funext₂ fun acc (kv : String × β) => dictSet_eq acc kv.1 kv.2,
    Assoc.foldl_upsert_fresh kvs [] (by simpa using h)]
  rfl

/-- a dict literal / `**kwargs`: the last entry given for a key is the one kept -/
theorem lookup_dictOf {β : Type} (kvs : List (String × β)) (k : String) :
    (dictOf kvs).lookup k = kvs.reverse.lookup k := by
  induction kvs using List.reverseRecOn with
  | nil => rfl
  | append_singleton l kv ih =>
    obtain ⟨k1, v1⟩ := kv
    rw [dictOf_concat, lookup_dictSet, ih, List.reverse_append, List.reverse_singleton, List.singleton_append,
      List.lookup_cons]
    by_cases h : k = k1
    · rw [if_pos h, beq_iff_eq.mpr h]
    · rw [if_neg h, beq_eq_false_iff_ne.mpr h]

theorem lookup_all_refl {β : Type} [BEq β] [LawfulBEq β] (d : List (String × β))
    (h : (d.map (·.1)).Nodup) : (d.all fun kv => d.lookup kv.1 == some kv.2) = true :=
  List.all_eq_true.mpr fun kv hkv => beq_iff_eq.mpr (Assoc.lookup_of_mem_nodup d kv.1 kv.2 hkv h)

theorem lookup_zip_nodup {β : Type} (keys : List String) (c : List β) (hn : keys.Nodup) (j : Nat) (hj : j < keys.length) :
    (keys.zip c).lookup keys[j] = c[j]? := by
  induction keys generalizing c j with
  | nil => cases hj
  | cons k ks ih =>
    cases c with
    | nil => rfl
    | cons v vs =>
      cases j with
      | zero => exact List.lookup_cons_self
      | succ j =>
        have hne : (ks[j]'(Nat.lt_of_succ_lt_succ hj) == k) = false :=
          beq_eq_false_iff_ne.mpr fun h => (List.nodup_cons.mp hn).1 (h ▸ List.getElem_mem _)
        rw [List.zip_cons_cons, List.getElem_cons_succ, List.lookup_cons, hne, List.getElem?_cons_succ]
        exact ih vs (List.nodup_cons.mp hn).2 j _

/-! ### values and the anchored patterns of `find` -/

theorem matchLit_refl (p : List Char) : matchLit p p = true := by
  induction p with
  | nil => rfl
  | cons c t ih => simp [matchLit, ih]

theorem matchLit_literal (p s : List Char) (h : '.' ∉ p) : matchLit p s = true ↔ p = s := by
  induction p generalizing s with
  | nil => cases s <;> simp [matchLit]
  | cons c t ih =>
    cases s with
    | nil => simp [matchLit]
    | cons d u =>
      have hc : (c == '.') = false := beq_eq_false_iff_ne.mpr fun e => h (e ▸ List.mem_cons_self)
      simp only [matchLit, hc, Bool.false_or, Bool.and_eq_true, beq_iff_eq, List.cons.injEq]
      rw [ih u (fun hm => h (List.mem_cons_of_mem _ hm))]

theorem reStrip_id (s : String) (h : ∀ c ∈ s.toList, c ≠ '[' ∧ c ≠ ']') : reStrip s = s := by
  unfold reStrip
  rw [List.filter_eq_self.mpr, String.ofList_toList]
  intro c hc
  have := h c hc
  simp [this.1, this.2]

theorem plain_iff (v : Val) : v.plain = true ↔ ∀ c ∈ v.toStr.toList, c ≠ '.' ∧ c ≠ '[' ∧ c ≠ ']' := by
  unfold Val.plain
  rw [List.all_eq_true]
  apply forall₂_congr
  intro c _
  simp [and_assoc]

theorem valMatch_plain (v tv : Val) (hv : v.plain = true) (ht : tv.plain = true) :
    valMatch v tv = true ↔ v.toStr = tv.toStr := by
  rw [plain_iff] at hv ht
  unfold valMatch
  rw [reStrip_id _ (fun c hc => (hv c hc).2), reStrip_id _ (fun c hc => (ht c hc).2),
    matchLit_literal _ _ (fun hm => (hv '.' hm).1 rfl)]
  exact String.toList_inj

theorem nat_repr_chars (m : Nat) (c : Char) (h : c ∈ (Nat.repr m).toList) : c.isDigit = true := by
  unfold Nat.repr at h
  rw [String.toList_ofList] at h
  exact Nat.isDigit_of_mem_toDigits (by decide) (by decide) h

/-- python `str(i)`: digits, after a `-` for a negative integer -/
theorem int_repr_chars (i : Int) (c : Char) (h : c ∈ (Int.repr i).toList) : c.isDigit = true ∨ c = '-' := by
  cases i with
  | ofNat m => exact .inl (nat_repr_chars m c h)
  | negSucc m =>
    simp only [Int.repr, String.toList_append, List.mem_append] at h
    exact h.symm.imp (nat_repr_chars _ c) (by simp)

theorem int_plain (i : Int) : (Val.int i).plain = true := by
  rw [plain_iff]
  intro c hc
  rcases int_repr_chars i c hc with h | rfl
  · have not_digit : ∀ d : Char, d.isDigit = false → c ≠ d := fun d hd hc => by rw [hc, hd] at h; cases h
    exact ⟨not_digit '.' rfl, not_digit '[' rfl, not_digit ']' rfl⟩
  · decide

theorem alpha_not_digit (c : Char) (h : c.isAlpha = true) : c.isDigit = false := by
  simp only [Char.isAlpha, Char.isUpper, Char.isLower, Char.isDigit, Bool.or_eq_true, Bool.and_eq_true,
    decide_eq_true_eq, Bool.and_eq_false_iff, decide_eq_false_iff_not, UInt32.le_iff_toNat_le, Char.reduceVal,
    UInt32.reduceToNat] at h ⊢
  omega

theorem toStr_inj_int_str (i : Int) (s : String) (hs : s.toList.any Char.isAlpha = true) :
    (Val.int i).toStr ≠ (Val.str s).toStr := by
  intro h
  obtain ⟨c, hc, ha⟩ := List.any_eq_true.mp hs
  rcases int_repr_chars i c (show c ∈ (Val.int i).toStr.toList from h ▸ hc) with hd | rfl
  · rw [alpha_not_digit c ha] at hd; cases hd
  · revert ha; decide

theorem quant_cases (v : Val) (h : v.quant = true) :
    (∃ i, v = .int i) ∨ ∃ s, v = .str s ∧ s.toList.any Char.isAlpha = true ∧ (Val.str s).plain = true := by
  cases v with
  | int i => exact .inl ⟨i, rfl⟩
  | str s =>
    exact .inr ⟨s, rfl, Bool.and_eq_true_iff.mp h⟩
  | flt r => cases h
  | other r => cases h

theorem quant_plain (v : Val) (h : v.quant = true) : v.plain = true := by
  rcases quant_cases v h with ⟨i, rfl⟩ | ⟨s, rfl, _, hp⟩
  · exact int_plain i
  · exact hp

/-! ### the loops of `find` (`findLoop_of_ok`, `critMatch_ok`) -/

/-- what `critMatch` answers when none of its assertions fails (`critMatch_ok`) -/
def critHolds (crit : List (String × Val)) (t : Dict) : Bool :=
  crit.all fun kv => match t.lookup kv.1 with | some tv => valMatch kv.2 tv | none => false

theorem critHolds_iff (crit : List (String × Val)) (t : Dict) :
    critHolds crit t = true ↔ ∀ kv ∈ crit, ∃ tv, t.lookup kv.1 = some tv ∧ valMatch kv.2 tv = true := by
  unfold critHolds
  rw [List.all_eq_true]
  refine forall₂_congr fun kv _ => ?_
  cases t.lookup kv.1 with
  | none => exact ⟨nofun, nofun⟩
  | some tv => exact ⟨fun h => ⟨tv, rfl, h⟩, fun ⟨_, h, hv⟩ => Option.some.inj h ▸ hv⟩

theorem critMatch_ok (options : List (String × List Val)) (t : Dict) (crit : List (String × Val))
    (ho : ∀ kv ∈ crit, (options.lookup kv.1).isSome) (ht : ∀ kv ∈ crit, (t.lookup kv.1).isSome) :
    critMatch options t crit = .ok (critHolds crit t) := by
  induction crit with
  | nil => rfl
  | cons kv rest ih =>
    obtain ⟨k, v⟩ := kv
    obtain ⟨ho1, ho2⟩ := List.forall_mem_cons.mp ho
    obtain ⟨ht1, ht2⟩ := List.forall_mem_cons.mp ht
    obtain ⟨ov, hov⟩ : ∃ ov, options.lookup k = some ov := Option.isSome_iff_exists.mp ho1
    obtain ⟨tv, htv⟩ : ∃ tv, t.lookup k = some tv := Option.isSome_iff_exists.mp ht1
    rw [critMatch, hov, htv, ih ho2 ht2]
    simp only [critHolds, List.all_cons, htv]
    rfl

theorem critMatch_unknown (options : List (String × List Val)) (t : Dict) (crit : List (String × Val))
    (h : ∃ kv ∈ crit, options.lookup kv.1 = none) : ∃ e, critMatch options t crit = .error e := by
  induction crit with
  | nil => obtain ⟨_, h, _⟩ := h; cases h
  | cons kv rest ih =>
    obtain ⟨k, v⟩ := kv
    rw [critMatch]
    split
    · exact ⟨_, rfl⟩
    · rename_i hk
      split
      · exact ⟨_, rfl⟩
      · obtain ⟨kv', hkv', hn⟩ := h
        rcases List.mem_cons.mp hkv' with rfl | hin
        · rw [hn] at hk; exact absurd rfl hk
        · obtain ⟨e, he⟩ := ih ⟨kv', hin, hn⟩
          rw [he]; exact ⟨_, rfl⟩

theorem findLoop_of_ok (options : List (String × List Val)) (crit : List (String × Val)) (f : Dict → Bool)
    (ts : List Dict) (id : Nat) (h : ∀ t ∈ ts, critMatch options t crit = .ok (f t)) :
    findLoop options crit ts id = .ok (((ts.zipIdx id).filter fun p => f p.1).map (·.2)) := by
  induction ts generalizing id with
  | nil => rfl
  | cons t rest ih =>
    obtain ⟨h1, h2⟩ := List.forall_mem_cons.mp h
    rw [findLoop, h1, ih _ h2, List.zipIdx_cons, List.filter_cons]
    cases f t <;> rfl

/-! ### `from_cartesian_product`: the product, and reading the arguments (`fillOptions_append`) -/

theorem getElem?_flatMap_of_length {α β : Type} (f : α → List β) (n : Nat) (hf : ∀ x, (f x).length = n)
    (l : List α) (a b : Nat) (hb : b < n) : (l.flatMap f)[a * n + b]? = l[a]?.bind fun x => (f x)[b]? := by
  induction l generalizing a with
  | nil => rfl
  | cons x l ih =>
    rw [List.flatMap_cons]
    cases a with
    | zero => rw [Nat.zero_mul, Nat.zero_add, List.getElem?_append_left (by rw [hf]; exact hb)]; rfl
    | succ a =>
      rw [Nat.succ_mul, Nat.add_right_comm, List.getElem?_append_right (by rw [hf]; exact Nat.le_add_left ..),
        hf, Nat.add_sub_cancel, ih]
      rfl

theorem product_length_of_mem (ls : List (List Val)) (c : List Val) (h : c ∈ product ls) : c.length = ls.length := by
  induction ls generalizing c with
  | nil => cases List.mem_singleton.mp h; rfl
  | cons vs rest ih =>
    simp only [product, List.mem_flatMap, List.mem_map] at h
    obtain ⟨v, _, c', hc', rfl⟩ := h
    rw [List.length_cons, ih c' hc', List.length_cons]

theorem tasksOf_keys (opts : List (String × List Val)) (t : Dict) (h : t ∈ tasksOf opts) : t.map (·.1) = opts.map (·.1) := by
  obtain ⟨c, hc, rfl⟩ := List.mem_map.mp h
  have hl := product_length_of_mem _ _ hc
  rw [List.length_map] at hl
  exact List.map_fst_zip (by rw [List.length_map, hl])

theorem zip_product_snd (opts : List (String × List Val)) (c : List Val) (hc : c ∈ product (opts.map (·.2))) :
    ((opts.map (·.1)).zip c).map (·.2) = c :=
  List.map_snd_zip (by rw [product_length_of_mem _ _ hc, List.length_map, List.length_map])

theorem fillOptions_snd (args : List (String × OptArg)) (acc : List (String × List Val)) :
    (fillOptions args acc).2 = args.all (·.2.toList?.isSome) := by
  induction args generalizing acc with
  | nil => rfl
  | cons kv rest ih =>
    obtain ⟨k, a⟩ := kv
    rw [fillOptions, List.all_cons]
    cases a.toList? with
    | none => rfl
    | some vs => exact ih _

/-- reading a prefix of arguments that are all iterable (`lists` holds their values) is folding `dictSet` over its (key, list)
pairs, whatever follows: the one lemma behind `cartesian_accepts`, `cartesian_rejects` and `step_cartesian_rejected` -/
theorem fillOptions_append (pre post : List (String × OptArg)) (lists : List (List Val)) (acc : List (String × List Val))
    (h : pre.map (·.2.toList?) = lists.map some) :
    fillOptions (pre ++ post) acc
      = fillOptions post (((pre.map (·.1)).zip lists).foldl (fun acc kv => dictSet acc kv.1 kv.2) acc) := by
  induction pre generalizing lists acc with
  | nil => rw [List.map_eq_nil_iff.mp h.symm]; rfl
  | cons kv rest ih =>
    obtain ⟨l, ls, rfl, h1, h2⟩ := List.map_eq_cons_iff.mp h.symm
    obtain ⟨k, a⟩ := kv
    rw [List.cons_append, fillOptions, ← show some l = a.toList? from h1]
    exact ih ls _ h2.symm

theorem cartesian_snd (m : Manager) (args : List (String × OptArg)) : (m.cartesian args).2 = (fillOptions args []).2 := by
  unfold Manager.cartesian
  split <;> rename_i h <;> rw [h]

theorem fillOptions_nodup (args : List (String × OptArg)) (acc : List (String × List Val)) (h : (acc.map (·.1)).Nodup) :
    (((fillOptions args acc).1).map (·.1)).Nodup := by
  induction args generalizing acc with
  | nil => exact h
  | cons kv rest ih =>
    obtain ⟨k, a⟩ := kv
    rw [fillOptions]
    cases a.toList? with
    | none => exact h
    | some vs => exact ih _ (dictSet_nodup acc k vs h)

theorem getTask_natCast (m : Manager) (i : Nat) :
    getTask m i = (m.tasks[i]?).map fun o => ⟨i, m.context, o⟩ := by
  unfold getTask
  simp only [Int.toNat_natCast]
  by_cases hi : i < m.tasks.length
  · rw [if_pos ⟨Int.natCast_nonneg i, Int.ofNat_lt.mpr hi⟩, List.getElem?_eq_getElem hi]; rfl
  · rw [if_neg fun h => hi (Int.ofNat_lt.mp h.2), List.getElem?_eq_none (Nat.le_of_not_lt hi)]; rfl

/-! ### histories: what one `step` can touch (`step_frame`), invariants of a run -/

theorem KeyNames.set_isSome_iff (kn : KeyNames) (key name : String) :
    (kn.set key name).isSome ↔ key = "context_name" ∨ key = "task_options_name" ∨ key = "manager_options_name" := by
  simp only [KeyNames.set, apply_ite Option.isSome, Option.isSome_some, Option.isSome_none, Bool.if_true_left,
    Bool.or_eq_true, decide_eq_true_eq, Bool.if_false_right, Bool.and_true]

theorem trace : History.PairTrace step run := .of_eqns (fun _ => rfl) fun _ _ _ => rfl

theorem run_append (w : World) (a b : List Op) :
    run w (a ++ b) = ((run (run w a).1 b).1, (run w a).2 ++ (run (run w a).1 b).2) :=
  trace.run_append w a b

/-- unique keys everywhere: what python dictionaries guarantee -/
def Manager.Inv (m : Manager) : Prop :=
  (m.context.map (·.1)).Nodup ∧ (m.options.map (·.1)).Nodup ∧ ∀ t ∈ m.tasks, (t.map (·.1)).Nodup

theorem cartesian_inv (m : Manager) (args : List (String × OptArg)) (h : m.Inv) : (m.cartesian args).1.Inv := by
  unfold Manager.cartesian
  have hn := fillOptions_nodup args [] List.nodup_nil
  cases hfo : fillOptions args [] with
  | mk opts ok =>
    rw [hfo] at hn
    cases ok with
    | true => exact ⟨h.1, hn, fun t ht => (tasksOf_keys opts t ht) ▸ hn⟩
    | false => exact ⟨h.1, hn, h.2.2⟩

theorem step_frame (w : World) (op : Op) :
    ((step w op).1.mgr = w.mgr ∨ ∃ args, op = .cartesian args ∧ (step w op).1.mgr = (w.mgr.cartesian args).1) ∧
    ((step w op).1.files = w.files ∨
      ∃ path ow, op = .save path ow ∧ (step w op).1.files = dictSet w.files path (toDict w.kn w.mgr)) ∧
    ((∀ k n, op ≠ .setKey k n) → op ≠ .resetKeys → op ≠ .exp → (step w op).1.kn = w.kn ∧ (step w op).1.reg = w.reg) := by
  cases op with
  | setKey key name => rw [step]; split <;> exact ⟨.inl rfl, .inl rfl, fun h _ _ => absurd rfl (h key name)⟩
  | resetKeys => exact ⟨.inl rfl, .inl rfl, fun _ h _ => absurd rfl h⟩
  | exp => exact ⟨.inl rfl, .inl rfl, fun _ _ h => absurd rfl h⟩
  | cartesian args =>
    rw [step]
    split <;> rename_i h <;> exact ⟨.inr ⟨args, rfl, by rw [h]⟩, .inl rfl, fun _ _ _ => ⟨rfl, rfl⟩⟩
  | save path ow =>
    rw [step]
    split
    · exact ⟨.inl rfl, .inl rfl, fun _ _ _ => ⟨rfl, rfl⟩⟩
    · exact ⟨.inl rfl, .inr ⟨path, ow, rfl, rfl⟩, fun _ _ _ => ⟨rfl, rfl⟩⟩
  | _ => exact ⟨.inl rfl, .inl rfl, fun _ _ _ => ⟨rfl, rfl⟩⟩

theorem step_mgr_cases (w : World) (op : Op) :
    (step w op).1.mgr = w.mgr ∨ ∃ args, op = .cartesian args ∧ (step w op).1.mgr = (w.mgr.cartesian args).1 :=
  (step_frame w op).1

theorem run_imp_outputs (reads : List Op) (hreads : ∀ op ∈ reads, (∀ k n, op ≠ .setKey k n) ∧ op ≠ .resetKeys ∧ op ≠ .exp)
    (w : World) : ∀ p ∈ reads.zip (run w reads).2, p.1 = .imp → p.2 = readDoc w.kn w.reg := by
  induction reads generalizing w with
  | nil => intro p hp; cases hp
  | cons op rest ih =>
    obtain ⟨⟨h2, h3, h4⟩, hrest⟩ := List.forall_mem_cons.mp hreads
    intro p hp himp
    rcases List.mem_cons.mp hp with rfl | hp
    · subst himp; rfl
    · obtain ⟨e1, e2⟩ := (step_frame w op).2.2 h2 h3 h4
      rw [← e1, ← e2]
      exact ih hrest _ p hp himp

theorem run_inv (w : World) (ops : List Op) (h : w.mgr.Inv) : (run w ops).1.mgr.Inv :=
  trace.preserves (·.mgr.Inv) (fun w op _ h => by
    rcases step_mgr_cases w op with h1 | ⟨args, _, h1⟩
    · rwa [h1]
    · exact h1 ▸ cartesian_inv _ _ h) h

theorem run_mgr_of_no_cartesian (w : World) (ops : List Op) (h : ∀ op ∈ ops, ∀ a, op ≠ .cartesian a) :
    (run w ops).1.mgr = w.mgr := by
  refine trace.preserves (·.mgr = w.mgr) (fun w' op hop hp => ?_) rfl
  rcases step_mgr_cases w' op with h1 | ⟨args, h2, _⟩
  · exact h1.trans hp
  · exact absurd h2 (h op hop args)

/-! ### the inputs of the `example`s -/

def exArgs : List (String × OptArg) := [("month", .many [.int 1, .int 10, .str "all"]), ("model", .bare (.str "gr4j")), ("k", .many [.int 1, .int 2])]

def exLists : List (List Val) := [[.int 1, .int 10, .str "all"], [.str "gr4j"], [.int 1, .int 2]]

/-- a history with a regenerated grid, a rejected grid, renamed keys, a dictionary read twice (before and after json) and files -/
def exOps : List Op :=
  [.cartesian exArgs, .find [("month", .int 1)], .exp, .imp, .jsn, .imp,
   .cartesian [("a", .many [.int 3, .int 4])], .imp, .getTask 1, .setKey "context_name" "ctx", .setKey "nokey" "zz",
   .save "f1" false, .cartesian [("a", .many [.int 5]), ("b", .notIterable)], .save "f1" false, .load "f1", .load "f2",
   .find [("a", .int 5)], .getTask 9]

end HydroVerif.C19
