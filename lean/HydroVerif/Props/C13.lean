/-
C13 — property theorems. Model: `HydroVerif/Model/C13.lean`.

Clause → theorems → what remains outside (every model function named below runs in `Drivers/C13.lean` and is compared
with the real code by `harness/c13.py`; the op is given in brackets)

| clause of the property                                        | theorems (all shapes, all words, all histories)               | outside the theorems |
|---------------------------------------------------------------|----------------------------------------------------------------|----------------------|
| saved to BIL + header and loaded back: identical shape,       | `header_roundtrip`, `header_dtype_table`, `load_file`,         | float text: `IOok`, `NodataPrintable` are hypotheses about  |
| georeferencing, dtype, no-data value [save, load, files]      | `load_saveData`, `fromStream_file`, `save_load`,               | CPython/numpy (`external_text_statement`), checked directly |
|                                                               | `save_fromHeader_files` (file names: `save(dir/stem.bil)`,     | on all float16 and random float32/64 words; `tofile`,       |
|                                                               | `from_header` on either file), `save_fromZip_files`,           | `fromfile`, zipfile, the file system (end-to-end oracle)    |
|                                                               | `save_name_guard_too_weak`                                     |                                                             |
| … bit-identical cell values, every supported type             | `decode_encode`, `fromfile_encode`, `clipWord_id` (integer AND | the order of two floats is read off the bit patterns (no    |
| (full range, NaN/inf) [save, load, setdata, run]              | float bounds), `clipWord_word`, `clipData_default`,            | rounding); which zero `np.maximum(-0.0, 0.0)` returns is    |
|                                                               | `setData_id`, `load_file`, `save_load`,                        | platform dependent (never generated)                        |
|                                                               | `clipWord_inf_needs_infinite_bounds` (why the default bounds   |                                                             |
|                                                               | must be infinite)                                              |                                                             |
| … rasters of either byte order [savebo, load]                 | `fromStream_file` (bo = I, M), `decode_little_encode_big_iff`  | a grid object itself is always native: `M` only on files    |
| exported to a dictionary and rebuilt: shape, georef, dtype,   | `dtypeOfStr_dtypeStr`, `nodataWord_text`, `dict_roundtrip`,    | numpy scalar construction from text (same `NumIO`)          |
| no-data value [todict, fromdict, fromdictp]                   | `fromDictP_full`, `fromDictP_defaults`                         |                                                             |
| cloned: identical, bit-identical cells [clone, cloneas]       | `clone_eq`, `cloneAs_same`                                     | `copy.deepcopy` itself (clone is the identity on the record)|
| clones are independent of the original [store, storeas,       | `clone_independent`, `cloneAs_independent`,                    | metadata attributes of two Python objects (scalars/strings):|
| store3]                                                       | `handles_independent` (any number of clones, any history,      | oracle only                                                 |
|                                                               | rejected assignments included: `store_setData_rejected`)       |                                                             |
| catchment rebuilt from its dictionary: same outlet, inlets    | `catchToDict_ok_iff`, `catchment_dict_roundtrip`,              | delineation itself (C06); the flow-direction DATA are not   |
| (present or None), areas [catch, crun]                        | `catchment_history`, `delineate_step`                          | in the dictionary (by design of the code)                   |
| clipped grid holds exactly the parent's values at coinciding  | `clip_parent_values`, `clip_wellformed`, `clip_of_clip`        | exact coincidence of the cell CENTRES and which cell a      |
| cell centres, boxes with both corners in the extent [clip]    | (exact arithmetic); `clip_block_any_arithmetic` (ANY           | corner within an ulp of an edge falls in: exact arithmetic   |
|                                                               | arithmetic, IEEE included: the clip IS a block of the parent,  | only (correspondence at Float + centre oracle)               |
|                                                               | bit-identical), `clip_succeeds_monotone` (monotone rounding),  |                                                             |
|                                                               | `floor_offset_monotone`                                        |                                                             |
| histories: save → edit → save → load; load → edit → to_dict;  | `edits_preserve_gridOK`, `save_load_after_edits`,              | re-assignment of `dtype`, `nrows`, `ncols` (not in the      |
| attribute re-assignment between exports; ANY sequence of      | `dict_after_edits`; state machine over `List Op`:              | quantifier)                                                  |
| public mutators, accepted or REJECTED [edits, run, getitem]   | `stateOK_of_default`, `mutators_keep_invariant`,               |                                                             |
|                                                               | `rejected_call_leaves_state`, `data_assignment_cases`,         |                                                             |
|                                                               | `save_load_after_history`, `dict_after_history`, `opWF_int`,   |                                                             |
|                                                               | `item_write_then_read`; closure under the constructors:        |                                                             |
|                                                               | `loaded_grid_is_grid`, `clipped_grid_is_grid`,                 |                                                             |
|                                                               | `history_from_files`, `history_from_clip`                      |                                                             |
| (diagnostic) the pinned code's float64 detour                 | `roundF64_small` + example                                     |                                                             |

Hypotheses the property text does not state, and where they come from: `IOok` / `NodataPrintable` / `OpWF` for float values
(external: numpy's printer, reader and scalar constructors; discharged for the integer types: `external_text_partial`,
`opWF_int`); `AboveLo` / `BelowHi` of `clipWord_id` (needed: `clipWord_inf_needs_infinite_bounds`; discharged for the default
bounds: `clipData_default`); `stem ≠ []` and the dot of `.bil` in `save_fromHeader_files` (needed: `save_name_guard_too_weak`);
`x0 ≤ x1`, `y0 ≤ y1`, `0 < csz` of the clip theorems (corners in the wrong order give an error or an empty grid: probed by the
harness, `clip/swapped_corners`); `StateOK` (established for a loaded grid by `loaded_grid_is_grid` and for a clipped one by
`clipped_grid_is_grid`, from `GridOK` and default bounds by `stateOK_of_default`; no closure theorem for `from_dict`; kept by every
mutator).
-/
import HydroVerif.Lemmas.C13Header
import HydroVerif.Lemmas.C13Clip
import HydroVerif.Lemmas.C13Examples
import HydroVerif.Lemmas.C13Machine
import HydroVerif.Lemmas.C13Files
import HydroVerif.Lemmas.C13ClipAny
import HydroVerif.Lemmas.C13Closure

namespace HydroVerif.C13

/-- the dtype string written by `to_dict` is read back by `from_dict` as the same type, for the 11 supported types -/
theorem dtypeOfStr_dtypeStr : ∀ t ∈ allDTypes, dtypeOfStr (dtypeStr t) = some (.little, t) := by
  decide +kernel

/-- `allDTypes` is exactly the set of supported types -/
theorem supported_iff_mem (t : DType) : t.supported = true ↔ t ∈ allDTypes := by
  constructor
  · obtain ⟨k, b⟩ := t
    intro h
    cases k <;> simp only [DType.supported, Bool.or_eq_true, beq_iff_eq] at h
    all_goals rcases h with ((rfl | rfl) | rfl) | rfl <;> decide
  · revert t; decide

/-- **header type table**: for each of the 11 supported types, the dtype name is recognised by `save`
(`signedint / unsignedint / float`), the PIXELTYPE value written is read back as that pixel type, and the string
`from_stream` hands to `np.dtype` — byte-order character, regex-reduced pixel type, `NBITS // 8` — resolves to the
same type with the byte order of the header letter, for `I` and for `M` -/
theorem header_dtype_table : ∀ t ∈ allDTypes,
    pixelTypeOfName (stripTrailingDigits (dtypeName t)) = some (pixOf t.kind) ∧
    lower (strip (joinSp (splitRunsAux true (upper (pixOf t.kind) ++ ['\n'])))) = pixOf t.kind ∧
    dtypeOfStr ('<' :: (pixelSub (pixOf t.kind) ++ intStr (Int.fdiv ((t.bytes * 8 : Nat) : Int) 8))) = some (.little, t) ∧
    dtypeOfStr ('>' :: (pixelSub (pixOf t.kind) ++ intStr (Int.fdiv ((t.bytes * 8 : Nat) : Int) 8))) = some (.big, t) := by
  decide +kernel

/-- a word written in a byte order and read in the same byte order is unchanged -/
theorem decode_encode (bo : ByteOrder) (n w : Nat) (h : w < 256 ^ n) : decode bo (encode bo n w) = w := by
  cases bo
  · exact decodeLE_encodeLE n w h
  · show decodeLE (encodeLE n w).reverse.reverse = w
    rw [List.reverse_reverse, decodeLE_encodeLE n w h]

/-- reading big-endian bytes as little-endian returns the word only when its byte string is a palindrome:
the byte order of the header must be honoured -/
theorem decode_little_encode_big_iff (n w : Nat) (h : w < 256 ^ n) :
    decode .little (encode .big n w) = w ↔ (encodeLE n w).reverse = encodeLE n w := by
  simp only [decode, encode]
  constructor
  · intro hd
    apply decodeLE_injective (by simp)
    rw [hd, decodeLE_encodeLE n w h]
  · intro hp
    rw [hp, decodeLE_encodeLE n w h]

/-- `np.fromfile` with byte order `bo` recovers the words of a file that stores them in byte order `bo` -/
theorem fromfile_encode (bo : ByteOrder) (t : DType) (ht : 0 < t.bytes) (ws : List Nat)
    (hw : ∀ w ∈ ws, w < wordBound t) :
    fromfile bo t (ws.flatMap (encode bo t.bytes)) = ws := by
  unfold fromfile
  rw [List.flatMap_def, chunks_flatten t.bytes ht]
  · rw [List.map_map]
    exact (List.map_congr_left fun w hwm => decode_encode bo t.bytes w (hw w hwm)).trans (List.map_id _)
  · intro b hb
    obtain ⟨w, _, rfl⟩ := List.mem_map.mp hb
    cases bo <;> simp [encode, encodeLE_length]


/-- `_clipdata` followed by `astype` leaves every value inside `[mindata, maxdata]` bit-identical, for the integer
AND the float types: an infinite bound (`none`, or a float bound set to `±inf` / NaN) constrains nothing, a NaN value
passes, and the order is the integer order resp. the order of float values read off the bit patterns
(`AboveLo`, `BelowHi`) -/
theorem clipWord_id (t : DType) (lo hi : Option Int) (w : Nat) (hw : w < wordBound t)
    (hlo : ∀ l, lo = some l → AboveLo t l w) (hhi : ∀ h, hi = some h → BelowHi t h w) :
    clipWord t lo hi w = w := by
  unfold clipWord
  cases hk : t.kind <;> simp only
  case float => rw [clipLoF_id hk hlo, clipHiF_id hk hhi]
  all_goals
    cases lo with
    | none =>
      cases hi with
      | none => simp
      | some h =>
        have := hhi h rfl
        simp only [BelowHi, hk] at this
        simp only [Option.isNone_none, Option.isNone_some, Bool.and_false, Bool.false_eq_true, if_false]
        rw [if_neg (by omega)]
        exact ofInt_toInt t w hw
    | some l =>
      have h1 := hlo l rfl
      simp only [AboveLo, hk] at h1
      simp only [Option.isNone_some, Bool.false_and, Bool.false_eq_true, if_false]
      rw [if_neg (by omega)]
      cases hi with
      | none => exact ofInt_toInt t w hw
      | some h =>
        have := hhi h rfl
        simp only [BelowHi, hk] at this
        simp only
        rw [if_neg (by omega)]
        exact ofInt_toInt t w hw

/-- whatever the bounds, `_clipdata` returns a word of the grid's dtype (for the float types a bound is a bit pattern
of the dtype: `BoundsOK`, kept by the `mindata / maxdata` setters, see `mutators_keep_invariant`) -/
theorem clipWord_word (t : DType) (lo hi : Option Int) (w : Nat) (hw : w < wordBound t) (hb : BoundsOK t lo hi) :
    clipWord t lo hi w < wordBound t :=
  clipWord_lt t lo hi w hw hb

/-- **the default bounds must be infinite** (the hypotheses `AboveLo / BelowHi` of `clipWord_id` cannot be dropped):
with the finite limits of the type as bounds (`np.finfo(t).min / max`) `_clipdata` turns `+inf` into the largest and
`-inf` into the lowest finite value — for float16, float32 and float64 — while every NaN and every finite value pass -/
theorem clipWord_inf_needs_infinite_bounds :
    clipWord ⟨.float, 2⟩ (some 0xfbff) (some 0x7bff) 0x7c00 = 0x7bff ∧
    clipWord ⟨.float, 2⟩ (some 0xfbff) (some 0x7bff) 0xfc00 = 0xfbff ∧
    clipWord ⟨.float, 4⟩ (some 0xff7fffff) (some 0x7f7fffff) 0x7f800000 = 0x7f7fffff ∧
    clipWord ⟨.float, 4⟩ (some 0xff7fffff) (some 0x7f7fffff) 0xff800000 = 0xff7fffff ∧
    clipWord ⟨.float, 8⟩ (some 0xffefffffffffffff) (some 0x7fefffffffffffff) 0x7ff0000000000000 = 0x7fefffffffffffff ∧
    clipWord ⟨.float, 8⟩ (some 0xffefffffffffffff) (some 0x7fefffffffffffff) 0xfff0000000000000 = 0xffefffffffffffff ∧
    clipWord ⟨.float, 4⟩ (some 0xff7fffff) (some 0x7f7fffff) 0x7fc00123 = 0x7fc00123 ∧
    clipWord ⟨.float, 4⟩ none none 0x7f800000 = 0x7f800000 := by
  decide +kernel

/-- with the default bounds the whole array goes through unchanged, whatever the values (NaN, inf, 2^63-1 …) -/
theorem clipData_default (t : DType) (rows : List (List Nat)) : clipData t none none rows = rows :=
  clipData_default' t rows

/-- the data setter keeps an array of the right shape bit-identical (default bounds) -/
theorem setData_id {ν : Type} (g : Grid ν) (rows : List (List Nat)) (hb : g.lo = none ∧ g.hi = none)
    (hr : (rows.length : Int) = g.nrows) (hc : ∀ r ∈ rows, (r.length : Int) = g.ncols) :
    setData g rows = .ok { g with data := rows } :=
  setData_id' g rows hb hr hc

/-- the detour through float64 that the data setter and `load` took at the pinned commit is the identity on integers
below 2^53 in magnitude only … -/
theorem roundF64_small (n : Int) (h : n.natAbs < 2 ^ 53) : roundF64 n = n := by
  unfold roundF64
  have hl : Nat.log2 n.natAbs + 1 - 53 = 0 := by
    by_cases h0 : n.natAbs = 0
    · rw [h0]; simp [Nat.log2]
    · have := (Nat.log2_lt h0).mpr h
      omega
  simp only [hl, pow_zero, Nat.div_one, Nat.mod_one, Nat.mul_zero, Nat.mul_one]
  have : ¬ (0 > 1 ∨ (0 = 1 ∧ n.natAbs % 2 = 1)) := by omega
  rw [if_neg this]
  split <;> omega

/-- … and loses the low bits above (the defect repaired by the `fix:` commit): 2^62+1 ↦ 2^62 -/
example : roundF64 (2 ^ 62 + 1) = 2 ^ 62 ∧ roundF64 (2 ^ 53 + 1) = 2 ^ 53 ∧ roundF64 (2 ^ 53 + 3) = 2 ^ 53 + 4 ∧
    roundF64 (-(2 ^ 62 + 1)) = -(2 ^ 62) := by
  decide +kernel

/-- **load**: a file that stores `rows` row by row in byte order `bo` is loaded, with that byte order, to exactly
`rows` — for every dtype with a positive item size, every shape and every word (full range, NaN, inf) -/
theorem load_file {ν : Type} (g : Grid ν) (bo : ByteOrder) (rows : List (List Nat))
    (ht : 0 < g.dtype.bytes) (hb : g.lo = none ∧ g.hi = none)
    (h0 : 0 ≤ g.ncols)
    (hr : (rows.length : Int) = g.nrows) (hc : ∀ r ∈ rows, (r.length : Int) = g.ncols)
    (hw : ∀ r ∈ rows, ∀ w ∈ r, w < wordBound g.dtype) :
    load g bo (rows.flatten.flatMap (encode bo g.dtype.bytes)) = .ok { g with data := rows } := by
  unfold load
  have hc' : ∀ r ∈ rows, r.length = g.ncols.toNat := by
    intro r hrm
    have := hc r hrm
    omega
  rw [fromfile_encode bo g.dtype ht rows.flatten (by
    intro w hwm
    obtain ⟨r, hrm, hwr⟩ := List.mem_flatten.mp hwm
    exact hw r hrm w hwr)]
  have hlen : (rows.flatten.length : Int) = g.nrows * g.ncols := by
    rw [length_flatten_uniform g.ncols.toNat rows hc', ← hr]
    push_cast
    rw [Int.toNat_of_nonneg h0]
  simp only [hlen, ne_eq, not_true_eq_false, if_false]
  have hn : g.nrows.toNat = rows.length := by omega
  rw [hn, reshape_flatten g.ncols.toNat rows hc', hb.1, hb.2, clipData_default]

/-- **save then load**: the bytes written by `tofile` are loaded back (byte order `I`) to the same words -/
theorem load_saveData {ν : Type} (g : Grid ν) (ht : 0 < g.dtype.bytes) (hb : g.lo = none ∧ g.hi = none)
    (h0 : 0 ≤ g.ncols) (hr : (g.data.length : Int) = g.nrows) (hc : ∀ r ∈ g.data, (r.length : Int) = g.ncols)
    (hw : ∀ r ∈ g.data, ∀ w ∈ r, w < wordBound g.dtype) :
    load g .little (saveData g.dtype g.data) = .ok g :=
  load_file g .little g.data ht hb h0 hr hc hw


/-- **header round trip** (`parse (write g) = meta g`): for every supported dtype, either byte-order letter, every
shape, any georeferencing numbers, any no-data value, ANY name and comment (line breaks included: `save` writes
them as blanks) and any parent attributes, the text written by `Grid.save` is split into the same lines, every line is accepted, and `from_stream` builds
a grid with the same shape, corner, cell size, dtype, byte order and no-data word (fresh zero data, default
bounds). External facts used: `float(str(x)) = x` and "`str(x)` has no white space" (`IOok`), and for float
no-data values `NodataPrintable`. -/
theorem header_roundtrip {ν : Type} (io : NumIO ν) (hio : IOok io) (bo : ByteOrder) (g : Grid ν) (hg : HeaderOK io g)
    (d : Str) :
    ∃ h, writeHeaderBO io bo g = .ok h ∧ ∃ c hi,
      parseLines io (Config.init io d) (readlines h) = .ok c ∧ finishConfig io c = .ok hi ∧
      hi.byteorder = bo ∧ hi.grid.nrows = g.nrows ∧ hi.grid.ncols = g.ncols ∧
      hi.grid.xll = g.xll ∧ hi.grid.yll = g.yll ∧ hi.grid.csz = g.csz ∧ hi.grid.dtype = g.dtype ∧
      hi.grid.nodata = g.nodata ∧ hi.grid.lo = none ∧ hi.grid.hi = none ∧
      hi.grid.data = zeros g.nrows.toNat g.ncols.toNat := by
  obtain ⟨hpix, hpixline, hdtL, hdtB⟩ := header_dtype_table g.dtype hg.supported
  unfold writeHeaderBO
  rw [hpix]
  refine ⟨_, rfl, ?_⟩
  simp only [List.append_assoc]
  have hcomment : NoNL (if oneLine g.comment = [] then "No comment".toList else oneLine g.comment) := by
    split
    · decide +kernel
    · exact oneLine_noNL _
  have hparent : ∀ a ∈ parentAttrs, ∀ v, lookup g.parent a = some v → NoNL (v.str io) := by
    intro a ha v hl
    cases v with
    | int n => exact (intStr_noSpace n).noNL
    | num x => exact (hio.showF_token x).noNL
    | text t => exact hg.parent_text a ha t hl
  obtain ⟨nv, e9, hnv, hnvnl⟩ := nodata_line io g.dtype g.nodata hg.nodata_lt hg.nodata_printable
  -- line by line: each written line is read back as one line, classified by its key and filed in the configuration
  obtain ⟨kNROWS, kNCOLS, kXLL, kYLL, kCSZ, kNBITS, kPIX, kBO, kNAME, kCOMMENT⟩ := headerKeys_ok
  rw [parseLines_int io kNROWS, parseLines_int io kNCOLS, parseLines_num io hio kXLL, parseLines_num io hio kYLL,
    parseLines_num io hio kCSZ, ← intStr_natCast, parseLines_int io kNBITS,
    parseLines_text io kPIX (by cases g.dtype.kind <;> decide +kernel), hpixline,
    parseLines_text io kBO (by cases bo <;> decide +kernel), byteorder_line,
    parseLines_line io (by decide +kernel) hnvnl (e9 _),
    parseLines_text io kNAME (oneLine_noNL _), parseLines_text io kCOMMENT hcomment]
  refine (parseLines_parentBlock io g.parent parentAttrs hparent parentAttrs_ok _).elim fun p hp =>
    ⟨_, Exists.imp (fun _ h => ⟨hp, h⟩) ?_⟩
  simp only [setInt_nrows, setInt_ncols, setNum_xll, setNum_yll, setNum_csz, setInt_nbits, setText_pixeltype,
    setText_byteorder, setText_name, setText_comment]
  have hshape : ¬ (g.nrows < 0 ∨ g.ncols < 0) := not_or.mpr ⟨not_lt.mpr hg.nrows_nonneg, not_lt.mpr hg.ncols_nonneg⟩
  unfold finishConfig
  cases bo with
  | little =>
    have hb : "i".toList ≠ "m".toList := by decide +kernel
    simp only [boKey, hb, ne_eq, not_true_eq_false, and_false, if_false, hdtL, Config.init, mkGrid, hnv, if_neg hshape]
    exact ⟨_, rfl, rfl, rfl, rfl, rfl, rfl, rfl, rfl, rfl, rfl, rfl, rfl⟩
  | big =>
    simp only [boKey, ne_eq, not_true_eq_false, false_and, if_false, if_true, hdtB, Config.init, mkGrid, hnv, if_neg hshape]
    exact ⟨_, rfl, rfl, rfl, rfl, rfl, rfl, rfl, rfl, rfl, rfl, rfl, rfl⟩

/-- **raster of either byte order**: the header written for `g` with byte-order letter `bo`, together with a data
file holding `g`'s words row by row in byte order `bo`, is loaded by `from_stream` to a grid with identical shape,
georeferencing, dtype, no-data value and bit-identical cell values -/
theorem fromStream_file {ν : Type} (io : NumIO ν) (hio : IOok io) (bo : ByteOrder) (g : Grid ν) (hg : GridOK io g)
    (d : Str) :
    ∃ h, writeHeaderBO io bo g = .ok h ∧ ∃ g',
      fromStream io d h (some (g.data.flatten.flatMap (encode bo g.dtype.bytes))) = .ok g' ∧
      g'.nrows = g.nrows ∧ g'.ncols = g.ncols ∧ g'.xll = g.xll ∧ g'.yll = g.yll ∧ g'.csz = g.csz ∧
      g'.dtype = g.dtype ∧ g'.nodata = g.nodata ∧ g'.data = g.data := by
  obtain ⟨h, hw, c, hi, hparse, hfin, hbo, hnr, hnc, hx, hy, hcs, hdt, hnd, hlo, hhi, _⟩ :=
    header_roundtrip io hio bo g hg.header d
  refine ⟨h, hw, ?_⟩
  have hload := load_file hi.grid bo g.data (by rw [hdt]; exact bytes_pos_of_mem hg.header.supported) ⟨hlo, hhi⟩
    (by rw [hnc]; exact hg.header.ncols_nonneg) (by rw [hnr]; exact hg.rows) (by rw [hnc]; exact hg.cols)
    (by rw [hdt]; exact hg.words)
  rw [hdt] at hload
  unfold fromStream
  simp only [hparse, hfin, hbo, hload]
  exact ⟨_, rfl, hnr, hnc, hx, hy, hcs, rfl, hnd, rfl⟩

/-- **save then load**: what `Grid.save` writes (header text, `tofile` bytes) is loaded back by
`from_header / from_stream / from_zip` to identical shape, georeferencing, dtype, no-data value and
bit-identical cell values -/
theorem save_load {ν : Type} (io : NumIO ν) (hio : IOok io) (g : Grid ν) (hg : GridOK io g) (d : Str) :
    ∃ h bytes, save io g = .ok (h, bytes) ∧ ∃ g', fromStream io d h (some bytes) = .ok g' ∧
      g'.nrows = g.nrows ∧ g'.ncols = g.ncols ∧ g'.xll = g.xll ∧ g'.yll = g.yll ∧ g'.csz = g.csz ∧
      g'.dtype = g.dtype ∧ g'.nodata = g.nodata ∧ g'.data = g.data := by
  obtain ⟨h, hw, g', hl, rest⟩ := fromStream_file io hio .little g hg d
  refine ⟨h, saveData g.dtype g.data, ?_, g', ?_, rest⟩
  · unfold save writeHeader; rw [hw]
  · exact hl

/-- **what is assumed of CPython / numpy** (not provable here: the shortest-repr printer and `float()` are external):
float printing has no white space and reads back exactly, and every float no-data word that is not a NaN with a
non-canonical payload is printed as a non-integer literal that reads back to the same word. The theorems above take
exactly these facts as hypotheses (`IOok`, `NodataPrintable`); the harness checks them directly on all 65536 float16
words and on random float32 / float64 words. -/
def external_text_statement {ν : Type} (io : NumIO ν) (isNaNWord : DType → Nat → Bool) : Prop :=
  IOok io ∧ ∀ t ∈ allDTypes, ∀ w, w < wordBound t → isNaNWord t w = false → NodataPrintable io t w

/-- the proved part: for the integer types nothing is assumed — their no-data text is produced and parsed concretely -/
theorem external_text_partial {ν : Type} (io : NumIO ν) (t : DType) (w : Nat) (hk : t.kind ≠ .float) :
    NodataPrintable io t w :=
  fun h => absurd h hk

/-- the no-data text of `to_dict` is turned back into the same scalar by the constructor -/
theorem nodataWord_text {ν : Type} (io : NumIO ν) (t : DType) (w : Nat) (hw : w < wordBound t)
    (hp : NodataPrintable io t w) : nodataWord io t (.text (nodataStr io t w)) = .ok w := by
  unfold nodataStr nodataWord
  cases hk : t.kind with
  | float =>
    obtain ⟨h1, _, y, h3, h4⟩ := hp hk
    simp only [strip_noSpace _ h1, h3, h4]
  | int | uint =>
    simp only [strip_noSpace _ (intStr_noSpace _), parseInt?_intStr, intInRange_toInt t w hw, if_true,
      ofInt_toInt t w hw]

/-- **grid dictionary round trip**: `Grid.from_dict(g.to_dict())` has the same name, shape, georeferencing, dtype,
no-data value and comment (its data are zeros: the dictionary carries metadata only) -/
theorem dict_roundtrip {ν : Type} (io : NumIO ν) (g : Grid ν) (hs : g.dtype ∈ allDTypes)
    (hw : g.nodata < wordBound g.dtype) (hp : NodataPrintable io g.dtype g.nodata)
    (hr : 0 ≤ g.nrows) (hc : 0 ≤ g.ncols) :
    ∃ g', fromDict io (toDict io g) = .ok g' ∧ g'.name = g.name ∧ g'.comment = g.comment ∧
      g'.nrows = g.nrows ∧ g'.ncols = g.ncols ∧ g'.xll = g.xll ∧ g'.yll = g.yll ∧ g'.csz = g.csz ∧
      g'.dtype = g.dtype ∧ g'.nodata = g.nodata ∧ g'.data = zeros g.nrows.toNat g.ncols.toNat := by
  unfold fromDict toDict
  have hshape : ¬ (g.nrows < 0 ∨ g.ncols < 0) := by omega
  simp only [dtypeOfStr_dtypeStr g.dtype hs, mkGrid, nodataWord_text io g.dtype g.nodata hw hp, if_neg hshape]
  exact ⟨_, rfl, rfl, rfl, rfl, rfl, rfl, rfl, rfl, rfl, rfl, rfl⟩

/-- `Catchment.to_dict` succeeds exactly on delineated catchments -/
theorem catchToDict_ok_iff {ν : Type} (io : NumIO ν) (c : Catchment ν) :
    (∃ d, catchToDict io c = .ok d) ↔ (c.area.isSome ∧ c.filled.isSome) := by
  unfold catchToDict
  cases c.area <;> cases c.filled <;> simp

/-- **catchment dictionary round trip**: outlet, inlets (present or absent), area cells and filled area cells
come back unchanged and in the same order, together with the name and the metadata of the flow-direction grid -/
theorem catchment_dict_roundtrip {ν : Type} (io : NumIO ν) (c : Catchment ν) (a f : List Int)
    (ha : c.area = some a) (hf : c.filled = some f) (hs : c.flowdir.dtype = int64)
    (hw : c.flowdir.nodata < wordBound int64) (hr : 0 ≤ c.flowdir.nrows) (hc : 0 ≤ c.flowdir.ncols) :
    ∃ d c', catchToDict io c = .ok d ∧ catchFromDict io d = .ok c' ∧
      c'.name = c.name ∧ c'.outlet = c.outlet ∧ c'.inlets = c.inlets ∧ c'.area = c.area ∧ c'.filled = c.filled ∧
      c'.flowdir.nrows = c.flowdir.nrows ∧ c'.flowdir.ncols = c.flowdir.ncols ∧ c'.flowdir.xll = c.flowdir.xll ∧
      c'.flowdir.yll = c.flowdir.yll ∧ c'.flowdir.csz = c.flowdir.csz ∧ c'.flowdir.dtype = c.flowdir.dtype ∧
      c'.flowdir.nodata = c.flowdir.nodata := by
  have hmem : c.flowdir.dtype ∈ allDTypes := by rw [hs]; decide
  have hp : NodataPrintable io c.flowdir.dtype c.flowdir.nodata := by
    intro hk; rw [hs] at hk; exact absurd hk (by decide)
  obtain ⟨g', hg', _, _, h3, h4, h5, h6, h7, h8, h9, _⟩ :=
    dict_roundtrip io c.flowdir hmem (by rw [hs]; exact hw) hp hr hc
  unfold catchToDict
  simp only [ha, hf]
  refine ⟨_, ?c', rfl, ?h, ?_⟩
  case h => simp only [catchFromDict, hg']; rfl
  exact ⟨rfl, rfl, rfl, rfl, rfl, h3, h4, h5, h6, h7, hs.symm, h9⟩

/-- a clone is the same grid: shape, georeferencing, dtype, no-data value, bounds, parent attributes and every
cell word -/
theorem clone_eq {ν : Type} (g : Grid ν) : clone g = g := rfl

/-- **clone independence** (`copy.deepcopy`): the clone sees the same cell words as the original at the moment of
cloning; afterwards any sequence of item writes, fills and data rebindings applied through the clone leaves the
original's cells unchanged, and any such sequence applied through the original leaves the clone's cells unchanged -/
theorem clone_independent (s : Store) (a : Handle) (ha : a.arr < s.length) (ops : List SOp) :
    (s.clone a).1.read (s.clone a).2 = s.read a ∧
    (applyAll (s.clone a).1 (s.clone a).2 ops).1.read a = s.read a ∧
    (applyAll (s.clone a).1 a ops).1.read (s.clone a).2 = s.read a :=
  fresh_independent s a ha (s.read a) ops

/-- **independence of `clone(dtype)`**, for every conversion `f` — in particular the identity, i.e. `dtype` equal to
the grid's own dtype (what `Catchment.__init__` does with an int64 flow-direction grid): the clone holds the
converted words in a NEW array; afterwards writes through the clone never reach the original and writes through the
original never reach the clone -/
theorem cloneAs_independent (s : Store) (a : Handle) (ha : a.arr < s.length) (f : Nat → Nat) (ops : List SOp) :
    (s.cloneMap a f).1.read (s.cloneMap a f).2 = (s.read a).map (fun r => r.map f) ∧
    (s.cloneMap a f).2.arr ≠ a.arr ∧
    (applyAll (s.cloneMap a f).1 (s.cloneMap a f).2 ops).1.read a = s.read a ∧
    (applyAll (s.cloneMap a f).1 a ops).1.read (s.cloneMap a f).2 = (s.read a).map (fun r => r.map f) := by
  obtain ⟨h1, h2, h3⟩ := fresh_independent s a ha ((s.read a).map fun r => r.map f) ops
  exact ⟨h1, Nat.ne_of_gt ha, h2, h3⟩

/-- `clone(dtype)` with the grid's own dtype is the grid itself (same words): `astype` has nothing to convert -/
theorem cloneAs_same {ν : Type} (io : NumIO ν) (g : Grid ν) : cloneAs io g g.dtype = g := by
  unfold cloneAs
  rw [map_rows_id fun w => by simp [astypeWord]]


/-- admissible edits (item writes, fills, data re-assignments of the grid's shape and dtype, re-assignment of name,
comment, corner, cell size, no-data value) keep the grid inside the property's domain, for histories of any length -/
theorem edits_preserve_gridOK {ν : Type} (io : NumIO ν) (es : List (Edit ν)) : ∀ (g : Grid ν), GridOK io g →
    (∀ e ∈ es, EditOK io g e) → ∃ g', applyEdits g es = .ok g' ∧ GridOK io g' ∧ SameFrame g g' := by
  induction es with
  | nil => intro g hg _; exact ⟨g, rfl, hg, rfl, rfl, rfl, rfl, rfl, rfl⟩
  | cons e es ih =>
    intro g hg hes
    obtain ⟨g1, h1, hg1, hf1⟩ := applyEdit_ok io g hg e (hes e (by simp))
    obtain ⟨g2, h2, hg2, hf2⟩ := ih g1 hg1 (fun e' he' => editOK_frame io g g1 hf1 e' (hes e' (by simp [he'])))
    refine ⟨g2, ?_, hg2, ?_⟩
    · simp only [applyEdits, h1, h2]
    · obtain ⟨a1, a2, a3, a4, a5, a6⟩ := hf1
      obtain ⟨b1, b2, b3, b4, b5, b6⟩ := hf2
      exact ⟨b1.trans a1, b2.trans a2, b3.trans a3, b4.trans a4, b5.trans a5, b6.trans a6⟩


/-- **save → edit → save again → load**: after ANY admissible history of edits the files written by `save` load back to
the CURRENT state (shape, georeferencing, dtype, current no-data value, current cell words) -/
theorem save_load_after_edits {ν : Type} (io : NumIO ν) (hio : IOok io) (g : Grid ν) (hg : GridOK io g)
    (es : List (Edit ν)) (hes : ∀ e ∈ es, EditOK io g e) (d : Str) :
    ∃ g1 h bytes, applyEdits g es = .ok g1 ∧ save io g1 = .ok (h, bytes) ∧ ∃ g2, fromStream io d h (some bytes) = .ok g2 ∧
      g2.nrows = g1.nrows ∧ g2.ncols = g1.ncols ∧ g2.xll = g1.xll ∧ g2.yll = g1.yll ∧ g2.csz = g1.csz ∧
      g2.dtype = g1.dtype ∧ g2.nodata = g1.nodata ∧ g2.data = g1.data := by
  obtain ⟨g1, h1, hg1, _⟩ := edits_preserve_gridOK io es g hg hes
  obtain ⟨h, bytes, hs, rest⟩ := save_load io hio g1 hg1 d
  exact ⟨g1, h, bytes, h1, hs, rest⟩

/-- **load / edit → to_dict → from_dict**: after any admissible history the dictionary rebuilds the CURRENT metadata -/
theorem dict_after_edits {ν : Type} (io : NumIO ν) (g : Grid ν) (hg : GridOK io g)
    (es : List (Edit ν)) (hes : ∀ e ∈ es, EditOK io g e) :
    ∃ g1 g2, applyEdits g es = .ok g1 ∧ fromDict io (toDict io g1) = .ok g2 ∧ g2.name = g1.name ∧ g2.comment = g1.comment ∧
      g2.nrows = g1.nrows ∧ g2.ncols = g1.ncols ∧ g2.xll = g1.xll ∧ g2.yll = g1.yll ∧ g2.csz = g1.csz ∧
      g2.dtype = g1.dtype ∧ g2.nodata = g1.nodata := by
  obtain ⟨g1, h1, hg1, _⟩ := edits_preserve_gridOK io es g hg hes
  obtain ⟨g2, h2, a1, a2, a3, a4, a5, a6, a7, a8, a9, _⟩ :=
    dict_roundtrip io g1 hg1.header.supported hg1.header.nodata_lt hg1.header.nodata_printable
      hg1.header.nrows_nonneg hg1.header.ncols_nonneg
  exact ⟨g1, g2, h1, h2, a1, a2, a3, a4, a5, a6, a7, a8, a9⟩

/-- **clone of a clone, any number of grids**: two grid objects that hold different arrays never see each other's
writes, whatever the history (every clone / `clone(dtype)` allocates a new array: `cloneAs_independent`) -/
theorem handles_independent (ops : List SOp) (s : Store) (a b : Handle) (ha : a.arr < s.length) (hb : b.arr < s.length)
    (hne : a.arr ≠ b.arr) : (applyAll s b ops).1.read a = s.read a :=
  applyAll_other ops s a b ha hb hne


/-- a grid fresh from the constructor, a header or a dictionary (default bounds) is in the invariant -/
theorem stateOK_of_default {ν : Type} (io : NumIO ν) (g : Grid ν) (hg : GridOK io g) (hb : g.lo = none ∧ g.hi = none) :
    StateOK io g :=
  ⟨hg, by rw [hb.1, hb.2]; exact boundsOK_none _⟩

/-- **every public mutator keeps the grid inside the property's domain**, for ANY history of calls — item writes with
any python index, fills and no-data / mindata / maxdata assignments with any value offered, data assignments with an array
of ANY shape, `load` on ANY bytes in either byte order — accepted or rejected (`run` carries on after a rejected call as
a caller that caught the exception does). Shape, dtype and parent attributes never change. -/
theorem mutators_keep_invariant {ν : Type} (io : NumIO ν) (g : Grid ν) (hg : StateOK io g) (ops : List (Op ν))
    (hops : ∀ op ∈ ops, OpWF io g.dtype op) :
    StateOK io (run io g ops).1 ∧ SameShape g (run io g ops).1 ∧ (run io g ops).2.length = ops.length :=
  ⟨(run_ok io ops g hg hops).1, (run_ok io ops g hg hops).2, run_flags_length io ops g⟩

/-- **a rejected call leaves the object as it was** (fault paths): whenever `step` reports an error the state is the
state before the call — the only exception being the `mindata / maxdata` setters of the code, which have already stored
the new bound (nothing else) when they raise for `mindata > maxdata` -/
theorem rejected_call_leaves_state {ν : Type} (io : NumIO ν) (g : Grid ν) (op : Op ν) (e : Err)
    (h : (step io g op).2 = some e) :
    (step io g op).1 = g ∨
    (e = .badBounds ∧ ∃ b, (step io g op).1 = { g with lo := some b } ∨ (step io g op).1 = { g with hi := some b }) :=
  step_rejected io g op e h

/-- the data setter: an array whose shape is not the grid's is rejected and NOTHING is stored; an array of the grid's
shape is stored clipped (`_clipdata`), everything else untouched -/
theorem data_assignment_cases {ν : Type} (io : NumIO ν) (g : Grid ν) (hg : StateOK io g) (rows : List (List Nat))
    (hw : ∀ r ∈ rows, ∀ w ∈ r, w < wordBound g.dtype) :
    (((rows.length : Int) ≠ g.nrows ∨ ∃ r ∈ rows, (r.length : Int) ≠ g.ncols) ∧
      step io g (.edit (.data rows)) = (g, some .wrongCount)) ∨
    (((rows.length : Int) = g.nrows ∧ ∀ r ∈ rows, (r.length : Int) = g.ncols) ∧
      step io g (.edit (.data rows)) = ({ g with data := clipData g.dtype g.lo g.hi rows }, none)) := by
  rcases setData_cases io g hg rows hw with ⟨h, hs⟩ | ⟨h, _, hr, hc⟩
  · exact .inl ⟨hs, by simp only [step, applyEdit, h]⟩
  · exact .inr ⟨⟨hr, hc⟩, by simp only [step, applyEdit, h]⟩

/-- **save → ANY history (rejected calls included) → save again → load**: the files written load back to the CURRENT
state: shape, georeferencing, dtype, current no-data value, current cell words -/
theorem save_load_after_history {ν : Type} (io : NumIO ν) (hio : IOok io) (g : Grid ν) (hg : StateOK io g)
    (ops : List (Op ν)) (hops : ∀ op ∈ ops, OpWF io g.dtype op) (d : Str) :
    ∃ h bytes, save io (run io g ops).1 = .ok (h, bytes) ∧ ∃ g2, fromStream io d h (some bytes) = .ok g2 ∧
      g2.nrows = (run io g ops).1.nrows ∧ g2.ncols = (run io g ops).1.ncols ∧ g2.xll = (run io g ops).1.xll ∧
      g2.yll = (run io g ops).1.yll ∧ g2.csz = (run io g ops).1.csz ∧ g2.dtype = (run io g ops).1.dtype ∧
      g2.nodata = (run io g ops).1.nodata ∧ g2.data = (run io g ops).1.data ∧
      g2.nrows = g.nrows ∧ g2.ncols = g.ncols ∧ g2.dtype = g.dtype := by
  obtain ⟨h1, h2, _⟩ := mutators_keep_invariant io g hg ops hops
  obtain ⟨h, bytes, hs, g2, hl, a1, a2, a3, a4, a5, a6, a7, a8⟩ := save_load io hio _ h1.grid d
  exact ⟨h, bytes, hs, g2, hl, a1, a2, a3, a4, a5, a6, a7, a8, a1.trans h2.2.1, a2.trans h2.2.2.1, a6.trans h2.1⟩

/-- **ANY history → to_dict → from_dict** rebuilds the CURRENT metadata -/
theorem dict_after_history {ν : Type} (io : NumIO ν) (g : Grid ν) (hg : StateOK io g)
    (ops : List (Op ν)) (hops : ∀ op ∈ ops, OpWF io g.dtype op) :
    ∃ g2, fromDict io (toDict io (run io g ops).1) = .ok g2 ∧ g2.name = (run io g ops).1.name ∧
      g2.comment = (run io g ops).1.comment ∧ g2.nrows = g.nrows ∧ g2.ncols = g.ncols ∧
      g2.xll = (run io g ops).1.xll ∧ g2.yll = (run io g ops).1.yll ∧ g2.csz = (run io g ops).1.csz ∧
      g2.dtype = g.dtype ∧ g2.nodata = (run io g ops).1.nodata := by
  obtain ⟨h1, h2, _⟩ := mutators_keep_invariant io g hg ops hops
  obtain ⟨g2, e, a1, a2, a3, a4, a5, a6, a7, a8, a9, _⟩ :=
    dict_roundtrip io _ h1.grid.header.supported h1.grid.header.nodata_lt h1.grid.header.nodata_printable
      h1.grid.header.nrows_nonneg h1.grid.header.ncols_nonneg
  exact ⟨g2, e, a1, a2, a3.trans h2.2.1, a4.trans h2.2.2.1, a5, a6, a7, a8.trans h2.1, a9⟩

/-- `grid[idx] = w` then `grid[idx]`, `grid[k]`: an accepted item write (any python index, negative ones counted from the
end) is read back at that index, every other cell reads as before, and a rejected one (`IndexError`) is rejected by
the reader too -/
theorem item_write_then_read {ν : Type} (io : NumIO ν) (g : Grid ν) (idx : Int) (w : Nat) :
    ((step io g (.itemAt idx w)).2 = none → getItem (step io g (.itemAt idx w)).1 idx = .ok w ∧
      ∀ k i j, flatIndex g.data.flatten.length idx = some i → flatIndex g.data.flatten.length k = some j → j ≠ i →
        getItem (step io g (.itemAt idx w)).1 k = getItem g k) ∧
    ((step io g (.itemAt idx w)).2 ≠ none → getItem g idx = .error .badIndex) := by
  simp only [step]
  cases hfi : flatIndex g.data.flatten.length idx with
  | none =>
    refine ⟨fun h => by simp at h, fun _ => ?_⟩
    simp only [getItem, hfi]
  | some i =>
    have hi := flatIndex_lt hfi
    refine ⟨fun _ => ⟨?_, ?_⟩, fun h => by simp at h⟩
    · simp only [getItem, setFlat_flatten, List.length_set, hfi, List.getElem?_set_self hi]
    · intro k i' j hi' hj hne
      cases hi'
      simp only [getItem, setFlat_flatten, List.length_set, hj, List.getElem?_set_ne (Ne.symm hne)]

/-- for the integer types, a python int or a text offered to `dtype(value)` needs no external fact: when it is accepted
the word is a word of the dtype that prints and reads back (the `OpWF` hypothesis of the history theorems is discharged) -/
theorem opWF_int {ν : Type} (io : NumIO ν) (t : DType) (hk : t.kind ≠ .float) (v : NVal ν)
    (hv : (∃ n, v = .int n) ∨ (∃ s, v = .text s)) :
    OpWF io t (.nodataVal v) ∧ OpWF io t (.fillVal v) ∧ OpWF io t (.mindata v) ∧ OpWF io t (.maxdata v) :=
  ⟨fun w h => nodataWord_int_ok io t hk v hv w h, fun w h => (nodataWord_int_ok io t hk v hv w h).1,
   fun w h => (nodataWord_int_ok io t hk v hv w h).1, fun w h => (nodataWord_int_ok io t hk v hv w h).1⟩

/-- clone independence with rejected calls: a data assignment of the wrong shape through one handle rebinds nothing
(store and handle unchanged); `clone_independent`, `cloneAs_independent`, `handles_independent` hold for histories
that contain such calls -/
theorem store_setData_rejected (s : Store) (h : Handle) (rows : List (List Nat))
    (hs : rows.map List.length ≠ (s.read h).map List.length) : (SOp.setData rows).apply s h = (s, h) := by
  simp only [SOp.apply, if_neg hs]

/-- `from_dict` on the dictionary `to_dict` returns (every optional key present) is `fromDict` -/
theorem fromDictP_full {ν : Type} (io : NumIO ν) (d : GridDict ν) : fromDictP io d.full = fromDict io d := by
  unfold fromDictP fromDict GridDict.full
  simp only [Option.getD_some]
  cases dtypeOfStr d.dtype with
  | none => rfl
  | some p => rfl

/-- each missing optional key falls back on the default of `Grid.__init__` (`nrows` on `ncols`); a missing `name` /
`ncols` is a `KeyError` -/
theorem fromDictP_defaults {ν : Type} (io : NumIO ν) (name : Str) (ncols : Int) :
    fromDictP io { name := some name, ncols := some ncols, nrows := none, csz := none, xll := none, yll := none,
                   dtype := none, nodata := none, comment := none } =
      mkGrid io name ncols ncols (io.ofInt 1) (io.ofInt 0) (io.ofInt 0) ⟨.float, 8⟩ (.int 0) [] ∧
    (∀ d : GridDictP ν, d.name = none ∨ d.ncols = none → fromDictP io d = .error .missingKey) := by
  refine ⟨rfl, ?_⟩
  intro d hd
  unfold fromDictP
  rcases hd with h | h
  · rw [h]
  · rw [h]; cases d.name <;> rfl


/-- after ANY sequence of `delineate_area` calls (a failed call resets the areas and keeps the new outlet and inlets; a call
without inlets resets the inlets): the flow-direction grid is untouched, the two areas are present or absent together, `to_dict` is refused exactly when
they are absent at the end (one call sets or resets them: `delineate_step`), and otherwise the catchment rebuilt from the
dictionary has the CURRENT outlet, inlets, area and filled area -/
theorem catchment_history {ν : Type} (io : NumIO ν) (ops : List COp) : ∀ (c : Catchment ν),
    c.area.isSome = c.filled.isSome → c.flowdir.dtype = int64 → c.flowdir.nodata < wordBound int64 →
    0 ≤ c.flowdir.nrows → 0 ≤ c.flowdir.ncols →
    (crun c ops).flowdir = c.flowdir ∧ (crun c ops).area.isSome = (crun c ops).filled.isSome ∧
    ((crun c ops).area = none → catchToDict io (crun c ops) = .error .notDelineated) ∧
    (∀ a, (crun c ops).area = some a → ∃ d c', catchToDict io (crun c ops) = .ok d ∧ catchFromDict io d = .ok c' ∧
      c'.name = (crun c ops).name ∧ c'.outlet = (crun c ops).outlet ∧ c'.inlets = (crun c ops).inlets ∧
      c'.area = (crun c ops).area ∧ c'.filled = (crun c ops).filled ∧ c'.flowdir.nrows = c.flowdir.nrows ∧
      c'.flowdir.ncols = c.flowdir.ncols ∧ c'.flowdir.dtype = c.flowdir.dtype ∧ c'.flowdir.nodata = c.flowdir.nodata) := by
  intro c hinv hs hw hr hc
  obtain ⟨hfd, hinv'⟩ := crun_inv ops c hinv
  refine ⟨hfd, hinv', fun ha => ?_, fun a ha => ?_⟩
  · simp only [catchToDict, ha]
  · obtain ⟨f, hf⟩ : ∃ f, (crun c ops).filled = some f :=
      Option.isSome_iff_exists.mp (hinv' ▸ Option.isSome_iff_exists.mpr ⟨a, ha⟩)
    obtain ⟨d, c', h1, h2, b1, b2, b3, b4, b5, b6, b7, _, _, _, b11, b12⟩ :=
      catchment_dict_roundtrip io (crun c ops) a f ha hf (by rwa [hfd]) (by rwa [hfd]) (by rwa [hfd]) (by rwa [hfd])
    rw [hfd] at b6 b7 b11 b12
    exact ⟨d, c', h1, h2, b1, b2, b3, b4, b5, b6, b7, b11, b12⟩

/-- what one `delineate_area` call does to the observables of the dictionary -/
theorem delineate_step {ν : Type} (c : Catchment ν) (o : Int) (inl : Option (List Int)) :
    (∀ a f, (cstep c (.delineate o inl (some (a, f)))).1.outlet = some o ∧
      (cstep c (.delineate o inl (some (a, f)))).1.area = some a ∧ (cstep c (.delineate o inl (some (a, f)))).1.filled = some f ∧
      (cstep c (.delineate o inl (some (a, f)))).1.inlets = inl) ∧
    ((cstep c (.delineate o inl none)).1.area = none ∧ (cstep c (.delineate o inl none)).1.filled = none ∧
      (cstep c (.delineate o inl none)).1.outlet = some o ∧ (cstep c (.delineate o inl none)).2 = some .delineationFailed) :=
  ⟨fun _ _ => ⟨rfl, rfl, rfl, rfl⟩, rfl, rfl, rfl, rfl⟩


/-- **save to files, load with `from_header`**: for ANY non-empty stem (dots and blanks allowed) `save(dir/stem.bil)`
is accepted, writes `dir/stem.hdr` and `dir/stem.bil` into the file system (whatever it held), and
`from_header(dir/stem.bil)` as well as `from_header(dir/stem.hdr)` find both files and load identical shape,
georeferencing, dtype, no-data value and bit-identical cells -/
theorem save_fromHeader_files {ν : Type} (io : NumIO ν) (hio : IOok io) (fs : FS) (dir stem : Str) (hs : stem ≠ [])
    (g : Grid ν) (hg : GridOK io g) :
    ∃ fs', saveFS io fs dir (stem ++ ".bil".toList) g = .ok fs' ∧
      ∀ name, (name = stem ++ ".bil".toList ∨ name = stem ++ ".hdr".toList) →
        ∃ g', fromHeaderFS io fs' dir name = .ok g' ∧
          g'.nrows = g.nrows ∧ g'.ncols = g.ncols ∧ g'.xll = g.xll ∧ g'.yll = g.yll ∧ g'.csz = g.csz ∧
          g'.dtype = g.dtype ∧ g'.nodata = g.nodata ∧ g'.data = g.data := by
  obtain ⟨h, bytes, hsave, g', hl, rest⟩ := save_load io hio g hg (splitextRoot (stem ++ ".hdr".toList))
  obtain ⟨fs', hfs, l1, l2⟩ := saveFS_bil io fs dir stem g h bytes hsave
  refine ⟨fs', hfs, fun name hname => ⟨g', ?_, rest⟩⟩
  have hstem : stemOf name = stem := by
    rcases hname with rfl | rfl
    exacts [stemOf_ext stem "bil".toList hs (by decide) (by decide), stemOf_ext stem "hdr".toList hs (by decide) (by decide)]
  unfold fromHeaderFS
  simp only [hstem, l1, l2]
  exact hl

/-- **save to files, zip them, load with `from_zip`**: the member names come from `os.path.splitext`, which does not
split a name made of dots only — for every stem holding a character that is not a dot, `from_zip(archive, dir/stem.bil)`
and `from_zip(archive, dir/stem.hdr)` on the archive of the saved files load the identical grid. The hypothesis is needed: for the stem `.` (`..bil`) `splitext` keeps the whole name while
`Path.stem` gives `.` (the example below evaluates the two name functions; the two loads themselves are not stated) -/
theorem save_fromZip_files {ν : Type} (io : NumIO ν) (hio : IOok io) (fs : FS) (dir stem : Str)
    (hs : stem.all (fun c => c == '.') = false) (g : Grid ν) (hg : GridOK io g) :
    ∃ fs', saveFS io fs dir (stem ++ ".bil".toList) g = .ok fs' ∧
      ∀ name, (name = stem ++ ".bil".toList ∨ name = stem ++ ".hdr".toList) →
        ∃ g', fromZipFS io fs' dir name = .ok g' ∧
          g'.nrows = g.nrows ∧ g'.ncols = g.ncols ∧ g'.xll = g.xll ∧ g'.yll = g.yll ∧ g'.csz = g.csz ∧
          g'.dtype = g.dtype ∧ g'.nodata = g.nodata ∧ g'.data = g.data := by
  obtain ⟨h, bytes, hsave, g', hl, rest⟩ := save_load io hio g hg "no_name".toList
  obtain ⟨fs', hfs, l1, l2⟩ := saveFS_bil io fs dir stem g h bytes hsave
  refine ⟨fs', hfs, fun name hname => ⟨g', ?_, rest⟩⟩
  have hroot : splitextRoot name = stem := by
    rcases hname with rfl | rfl
    exacts [splitextRoot_ext stem "bil".toList hs (by decide), splitextRoot_ext stem "hdr".toList hs (by decide)]
  unfold fromZipFS
  simp only [hroot, l1, l2]
  exact hl

/-- … and the stem `.` is the counterexample: saved, found by `from_header`'s naming, not by `from_zip`'s -/
example : stemOf "..bil".toList = ".".toList ∧ splitextRoot "..bil".toList = "..bil".toList ∧
    ("..".toList).all (fun c => c == '.') = true ∧ ("a.".toList).all (fun c => c == '.') = false := by decide +kernel

/-- **the `endswith("bil")` guard of `save` is weaker than what `from_header` can find** (the hypothesis "`stem.bil`
with a non-empty stem" of `save_fromHeader_files` cannot be dropped): whenever the header name `save` derives
(last three characters replaced) is not the one `from_header` derives (`Path.stem + ".hdr"`), `save` succeeds and
`from_header` on the saved name reports a missing file — e.g. `xbil`, `.bil`, `a.Tbil`, `bil` -/
theorem save_name_guard_too_weak {ν : Type} (io : NumIO ν) (g : Grid ν) (h : Str) (bytes : List UInt8)
    (hsave : save io g = .ok (h, bytes)) (dir name : Str) (he : endsWith name "bil".toList = true)
    (hn : stemOf name ++ ".hdr".toList ≠ name.take (name.length - 3) ++ "hdr".toList)
    (hn2 : stemOf name ++ ".hdr".toList ≠ name) :
    ∃ fs', saveFS io [] dir name g = .ok fs' ∧ fromHeaderFS io fs' dir name = .error .missingFile := by
  refine ⟨_, by simp only [saveFS, he, hsave, Bool.not_true, Bool.false_eq_true, if_false]; rfl, ?_⟩
  unfold fromHeaderFS
  dsimp only
  rw [lookup_dictSet_other _ _ _ _ (pathJoin_ne dir _ _ hn2), lookup_dictSet_other _ _ _ _ (pathJoin_ne dir _ _ hn)]
  rfl

/-- the names of the docstring meet the hypotheses of `save_name_guard_too_weak`; `g.bil`, `a.b.bil`, `a..bil` do not -/
example : ∀ name ∈ ["xbil".toList, ".bil".toList, "a.Tbil".toList, "bil".toList],
    endsWith name "bil".toList = true ∧ stemOf name ++ ".hdr".toList ≠ name.take (name.length - 3) ++ "hdr".toList ∧
    stemOf name ++ ".hdr".toList ≠ name := by decide +kernel
example : ∀ name ∈ ["g.bil".toList, "a.b.bil".toList, "a..bil".toList, "My Grid.bil".toList],
    endsWith name "bil".toList = true ∧ stemOf name ++ ".hdr".toList = name.take (name.length - 3) ++ "hdr".toList := by decide +kernel
example : endsWith "g.txt".toList "bil".toList = false ∧ endsWith "g.BIL".toList "bil".toList = false ∧
    splitextRoot "a.b.hdr".toList = "a.b".toList ∧ splitextRoot ".hdr".toList = ".hdr".toList ∧
    stemOf "a.".toList = "a.".toList ∧ stemOf ".bil".toList = ".bil".toList := by decide +kernel

section ClipThm
open HydroVerif.C07
variable {α : Type} [Field α] [LinearOrder α] [IsStrictOrderedRing α] [FloorRing α]

/-- **clip holds the parent's values at coinciding cell centres** (exact arithmetic: any ordered field with a
floor). For a positive cell size and a box whose lower-left and upper-right corners both lie in the extent, `clip`
succeeds; the clipped grid keeps dtype, no-data value and cell size; it is the block of the parent that starts at
row `top` / column `left` (the row of the upper-right corner's cell, the column of the lower-left corner's cell),
it is not empty and lies inside the parent; and for every cell `(i, j)` of the clipped grid its centre IS the
centre of the parent cell `(top+i, left+j)`, and it holds that parent cell's word. -/
theorem clip_parent_values (io : NumIO α) (g : Grid α) (hcsz : 0 < g.csz) (hnc : 0 < g.ncols)
    (hr : (g.data.length : Int) = g.nrows) (hc : ∀ r ∈ g.data, (r.length : Int) = g.ncols)
    {x0 y0 x1 y1 : α} (h0 : InExtent (geom g) x0 y0) (h1 : InExtent (geom g) x1 y1) (hx : x0 ≤ x1) (hy : y0 ≤ y1) :
    ∃ ng top left, clip io g x0 y0 x1 y1 = .ok ng ∧
      ng.dtype = g.dtype ∧ ng.nodata = g.nodata ∧ ng.csz = g.csz ∧
      top = rowOf g.ncols (coord2cell (geom g) x1 y1) ∧ left = colOf g.ncols (coord2cell (geom g) x0 y0) ∧
      0 < ng.nrows ∧ 0 < ng.ncols ∧ 0 ≤ top ∧ top + ng.nrows ≤ g.nrows ∧ 0 ≤ left ∧ left + ng.ncols ≤ g.ncols ∧
      ∀ i j : Nat, (i : Int) < ng.nrows → (j : Int) < ng.ncols →
        (∃ xy, cell2coord (geom ng) (cellOf ng.ncols i j) = some xy ∧
               cell2coord (geom g) (cellOf g.ncols (top + i) (left + j)) = some xy) ∧
        (∃ v, (ng.data[i]?.bind (·[j]?)) = some v ∧ (g.data[top.toNat + i]?.bind (·[left.toNat + j]?)) = some v) := by
  obtain ⟨ng, hclip, k, hb⟩ := clip_isBlockOf io g hcsz hnc hr hc h0 h1 hx hy
  exact ⟨ng, _, _, hclip, k.dtype, k.nodata, k.csz, rfl, rfl, hb⟩

/-- the clipped grid is again a well-formed grid with a positive cell size: `clip` can be applied to it -/
theorem clip_wellformed (io : NumIO α) (g : Grid α) (hcsz : 0 < g.csz) (hnc : 0 < g.ncols)
    (hr : (g.data.length : Int) = g.nrows) (hc : ∀ r ∈ g.data, (r.length : Int) = g.ncols)
    {x0 y0 x1 y1 : α} (h0 : InExtent (geom g) x0 y0) (h1 : InExtent (geom g) x1 y1) (hx : x0 ≤ x1) (hy : y0 ≤ y1) :
    ∃ ng, clip io g x0 y0 x1 y1 = .ok ng ∧ 0 < ng.csz ∧ 0 < ng.ncols ∧ 0 < ng.nrows ∧
      (ng.data.length : Int) = ng.nrows ∧ ∀ r ∈ ng.data, (r.length : Int) = ng.ncols := by
  obtain ⟨ng, hclip, k, hb⟩ := clip_isBlockOf io g hcsz hnc hr hc h0 h1 hx hy
  exact ⟨ng, hclip, k.csz ▸ hcsz, hb.2.1, hb.1, k.rows, k.cols⟩

/-- **clip of a clip**: clipping the clipped grid again (second box inside the first clip's extent) still yields the
block of the ORIGINAL grid at offset (sum of the row offsets, sum of the column offsets): every cell centre is the
original grid's cell centre and holds the original grid's word -/
theorem clip_of_clip (io : NumIO α) (g : Grid α) (hcsz : 0 < g.csz) (hnc : 0 < g.ncols)
    (hr : (g.data.length : Int) = g.nrows) (hc : ∀ r ∈ g.data, (r.length : Int) = g.ncols)
    {x0 y0 x1 y1 : α} (h0 : InExtent (geom g) x0 y0) (h1 : InExtent (geom g) x1 y1) (hx : x0 ≤ x1) (hy : y0 ≤ y1)
    (mid : Grid α) (hmid : clip io g x0 y0 x1 y1 = .ok mid)
    {u0 v0 u1 v1 : α} (k0 : InExtent (geom mid) u0 v0) (k1 : InExtent (geom mid) u1 v1) (hu : u0 ≤ u1) (hv : v0 ≤ v1) :
    ∃ ng top left, clip io mid u0 v0 u1 v1 = .ok ng ∧ ng.dtype = g.dtype ∧ ng.nodata = g.nodata ∧ ng.csz = g.csz ∧
      0 < ng.nrows ∧ 0 < ng.ncols ∧ 0 ≤ top ∧ top + ng.nrows ≤ g.nrows ∧ 0 ≤ left ∧ left + ng.ncols ≤ g.ncols ∧
      ∀ i j : Nat, (i : Int) < ng.nrows → (j : Int) < ng.ncols →
        (∃ xy, cell2coord (geom ng) (cellOf ng.ncols i j) = some xy ∧
               cell2coord (geom g) (cellOf g.ncols (top + i) (left + j)) = some xy) ∧
        (∃ v, (ng.data[i]?.bind (·[j]?)) = some v ∧ (g.data[top.toNat + i]?.bind (·[left.toNat + j]?)) = some v) := by
  obtain ⟨m, hm, q1, b1⟩ := clip_isBlockOf io g hcsz hnc hr hc h0 h1 hx hy
  obtain rfl : m = mid := Except.ok.inj (hm.symm.trans hmid)
  obtain ⟨ng, hng, q2, b2⟩ := clip_isBlockOf io m (q1.csz ▸ hcsz) b1.2.1 q1.rows q1.cols k0 k1 hu hv
  exact ⟨ng, _, _, hng, q2.dtype.trans q1.dtype, q2.nodata.trans q1.nodata, q2.csz.trans q1.csz, b1.trans b2⟩

end ClipThm

/-! ## clip in ANY arithmetic (true of IEEE doubles with rounding, not only of exact numbers) -/

section ClipAny
open HydroVerif.C07
variable {α : Type} [Add α] [Sub α] [Mul α] [Div α] [OfNat α 1] [C07.Trunc α]

/-- **whatever the arithmetic does to the corners** (no field axiom is used: `+ - * /`, the casts and `floor` are
arbitrary functions — IEEE doubles with rounding, NaN and overflow included): whenever `clip` returns a grid, both
corner cells were valid, the grid keeps dtype, no-data value and cell size, has the default bounds, is the block of the
parent array that starts at row `top` (row of the upper-right corner's cell) and column `left` (column of the
lower-left corner's cell), lies inside the parent, and every one of its cells holds the parent's word at
`(top+i, left+j)` — bit-identical. What exact arithmetic adds (`clip_parent_values`) is only WHICH cells the corners
fall in and that the cell centres coincide exactly. (`c0`, `c1`, `top`, `left` are names for the four expressions, bound by `∃ … = …`
so that the conclusion reads in them; a user substitutes them with `rfl`.) -/
theorem clip_block_any_arithmetic (io : NumIO α) (g : Grid α) (hnc : 0 < g.ncols)
    (hr : (g.data.length : Int) = g.nrows) (hc : ∀ r ∈ g.data, (r.length : Int) = g.ncols)
    (x0 y0 x1 y1 : α) (ng : Grid α) (h : clip io g x0 y0 x1 y1 = .ok ng) :
    ∃ c0 c1 top left, c0 = coord2cell (geom g) x0 y0 ∧ c1 = coord2cell (geom g) x1 y1 ∧
      top = rowOf g.ncols c1 ∧ left = colOf g.ncols c0 ∧
      validCell g.nrows g.ncols c0 = true ∧ validCell g.nrows g.ncols c1 = true ∧
      ng.dtype = g.dtype ∧ ng.nodata = g.nodata ∧ ng.csz = g.csz ∧ ng.lo = none ∧ ng.hi = none ∧
      ng.nrows = rowOf g.ncols c0 - top + 1 ∧ ng.ncols = colOf g.ncols c1 - left + 1 ∧
      0 ≤ ng.nrows ∧ 0 ≤ ng.ncols ∧ 0 ≤ top ∧ top + ng.nrows ≤ g.nrows ∧ 0 ≤ left ∧ left + ng.ncols ≤ g.ncols ∧
      (ng.data.length : Int) = ng.nrows ∧ (∀ r ∈ ng.data, (r.length : Int) = ng.ncols) ∧
      ∀ i j : Nat, (i : Int) < ng.nrows → (j : Int) < ng.ncols →
        ∃ v, (ng.data[i]?.bind (·[j]?)) = some v ∧ (g.data[top.toNat + i]?.bind (·[left.toNat + j]?)) = some v := by
  have k := clip_ok_inv io g x0 y0 x1 y1 ng h
  obtain ⟨t0, t1, l0, l1, hv⟩ := k.block_of_parent hnc hr hc
  exact ⟨_, _, _, _, rfl, rfl, rfl, rfl, k.valid0, k.valid1, k.dtype, k.nodata, k.csz, k.lo, k.hi, k.nrows, k.ncols,
    k.nrows_nonneg, k.ncols_nonneg, t0, t1, l0, l1, k.rows, k.cols, hv⟩

/-- **monotone rounding is enough for a non-empty window**: in any arithmetic in which `x ↦ (long long) floor((x - o) / csz)`
is monotone (true of IEEE doubles for a positive cell size: subtraction of a constant, division by a positive constant,
`floor` and the cast are monotone; true of every ordered field, `floor_offset_monotone`), a box whose corners are in order
and fall in valid cells is clipped successfully to a grid with at least one row and one column -/
theorem clip_succeeds_monotone [LE α] (io : NumIO α) (g : Grid α) (hnc : 0 < g.ncols)
    (hr : (g.data.length : Int) = g.nrows) (hc : ∀ r ∈ g.data, (r.length : Int) = g.ncols)
    (hmono : ∀ a b o : α, a ≤ b → Trunc.floorToInt ((a - o) / g.csz) ≤ Trunc.floorToInt ((b - o) / g.csz))
    (x0 y0 x1 y1 : α) (hx : x0 ≤ x1) (hy : y0 ≤ y1)
    (v0 : validCell g.nrows g.ncols (coord2cell (geom g) x0 y0) = true)
    (v1 : validCell g.nrows g.ncols (coord2cell (geom g) x1 y1) = true) :
    ∃ ng, clip io g x0 y0 x1 y1 = .ok ng ∧ 0 < ng.nrows ∧ 0 < ng.ncols :=
  clip_ok_of_monotone io g hnc hr hc hmono x0 y0 x1 y1 hx hy v0 v1

end ClipAny

open HydroVerif.C07 in
/-- the monotonicity hypothesis of `clip_succeeds_monotone` holds in every ordered field with a floor, for a positive
cell size (so that theorem is not vacuous, and covers the exact case) -/
theorem floor_offset_monotone {α : Type} [Field α] [LinearOrder α] [IsStrictOrderedRing α] [FloorRing α]
    (csz : α) (hcsz : 0 < csz) (a b o : α) (h : a ≤ b) :
    (C07.Trunc.floorToInt ((a - o) / csz) : Int) ≤ C07.Trunc.floorToInt ((b - o) / csz) :=
  floor_offset_mono hcsz o h


/-- **whatever `from_stream` accepts is a grid of the property's domain** — ANY header text (written by `save` or foreign:
ULXMAP / XDIM variants, either byte order, extra or repeated keys), ANY data bytes: supported dtype, non-negative shape,
`nrows × ncols` words of the dtype, numeric parent attributes, default bounds. Only the no-data scalar numpy builds from the
header token is external (a word of the dtype that prints and reads back; automatic for the text `save` writes, see
`header_roundtrip`). Hence every history theorem applies to a LOADED grid. -/
theorem loaded_grid_is_grid {ν : Type} (io : NumIO ν) (d h : Str) (bytes : List UInt8) (g : Grid ν)
    (hload : fromStream io d h (some bytes) = .ok g)
    (hnd : g.nodata < wordBound g.dtype) (hp : NodataPrintable io g.dtype g.nodata) :
    StateOK io g ∧ g.lo = none ∧ g.hi = none := by
  unfold fromStream at hload
  split at hload
  · cases hload
  · rename_i c hc
    split at hload
    · cases hload
    · rename_i hi hfin
      simp only at hload
      split at hload
      · cases hload
      · rename_i g1 hl
        cases hload
        obtain ⟨t, ncols, nrows, csz, xll, yll, nd, ht, hmk⟩ := finishConfig_ok io c hi hfin
        obtain ⟨m1, _, m3, m4, m5, m6, m7, m8, _, _⟩ := mkGrid_ok hmk
        have hb0 : BoundsOK hi.grid.dtype hi.grid.lo hi.grid.hi := by
          rw [m7, m8]; exact boundsOK_none _
        obtain ⟨data, rfl, e2, e3, e4⟩ := load_ok_spec hi.grid g1 hi.byteorder bytes hl (by rw [m3]; exact m5)
          (by rw [m4]; exact m6) hb0
        have hpn := parseLines_numeric io _ _ c hc (fun e he => by simp [Config.init] at he)
        refine ⟨{ grid := { header := ?_, rows := e2, cols := e3, words := e4 }, bounds := hb0 }, m7, m8⟩
        exact {
          supported := by rw [m1]; exact (supported_iff_mem _).mp ht
          nodata_lt := hnd
          nrows_nonneg := by rw [m3]; exact m5
          ncols_nonneg := by rw [m4]; exact m6
          parent_text := fun a _ s hl' => absurd rfl (hpn _ (lookup_mem hl') s)
          nodata_printable := hp }

/-- **whatever `clip` returns is a grid of the property's domain**, in ANY arithmetic (IEEE included), whatever the
parent's name: a clipped grid can be saved, exported, cloned, edited and clipped again under the same theorems -/
theorem clipped_grid_is_grid {α : Type} [Add α] [Sub α] [Mul α] [Div α] [OfNat α 1] [C07.Trunc α]
    (io : NumIO α) (g : Grid α) (hg : GridOK io g) (hnc : 0 < g.ncols) (x0 y0 x1 y1 : α) (ng : Grid α)
    (h : clip io g x0 y0 x1 y1 = .ok ng) : StateOK io ng ∧ ng.lo = none ∧ ng.hi = none := by
  have k := clip_ok_inv io g x0 y0 x1 y1 ng h
  refine ⟨{ grid := { header := ?_, rows := k.rows, cols := k.cols, words := ?_ }, bounds := ?_ }, k.lo, k.hi⟩
  · exact {
      supported := by rw [k.dtype]; exact hg.header.supported
      nodata_lt := by rw [k.dtype, k.nodata]; exact hg.header.nodata_lt
      nrows_nonneg := k.nrows_nonneg
      ncols_nonneg := k.ncols_nonneg
      parent_text := fun a ha s hl => absurd hl (k.parent_numeric a ha s)
      nodata_printable := by rw [k.dtype, k.nodata]; exact hg.header.nodata_printable }
  · intro r hr w hw
    obtain ⟨r0, hr0, hw0⟩ := k.mem_parent r hr w hw
    rw [k.dtype]; exact hg.words r0 hr0 w hw0
  · rw [k.lo, k.hi]; exact boundsOK_none _

/-- **load (any accepted raster) → ANY history → save → load**: the second load reproduces the state after the history -/
theorem history_from_files {ν : Type} (io : NumIO ν) (hio : IOok io) (d h : Str) (bytes : List UInt8) (g : Grid ν)
    (hload : fromStream io d h (some bytes) = .ok g)
    (hnd : g.nodata < wordBound g.dtype) (hp : NodataPrintable io g.dtype g.nodata)
    (ops : List (Op ν)) (hops : ∀ op ∈ ops, OpWF io g.dtype op) (d2 : Str) :
    ∃ h2 b2, save io (run io g ops).1 = .ok (h2, b2) ∧ ∃ g2, fromStream io d2 h2 (some b2) = .ok g2 ∧
      g2.nrows = g.nrows ∧ g2.ncols = g.ncols ∧ g2.dtype = g.dtype ∧ g2.xll = (run io g ops).1.xll ∧
      g2.yll = (run io g ops).1.yll ∧ g2.csz = (run io g ops).1.csz ∧ g2.nodata = (run io g ops).1.nodata ∧
      g2.data = (run io g ops).1.data := by
  obtain ⟨hs, _, _⟩ := loaded_grid_is_grid io d h bytes g hload hnd hp
  obtain ⟨h2, b2, e1, g2, e2, _, _, a3, a4, a5, _, a7, a8, a9, a10, a11⟩ := save_load_after_history io hio g hs ops hops d2
  exact ⟨h2, b2, e1, g2, e2, a9, a10, a11, a3, a4, a5, a7, a8⟩

/-- **clip (any arithmetic) → ANY history on the clipped grid → save → load** -/
theorem history_from_clip {α : Type} [Add α] [Sub α] [Mul α] [Div α] [OfNat α 1] [C07.Trunc α]
    (io : NumIO α) (hio : IOok io) (g : Grid α) (hg : GridOK io g) (hnc : 0 < g.ncols) (x0 y0 x1 y1 : α) (ng : Grid α)
    (h : clip io g x0 y0 x1 y1 = .ok ng) (ops : List (Op α)) (hops : ∀ op ∈ ops, OpWF io ng.dtype op) (d : Str) :
    ∃ h2 b2, save io (run io ng ops).1 = .ok (h2, b2) ∧ ∃ g2, fromStream io d h2 (some b2) = .ok g2 ∧
      g2.nrows = ng.nrows ∧ g2.ncols = ng.ncols ∧ g2.dtype = g.dtype ∧ g2.nodata = (run io ng ops).1.nodata ∧
      g2.data = (run io ng ops).1.data := by
  obtain ⟨hs, _, _⟩ := clipped_grid_is_grid io g hg hnc x0 y0 x1 y1 ng h
  obtain ⟨h2, b2, e1, g2, e2, _, _, _, _, _, _, a7, a8, a9, a10, a11⟩ := save_load_after_history io hio ng hs ops hops d
  exact ⟨h2, b2, e1, g2, e2, a9, a10, a11.trans (clip_ok_inv io g x0 y0 x1 y1 ng h).dtype, a7, a8⟩


section Examples
open HydroVerif.C07

example : IOok ioToy := ioToy_ok
example : GridOK ioToy g0 := g0_ok
/-- an admissible history on `g0`: an item write above 2^53, a fill, a re-assignment of the data, of the comment (two
lines), of the corner and of the no-data value -/
example : ∀ e ∈ ([.item 4 9007199254740993, .fill 7, .data [[1, 2, 3], [4, 5, 18446744073709551615]],
    .comment "a\nb".toList, .georef 1 2 3, .nodata 5] : List (Edit Int)), EditOK ioToy g0 e := by
  intro e he
  simp only [List.mem_cons, List.not_mem_nil, or_false] at he
  rcases he with rfl | rfl | rfl | rfl | rfl | rfl
  · show (9007199254740993 : Nat) < wordBound g0.dtype; decide
  · show (7 : Nat) < wordBound g0.dtype; decide
  · exact ⟨rfl, rfl, by decide, by decide, by decide⟩
  · trivial
  · trivial
  · exact ⟨by decide, fun h => absurd h (by decide)⟩

example : GridOK ioToy g1 :=
  ⟨⟨by decide, by decide, by decide, by decide, fun a _ v h => by simp [lookup, g1, g0] at h,
    fun _ => ⟨by decide, by decide, 2143289344, by decide, by decide⟩⟩, by decide, by decide, by decide⟩


set_option maxRecDepth 8000 in
/-- the header `Grid.save` writes for `g0` -/
example : (save ioToy g0).toOption.map (fun p => (p.1, p.2.length)) =
    some ("NROWS          2\nNCOLS          3\nXLLCORNER      -5\nYLLCORNER      7\nCELLSIZE       2\nNBITS          64\nPIXELTYPE      SIGNEDINT\nBYTEORDER      I\nNODATA_VALUE   -1\nNAME           My Grid\nCOMMENT        two lines\n".toList, 48) :=
  map_toList_eq_some rfl

/-- … and what `from_stream` makes of it and of the data bytes (an instance of `save_load`): same shape, corner,
cell size, dtype, no-data word and cell words (2^62+1, -2^63 included) -/
example : ∃ h b g, save ioToy g0 = .ok (h, b) ∧ fromStream ioToy "stem".toList h (some b) = .ok g ∧
    g.nrows = 2 ∧ g.ncols = 3 ∧ g.xll = -5 ∧ g.yll = 7 ∧ g.csz = 2 ∧ g.dtype = ⟨.int, 8⟩ ∧
    g.nodata = 18446744073709551615 ∧ g.data = g0.data := by
  obtain ⟨h, b, hs, g, hl, h1, h2, h3, h4, h5, h6, h7, h8⟩ := save_load ioToy ioToy_ok g0 g0_ok "stem".toList
  exact ⟨h, b, g, hs, hl, h1, h2, h3, h4, h5, h6, h7, h8⟩

/-- byte order matters: the big-endian bytes of 1 read as little-endian are 256 -/
example : decode .little (encode .big 2 1) = 256 ∧ decode .big (encode .big 2 1) = 1 := by decide +kernel

/-- the pixel-type regex of `from_stream` -/
example : pixelSub "signedint".toList = "i".toList ∧ pixelSub "unsignedint".toList = "u".toList ∧
    pixelSub "float".toList = "f".toList ∧ pixelSub "int".toList = "i".toList ∧ pixelSub "uint".toList = "ui".toList := by
  decide +kernel

/-- malformed headers are rejected with the error the code raises -/
example : (fromStream ioToy [] "NROWS 2\nBYTEORDER X\nNCOLS 2\n".toList none).toOption.isNone = true ∧
    (match parseHeader ioToy [] "NROWS\n".toList with | .error .malformedLine => true | _ => false) = true := by
  decide +kernel

/-- the hypotheses of `clip_parent_values` are met by a 2×3 grid and the box [(1/2,1/2), (5/2,3/2)] -/
example : 0 < gq.csz ∧ 0 < gq.ncols ∧ (gq.data.length : Int) = gq.nrows ∧ (∀ r ∈ gq.data, (r.length : Int) = gq.ncols) ∧
    InExtent (geom gq) (1/2) (1/2) ∧ InExtent (geom gq) (5/2) (3/2) ∧ ((1 : ℚ)/2 ≤ 5/2) ∧ ((1 : ℚ)/2 ≤ 3/2) := by
  refine ⟨by norm_num [gq], by decide, by decide, by decide, ?_, ?_, by norm_num, by norm_num⟩ <;>
    norm_num [InExtent, geom, gq]


example : StateOK ioToy g0 := stateOK_of_default ioToy g0 g0_ok ⟨rfl, rfl⟩

set_option maxRecDepth 8000 in
/-- which of these calls are rejected, and the state at the end: bounds 3 and 1 (the rejected `maxdata` stored its
bound), data clipped by the last accepted assignment to `[1, 1]`… the invariant holds all along (`mutators_keep_invariant`) -/
example : (run ioToy g0 opsEx).2 = [some .wrongCount, none, some .badIndex, none, some .badNodata, none, some .badBounds,
      some .wrongCount, some .wrongCount, none, none, some .badNodata] ∧
    (run ioToy g0 opsEx).1.nodata = 7 ∧ (run ioToy g0 opsEx).1.lo = some 3 ∧ (run ioToy g0 opsEx).1.hi = some 1 ∧
    (run ioToy g0 opsEx).1.data = [[1, 1, 1], [1, 1, 1]] := by
  decide +kernel

example : StateOK ioToy (run ioToy g0 opsEx).1 ∧ SameShape g0 (run ioToy g0 opsEx).1 :=
  ⟨(mutators_keep_invariant ioToy g0 (stateOK_of_default ioToy g0 g0_ok ⟨rfl, rfl⟩) opsEx opsEx_wf).1,
   (mutators_keep_invariant ioToy g0 (stateOK_of_default ioToy g0 g0_ok ⟨rfl, rfl⟩) opsEx opsEx_wf).2.1⟩

/-- … and the files written at the end of that history load back to the state at the end -/
example : ∃ h b g2, save ioToy (run ioToy g0 opsEx).1 = .ok (h, b) ∧ fromStream ioToy [] h (some b) = .ok g2 ∧
    g2.data = (run ioToy g0 opsEx).1.data ∧ g2.nodata = (run ioToy g0 opsEx).1.nodata := by
  obtain ⟨h, b, hs, g2, hl, _, _, _, _, _, _, a7, a8, _⟩ :=
    save_load_after_history ioToy ioToy_ok g0 (stateOK_of_default ioToy g0 g0_ok ⟨rfl, rfl⟩) opsEx opsEx_wf []
  exact ⟨h, b, g2, hs, hl, a8, a7⟩

/-- the two kinds of rejected state: unchanged, and "the new bound was stored" -/
example : (step ioToy g0 (.edit (.data [[1, 2]]))).2 = some .wrongCount ∧
    (step ioToy g0 (.edit (.data [[1, 2]]))).1.data = g0.data ∧
    (step ioToy { g0 with lo := some 3 } (.maxdata (.int 1))).2 = some .badBounds ∧
    (step ioToy { g0 with lo := some 3 } (.maxdata (.int 1))).1.hi = some 1 := by
  decide +kernel

/-- float bounds: 1.0 lies inside [-1.0, 2.0]; a NaN passes any bounds; a bound set to +inf is no bound -/
example : AboveLo ⟨.float, 4⟩ 0xbf800000 0x3f800000 ∧ BelowHi ⟨.float, 4⟩ 0x40000000 0x3f800000 ∧
    AboveLo ⟨.float, 4⟩ 0x40000000 0x7fc00123 ∧ BelowHi ⟨.float, 2⟩ 0x7c00 0x7bff ∧
    BoundsOK ⟨.float, 4⟩ (some 0xbf800000) (some 0x40000000) ∧
    clipWord ⟨.float, 4⟩ (some 0xbf800000) (some 0x40000000) 0x40400000 = 0x40000000 ∧
    clipWord ⟨.float, 4⟩ (some 0xbf800000) (some 0x40000000) 0xc0400000 = 0xbf800000 := by
  refine ⟨by simp only [AboveLo]; decide, by simp only [BelowHi]; decide, by simp only [AboveLo]; decide,
    by simp only [BelowHi]; decide, ?_, by decide, by decide⟩
  intro _
  exact ⟨fun l h => by cases h; decide, fun l h => by cases h; decide⟩

/-- clone independence with a rejected call: the wrong-shaped assignment rebinds nothing -/
example : (SOp.setData [[1, 2, 3]]).apply [[[1, 2], [3, 4]]] ⟨0⟩ = ([[[1, 2], [3, 4]]], ⟨0⟩) ∧
    ((SOp.setData [[5, 6], [7, 8]]).apply [[[1, 2], [3, 4]]] ⟨0⟩).2 = ⟨1⟩ := by decide +kernel

/-- catchment history: delineation with inlets, a failed call, a delineation without inlets — outlet, inlets (none) and
areas are those of the last call -/
example : (crun c0Ex copsEx).outlet = some 4 ∧ (crun c0Ex copsEx).inlets = none ∧ (crun c0Ex copsEx).area = some [4] ∧
    (crun c0Ex (copsEx.take 2)).area = none := by decide +kernel

example : ∃ d c', catchToDict ioToy (crun c0Ex copsEx) = .ok d ∧ catchFromDict ioToy d = .ok c' ∧
    c'.outlet = some 4 ∧ c'.inlets = none ∧ c'.area = some [4] ∧ c'.filled = some [4, 0] := by
  obtain ⟨_, _, _, h⟩ := catchment_history ioToy copsEx c0Ex rfl rfl (by decide) (by decide) (by decide)
  obtain ⟨d, c', h1, h2, _, b2, b3, b4, b5, _⟩ := h [4] (by decide)
  exact ⟨d, c', h1, h2, b2.trans (by decide), b3.trans (by decide), b4.trans (by decide), b5.trans (by decide)⟩

/-- file names: `a.b.bil` round-trips through either file; `xbil` is accepted by `save` and cannot be found again -/
example : ∃ fs', saveFS ioToy [] "d".toList "a.b.bil".toList g0 = .ok fs' ∧
    ∃ g', fromHeaderFS ioToy fs' "d".toList "a.b.hdr".toList = .ok g' ∧ g'.data = g0.data := by
  -- the names as `stem ++ extension` first: left to unification, the literals are decoded once per comparison
  have e1 : "a.b.bil".toList = "a.b".toList ++ ".bil".toList := by decide +kernel
  have e2 : "a.b.hdr".toList = "a.b".toList ++ ".hdr".toList := by decide +kernel
  rw [e1, e2]
  obtain ⟨fs', h1, h2⟩ := save_fromHeader_files ioToy ioToy_ok [] "d".toList "a.b".toList (by decide) g0 g0_ok
  obtain ⟨g', h3, _, _, _, _, _, _, _, h4⟩ := h2 _ (Or.inr rfl)
  exact ⟨fs', h1, g', h3, h4⟩

example : ∃ fs', saveFS ioToy [] "d".toList "xbil".toList g0 = .ok fs' ∧
    fromHeaderFS ioToy fs' "d".toList "xbil".toList = .error .missingFile := by
  obtain ⟨h, b, hs, _⟩ := save_load ioToy ioToy_ok g0 g0_ok []
  exact save_name_guard_too_weak ioToy g0 h b hs "d".toList "xbil".toList (by decide) (by decide) (by decide)

/-- `from_dict` with only the two mandatory keys; with every key -/
example : (fromDictP ioToy dMin).toOption.map (fun g => (g.nrows, g.ncols, g.dtype, g.data)) =
      some (2, 2, ⟨.float, 8⟩, [[0, 0], [0, 0]]) ∧
    fromDictP ioToy (toDict ioToy g0).full = fromDict ioToy (toDict ioToy g0) :=
  ⟨by decide, fromDictP_full ioToy _⟩

/-- closure: the grid loaded from the files of `g0` is in the invariant, and so is every state reached from it -/
example : ∃ h b g, save ioToy g0 = .ok (h, b) ∧ fromStream ioToy [] h (some b) = .ok g ∧ StateOK ioToy g ∧
    StateOK ioToy (run ioToy g opsEx).1 := by
  obtain ⟨h, b, hs, g, hl, _, _, _, _, _, hdt, hnd, _⟩ := save_load ioToy ioToy_ok g0 g0_ok []
  have hst := (loaded_grid_is_grid ioToy [] h b g hl (by rw [hdt, hnd]; decide)
    (by rw [hdt]; exact fun hk => absurd hk (by decide))).1
  exact ⟨h, b, g, hs, hl, hst, (mutators_keep_invariant ioToy g hst opsEx (by rw [hdt]; exact opsEx_wf)).1⟩

end Examples

/-! ### clip: the hypotheses of the any-arithmetic theorems are met wherever those of the exact theorem are -/

section ClipAnyExamples
open HydroVerif.C07
variable {α : Type} [Field α] [LinearOrder α] [IsStrictOrderedRing α] [FloorRing α]

example (io : NumIO α) (g : Grid α) (hcsz : 0 < g.csz) (hnc : 0 < g.ncols)
    (hr : (g.data.length : Int) = g.nrows) (hc : ∀ r ∈ g.data, (r.length : Int) = g.ncols)
    {x0 y0 x1 y1 : α} (h0 : InExtent (geom g) x0 y0) (h1 : InExtent (geom g) x1 y1) (hx : x0 ≤ x1) (hy : y0 ≤ y1) :
    ∃ ng, clip io g x0 y0 x1 y1 = .ok ng ∧ 0 < ng.nrows ∧ 0 < ng.ncols ∧ ng.lo = none := by
  obtain ⟨v0, _⟩ := coord2cell_of_inExtent (g := geom g) hcsz h0
  obtain ⟨v1, _⟩ := coord2cell_of_inExtent (g := geom g) hcsz h1
  obtain ⟨ng, h, p1, p2⟩ := clip_succeeds_monotone io g hnc hr hc (fun a b o hab => floor_offset_monotone g.csz hcsz a b o hab)
    x0 y0 x1 y1 hx hy v0 v1
  exact ⟨ng, h, p1, p2, (clip_ok_inv io g x0 y0 x1 y1 ng h).lo⟩

end ClipAnyExamples

end HydroVerif.C13
