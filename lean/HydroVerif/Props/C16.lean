/-
C16 — property theorems (only). Model: `HydroVerif/Model/C16.lean`, `Model/C16Hist.lean` (+ grid geometry of
`Model/C07.lean`); helper lemmas: `Lemmas/C16.lean`, `Lemmas/C16Rnd.lean`, `Lemmas/C16Hist.lean`, `Lemmas/C07Grid.lean`,
`Lemmas/C07Coord.lean`, `Lemmas/History.lean` (runs).

Part A holds for every numeric instance of the model (also the `Float` one the driver runs): it only uses the
integer structure of the loops and the order of the loop's own additions. Parts B–E are over any ordered field with a
floor function (`ℚ`, `ℝ`): exact arithmetic. Part F is about the model instantiated at rounded arithmetic (`Fl r`,
`Lemmas/C16Rnd.lean`: any monotone idempotent rounding operator that is exact on small naturals — IEEE-754
round-to-nearest is one): ranges, order, exact integer counts and error bounds that are true of the floating-point
computation itself. Part G is about histories of operations on live objects (`Model/C16Hist.lean`), for every numeric
instance. Every statement holds for all grid shapes, all cell lists (any length, any order, repeats, invalid numbers
where stated), all point lists, all operation lists. Every model function named here is executed by
`Drivers/C16.lean` and compared with the real code (`specWeight`/`specArea`: request `specQ`; `repAdd`: `repadd`;
`hrun`/`hfinal`/`Op.isMutator`: `hist`).

Clause of the property -> theorems -> what stays outside the theorems
* Intersecting a catchment with a coarser grid assigns every catchment cell whose centre falls inside the grid to exactly one grid cell (all cell sets, all grids, arbitrary offsets, partial or no overlap)
    theorems: centre_inside_listed_once, centre_outside_not_counted, cellOfPt_nonneg_iff, cellOfPt_eq_iff, cIntersect_mem_keys_iff, intersect_error_iff (no overlap <-> the ValueError), cIntersect_dims_pos / intersect_ok_dims (a listed cell implies nrows, ncols > 0: no hypothesis on the shape), cellOfPt_rounded_mono (rounded arithmetic: locating is monotone in each coordinate; a centre is never moved past another centre's cell), cellOfPt_iff_needs_pos_csz (the hypothesis 0 < cell size is needed; the code does not guard it)
    outside: exact arithmetic (ordered field with floor); a centre within 1e-9 cells of a coarse edge may be located differently in IEEE arithmetic (Float correspondence only). 'inside' = half-open extent, footprints half-open: an edge centre goes right/up. Cell size <= 0 (plain attribute, never validated) is outside the quantifier: correspondence only (stream `degenerate`).
* its weight is the number of such cells times the ratio of cell areas
    theorems: intersect_result_weight (on the returned lists, any cell list), intersect_matches_spec (= the executable statement specWeight the driver evaluates), intersect_weight_counts_centres_any, intersect_weight_counts_centres, cIntersect_weight, cIntersect_weight_repAdd (EVERY arithmetic, also Float: the weight is areafactor, then += areafactor, count - 1 times, in this order), cIntersect_rounded_weight_ge / _mono / _error (rounded arithmetic: weight >= areafactor >= 0, order of counts preserved, |w - n af| <= ((1+u)^(n-1) - 1) n af)
    outside: nothing but the instance: that IEEE-754 double arithmetic is a `Rounding` (monotone, idempotent, exact on naturals <= 2^53) with relative error 2^-53 (not a field of `Rounding`: a separate hypothesis of the _error / _sum theorems) is not formalised; the Float instance is executed and compared bit for bit, the weights also against repAdd at the oracle's exact counts
* weights times grid-cell area sum to the catchment area inside the grid
    theorems: intersect_result_area (on the returned weights), intersect_matches_spec (= specArea), intersect_area_conserved_any, intersect_area_conserved, cIntersect_total, history_intersect_conserves_area (after any history of edits, clones, combinations, rejected operations and other calls)
    outside: rounding of the sum (each term bounded by cIntersect_rounded_weight_error)
* each grid cell appears once
    theorems: intersect_result_nodup, cIntersect_keys_nodup (every numeric instance, also Float), cIntersect_keys_valid, cIntersect_length_le (buffers large enough), intersect_never_overflow_or_badData (the model's memory-safety error value is never returned)
    outside: nothing
* the returned weight grid places every weight at the matching row and column of the parent grid
    theorems: intersect_weight_placed, intersect_zero_elsewhere, intersect_entry_cases (every entry is a listed weight at its parent row/col, or 0), intersect_subgrid_range (attained bounds, shape), intersect_subgrid_corner, intersect_subgrid_cell_centre (sub-grid cell (i,j) = parent cell (i+rows_start, j+cols_start), with the weight grid's own cell size), intersect_parent_attributes (cellsize and parentgrid_nrows/ncols/cellsize/xllcorner/yllcorner are the intersected grid's), intersect_never_overflow_or_badData (the shape guards of the Grid.data setter never fire), intersect_lists
    outside: numpy fancy-index assignment, np.min/np.max/np.unique are modelled (sequential element assignment, folds), tied by the correspondence; parentgrid_name and the comment string are not modelled (strings the property does not constrain)
* filled / unfilled area
    theorems: catchment_intersect_selects, catchment_intersect_default (no argument = unfilled), catchment_intersect_error_iff, voronoiPy_points (Voronoi always uses the unfilled area), catchment_add_area / catchment_sub_area (which cells a sum / difference of catchments has: union / difference of the FILLED areas, left operand's grid and filled area)
    outside: how delineate_area / binary_fill_holes / from_dict produce the two lists: C06 / C13
* Voronoi weights are non-negative
    theorems: cVoronoi_nonneg, cVoronoi_rounded_range (rounded arithmetic: every weight in [0, 1]), cVoronoi_ok_inv
    outside: needs >= 1 cell (0 cells: NaN in the code, `none` in the model: cVoronoi_noCells)
* Voronoi weights sum to 1
    theorems: cVoronoi_sum_one, cVoronoi_rounded_sum (rounded arithmetic: |sum - 1| <= u, the sum taken exactly), cVoronoi_rounded_weight (counts are exact integers, weight j = rnd(count_j / ncells))
    outside: the rounding of the final summation by the caller (oracle: exact sum of the returned doubles within 1e-12)
* Voronoi weights equal the fraction of catchment cells closest to each point; equidistant ties resolved to the lowest index; 1 to 6 points anywhere (any number in the theorems)
    theorems: cVoronoi_weight, nearest_is_closest_lowest_index, nearest_rounded_is_first_argmin (rounded arithmetic: smallest COMPUTED distance, lowest index among equal computed distances), cVoronoi_rounded_weight, voronoiPy_points, voronoiPy_flat_pair
    outside: the distance function is a parameter (any function; sqrt(dx*dx+dy*dy) in the driver): two distinct points within rounding of a tie may be ordered differently in IEEE arithmetic than in exact arithmetic; NaN / inf coordinates are outside the quantifier and not sent to the model. How the points are laid out in memory (C / Fortran order, strided views, lists, tuples) is not modelled: the harness hands every representation to grid.voronoi and requires the same answer (repaired defect: Fortran-ordered arrays were rejected)
* (implicit) rejected input of the wrappers: no overlap, no points, grid without rows/columns, catchment not delineated, points argument without two columns, negative buffer size
    theorems: intersect_error_iff, catchment_intersect_error_iff, cVoronoi_error_iff, cVoronoi_noPoints, voronoiPy_error_iff
    outside: which guard / exception class / message rejects is incidental: the correspondence requires a rejection exactly where the model rejects; 3-D points arrays, ragged lists, non-numeric input: numpy's own errors, not modelled
* (implicit) the answers depend on the objects as they are at the time of the call, on nothing else: histories of calls, in-place edits of held and returned arrays, re-assigned geometry, clones, sums / differences of catchments, rejected operations
    theorems: hstep_call_keeps_objects, hstep_rejected_keeps_objects, hfinal_eq_filter, hrun_reply, hrun_length, history_intersect_reply, history_voronoi_reply, hstep_other_objects (a clone and its original are independent), history_intersect_conserves_area
    outside: that the Python objects behave as the model's World (attribute assignment, deepcopy, pickle) is tied by the history stream: every call's answer is compared with hrun on the same operation list, the state is tracked from the assigned values and never re-read after a call
-/
import HydroVerif.Lemmas.C16
import HydroVerif.Lemmas.C16Rnd
import HydroVerif.Lemmas.C16Hist
import Mathlib.Data.Rat.Floor
import Mathlib.Data.List.Perm.Subperm

set_option linter.unusedSectionVars false

namespace HydroVerif.C16
open HydroVerif.C07

/-! ### A. the list of intersected cells (any arithmetic) -/

section Generic
variable {α : Type} [Add α] [Sub α] [Mul α] [Div α] [OfNat α 1] [C07.Trunc α]

/-- each grid cell appears once in `idxcells` -/
theorem cIntersect_keys_nodup (g : Geom α) (ca : α) (pts : List (Option (α × α))) :
    ((cIntersect g ca pts).map Prod.fst).Nodup :=
  cIntersect_nodup g ca pts

/-- a cell is listed exactly when `c_coord2cell` maps some point to it (and it is not the `-1` flag) -/
theorem cIntersect_mem_keys_iff (g : Geom α) (ca : α) (pts : List (Option (α × α))) (k : Int) :
    k ∈ (cIntersect g ca pts).map Prod.fst ↔ 0 ≤ k ∧ ∃ p ∈ pts, cellOfPt g p = k :=
  cIntersect_mem_keys g ca pts k

/-- every listed cell is a valid cell of the grid: the `cell2coord` / `cell2rowcol` calls that follow in
`Catchment.intersect` never see an invalid number -/
theorem cIntersect_keys_valid (g : Geom α) (ca : α) (pts : List (Option (α × α))) (k : Int)
    (hk : k ∈ (cIntersect g ca pts).map Prod.fst) : validCell g.nrows g.ncols k = true :=
  (cIntersect_valid g ca pts k hk).2

/-- the kernel writes at most `nrows*ncols` entries: the buffers `Catchment.intersect` allocates are large enough -/
theorem cIntersect_length_le (g : Geom α) (ca : α) (pts : List (Option (α × α))) :
    (cIntersect g ca pts).length ≤ (g.nrows * g.ncols).toNat :=
  cIntersect_length g ca pts

/-- a grid that lists a cell has rows and columns: the hypothesis `0 < ncols` of the theorems below follows from
the kernel's own range test whenever a cell is listed -/
theorem cIntersect_dims_pos (g : Geom α) (ca : α) (pts : List (Option (α × α))) (k : Int)
    (hk : k ∈ (cIntersect g ca pts).map Prod.fst) : 0 < g.nrows ∧ 0 < g.ncols :=
  (cIntersect_valid g ca pts k hk).1

/-- the weight of a listed cell *as the loop computes it*, in every arithmetic (also `Float`): the cell was met
`n + 1` times (at least once) and its weight is `areafactor`, then `+= areafactor` `n` times, in this order -/
theorem cIntersect_weight_repAdd (g : Geom α) (ca : α) (pts : List (Option (α × α))) {k : Int} {w : α}
    (h : (k, w) ∈ cIntersect g ca pts) :
    ∃ n, (pts.map (cellOfPt g)).count k = n + 1 ∧ w = repAdd (areafactor g.csz ca) n := by
  have h0 := ((cIntersect_mem_keys g ca pts k).1 (List.mem_map_of_mem (f := Prod.fst) h)).1
  rw [cIntersect_eq] at h
  rw [← count_hits h0]
  exact foldl_bump_weight h

end Generic

/-! ### B. weights of `c_intersect` (exact arithmetic) -/

section Weights
variable {α : Type} [Field α] [LinearOrder α] [IsStrictOrderedRing α] [FloorRing α]

/-- the weight of a listed cell is the ratio of cell areas times the number of points `c_coord2cell` maps to it,
and that number is at least one -/
theorem cIntersect_weight {g : Geom α} {ca : α} {pts : List (Option (α × α))} {k : Int} {w : α}
    (h : (k, w) ∈ cIntersect g ca pts) :
    w = (ca / g.csz) ^ 2 * (((pts.map (cellOfPt g)).count k : Nat) : α) ∧
      1 ≤ (pts.map (cellOfPt g)).count k := by
  obtain ⟨n, hn, rfl⟩ := cIntersect_weight_repAdd g ca pts h
  rw [hn]
  refine ⟨?_, Nat.le_add_left 1 n⟩
  rw [repAdd_eq_mul, areafactor, Nat.cast_succ, sq, mul_comm]

/-- weights times grid-cell area sum to (number of accepted points) times the catchment-cell area -/
theorem cIntersect_total {g : Geom α} (hcsz : g.csz ≠ 0) (ca : α) (pts : List (Option (α × α))) :
    ((cIntersect g ca pts).map fun kw => kw.2 * (g.csz * g.csz)).sum =
      ((pts.countP fun p => decide (0 ≤ cellOfPt g p) : Nat) : α) * (ca * ca) := by
  rw [sum_map_mul_right _ Prod.snd, cIntersect_eq, sum_snd_foldl_bump, length_hits, List.map_nil, List.sum_nil,
    zero_add, mul_assoc, areafactor_mul_sq hcsz]

/-- a point is accepted exactly when it lies in the extent of the grid (`xlim × ylim`, half-open) -/
theorem cellOfPt_nonneg_iff {g : Geom α} (hcsz : 0 < g.csz) (x y : α) :
    0 ≤ cellOfPt g (some (x, y)) ↔ InExtent g x y :=
  coord2cell_nonneg_iff hcsz

/-- and it is counted for the cell whose (half-open) footprint contains it, for no other -/
theorem cellOfPt_eq_iff {g : Geom α} (hcsz : 0 < g.csz) (hc : 0 < g.ncols) {c : Int}
    (hv : validCell g.nrows g.ncols c = true) (x y : α) :
    cellOfPt g (some (x, y)) = c ↔ InFootprint g c x y :=
  coord2cell_eq_iff hcsz hc hv

end Weights

/-! ### C. catchment cells against the coarse grid (exact arithmetic) -/

section Catchment
variable {α : Type} [Field α] [LinearOrder α] [IsStrictOrderedRing α] [FloorRing α]

/-- the weight of a listed grid cell is `(csz_area/csz)²` times the number of catchment cells whose centre lies
in the footprint of that grid cell, for an arbitrary cell list (repeats, invalid numbers): a cell number that is not
a cell of the flow-direction grid has no centre (`cell2coord` gives NaN) and is counted nowhere -/
theorem intersect_weight_counts_centres_any {coarse fine : Geom α} (hcsz : 0 < coarse.csz)
    {cells : List Int} {k : Int} {w : α}
    (h : (k, w) ∈ cIntersect coarse fine.csz (cells.map (cell2coord fine))) :
    w = (fine.csz / coarse.csz) ^ 2 *
      ((cells.countP fun c => validCell fine.nrows fine.ncols c &&
        decide (InFootprint coarse k (getcoord fine c).1 (getcoord fine c).2) : Nat) : α) := by
  obtain ⟨⟨-, hc⟩, hv⟩ := cIntersect_valid _ _ _ k (List.mem_map_of_mem (f := Prod.fst) h)
  rw [(cIntersect_weight h).1, List.count_eq_countP, List.countP_map, List.countP_map]
  congr 2
  refine List.countP_congr fun c _ => ?_
  simp only [Function.comp, beq_iff_eq, Bool.and_eq_true, decide_eq_true_eq]
  exact cellOfPt_cell2coord_eq_iff hcsz hc hv fine c

/-- area conservation for an arbitrary cell list: weights times grid-cell area sum to the area of the catchment
cells whose centre lies in the extent of the grid -/
theorem intersect_area_conserved_any {coarse fine : Geom α} (hcsz : 0 < coarse.csz) (cells : List Int) :
    ((cIntersect coarse fine.csz (cells.map (cell2coord fine))).map fun kw => kw.2 * (coarse.csz * coarse.csz)).sum =
      ((cells.countP fun c => validCell fine.nrows fine.ncols c &&
        decide (InExtent coarse (getcoord fine c).1 (getcoord fine c).2) : Nat) : α) * (fine.csz * fine.csz) := by
  rw [cIntersect_total hcsz.ne', List.countP_map]
  congr 2
  refine List.countP_congr fun c _ => ?_
  simp only [Function.comp, decide_eq_true_eq, Bool.and_eq_true]
  exact cellOfPt_cell2coord_nonneg_iff hcsz fine c

/-- on a list of cells of the flow-direction grid the validity test drops out of the count -/
theorem intersect_weight_counts_centres {coarse fine : Geom α} (hcsz : 0 < coarse.csz)
    {cells : List Int} (hcells : ∀ c ∈ cells, validCell fine.nrows fine.ncols c = true) {k : Int} {w : α}
    (h : (k, w) ∈ cIntersect coarse fine.csz (cells.map (cell2coord fine))) :
    w = (fine.csz / coarse.csz) ^ 2 *
      ((cells.countP fun c => decide (InFootprint coarse k (getcoord fine c).1 (getcoord fine c).2) : Nat) : α) := by
  rw [intersect_weight_counts_centres_any hcsz h]
  congr 2
  exact List.countP_congr fun c hc => by rw [hcells c hc, Bool.true_and]

/-- and out of the conserved area -/
theorem intersect_area_conserved {coarse fine : Geom α} (hcsz : 0 < coarse.csz)
    {cells : List Int} (hcells : ∀ c ∈ cells, validCell fine.nrows fine.ncols c = true) :
    ((cIntersect coarse fine.csz (cells.map (cell2coord fine))).map fun kw => kw.2 * (coarse.csz * coarse.csz)).sum =
      ((cells.countP fun c => decide (InExtent coarse (getcoord fine c).1 (getcoord fine c).2) : Nat) : α) *
        (fine.csz * fine.csz) := by
  rw [intersect_area_conserved_any hcsz cells]
  congr 2
  exact List.countP_congr fun c hc => by rw [hcells c hc, Bool.true_and]

/-- a catchment cell whose centre falls inside the grid is assigned to exactly one listed grid cell -/
theorem centre_inside_listed_once {coarse fine : Geom α} (hcsz : 0 < coarse.csz)
    {cells : List Int} {c : Int} (hcm : c ∈ cells) (hv : validCell fine.nrows fine.ncols c = true)
    (hin : InExtent coarse (getcoord fine c).1 (getcoord fine c).2) :
    ∃! k, k ∈ (cIntersect coarse fine.csz (cells.map (cell2coord fine))).map Prod.fst ∧
      InFootprint coarse k (getcoord fine c).1 (getcoord fine c).2 := by
  obtain ⟨hv0, hfp⟩ := coord2cell_of_inExtent hcsz hin
  refine ⟨_, ⟨(cIntersect_mem_keys _ _ _ _).2 ⟨(validCell_iff.1 hv0).1, cell2coord fine c,
    List.mem_map_of_mem hcm, ?_⟩, hfp⟩, ?_⟩
  · rw [cell2coord, if_pos hv]
    rfl
  · rintro k ⟨hk, hkf⟩
    obtain ⟨⟨-, hc⟩, hvk⟩ := cIntersect_valid _ _ _ k hk
    exact (coord2cell_of_inFootprint hcsz hc hvk hkf).symm

/-- a catchment cell whose centre falls outside the grid is counted for no listed cell -/
theorem centre_outside_not_counted {coarse fine : Geom α} (hcsz : 0 < coarse.csz)
    {cells : List Int} {c : Int}
    (hout : ¬ InExtent coarse (getcoord fine c).1 (getcoord fine c).2) (k : Int)
    (hk : k ∈ (cIntersect coarse fine.csz (cells.map (cell2coord fine))).map Prod.fst) :
    ¬ InFootprint coarse k (getcoord fine c).1 (getcoord fine c).2 := fun hkf =>
  hout (inExtent_of_inFootprint hcsz (cIntersect_dims_pos _ _ _ k hk).2 (cIntersect_keys_valid _ _ _ k hk) hkf)

end Catchment

/-! ### D. `Catchment.intersect`: lists, sub-grid, scatter (exact arithmetic) -/

section Python
variable {α : Type} [Field α] [LinearOrder α] [IsStrictOrderedRing α] [FloorRing α]

/-- `intersect` fails in exactly two ways: `np.zeros` rejects a negative buffer size (`nrows*ncols < 0`: outside the
property's quantifier), and otherwise the `ValueError` of `np.min` on an empty array, exactly when no catchment-cell
centre is accepted by the grid -/
theorem intersect_error_iff (coarse fine : Geom α) (cells : List Int) (e : Err) :
    intersect coarse fine cells = .error e ↔
      (e = .badBuffer ∧ coarse.nrows * coarse.ncols < 0) ∨
      (e = .noOverlap ∧ 0 ≤ coarse.nrows * coarse.ncols ∧ ∀ c ∈ cells, cellOfPt coarse (cell2coord fine c) < 0) := by
  have hnil := (cIntersect_eq_nil_iff coarse fine.csz (cells.map (cell2coord fine))).trans List.forall_mem_map
  rw [intersect_unfold, ← hnil]
  by_cases hneg : coarse.nrows * coarse.ncols < 0
  · rw [if_pos hneg]
    constructor
    · intro h
      exact Or.inl ⟨(Except.error.inj h).symm, hneg⟩
    · rintro (⟨rfl, -⟩ | ⟨-, hpos, -⟩)
      · rfl
      · exact absurd hneg (not_lt.2 hpos)
  · rw [if_neg hneg]
    cases cIntersect coarse fine.csz (cells.map (cell2coord fine)) with
    | nil =>
      constructor
      · intro h
        exact Or.inr ⟨(Except.error.inj h).symm, not_lt.1 hneg, rfl⟩
      · rintro (⟨-, hn⟩ | ⟨rfl, -, -⟩)
        · exact absurd hn hneg
        · rfl
    | cons kw0 rest =>
      constructor
      · intro h
        cases h
      · rintro (⟨-, hn⟩ | ⟨-, -, hn⟩)
        · exact absurd hn hneg
        · cases hn

/-- the kernel never writes past the buffers it is given (`bufferOverflow`) and the weight array always passes the
shape guards of the `Grid.data` setter (`badData`): those error values are never returned -/
theorem intersect_never_overflow_or_badData (coarse fine : Geom α) (cells : List Int) :
    intersect coarse fine cells ≠ .error .bufferOverflow ∧ intersect coarse fine cells ≠ .error .badData := by
  have key : ∀ e, intersect coarse fine cells = .error e → e = .badBuffer ∨ e = .noOverlap :=
    fun e h => ((intersect_error_iff _ _ _ _).1 h).imp And.left And.left
  exact ⟨fun h => (key _ h).elim nofun nofun, fun h => (key _ h).elim nofun nofun⟩

/-- a successful intersection implies that the grid has rows and columns (the kernel's range test accepted a
centre): the theorems below need no hypothesis on `nrows`, `ncols` -/
theorem intersect_ok_dims {coarse fine : Geom α} {cells : List Int} {a : AreaGrid α}
    (h : intersect coarse fine cells = .ok a) : 0 < coarse.nrows ∧ 0 < coarse.ncols := by
  obtain ⟨kw0, rest, heq, -⟩ := intersect_eq_ok h
  refine (cIntersect_valid coarse fine.csz (cells.map (cell2coord fine)) kw0.1 ?_).1
  rw [heq]
  exact List.mem_cons_self

/-- `area_grid.cellsize` and the `parentgrid_*` attributes are those of the intersected grid -/
theorem intersect_parent_attributes {coarse fine : Geom α} {cells : List Int} {a : AreaGrid α}
    (h : intersect coarse fine cells = .ok a) : a.csz = coarse.csz ∧ a.parent = coarse := by
  obtain ⟨kw0, rest, -, rfl⟩ := intersect_eq_ok h
  exact ⟨rfl, rfl⟩

/-- the returned `idxcells`, `weights` are the kernel's lists: everything proved in parts A–C applies to them -/
theorem intersect_lists {coarse fine : Geom α} {cells : List Int} {a : AreaGrid α}
    (h : intersect coarse fine cells = .ok a) :
    a.keys.zip a.weights = cIntersect coarse fine.csz (cells.map (cell2coord fine)) ∧
      a.keys.length = a.weights.length ∧ a.keys ≠ [] := by
  obtain ⟨kw0, rest, heq, rfl⟩ := intersect_eq_ok h
  rw [heq]
  exact ⟨(List.zip_of_prod rfl rfl).symm, by simp only [areaOf, List.length_map], List.cons_ne_nil _ _⟩

/-- the sub-grid spans exactly the rows and columns of the listed cells: the bounds are attained and every
listed cell is within them; the data array has that shape -/
theorem intersect_subgrid_range {coarse fine : Geom α} {cells : List Int} {a : AreaGrid α}
    (h : intersect coarse fine cells = .ok a) :
    (∀ k ∈ a.keys, a.rowStart ≤ prow coarse k ∧ prow coarse k ≤ a.rowEnd ∧
        a.colStart ≤ pcol coarse k ∧ pcol coarse k ≤ a.colEnd) ∧
    (∃ k ∈ a.keys, prow coarse k = a.rowStart) ∧ (∃ k ∈ a.keys, prow coarse k = a.rowEnd) ∧
    (∃ k ∈ a.keys, pcol coarse k = a.colStart) ∧ (∃ k ∈ a.keys, pcol coarse k = a.colEnd) ∧
    a.nrows = a.rowEnd - a.rowStart + 1 ∧ a.ncols = a.colEnd - a.colStart + 1 ∧
    a.data.length = a.nrows.toNat ∧ ∀ r ∈ a.data, r.length = a.ncols.toNat := by
  obtain ⟨kw0, rest, -, rfl⟩ := intersect_eq_ok h
  have attained : ∀ (f : Int → Int) (m : Int), m ∈ (kw0 :: rest).map (fun kw => f kw.1) →
      ∃ k ∈ (areaOf coarse kw0 rest).keys, f k = m := by
    intro f m hm
    obtain ⟨kw, hkw, rfl⟩ := List.mem_map.1 hm
    exact ⟨kw.1, List.mem_map_of_mem (f := (·.1)) hkw, rfl⟩
  have s1 := listMin_spec (prow coarse kw0.1) (rest.map fun kw => prow coarse kw.1)
  have s2 := listMax_spec (prow coarse kw0.1) (rest.map fun kw => prow coarse kw.1)
  have s3 := listMin_spec (pcol coarse kw0.1) (rest.map fun kw => pcol coarse kw.1)
  have s4 := listMax_spec (pcol coarse kw0.1) (rest.map fun kw => pcol coarse kw.1)
  refine ⟨fun k hk => ?_, attained (prow coarse) _ s1.1, attained (prow coarse) _ s2.1,
    attained (pcol coarse) _ s3.1, attained (pcol coarse) _ s4.1, rfl, rfl, ?_, ?_⟩
  · obtain ⟨kw, hkw, rfl⟩ := List.mem_map.1 hk
    have hm : ∀ f : Int → Int, f kw.1 ∈ (kw0 :: rest).map (fun kw => f kw.1) :=
      fun f => List.mem_map_of_mem (f := fun kw => f kw.1) hkw
    exact ⟨s1.2 _ (hm _), s2.2 _ (hm _), s3.2 _ (hm _), s4.2 _ (hm _)⟩
  · simp [areaOf]
  · intro r hr
    obtain ⟨i, -, rfl⟩ := List.mem_map.1 hr
    simp [areaOf]

/-- the weight grid holds the weight of every listed cell at `(row - rows_start, col - cols_start)`, its row and
column in the parent grid shifted by the recorded starts -/
theorem intersect_weight_placed {coarse fine : Geom α} {cells : List Int} {a : AreaGrid α}
    (h : intersect coarse fine cells = .ok a) {k : Int} {w : α}
    (hkw : (k, w) ∈ a.keys.zip a.weights) :
    0 ≤ prow coarse k - a.rowStart ∧ 0 ≤ pcol coarse k - a.colStart ∧
    a.at (prow coarse k - a.rowStart).toNat (pcol coarse k - a.colStart).toNat = some w := by
  have hc := (intersect_ok_dims h).2
  obtain ⟨hrange, -, -, -, -, hnr, hnc, -⟩ := intersect_subgrid_range h
  obtain ⟨r0, r1, c0, c1⟩ := hrange k (List.of_mem_zip hkw).1
  rw [(intersect_lists h).1] at hkw
  refine ⟨sub_nonneg.2 r0, sub_nonneg.2 c0, ?_⟩
  rw [intersect_ok_at h (by omega) (by omega), scatterFn_eq, Int.toNat_of_nonneg (sub_nonneg.2 r0),
    Int.toNat_of_nonneg (sub_nonneg.2 c0)]
  exact congrArg some (foldl_assign_mem hc _ _ (cIntersect_nodup _ _ _)
    (fun k hk => (cIntersect_valid _ _ _ k hk).2) hkw)

/-- every other entry of the weight grid is 0 -/
theorem intersect_zero_elsewhere {coarse fine : Geom α} {cells : List Int} {a : AreaGrid α}
    (h : intersect coarse fine cells = .ok a) {i j : Nat} (hi : i < a.nrows.toNat) (hj : j < a.ncols.toNat)
    (hno : ∀ k ∈ a.keys, ¬ (prow coarse k = a.rowStart + i ∧ pcol coarse k = a.colStart + j)) :
    a.at i j = some 0 := by
  rw [intersect_ok_at h hi hj, scatterFn_eq, foldl_assign_untouched]
  intro k hkm hpos
  apply hno k ((intersect_ok_lists h).1 ▸ hkm)
  simp only [prow, pcol]
  constructor <;> omega

/-- the corner of the weight grid is the lower-left corner of the parent cell at `(rows_end, cols_start)` -/
theorem intersect_subgrid_corner {coarse fine : Geom α} {cells : List Int} {a : AreaGrid α}
    (hcsz : 0 < coarse.csz) (h : intersect coarse fine cells = .ok a) :
    a.xll = coarse.xll + coarse.csz * (a.colStart : α) ∧
    a.yll = coarse.yll + coarse.csz * ((coarse.nrows - 1 - a.rowEnd : Int) : α) := by
  obtain ⟨kw0, rest, heq, rfl⟩ := intersect_eq_ok h
  have hv : ∀ kw ∈ kw0 :: rest, validCell coarse.nrows coarse.ncols kw.1 = true := by
    intro kw hkw
    refine (cIntersect_valid coarse fine.csz (cells.map (cell2coord fine)) kw.1 ?_).2
    rw [heq]
    exact List.mem_map_of_mem (f := Prod.fst) hkw
  -- the centre of a listed cell does not decrease with its column and does not increase with its row
  have mx := centre_mono coarse.xll hcsz.le
  have my := (centre_mono coarse.yll hcsz.le).comp_antitone
    fun p q (hpq : p ≤ q) => Int.sub_le_sub_left hpq (coarse.nrows - 1)
  have ex : ∀ kw ∈ kw0 :: rest, (getcoord coarse kw.1).1 = _ :=
    fun kw hkw => congrArg Prod.fst (getcoord_of_valid (hv kw hkw))
  have ey : ∀ kw ∈ kw0 :: rest, (getcoord coarse kw.1).2 = _ :=
    fun kw hkw => congrArg Prod.snd (getcoord_of_valid (hv kw hkw))
  constructor
  · refine (congrArg (· - coarse.csz / (1 + 1)) ?_).trans (centre_sub_half _ _ _)
    rw [ex kw0 List.mem_cons_self, List.map_congr_left fun kw hkw => ex kw (List.mem_cons_of_mem _ hkw)]
    exact listMin_map_comp_mono mx (fun kw : Int × α => pcol coarse kw.1) kw0 rest
  · refine (congrArg (· - coarse.csz / (1 + 1)) ?_).trans (centre_sub_half _ _ _)
    rw [ey kw0 List.mem_cons_self, List.map_congr_left fun kw hkw => ey kw (List.mem_cons_of_mem _ hkw)]
    exact listMin_map_comp_anti my (fun kw : Int × α => prow coarse kw.1) kw0 rest

/-- cell `(i, j)` of the weight grid is the parent cell `(i + rows_start, j + cols_start)`: that parent cell
exists and both have the same centre (hence, with the common cell size, the same footprint) -/
theorem intersect_subgrid_cell_centre {coarse fine : Geom α} {cells : List Int} {a : AreaGrid α}
    (hcsz : 0 < coarse.csz) (h : intersect coarse fine cells = .ok a) {i j : Int}
    (hi : 0 ≤ i ∧ i < a.nrows) (hj : 0 ≤ j ∧ j < a.ncols) :
    validCell coarse.nrows coarse.ncols ((i + a.rowStart) * coarse.ncols + (j + a.colStart)) = true ∧
    getcoord (⟨a.nrows, a.ncols, a.xll, a.yll, a.csz⟩ : Geom α) (i * a.ncols + j) =
      getcoord coarse ((i + a.rowStart) * coarse.ncols + (j + a.colStart)) := by
  have hc := (intersect_ok_dims h).2
  obtain ⟨-, ⟨k1, hk1, e1⟩, ⟨k2, hk2, e2⟩, ⟨k3, hk3, e3⟩, ⟨k4, hk4, e4⟩, hnr, hnc, -⟩ := intersect_subgrid_range h
  -- the bounds of the sub-grid are rows and columns of listed, hence valid, cells
  have rc := fun k (hk : k ∈ a.keys) =>
    cell2rowcol_range hc (cIntersect_valid _ _ _ k ((intersect_ok_lists h).1 ▸ hk)).2
  have r0 : 0 ≤ a.rowStart := e1 ▸ (rc k1 hk1).1
  have r1 : a.rowEnd < coarse.nrows := e2 ▸ (rc k2 hk2).2.1
  have c0 : 0 ≤ a.colStart := e3 ▸ (rc k3 hk3).2.2.1
  have c1 : a.colEnd < coarse.ncols := e4 ▸ (rc k4 hk4).2.2.2
  obtain ⟨hx, hy⟩ := intersect_subgrid_corner hcsz h
  have hr0 : 0 ≤ a.rowStart + i := add_nonneg r0 hi.1
  have hc0 : 0 ≤ a.colStart + j := add_nonneg c0 hj.1
  have hc1 : a.colStart + j < coarse.ncols := by omega
  rw [add_comm i, add_comm j]
  refine ⟨validCell_cellOf hr0 (by omega) hc0 hc1, ?_⟩
  -- the sub-grid is the block of the parent grid that starts at `(rows_start, cols_start)`
  rw [(intersect_parent_attributes h).1, hx, hy,
    show coarse.nrows - 1 - a.rowEnd = coarse.nrows - (a.rowStart + a.nrows) by omega]
  exact getcoord_block hi.1 hj.1 hj.2 hr0 hc0 hc1

/-- each grid cell appears once in the returned `idxcells` -/
theorem intersect_result_nodup {coarse fine : Geom α} {cells : List Int} {a : AreaGrid α}
    (h : intersect coarse fine cells = .ok a) : a.keys.Nodup := by
  rw [(intersect_ok_lists h).1]
  exact cIntersect_nodup _ _ _

/-- every returned weight is the ratio of cell areas times the number of catchment cells whose centre lies in the
footprint of its grid cell -/
theorem intersect_result_weight {coarse fine : Geom α} (hcsz : 0 < coarse.csz)
    {cells : List Int} {a : AreaGrid α} (h : intersect coarse fine cells = .ok a) {k : Int} {w : α}
    (hkw : (k, w) ∈ a.keys.zip a.weights) :
    w = (fine.csz / coarse.csz) ^ 2 *
      ((cells.countP fun c => validCell fine.nrows fine.ncols c &&
        decide (InFootprint coarse k (getcoord fine c).1 (getcoord fine c).2) : Nat) : α) := by
  rw [(intersect_lists h).1] at hkw
  exact intersect_weight_counts_centres_any hcsz hkw

/-- the returned weights times the grid-cell area sum to the area of the catchment cells whose centre lies in the
grid -/
theorem intersect_result_area {coarse fine : Geom α} (hcsz : 0 < coarse.csz)
    {cells : List Int} {a : AreaGrid α} (h : intersect coarse fine cells = .ok a) :
    (a.weights.map fun w => w * (coarse.csz * coarse.csz)).sum =
      ((cells.countP fun c => validCell fine.nrows fine.ncols c &&
        decide (InExtent coarse (getcoord fine c).1 (getcoord fine c).2) : Nat) : α) * (fine.csz * fine.csz) := by
  rw [← intersect_area_conserved_any hcsz cells, (intersect_ok_lists h).2, List.map_map]
  rfl

/-- every entry of the weight grid is the weight of a listed cell, at that cell's parent row / column, or 0 where no
listed cell falls (with `intersect_result_nodup`: each weight placed once — the entries then add up to the weights; that
sum is not stated) -/
theorem intersect_entry_cases {coarse fine : Geom α} {cells : List Int} {a : AreaGrid α}
    (h : intersect coarse fine cells = .ok a) {i j : Nat}
    (hi : i < a.nrows.toNat) (hj : j < a.ncols.toNat) :
    (∃ k w, (k, w) ∈ a.keys.zip a.weights ∧ prow coarse k = a.rowStart + i ∧ pcol coarse k = a.colStart + j ∧
        a.at i j = some w) ∨
    ((∀ k ∈ a.keys, ¬ (prow coarse k = a.rowStart + i ∧ pcol coarse k = a.colStart + j)) ∧ a.at i j = some 0) := by
  by_cases hex : ∃ k ∈ a.keys, prow coarse k = a.rowStart + i ∧ pcol coarse k = a.colStart + j
  · left
    obtain ⟨k, hk, hr, hcl⟩ := hex
    obtain ⟨w, hz⟩ : ∃ w, (k, w) ∈ a.keys.zip a.weights := by
      rw [(intersect_lists h).1]
      rw [(intersect_ok_lists h).1] at hk
      obtain ⟨⟨k', w⟩, hm, rfl⟩ := List.mem_map.1 hk
      exact ⟨w, hm⟩
    obtain ⟨-, -, hat⟩ := intersect_weight_placed h hz
    rw [hr, hcl] at hat
    exact ⟨k, w, hz, hr, hcl, by simpa using hat⟩
  · right
    have hno : ∀ k ∈ a.keys, ¬ (prow coarse k = a.rowStart + i ∧ pcol coarse k = a.colStart + j) :=
      fun k hk hkk => hex ⟨k, hk, hkk⟩
    exact ⟨hno, intersect_zero_elsewhere h hi hj hno⟩

/-- `filled` selects the cell list: the filled area when `True`, the delineated area when `False`; everything
above applies to the selected list -/
theorem catchment_intersect_selects (ca : Catchment α) (grid : Geom α) (filled : Bool) {cells : List Int}
    (hsel : (if filled then ca.filled else ca.area) = some cells) :
    ca.intersect grid filled = intersect grid ca.fine cells := by
  unfold Catchment.intersect
  rw [hsel]

/-- `catchment.intersect(grid)` without `filled` intersects the delineated (unfilled) area -/
theorem catchment_intersect_default (ca : Catchment α) (grid : Geom α) {cells : List Int}
    (hsel : ca.area = some cells) : ca.intersectDefault grid = intersect grid ca.fine cells :=
  catchment_intersect_selects ca grid false hsel

/-- on a catchment whose selected list is `None` (not delineated) `intersect` fails (numpy `TypeError`), and that
is the only additional failure -/
theorem catchment_intersect_error_iff (ca : Catchment α) (grid : Geom α) (filled : Bool) (e : Err) :
    ca.intersect grid filled = .error e ↔
      (e = .cellsNone ∧ (if filled then ca.filled else ca.area) = none) ∨
      ∃ cells, (if filled then ca.filled else ca.area) = some cells ∧
        ((e = .badBuffer ∧ grid.nrows * grid.ncols < 0) ∨
         (e = .noOverlap ∧ 0 ≤ grid.nrows * grid.ncols ∧ ∀ c ∈ cells, cellOfPt grid (cell2coord ca.fine c) < 0)) := by
  unfold Catchment.intersect
  cases hsel : (if filled then ca.filled else ca.area) with
  | none => simp [eq_comm]
  | some cells =>
    simp only [reduceCtorEq, and_false, false_or, Option.some.injEq, exists_eq_left']
    exact intersect_error_iff grid ca.fine cells e

/-- the property as an executable statement (`specWeight`, `specArea` of `Model/C16.lean`, run by the driver next to
the model): every returned weight is the number of catchment cells with their centre in the half-open footprint of
its cell times the ratio of cell areas, and the weights times the grid-cell area sum to the catchment area inside
the grid -/
theorem intersect_matches_spec {coarse fine : Geom α} (hcsz : 0 < coarse.csz)
    {cells : List Int} {a : AreaGrid α} (h : intersect coarse fine cells = .ok a) :
    (∀ k w, (k, w) ∈ a.keys.zip a.weights → w = specWeight coarse fine cells k) ∧
    (a.weights.map fun w => w * (coarse.csz * coarse.csz)).sum = specArea coarse fine cells := by
  constructor
  · intro k w hkw
    rw [intersect_result_weight hcsz h hkw]
    unfold specWeight
    rw [specCount_eq, ofInt_eq, Int.cast_natCast, sq]
  · rw [intersect_result_area hcsz h]
    unfold specArea
    rw [specInside_eq, ofInt_eq, Int.cast_natCast]

end Python

/-! ### E. Voronoi weights (exact arithmetic; any distance function) -/

section Voronoi
variable {α : Type} [Field α] [LinearOrder α] [IsStrictOrderedRing α] [FloorRing α]
variable (dist : α → α → α)

/-- the point credited with a cell is the closest one, the lowest index among equidistant points: its distance
is a minimum over all points and strictly below the distance of every point with a lower index — and it is the
only index with that property -/
theorem nearest_is_closest_lowest_index (g : Geom α) {pts : List (α × α)} (hp : pts ≠ []) (c : Int) (j : Nat) :
    nearest (dists dist g pts c) = j ↔
      ∃ p, pts[j]? = some p ∧
        (∀ (k : Nat) (q : α × α), pts[k]? = some q →
          dist ((getcoord g c).1 - p.1) ((getcoord g c).2 - p.2) ≤ dist ((getcoord g c).1 - q.1) ((getcoord g c).2 - q.2)) ∧
        (∀ (k : Nat) (q : α × α), k < j → pts[k]? = some q →
          dist ((getcoord g c).1 - p.1) ((getcoord g c).2 - p.2) < dist ((getcoord g c).1 - q.1) ((getcoord g c).2 - q.2)) :=
  (nearest_eq_iff (by rw [dists]; simpa using hp) j).trans (isFirstArgmin_map _ pts j)

/-- `c_voronoi` rejects exactly two kinds of input, in this order: an empty list of points, then a grid without
rows or columns (error code of the kernel, `ValueError` in `grid.voronoi`) -/
theorem cVoronoi_error_iff (g : Geom α) (cells : List Int) (pts : List (α × α)) (e : Err) :
    cVoronoi dist g cells pts = .error e ↔
      (e = .noPoints ∧ pts = []) ∨ (e = .badGrid ∧ pts ≠ [] ∧ (g.nrows < 1 ∨ g.ncols < 1)) := by
  rw [cVoronoi_unfold]
  by_cases hp : pts = []
  · simp [hp, eq_comm]
  · by_cases hg : g.nrows < 1 ∨ g.ncols < 1
    · simp [hp, hg, eq_comm]
    · by_cases hc : cells = [] <;> simp [hp, hg, hc]

theorem cVoronoi_noPoints (g : Geom α) (cells : List Int) : cVoronoi dist g cells [] = .error .noPoints :=
  (cVoronoi_error_iff dist g cells [] _).2 (Or.inl ⟨rfl, rfl⟩)

/-- with no catchment cell every weight is NaN (`0.0/0.0`) -/
theorem cVoronoi_noCells (g : Geom α) (hr : 0 < g.nrows) (hc : 0 < g.ncols) {pts : List (α × α)} (hp : pts ≠ []) :
    cVoronoi dist g [] pts = .ok (pts.map fun _ => none) := by
  rw [cVoronoi_unfold, if_neg hp, if_neg (by omega), if_pos rfl]

/-- with at least one point and one cell (on a grid with at least one row and column): one weight per point, none
of them NaN, and weight `j` is the fraction of catchment cells whose closest point (lowest index on ties,
`nearest_is_closest_lowest_index`) is point `j` -/
theorem cVoronoi_weight (g : Geom α) (hr : 0 < g.nrows) (hc : 0 < g.ncols) {cells : List Int}
    {pts : List (α × α)} (hp : pts ≠ []) (hcells : cells ≠ []) :
    ∃ ws, cVoronoi dist g cells pts = .ok ws ∧ ws.length = pts.length ∧
      ∀ j, j < pts.length →
        ws[j]? = some (some (((cells.countP fun c => decide (nearest (dists dist g pts c) = j) : Nat) : α) /
          (cells.length : α))) := by
  refine ⟨_, by rw [cVoronoi_unfold, if_neg hp, if_neg (by omega), if_neg hcells], ?_, fun j hj => ?_⟩
  · rw [List.length_map, counts_length]
  · rw [List.getElem?_map, counts_getElem? dist g cells hj, iterate_add_one, zero_add, ofInt_eq, Int.cast_natCast]
    rfl

/-- a success of `c_voronoi` implies the guards: the hypotheses `0 < nrows`, `0 < ncols`, `pts ≠ []` of `cVoronoi_weight`
hold whenever weights are returned -/
theorem cVoronoi_ok_inv (g : Geom α) {cells : List Int} {pts : List (α × α)} {ws : List (Option α)}
    (h : cVoronoi dist g cells pts = .ok ws) : pts ≠ [] ∧ 0 < g.nrows ∧ 0 < g.ncols := by
  obtain ⟨hp, hg, -⟩ := cVoronoi_eq_ok h
  exact ⟨hp, by omega⟩

/-- Voronoi weights are non-negative -/
theorem cVoronoi_nonneg (g : Geom α) {cells : List Int} {pts : List (α × α)} {ws : List (Option α)}
    (hcells : cells ≠ []) (h : cVoronoi dist g cells pts = .ok ws) : ∀ w ∈ ws, ∃ x, w = some x ∧ 0 ≤ x := by
  obtain ⟨hp, hr, hc⟩ := cVoronoi_ok_inv dist g h
  obtain ⟨ws', h', hlen, hw⟩ := cVoronoi_weight dist g hr hc hp hcells
  obtain rfl : ws' = ws := Except.ok.inj (h'.symm.trans h)
  intro w hwm
  obtain ⟨j, hj, rfl⟩ := List.getElem_of_mem hwm
  exact ⟨_, Option.some.inj ((List.getElem?_eq_getElem hj).symm.trans (hw j (hlen ▸ hj))),
    div_nonneg (Nat.cast_nonneg _) (Nat.cast_nonneg _)⟩

/-- Voronoi weights sum to 1 -/
theorem cVoronoi_sum_one (g : Geom α) {cells : List Int} {pts : List (α × α)} {ws : List (Option α)}
    (hcells : cells ≠ []) (h : cVoronoi dist g cells pts = .ok ws) :
    (ws.map fun w => w.getD 0).sum = 1 := by
  obtain ⟨hp, hr, hc⟩ := cVoronoi_ok_inv dist g h
  obtain ⟨ws', h', hlen, hw⟩ := cVoronoi_weight dist g hr hc hp hcells
  obtain rfl : ws' = ws := Except.ok.inj (h'.symm.trans h)
  rw [eq_map_range hlen hw, List.map_map]
  exact sum_div_length_eq_one _ hcells _ fun c _ => nearest_dists_lt dist g hp c

/-- `grid.voronoi` rejects: a catchment that is not delineated (`ValueError`), a points argument that does not have
two columns after `np.atleast_2d` (`AssertionError` of the Cython wrapper), and what the kernel rejects; nothing else -/
theorem voronoiPy_error_iff (g : Geom α) (area : Option (List Int)) (arg : PtsArg α) (e : Err) :
    voronoiPy dist g area arg = .error e ↔
      (e = .notDelineated ∧ area = none) ∨
      ∃ cells, area = some cells ∧
        ((e = .badShape ∧ arg.shape2d.1 ≠ 2) ∨
         (arg.shape2d.1 = 2 ∧ cVoronoi dist g cells (rowsToPts arg.shape2d.2) = .error e)) := by
  unfold voronoiPy
  cases area with
  | none => simp [eq_comm]
  | some cells =>
    simp only [Option.some.injEq, exists_eq_left', reduceCtorEq, and_false, false_or]
    by_cases hw : arg.shape2d.1 = 2
    · simp [hw]
    · simp [hw, eq_comm]

/-- on an `(n, 2)` array of points the wrapper returns what the kernel returns for those points and the
*unfilled* area — all the Voronoi theorems above apply to `grid.voronoi` -/
theorem voronoiPy_points (g : Geom α) (cells : List Int) (pts : List (α × α)) :
    voronoiPy dist g (some cells) (.rows 2 (pts.map fun p => [p.1, p.2])) = cVoronoi dist g cells pts := by
  simp [voronoiPy, PtsArg.shape2d, rowsToPts_map]

/-- a single point may be given flat, `[x, y]` -/
theorem voronoiPy_flat_pair (g : Geom α) (cells : List Int) (x y : α) :
    voronoiPy dist g (some cells) (.flat [x, y]) = cVoronoi dist g cells [(x, y)] := by
  simp [voronoiPy, PtsArg.shape2d, rowsToPts]

end Voronoi

/-! ### F. rounded arithmetic (`Fl r`, `Lemmas/C16Rnd.lean`) -/

section Rounded
variable {α : Type} [Field α] [LinearOrder α] [IsStrictOrderedRing α] [FloorRing α] {r : Rounding α}

/-- the area factor computed in rounded arithmetic is non-negative, and every listed weight is at least the area
factor: no weight is negative or smaller than one cell's share, whatever the rounding -/
theorem cIntersect_rounded_weight_ge (g : Geom (Fl r)) (ca : Fl r) (pts : List (Option (Fl r × Fl r))) {k : Int}
    {w : Fl r} (h : (k, w) ∈ cIntersect g ca pts) :
    0 ≤ (areafactor g.csz ca).val ∧ (areafactor g.csz ca).val ≤ w.val := by
  have h0 : 0 ≤ (areafactor g.csz ca).val := by
    unfold areafactor
    rw [Fl.mul_val]
    exact Fl.rnd_nonneg (mul_self_nonneg _)
  obtain ⟨n, -, rfl⟩ := cIntersect_weight_repAdd g ca pts h
  exact ⟨h0, repAdd_val_ge _ h0 n⟩

/-- a cell holding at least as many centres as another one has at least its weight (rounding never reverses the
order of two weights) -/
theorem cIntersect_rounded_weight_mono (g : Geom (Fl r)) (ca : Fl r) (pts : List (Option (Fl r × Fl r)))
    {k k' : Int} {w w' : Fl r} (h : (k, w) ∈ cIntersect g ca pts) (h' : (k', w') ∈ cIntersect g ca pts)
    (hle : (pts.map (cellOfPt g)).count k ≤ (pts.map (cellOfPt g)).count k') : w.val ≤ w'.val := by
  have h0 := (cIntersect_rounded_weight_ge g ca pts h).1
  obtain ⟨n, hn, rfl⟩ := cIntersect_weight_repAdd g ca pts h
  obtain ⟨n', hn', rfl⟩ := cIntersect_weight_repAdd g ca pts h'
  exact repAdd_val_monotone _ h0 (by omega)

/-- the rounding of the repeated addition, bounded: with a relative error `u` per operation the weight of a cell
holding `n + 1` centres is within `((1+u)^n - 1) (n+1) af` of `(n+1) af`, `af` the computed area factor
(`u = 2^-53`, `n + 1 <= 144`, the 12×12 fine grids of the correspondence: a relative `1.6e-14`, inside the oracle's `1e-11`) -/
theorem cIntersect_rounded_weight_error (g : Geom (Fl r)) (ca : Fl r) (pts : List (Option (Fl r × Fl r))) {k : Int}
    {w : Fl r} (h : (k, w) ∈ cIntersect g ca pts) {u : α} (hu : 0 ≤ u) (herr : ∀ x, |r.rnd x - x| ≤ u * |x|) :
    ∃ n, (pts.map (cellOfPt g)).count k = n + 1 ∧
      |w.val - ((n : α) + 1) * (areafactor g.csz ca).val| ≤
        ((1 + u) ^ n - 1) * (((n : α) + 1) * (areafactor g.csz ca).val) := by
  have h0 := (cIntersect_rounded_weight_ge g ca pts h).1
  obtain ⟨n, hn, rfl⟩ := cIntersect_weight_repAdd g ca pts h
  exact ⟨n, hn, repAdd_val_error _ h0 hu herr n⟩

/-- locating centres in rounded arithmetic is monotone (cell size > 0): of two accepted points, the one further
right is never placed in a column further left, the one further up never in a row further down — whatever the
rounding of `(x - xll) / csz`, a centre can only be moved across an edge it (nearly) sits on, never past another
centre's cell -/
theorem cellOfPt_rounded_mono (g : Geom (Fl r)) (hcsz : 0 < g.csz.val) {x x' y y' : Fl r}
    (hx : x.val ≤ x'.val) (hy : y.val ≤ y'.val)
    (h : 0 ≤ cellOfPt g (some (x, y))) (h' : 0 ≤ cellOfPt g (some (x', y'))) :
    colOf g.ncols (cellOfPt g (some (x, y))) ≤ colOf g.ncols (cellOfPt g (some (x', y'))) ∧
    rowOf g.ncols (cellOfPt g (some (x', y'))) ≤ rowOf g.ncols (cellOfPt g (some (x, y))) :=
  coord2cell_rounded_mono g hcsz hx hy h h'

/-- Voronoi in rounded arithmetic, any distance function (the computed one): as long as the number of cells is
representable (`<= N`), the counts are exact integers and weight `j` is the *rounded* fraction
`rnd (count_j / ncells)` of the cells whose computed distances credit point `j` -/
theorem cVoronoi_rounded_weight (dist : Fl r → Fl r → Fl r) (g : Geom (Fl r)) {cells : List Int}
    {pts : List (Fl r × Fl r)} (hcells : cells ≠ []) (hN : cells.length ≤ r.N) {ws : List (Option (Fl r))}
    (h : cVoronoi dist g cells pts = .ok ws) :
    ws.length = pts.length ∧ ∀ j, j < pts.length → ∃ x : Fl r, ws[j]? = some (some x) ∧
      x.val = r.rnd (((cells.countP fun c => decide (nearest (dists dist g pts c) = j) : ℕ) : α) / (cells.length : α)) := by
  obtain ⟨-, -, hws⟩ := cVoronoi_eq_ok h
  rw [if_neg hcells] at hws
  subst hws
  refine ⟨by rw [List.length_map, counts_length], fun j hj => ?_⟩
  refine ⟨(· + 1)^[cells.countP fun c => nearest (dists dist g pts c) = j] 0 /
    C07.Trunc.ofInt (cells.length : Int), ?_, ?_⟩
  · rw [List.getElem?_map, counts_getElem? dist g cells hj]
    rfl
  · rw [Fl.div_val, Fl.iterate_add_one_zero_val (List.countP_le_length.trans hN), Fl.ofInt_natCast_val _ hN]

/-- every Voronoi weight computed in rounded arithmetic lies in `[0, 1]` -/
theorem cVoronoi_rounded_range (dist : Fl r → Fl r → Fl r) (g : Geom (Fl r)) {cells : List Int}
    {pts : List (Fl r × Fl r)} (hcells : cells ≠ []) (hN : cells.length ≤ r.N) {ws : List (Option (Fl r))}
    (h : cVoronoi dist g cells pts = .ok ws) : ∀ w ∈ ws, ∃ x : Fl r, w = some x ∧ 0 ≤ x.val ∧ x.val ≤ 1 := by
  obtain ⟨hlen, hw⟩ := cVoronoi_rounded_weight dist g hcells hN h
  intro w hwm
  obtain ⟨j, hj, rfl⟩ := List.getElem_of_mem hwm
  obtain ⟨x, hx, hxv⟩ := hw j (hlen ▸ hj)
  have hn : (0 : α) < (cells.length : α) := Nat.cast_pos.2 (List.length_pos_iff.2 hcells)
  refine ⟨x, Option.some.inj ((List.getElem?_eq_getElem hj).symm.trans hx), ?_, ?_⟩
  · rw [hxv]
    exact Fl.rnd_nonneg (div_nonneg (Nat.cast_nonneg _) hn.le)
  · rw [hxv, ← Fl.rnd_one (r := r)]
    exact r.mono ((div_le_one hn).2 (Nat.cast_le.2 List.countP_le_length))

/-- the Voronoi weights computed in rounded arithmetic sum (exactly, as field elements) to 1 within one relative
rounding error `u` — the tolerance of the oracle (`1e-12`) is far above `2^-53` -/
theorem cVoronoi_rounded_sum (dist : Fl r → Fl r → Fl r) (g : Geom (Fl r)) {cells : List Int}
    {pts : List (Fl r × Fl r)} (hcells : cells ≠ []) (hN : cells.length ≤ r.N) {ws : List (Option (Fl r))}
    (h : cVoronoi dist g cells pts = .ok ws) {u : α} (herr : ∀ x, |r.rnd x - x| ≤ u * |x|) :
    |(ws.map fun w => ((w.map Fl.val).getD 0 : α)).sum - 1| ≤ u := by
  obtain ⟨hlen, hw⟩ := cVoronoi_rounded_weight dist g hcells hN h
  obtain ⟨hp, -, -⟩ := cVoronoi_eq_ok h
  have hlist : (ws.map fun w => ((w.map Fl.val).getD 0 : α)) =
      ((List.range pts.length).map fun j =>
        ((cells.countP fun c => decide (nearest (dists dist g pts c) = j) : ℕ) : α) / (cells.length : α)).map r.rnd := by
    rw [List.map_map]
    refine eq_map_range (by rw [List.length_map, hlen]) fun j hj => ?_
    obtain ⟨x, hx, hxv⟩ := hw j hj
    rw [List.getElem?_map, hx]
    exact congrArg some hxv
  have key : ∀ l : List α, (∀ x ∈ l, 0 ≤ x) → l.sum = 1 → |(l.map r.rnd).sum - 1| ≤ u := fun l h0 h1 => by
    have := abs_sum_rnd_sub_le herr l h0
    rwa [h1, mul_one] at this
  rw [hlist]
  refine key _ (fun x hx => ?_) (sum_div_length_eq_one _ hcells _ fun c _ => nearest_dists_lt dist g hp c)
  obtain ⟨j, -, rfl⟩ := List.mem_map.1 hx
  exact div_nonneg (Nat.cast_nonneg _) (Nat.cast_nonneg _)

/-- the credited point, in rounded arithmetic: the one whose *computed* distance is smallest, the lowest index among
equal computed distances (`nearest_is_closest_lowest_index` needs only the order of the distances) -/
theorem nearest_rounded_is_first_argmin (ds : List (Fl r)) (hne : ds ≠ []) (j : Nat) :
    nearest ds = j ↔ ∃ m, ds[j]? = some m ∧ (∀ (k : Nat) (x : Fl r), ds[k]? = some x → m.val ≤ x.val) ∧
      (∀ (k : Nat) (x : Fl r), k < j → ds[k]? = some x → m.val < x.val) :=
  nearest_eq_iff hne j

end Rounded

/-! ### G. histories: calls on live objects, between edits, clones and combinations (any arithmetic) -/

section Histories
variable {α : Type} [Add α] [Sub α] [Mul α] [Div α] [OfNat α 0] [OfNat α 1] [LT α] [DecidableLT α] [C07.Trunc α]
variable (dist : α → α → α)

/-- a call (`intersect`, `voronoi`) and an in-place edit of anything a call returned change no object -/
theorem hstep_call_keeps_objects (w : World α) (op : Op α) (h : op.isMutator = false) : (hstep dist w op).1 = w :=
  (hstep_unchanged_or_done dist w op).resolve_right fun hd => Bool.false_ne_true (h.symm.trans hd.2)

/-- a rejected operation changes no object -/
theorem hstep_rejected_keeps_objects (w : World α) (op : Op α) (e : HErr)
    (h : (hstep dist w op).2 = .rejected e) : (hstep dist w op).1 = w :=
  (hstep_unchanged_or_done dist w op).resolve_right fun hd => by
    rw [h] at hd
    cases hd.1

/-- the objects a history ends with depend on its mutators only: calls can be removed from, or inserted into, a
history without changing what later calls see -/
theorem hfinal_eq_filter (w : World α) (ops : List (Op α)) :
    hfinal dist w ops = hfinal dist w (ops.filter Op.isMutator) :=
  (htrace dist).filter Op.isMutator (hstep_call_keeps_objects dist) w ops

theorem hrun_length (w : World α) (ops : List (Op α)) : (hrun dist w ops).length = ops.length :=
  (htrace dist).outs_length w ops

/-- the answer of an operation anywhere in a history is the answer of that operation on the objects left by the
*mutators* before it: no answer depends on which calls were made earlier, how often, or what was done to their results -/
theorem hrun_reply (w : World α) (pre post : List (Op α)) (op : Op α) :
    (hrun dist w (pre ++ op :: post))[pre.length]? =
      some (hstep dist (hfinal dist w (pre.filter Op.isMutator)) op).2 := by
  rw [← hfinal_eq_filter, (htrace dist).outs_getElem?, List.getElem?_append_right (Nat.le_refl _), Nat.sub_self,
    List.take_left]
  rfl

/-- what `intersect` answers in a history is `Catchment.intersect` of the model on the catchment and the grid as
they are at that moment; every theorem of parts A-D applies to it -/
theorem history_intersect_reply (w : World α) (pre post : List (Op α)) (i j : Nat) (filled : Bool)
    {c : Catchment α} {g : Geom α}
    (hc : (hfinal dist w (pre.filter Op.isMutator)).cats[i]? = some c)
    (hg : (hfinal dist w (pre.filter Op.isMutator)).grids[j]? = some g) :
    (hrun dist w (pre ++ Op.intersect i j filled :: post))[pre.length]? = some (.isect (c.intersect g filled)) := by
  rw [hrun_reply]
  simp only [hstep, hc, hg]

/-- and what `voronoi` answers is `voronoiPy` on the unfilled area, the flow-direction grid and the points as they
are at that moment -/
theorem history_voronoi_reply (w : World α) (pre post : List (Op α)) (i : Nat) {c : Catchment α}
    (hc : (hfinal dist w (pre.filter Op.isMutator)).cats[i]? = some c) :
    (hrun dist w (pre ++ Op.voronoi i :: post))[pre.length]? =
      some (.vor (voronoiPy dist c.fine c.area
        (.rows 2 ((hfinal dist w (pre.filter Op.isMutator)).pts.map fun p => [p.1, p.2])))) := by
  rw [hrun_reply]
  simp only [hstep, hc]

/-- objects are independent: an operation changes at most the object it names (`setFlowdir i`, `setCells i`:
catchment `i`; `setGrid j`: grid `j`); clones and combinations only append. A clone is not affected by later
edits of the original, nor the original by edits of the clone -/
theorem hstep_other_objects (w : World α) (op : Op α) :
    (∀ k, k < w.cats.length → (∀ g, op ≠ .setFlowdir k g) → (∀ a f, op ≠ .setCells k a f) →
      (hstep dist w op).1.cats[k]? = w.cats[k]?) ∧
    (∀ k, k < w.grids.length → (∀ g, op ≠ .setGrid k g) → (hstep dist w op).1.grids[k]? = w.grids[k]?) := by
  cases op <;> dsimp only [hstep, combine] <;> (repeat' split)
  any_goals exact ⟨fun _ _ _ _ => rfl, fun _ _ _ => rfl⟩
  -- `setGrid j g`, `setFlowdir i g`, `setCells i a f`: entry `k` is another one
  · exact ⟨fun _ _ _ _ => rfl, fun k _ h1 => setAt_getElem?_ne _ _ _ _ fun e => by subst e; exact h1 _ rfl⟩
  · exact ⟨fun k _ h1 _ => setAt_getElem?_ne _ _ _ _ fun e => by subst e; exact h1 _ rfl, fun _ _ _ => rfl⟩
  · exact ⟨fun k _ _ h2 => setAt_getElem?_ne _ _ _ _ fun e => by subst e; exact h2 _ _ rfl, fun _ _ _ => rfl⟩
  -- `cloneCat`, `cloneGrid`, `addCat`, `subCat`: the new object is appended
  · exact ⟨fun k hk _ _ => List.getElem?_append_left hk, fun _ _ _ => rfl⟩
  · exact ⟨fun _ _ _ _ => rfl, fun k hk _ => List.getElem?_append_left hk⟩
  · exact ⟨fun k hk _ _ => List.getElem?_append_left hk, fun _ _ _ => rfl⟩
  · exact ⟨fun k hk _ _ => List.getElem?_append_left hk, fun _ _ _ => rfl⟩

end Histories

section HistoriesExact
variable {α : Type} [Field α] [LinearOrder α] [IsStrictOrderedRing α] [FloorRing α] (dist : α → α → α)

/-- the property over arbitrary histories: whatever was done before (edits, re-assignments, clones, combinations,
rejected operations, other calls and edits of their results), an `intersect` that succeeds lists every grid cell
once and its weights times the grid-cell area sum to the area of the catchment cells — of the catchment as it is
at that moment — whose centre lies in the grid as it is at that moment -/
theorem history_intersect_conserves_area (w : World α) (pre post : List (Op α)) (i j : Nat) (filled : Bool)
    {c : Catchment α} {g : Geom α} {cells : List Int} {a : AreaGrid α}
    (hc : (hfinal dist w (pre.filter Op.isMutator)).cats[i]? = some c)
    (hg : (hfinal dist w (pre.filter Op.isMutator)).grids[j]? = some g)
    (hsel : (if filled then c.filled else c.area) = some cells) (hcsz : 0 < g.csz)
    (hr : (hrun dist w (pre ++ Op.intersect i j filled :: post))[pre.length]? = some (.isect (.ok a))) :
    a.keys.Nodup ∧
    (a.weights.map fun x => x * (g.csz * g.csz)).sum =
      ((cells.countP fun k => validCell c.fine.nrows c.fine.ncols k &&
        decide (InExtent g (getcoord c.fine k).1 (getcoord c.fine k).2) : Nat) : α) * (c.fine.csz * c.fine.csz) := by
  rw [history_intersect_reply dist w pre post i j filled hc hg, catchment_intersect_selects c g filled hsel] at hr
  injection hr with hr
  injection hr with hr
  exact ⟨intersect_result_nodup hr, intersect_result_area hcsz hr⟩

/-- `Catchment.__add__`: when both catchments have an area, the area of the sum holds a cell exactly when one of
the two *filled* areas does, each cell once, in increasing order; flow-direction grid and filled area are those of
the left operand -/
theorem catchment_add_area {a b c : Catchment α} {fa fb : List Int} (ha : a.area.isSome) (hb : b.area.isSome)
    (hfa : a.filled = some fa) (hfb : b.filled = some fb) (h : Catchment.add a b = .ok c) :
    c.fine = a.fine ∧ c.filled = a.filled ∧
    ∃ l, c.area = some l ∧ l.Pairwise (· < ·) ∧ ∀ x, x ∈ l ↔ x ∈ fa ∨ x ∈ fb := by
  unfold Catchment.add at h
  cases haa : a.area with
  | none => rw [haa] at ha; cases ha
  | some la =>
    cases hbb : b.area with
    | none => rw [hbb] at hb; cases hb
    | some lb =>
      rw [haa, hbb, hfa, hfb] at h
      simp only [] at h
      injection h with h
      subst h
      exact ⟨rfl, hfa.symm, _, rfl, sortDedup_sorted _, fun x => mem_union1d x fa fb⟩

/-- `Catchment.__sub__`: the area of the difference holds the cells of the left filled area that are not in the
right one, each once, in increasing order -/
theorem catchment_sub_area {a b c : Catchment α} {fa fb : List Int}
    (hfa : a.filled = some fa) (hfb : b.filled = some fb) (h : Catchment.sub a b = .ok c) :
    c.fine = a.fine ∧ c.filled = a.filled ∧
    ∃ l, c.area = some l ∧ l.Nodup ∧ ∀ x, x ∈ l ↔ x ∈ fa ∧ x ∉ fb := by
  unfold Catchment.sub at h
  rw [hfa, hfb] at h
  simp only [] at h
  injection h with h
  subst h
  exact ⟨rfl, hfa.symm, _, rfl, setdiff1d_nodup _ _, fun x => mem_setdiff1d x fa fb⟩

end HistoriesExact

/- from here on the file works at `ℚ`, where two `Trunc` instances apply: the theorems' one (cast, floor of the ordered
field) must win over the driver's `truncRat` of `Model/C07.lean` -/
attribute [local instance 2000] C07.fieldTrunc

/-- `Grid.cellsize` is a plain attribute: nothing rejects a negative value. With `csz = -1` the kernel accepts the
point `(-1/2, -1/2)` into cell 0 of a one-cell grid whose footprint (as `[left, left + csz)`) and extent are empty:
the characterisations `cellOfPt_nonneg_iff` / `cellOfPt_eq_iff` fail without `0 < csz` (the harness probes the real
code on grids with negative and zero cell size: stream `degenerate`) -/
theorem cellOfPt_iff_needs_pos_csz :
    ∃ g : Geom ℚ, g.csz < 0 ∧ 0 < g.ncols ∧ validCell g.nrows g.ncols 0 = true ∧
      cellOfPt g (some (-1 / 2, -1 / 2)) = 0 ∧ ¬ InFootprint g 0 (-1 / 2) (-1 / 2) ∧ ¬ InExtent g (-1 / 2) (-1 / 2) :=
  ⟨⟨1, 1, 0, 0, -1⟩, by decide +kernel⟩

/-! ### the hypotheses are satisfiable: a 6×6 catchment grid against a 2×3 grid of cell size 2 shifted by (1, 1) -/

def exCoarse : Geom ℚ := ⟨2, 3, 1, 1, 2⟩
def exFine : Geom ℚ := ⟨6, 6, 0, 0, 1⟩

example : (0 : ℚ) < exCoarse.csz ∧ 0 < exCoarse.ncols ∧
    ∀ c ∈ [27, 28, 21, 0], validCell exFine.nrows exFine.ncols c = true := by
  refine ⟨by norm_num [exCoarse], by decide, by decide⟩

example : getcoord exFine 27 = (7 / 2, 3 / 2) ∧ InExtent exCoarse (7 / 2) (3 / 2) := by decide +kernel

example : getcoord exFine 0 = (1 / 2, 11 / 2) ∧ ¬ InExtent exCoarse (1 / 2) (11 / 2) := by decide +kernel

example : ∃ a, intersect exCoarse exFine [27, 28, 21, 0] = .ok a := by
  cases h : intersect exCoarse exFine [27, 28, 21, 0] with
  | ok a => exact ⟨a, rfl⟩
  | error e =>
    rcases (intersect_error_iff _ _ _ _).1 h with ⟨-, hn⟩ | ⟨-, -, hn⟩
    · exact absurd hn (by decide)
    · exact absurd (hn 27 List.mem_cons_self) (by decide +kernel)

/-- the hypotheses `(k, w) ∈ a.keys.zip a.weights` / `k ∈ a.keys` are met: a successful intersection lists at
least one cell, with its weight -/
example {a : AreaGrid ℚ} (h : intersect exCoarse exFine [27, 28, 21, 0] = .ok a) :
    ∃ k w, (k, w) ∈ a.keys.zip a.weights := by
  obtain ⟨kw0, rest, heq, -⟩ := intersect_eq_ok h
  exact ⟨kw0.1, kw0.2, by rw [(intersect_lists h).1, heq]; exact List.mem_cons_self⟩

/-- a delineated catchment with a hole (cell 14 of the ring 7..21): `filled` selects a different list -/
def exCa : Catchment ℚ := ⟨exFine, some [7, 8, 9, 13, 15, 19, 20, 21], some [7, 8, 9, 13, 14, 15, 19, 20, 21]⟩

example : (if true then exCa.filled else exCa.area) = some [7, 8, 9, 13, 14, 15, 19, 20, 21] ∧
    (if false then exCa.filled else exCa.area) = some [7, 8, 9, 13, 15, 19, 20, 21] := ⟨rfl, rfl⟩

/-- shapes of the points argument after `np.atleast_2d`, and the grid guards of the Voronoi theorems -/
example : (PtsArg.flat [1, 2] : PtsArg ℚ).shape2d.1 = 2 ∧ (PtsArg.rows 2 [[1, 2], [3, 4]] : PtsArg ℚ).shape2d.1 = 2 ∧
    (PtsArg.scalar 3 : PtsArg ℚ).shape2d.1 ≠ 2 ∧ (PtsArg.flat [1, 2, 3] : PtsArg ℚ).shape2d.1 ≠ 2 ∧
    (PtsArg.rows 3 [[1, 2, 3]] : PtsArg ℚ).shape2d.1 ≠ 2 ∧ 0 < exFine.nrows ∧ 0 < exFine.ncols := by
  refine ⟨rfl, rfl, by decide, by decide, by decide, by decide, by decide⟩

example : nearest ([1, 1] : List ℚ) = 0 ∧ nearest ([2, 1, 1] : List ℚ) = 1 := by decide +kernel

example : ([(0, 0), (5, 5)] : List (ℚ × ℚ)) ≠ [] ∧ ([27, 28] : List Int) ≠ [] := by simp

example : repAdd (1 / 4 : ℚ) 2 = 3 / 4 := by decide +kernel

/-- rounding operators exist: the identity (relative error `u = 0`) … -/
def exRndId : Rounding ℚ where
  rnd := id
  mono := monotone_id
  idem := fun _ => rfl
  N := 2 ^ 53
  nat_exact := fun _ _ => rfl
  one_le_N := by norm_num

example : ∀ x : ℚ, |exRndId.rnd x - x| ≤ 0 * |x| := by intro x; simp [exRndId]

/-- … and a proper one: rounding down to multiples of `1/8` (monotone, idempotent, exact on every natural) -/
def exRndGrid : Rounding ℚ where
  rnd := fun x => (⌊x * 8⌋ : ℚ) / 8
  mono := fun a b hab =>
    div_le_div_of_nonneg_right
      (Int.cast_le.2 (Int.floor_le_floor (mul_le_mul_of_nonneg_right hab (by norm_num)))) (by norm_num)
  idem := fun x => by
    rw [div_mul_cancel₀ _ (by norm_num : (8 : ℚ) ≠ 0), Int.floor_intCast]
  N := 1000
  nat_exact := fun n _ => by
    have : ((n : ℚ) * 8) = ((n * 8 : ℕ) : ℚ) := by rw [Nat.cast_mul, Nat.cast_ofNat]
    rw [this, Int.floor_natCast, Int.cast_natCast, Nat.cast_mul, Nat.cast_ofNat]
    exact mul_div_cancel_right₀ _ (by norm_num)
  one_le_N := by norm_num

example : exRndGrid.rnd (3 / 10) = 1 / 4 := by decide +kernel

example : ([27, 28] : List Int).length ≤ exRndGrid.N := by decide

/-- a geometry in that rounded arithmetic with cell size > 0 and a point it accepts (hypotheses of part F) -/
def exGeomFl : Geom (Fl exRndGrid) := ⟨1, 1, Fl.ofField 0, Fl.ofField 0, Fl.ofField 1⟩

example : (0 : ℚ) < exGeomFl.csz.val ∧
    0 ≤ cellOfPt exGeomFl (some ((Fl.ofField (1 / 2) : Fl exRndGrid), (Fl.ofField (1 / 2) : Fl exRndGrid))) := by
  decide +kernel

/-- the world of the example history `exPre` below -/
def exWorld : World ℚ := ⟨[exCa], [exCoarse], [(0, 0), (5, 5)]⟩
/-- a history: call, clone, re-assign the grid, edit what was returned, a rejected operation (`setCells 7`), a second call
(`voronoi`, on the original), and the cell arrays of the original dropped -/
def exPre : List (Op ℚ) :=
  [.intersect 0 0 true, .cloneCat 0, .setGrid 0 ⟨3, 3, 0, 0, 2⟩, .editReturned, .setCells 7 none none, .voronoi 0,
   .setCells 0 none none]

example : (hfinal (fun dx dy : ℚ => dx * dx + dy * dy) exWorld (exPre.filter Op.isMutator)).cats[1]? = some exCa ∧
    (hfinal (fun dx dy : ℚ => dx * dx + dy * dy) exWorld (exPre.filter Op.isMutator)).cats[0]? =
      some { exCa with area := none, filled := none } ∧
    (hfinal (fun dx dy : ℚ => dx * dx + dy * dy) exWorld (exPre.filter Op.isMutator)).grids[0]? =
      some ⟨3, 3, 0, 0, 2⟩ ∧
    (if true then exCa.filled else exCa.area) = some [7, 8, 9, 13, 14, 15, 19, 20, 21] ∧
    (0 : ℚ) < (⟨3, 3, 0, 0, 2⟩ : Geom ℚ).csz := by
  refine ⟨rfl, rfl, rfl, rfl, by norm_num⟩

example : (hstep (fun dx dy : ℚ => dx * dx + dy * dy) exWorld (.setCells 7 none none)).2 = .rejected .noSuchObject ∧
    Op.isMutator (.intersect 0 0 true : Op ℚ) = false ∧ Op.isMutator (.cloneCat 0 : Op ℚ) = true :=
  ⟨rfl, rfl, rfl⟩

example : (Catchment.add exCa ({ exCa with filled := some [14, 2] } : Catchment ℚ)).toOption.map (·.area) =
      some (some [2, 7, 8, 9, 13, 14, 15, 19, 20, 21]) ∧
    (Catchment.sub exCa ({ exCa with filled := some [14, 2, 7] } : Catchment ℚ)).toOption.map (·.area) =
      some (some [8, 9, 13, 15, 19, 20, 21]) := by
  constructor <;> decide

end HydroVerif.C16
