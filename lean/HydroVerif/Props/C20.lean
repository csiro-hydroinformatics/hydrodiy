/-
C20 — property theorems. Model: `HydroVerif/Model/C20.lean`; helper lemmas: `Lemmas/C20*.lean`.
The numeric statements are over an arbitrary ordered field `α` (so over ℚ and ℝ; with a floor function for the quantile
part), for every size; `paretoFrontX_rnd53` is about ℚ, the grouping and Boxplot-object theorems involve no arithmetic.
Every model function the theorems speak about is executed by `Drivers/C20.lean`, itself or through its callers, and
compared with the real code.
Second part of the model: `HydroVerif/Model/C20X.lean`; its lemmas stand with their topics (C20Pareto, C20Rank, C20Lhs, C20Round;
what involves no arithmetic — `boxStep` / `boxRun`, `eqv` / `distinctL`, `statsOfColumns` — in C20List).

Clause of the property → theorems → what stays outside the theorems
* lhs: exactly one point in each of the n equal strata of every parameter range (sizes 1.., 1..6 parameters, arbitrary finite ranges)
    theorems: lhsColumn_one_point_per_stratum, lhsColumn_in_range, lhs_jitter_range, lhsColumns_one_point_per_stratum, lhs_one_point_per_stratum, lhs_broadcast, lhsUnit_one_point_per_stratum
    outside: np.random.permutation returns a permutation and uniform(low,high)=low+(high-low)r with r in [0,1) (hypotheses; checked on every recorded draw); IEEE rounding at stratum edges (oracle tolerance; a sample can sit one rounding error across an edge, so no exact float statement exists); lhs_norm: norm.ppf and the Cholesky factor are external (applied by the harness to the model's probabilities)
* lhs glue: pmax of length 1 broadcast, wrong length / pmax<=pmin / nsamples=0 rejected
    theorems: lhs_broadcast, lhs_rejects_length, lhs_rejects_empty_range, lhs_rejects_zero_samples
    outside: int()/astype conversions of the arguments (exercised with integer bounds handed over as Python ints / int32 / int64 arrays); error kinds compared as ok/err only
* ppos: strictly increasing, in (0,1), symmetric about 0.5, for all sizes and constants in [0,0.5]; constants outside rejected
    theorems: ppos_accepts, ppos_rejects, ppos_strictly_increasing, ppos_in_unit_interval, ppos_symmetric, pposR_exact, pposR_in_unit_interval, pposR_nondecreasing
    outside: nothing: exact-field theorems (strict), plus for ANY monotone rounding fixing 0 and 1 after each operation the positions stay in [0,1] and never decrease (pposR_*); strictness under rounding is not claimed. Float instance compared bit-for-bit, exact-rational instance within 1e-14, exact rationals with 53-bit rounding (pposR rnd53) equal to numpy's doubles exactly
* normal scores are a strictly increasing function of the data ranks (NaN-free vectors, with and without ties)
    theorems: standardNormal_eq, rank_order_preserving, normal_scores_argument_in_unit_interval, normal_scores_increasing_in_rank, standardNormalSorted_increasing, standardNormal_rejects_nan, standardNormalSorted_rejects_nan, standardNormalX_std, rankDense_order_preserving, ranksFirst_order, normal_scores_increasing_in_any_rank, normal_scores_argument_cst_needed
    outside: norm.ppf is a parameter (hypothesis: strictly increasing on (0,1)); pandas rank is compared by result for all five methods (average/min/max/first/dense, all modelled; float data on the Float instance, integer data of any magnitude on the exact-rational instance); standard_normal does not validate cst - the theorems are stated for cst in [0,0.5] as documented for ppos; their proofs use the upper bound only, and normal_scores_argument_cst_needed shows that the upper bound is needed (cst=1: ppf(0)) and the real code is compared with the model at cst outside [0,0.5]
* pareto_front flags a point dominated exactly when another point is strictly better in every non-missing coordinate
    theorems: paretoFront_length, paretoFront_flag_iff, paretoFrontNd_iff, paretoFrontX_rounding_irrelevant, paretoFrontX_rnd53, paretoFrontX_of_finite, paretoFrontX_flag_iff, paretoFrontX_same_infinity_skipped, paretoFront_orientation_sign, paretoFrontWrap_sign
    outside: Cython wrapper (astype float64, ascontiguousarray) exercised through C/Fortran/int inputs; np.int32(orientation) modelled for integer orientations only. IEEE arithmetic of the kernel: the trusted fact is that a double subtraction and the product with an integer orientation keep the sign of the exact result (hypotheses of paretoFrontX_rounding_irrelevant). ±inf coordinates are outside the property's quantifier: modelled (XVal), characterised (paretoFrontX_flag_iff: two equal infinities are skipped like a missing value) and compared with the real code, no oracle
* the non-dominated set of complete data is never empty
    theorems: paretoFront_exists_nondominated, paretoFront_no_columns_all_dominated
    outside: nothing (any orientation value, any number of points >= 1, columns >= 1; paretoFront_no_columns_all_dominated shows that `columns >= 1` is needed, probed on the real code with (n, 0) arrays)
* reversing the orientation equals negating the data
    theorems: paretoFront_orientation_neg
    outside: nothing; both sides are executed by the driver (ops pareto / paretoneg)
* box-plot summaries: count of finite values; percentiles at the levels implied by the coverages, in non-decreasing order between min and max (coverage box in [40,100), whiskers above it)
    theorems: computePercentiles_levels, quantile_linear_interpolation, quantile_within_min_max, quantile_monotone, quantile_zero_one, percentile_within_min_max, percentile_monotone, boxStats_summary, boxStats_few_values, boxStats_ignores_nonfinite, boxStats_total
    outside: numpy's partition-based selection of order statistics is replaced by a sort (same values); pairwise summation of the mean (theorem: mean*count = sum exactly; Float within n*1e-13); the NaN row under 4 values is the code's rule, stated as boxStats_few_values
* box-plot glue: coverage guards, levels outside [0,100]
    theorems: boxplotCheck_iff, percentile_rejects_level, boxStats_rejects_whiskers_above_100, boxStatsBy_rejects_coverage, boxStatsBy_rejects_one_category, boxStatsBy_accepts, boxStatsCols_column_alone, boxStatsCols_no_rows, boxStatsCols_accepts, boxStatsCols_rejects_coverage
    outside: DataFrame/Series conversion of the input (BoxplotError on non-numeric data) not modelled; one-decimal row labels are pandas/format glue: two levels printing to the same label is the known finding Boxplot.stats/by/percentile_label_collision
* group-wise values equal those of each group taken alone (2+ categories of unequal size)
    theorems: groupBy_groups_are_buckets, groupBy_keys_increasing, boxStatsBy_group_alone, boxStatsBy_accepts
    outside: pandas groupby/apply/pivot_table are external: the model scans the rows into buckets itself; category labels are integers in the model (string and float labels, handed over as array / list / named Series, are mapped to their rank by the harness)
* violin summaries are the sample statistics of the finite values of each column
    theorems: violinStats_summary, median_eq_quantile_half, violinStats_no_finite_value
    outside: pandas median/quantile compared by result (few ulp)
* density profiles normalised to [0,1]
    theorems: normalise_unit_range, violinGrid_profile, violinGrid_no_profile, violinSelect_keeps_all, normaliseR_exact, normaliseR_unit_range, violinNpts_range
    outside: gaussian_kde is external (evaluated by the harness on the values the model selects); a flat kernel profile (all values equal) has no normalisation - hypothesis of normalise_unit_range; the 1e-6 jitter of the abscissae is an input (recorded numpy draws). Rounding: normaliseR_unit_range holds for any monotone rounding fixing 0 and 1 that keeps a positive difference positive, and the exact-rational model with 53-bit rounding gives kde_y bit for bit
* summaries are those computed at construction whatever public methods are called afterwards, in any order, accepted or refused (Boxplot object)
    theorems: boxRun_stats_unchanged, boxStep_rejected_iff, boxStep_rejected_state, boxRun_drawn_persists
    outside: matplotlib: whether an exception escapes from draw (and whether elements were stored before) is an input of the model; Violin has no refusing method - its summaries are compared before/after draw, reset_items and item setters by the harness
-/
import HydroVerif.Lemmas.C20
import HydroVerif.Lemmas.C20Pareto
import HydroVerif.Lemmas.C20Rank
import HydroVerif.Lemmas.C20Lhs
import HydroVerif.Lemmas.C20Quantile
import HydroVerif.Lemmas.C20Group
import HydroVerif.Lemmas.C20Round

set_option linter.unusedSectionVars false
set_option linter.unusedVariables false

namespace HydroVerif.C20

section field
variable {α : Type} [Field α] [LinearOrder α] [IsStrictOrderedRing α]

theorem ppos_accepts (n : Nat) (cst : α) (h0 : 0 ≤ cst) (h1 : cst ≤ 1 / 2) :
    ∃ l, ppos n cst = .ok l ∧ l.length = n :=
  ⟨_, ppos_eq n cst h0 h1, by simp⟩

theorem ppos_rejects (n : Nat) (cst : α) (h : cst < 0 ∨ 1 / 2 < cst) : ppos n cst = .error .cstRange := by
  unfold ppos
  rw [if_pos h]

theorem ppos_strictly_increasing (n : Nat) (cst : α) (h0 : 0 ≤ cst) (h1 : cst ≤ 1 / 2) (l : List α)
    (h : ppos n cst = .ok l) : l.Pairwise (· < ·) := by
  obtain rfl := Except.ok.inj ((ppos_eq n cst h0 h1).symm.trans h)
  exact (scoreArg_range n cst h1).1

theorem ppos_in_unit_interval (n : Nat) (cst : α) (h0 : 0 ≤ cst) (h1 : cst ≤ 1 / 2) (l : List α)
    (h : ppos n cst = .ok l) : ∀ p ∈ l, 0 < p ∧ p < 1 := by
  obtain rfl := Except.ok.inj ((ppos_eq n cst h0 h1).symm.trans h)
  exact (scoreArg_range n cst h1).2

/-- plotting positions are symmetric about 0.5: `p_i + p_{n-1-i} = 1` (0-based) -/
theorem ppos_symmetric (n : Nat) (cst : α) (h0 : 0 ≤ cst) (h1 : cst ≤ 1 / 2) (l : List α)
    (h : ppos n cst = .ok l) (i : Nat) (hi : i < n) :
    ∃ a b, l[i]? = some a ∧ l[n - 1 - i]? = some b ∧ a + b = 1 := by
  obtain rfl := Except.ok.inj ((ppos_eq n cst h0 h1).symm.trans h)
  have hj : n - 1 - i < n := by omega
  refine ⟨_, _, by rw [List.getElem?_map, List.getElem?_range hi]; rfl,
    by rw [List.getElem?_map, List.getElem?_range hj]; rfl, scoreArg_add_eq_one n (by omega) cst h1 ?_⟩
  exact_mod_cast (by omega : i + (n - 1 - i) + 1 = n)

example : ppos 3 (3 / 10 : Rat) = .ok [7 / 34, 1 / 2, 27 / 34] := by decide +kernel

theorem paretoFront_length (o : α) (d : List (List (Option α))) : (paretoFront o d).length = d.length := by
  simp [paretoFront]

/-- a point is flagged 1 exactly when another point is strictly better in every non-missing
coordinate, and 0 otherwise -/
theorem paretoFront_flag_iff (o : α) (d : List (List (Option α))) (i : Nat) (hi : i < d.length) :
    ((paretoFront o d)[i]? = some 1 ↔ Dominated o d i) ∧
    ((paretoFront o d)[i]? = some 0 ↔ ¬ Dominated o d i) := by
  rw [← isDominatedAt_iff]
  exact flags_getElem? _ _ i hi

/-- complete data with at least one column: some point is not dominated, whatever the orientation -/
theorem paretoFront_exists_nondominated (o : α) (d : List (List (Option α))) (ncol : Nat)
    (hcol : 0 < ncol) (hne : d ≠ []) (hrows : ∀ r ∈ d, r.length = ncol)
    (hcomplete : ∀ r ∈ d, ∀ x ∈ r, x ≠ none) :
    ∃ i, i < d.length ∧ (paretoFront o d)[i]? = some 0 := by
  -- key of a point: orientation times its first coordinate
  let f : Nat → α := fun i => match d[i]? with
    | some (some a :: _) => o * a
    | _ => 0
  have hlen := List.length_pos_iff.mpr hne
  obtain ⟨i, hi', hmax⟩ := exists_max_index f (d.length - 1)
  have hi : i < d.length := by omega
  refine ⟨i, hi, ((paretoFront_flag_iff o d i hi).2).mpr ?_⟩
  rintro ⟨j, ri, rj, -, hri, hrj, hb⟩
  have first : ∀ r ∈ d, ∃ a t, r = some a :: t := by
    intro r hr
    match r, hrows r hr, hcomplete r hr with
    | [], h, _ => exact absurd h.symm hcol.ne'
    | none :: _, _, h => exact absurd rfl (h none (List.mem_cons_self ..))
    | some a :: t, _, _ => exact ⟨a, t, rfl⟩
  obtain ⟨b, tb, rfl⟩ := first ri (List.mem_of_getElem? hri)
  obtain ⟨a, ta, rfl⟩ := first rj (List.mem_of_getElem? hrj)
  -- `j` strictly better than `i` in the first coordinate contradicts the choice of `i`
  have hle : o * a ≤ o * b := by simpa only [f, hri, hrj] using hmax j (Nat.le_sub_one_of_lt (List.getElem?_eq_some_iff.mp hrj).1)
  exact absurd (hb 0 a b rfl rfl) (not_lt.mpr (by rw [mul_sub]; exact sub_nonpos.mpr hle))

theorem paretoFrontNd_iff (ndim : Nat) (o : α) (d : List (List (Option α))) :
    (paretoFrontNd ndim o d = .ok (paretoFront o d) ↔ ndim = 2) ∧
    (paretoFrontNd ndim o d = .error .ndim ↔ ndim ≠ 2) := by
  unfold paretoFrontNd
  by_cases h : ndim = 2 <;> simp [h]

theorem paretoFront_orientation_neg (o : α) (d : List (List (Option α))) :
    paretoFront (-o) d = paretoFront o (negRows d) := by
  unfold paretoFront negRows
  simp only [List.length_map, isDominatedAt_eq, anyOtherRow_map, anyOtherRow_congr (domBy_neg o)]

example : paretoFront (1 : Rat) [[some 1, some 2], [some 2, some 3], [none, some 1]] = [1, 0, 1] := by
  decide +kernel
example : ∃ i, i < ([[some 1, some 2], [some 1, some 2], [some 0, some 3]] : List (List (Option Rat))).length ∧
    (paretoFront (-1 : Rat) [[some 1, some 2], [some 1, some 2], [some 0, some 3]])[i]? = some 0 :=
  paretoFront_exists_nondominated (α := Rat) (-1) [[some 1, some 2], [some 1, some 2], [some 0, some 3]] 2
    (by decide) (by simp) (by simp) (by simp)
example : paretoFront (-(1 : Rat)) [[some 1, some 2], [some 2, some 3]]
    = paretoFront (1 : Rat) (negRows [[some 1, some 2], [some 2, some 3]]) :=
  paretoFront_orientation_neg (1 : Rat) _

theorem normaliseR_exact (y : List α) : normaliseR id y = normalise y := rfl

/-- "normalised to [0, 1]" survives floating point exactly: for any monotone rounding that fixes 0 and 1 and does not
round a positive difference to 0 (true of IEEE subtraction), a profile that is not flat is mapped into `[0, 1]`
and both ends are attained -/
theorem normaliseR_unit_range (rnd : α → α) (hm : Monotone rnd) (hr0 : rnd 0 = 0) (hr1 : rnd 1 = 1)
    (hpos : ∀ x, 0 < x → 0 < rnd x) (y : List α) (a b : α) (ha : a ∈ y) (hb : b ∈ y) (hab : a < b) :
    ∃ l, normaliseR rnd y = some l ∧ l.length = y.length ∧ (∀ v ∈ l, 0 ≤ v ∧ v ≤ 1) ∧ (0 : α) ∈ l ∧ (1 : α) ∈ l := by
  obtain ⟨lo, hi, hlo, hhi, hlom, him, hbd⟩ := exists_minL_maxL (List.ne_nil_of_mem ha)
  have hd : 0 < rnd (hi - lo) := hpos _ (sub_pos.mpr ((hbd a ha).1.trans_lt (hab.trans_le (hbd b hb).2)))
  refine ⟨y.map fun v => rnd (rnd (v - lo) / rnd (hi - lo)), by simp [normaliseR, hlo, hhi], by simp,
    fun v hv => ?_, List.mem_map.mpr ⟨lo, hlom, by simp [hr0]⟩, List.mem_map.mpr ⟨hi, him, by rw [div_self hd.ne', hr1]⟩⟩
  obtain ⟨w, hw, rfl⟩ := List.mem_map.mp hv
  exact Round.rnd_div_mem hm hr0 hr1 (hr0 ▸ hm (sub_nonneg.mpr (hbd w hw).1)) (hm (sub_le_sub_right (hbd w hw).2 lo))

/-- a profile that is not flat is mapped into `[0, 1]`, and both ends are attained -/
theorem normalise_unit_range (y : List α) (a b : α) (ha : a ∈ y) (hb : b ∈ y) (hab : a < b) :
    ∃ l, normalise y = some l ∧ l.length = y.length ∧ (∀ v ∈ l, 0 ≤ v ∧ v ≤ 1) ∧ (0 : α) ∈ l ∧ (1 : α) ∈ l :=
  normaliseR_unit_range id monotone_id rfl rfl (fun _ hx => hx) y a b ha hb hab

example : normalise [(2 : Rat), 5, 3] = some [0, 1, 1 / 3] := by decide +kernel
example : normaliseR rnd53 [(2 : Rat), 5, 3] = some [0, 1, 6004799503160661 / 18014398509481984] := by decide +kernel
example : ∃ l, normaliseR (fun x : Rat => min x 1) [2, 5, 3] = some l ∧ l.length = 3 ∧ (∀ v ∈ l, 0 ≤ v ∧ v ≤ 1) ∧
    (0 : Rat) ∈ l ∧ (1 : Rat) ∈ l :=
  normaliseR_unit_range (fun x : Rat => min x 1) (fun a b h => min_le_min_right 1 h) (by norm_num) (by norm_num)
    (fun x hx => lt_min hx one_pos) [2, 5, 3] 2 5 (by simp) (by simp) (by norm_num)

/-! ### standard_normal (`norm.ppf` is a parameter, assumed strictly increasing on (0, 1)) -/

/-- what the function returns on NaN-free data: 0-based ranks and `ppf` arguments, entry by entry -/
theorem standardNormal_eq (m : RankMethod) (cst : α) (x : List α) :
    standardNormal m cst (x.map some) =
      .ok (x.map (fun v => scoreArg x.length cst (rank m x v - 1)), x.map (fun v => rank m x v - 1)) := by
  have h1 : (x.map some).any Option.isNone = false := by
    simp [List.any_eq_false]
  have h2 : (x.map some).filterMap id = x := by
    simp [List.filterMap_map]
  unfold standardNormal
  simp only [h1, h2, Bool.false_eq_true, if_false, List.map_map]
  rfl

theorem standardNormal_rejects_nan (m : RankMethod) (cst : α) (x : List (Option α)) (h : none ∈ x) :
    standardNormal m cst x = .error .hasNan := by
  have : x.any Option.isNone = true := List.any_eq_true.mpr ⟨none, h, rfl⟩
  unfold standardNormal
  simp [this]

/-- ranks follow the order of the data: strictly larger value, strictly larger rank; equal values
(ties) share their rank since the rank is a function of the value -/
theorem rank_order_preserving (m : RankMethod) (xs : List α) (x y : α) (hx : x ∈ xs) (hy : y ∈ xs) :
    rank m xs x < rank m xs y ↔ x < y :=
  (rank_strictMonoOn m xs).lt_iff_lt hx hy

/-- normal scores are a strictly increasing function of the ranks (plotting constant in [0, 0.5]),
hence ordered exactly as the data -/
theorem normal_scores_increasing_in_rank (ppf : α → α) (hppf : StrictMonoOn ppf (Set.Ioo 0 1))
    (m : RankMethod) (cst : α) (h0 : 0 ≤ cst) (h1 : cst ≤ 1 / 2) (xs : List α) (x y : α)
    (hx : x ∈ xs) (hy : y ∈ xs) :
    (ppf (scoreArg xs.length cst (rank m xs x - 1)) < ppf (scoreArg xs.length cst (rank m xs y - 1))
      ↔ rank m xs x < rank m xs y) ∧
    (ppf (scoreArg xs.length cst (rank m xs x - 1)) < ppf (scoreArg xs.length cst (rank m xs y - 1))
      ↔ x < y) := by
  have key := ppf_scoreArg_lt_iff ppf hppf xs.length cst h1 (rank_isRankOf m xs hx).bounds (rank_isRankOf m xs hy).bounds
  exact ⟨key, key.trans (rank_order_preserving m xs x y hx hy)⟩

/-- the plotting positions handed to `ppf` lie in (0, 1) for every rank method -/
theorem normal_scores_argument_in_unit_interval (m : RankMethod) (cst : α) (h0 : 0 ≤ cst) (h1 : cst ≤ 1 / 2)
    (xs : List α) (x : α) (hx : x ∈ xs) :
    0 < scoreArg xs.length cst (rank m xs x - 1) ∧ scoreArg xs.length cst (rank m xs x - 1) < 1 :=
  scoreArg_rank_mem_unit xs.length cst h1 (rank_isRankOf m xs hx).bounds

/-- `sorted=True`: ranks are `0..n-1` and the plotting positions handed to `ppf` are strictly increasing
inside (0, 1), so the scores are strictly increasing along the (sorted) data -/
theorem standardNormalSorted_increasing (cst : α) (h0 : 0 ≤ cst) (h1 : cst ≤ 1 / 2) (x : List α) :
    ∃ u ranks, standardNormalSorted cst (x.map some) = .ok (u, ranks) ∧
      ranks = (List.range x.length).map (fun i => ((i : Nat) : α)) ∧ u.length = x.length ∧
      u.Pairwise (· < ·) ∧ ∀ p ∈ u, 0 < p ∧ p < 1 := by
  have hnan : (x.map some).any Option.isNone = false := by simp [List.any_eq_false]
  obtain ⟨hlt, hunit⟩ := scoreArg_range x.length cst h1
  refine ⟨(List.range x.length).map fun (i : Nat) => scoreArg x.length cst (i : α), _, ?_, rfl, by simp, hlt, hunit⟩
  unfold standardNormalSorted
  simp only [hnan, Bool.false_eq_true, if_false, List.length_map, List.map_map]
  rfl

theorem standardNormalSorted_rejects_nan (cst : α) (x : List (Option α)) (h : none ∈ x) :
    standardNormalSorted cst x = .error .hasNan := by
  have : x.any Option.isNone = true := List.any_eq_true.mpr ⟨none, h, rfl⟩
  unfold standardNormalSorted
  simp [this]

example : standardNormalSorted (1 / 2 : Rat) [some 1, some 5] = .ok ([1 / 4, 3 / 4], [0, 1]) := by decide +kernel
example : rank .min [(3 : Rat), 1, 3] 3 = 2 ∧ rank .max [(3 : Rat), 1, 3] 3 = 3 ∧ rank .average [(3 : Rat), 1, 3] 3 = 5 / 2 := by
  decide +kernel
example : standardNormal .average (0 : Rat) [some 3, some 1, some 3] = .ok ([5 / 8, 1 / 4, 5 / 8], [3 / 2, 0, 3 / 2]) := by
  decide +kernel

/-! ### lhs
`perm` is whatever `np.random.permutation(n)` returned (any permutation of `0..n-1`), `r` the unit draws
(`uniform(-du/2, du/2)` is `low + (high - low) r`, `r ∈ [0, 1)`). -/

/-- the jitter `-du/2 + (du/2 - -du/2) r` stays inside half a stratum on either side -/
theorem lhs_jitter_range (du r : α) (hdu : 0 < du) (hr0 : 0 ≤ r) (hr1 : r < 1) :
    -du / 2 ≤ -du / 2 + (du / 2 - -du / 2) * r ∧ -du / 2 + (du / 2 - -du / 2) * r < du / 2 := by
  have hw : du / 2 - -du / 2 = du := by ring
  rw [hw]
  refine ⟨le_add_of_nonneg_right (mul_nonneg hdu.le hr0), ?_⟩
  calc -du / 2 + du * r < -du / 2 + du * 1 := (add_lt_add_iff_left _).mpr (mul_lt_mul_of_pos_left hr1 hdu)
    _ = du / 2 := by ring

/-- for ANY permutation and ANY unit draws, every one of the `n` equal strata
`[pmin + k du, pmin + (k+1) du)` of the parameter range receives exactly one sample -/
theorem lhsColumn_one_point_per_stratum (n : Nat) (pmin pmax : α) (h : pmin < pmax) (perm : List Nat) (r : List α)
    (hperm : perm.Perm (List.range n)) (hr : r.length = n) (hr01 : ∀ x ∈ r, 0 ≤ x ∧ x < 1) :
    ∃ s, lhsColumn n pmin pmax perm r = .ok s ∧ s.length = n ∧
      ∀ k, k < n → s.countP (fun x => decide (pmin + (k : α) * ((pmax - pmin) / (n : α)) ≤ x ∧
                                               x < pmin + ((k : α) + 1) * ((pmax - pmin) / (n : α)))) = 1 := by
  have hp : perm.length = n := by simpa using hperm.length_eq
  have hk : ∀ k ∈ perm, k < n := fun k hk => List.mem_range.mp (hperm.mem_iff.mp hk)
  refine ⟨_, lhsColumn_eq n pmin pmax perm r hp hr hk, by simp [hp, hr], ?_⟩
  intro k hkn
  have hdu : 0 < (pmax - pmin) / (n : α) := div_pos (sub_pos.mpr h) (Nat.cast_pos.mpr (by omega))
  rw [countP_zipWith_stratum pmin _ hdu k perm r hr01 (by rw [hp, hr]), hperm.count_eq]
  exact List.count_eq_one_of_mem List.nodup_range (List.mem_range.mpr hkn)

theorem lhsColumn_in_range (n : Nat) (pmin pmax : α) (h : pmin < pmax) (perm : List Nat) (r : List α)
    (hperm : perm.Perm (List.range n)) (hr : r.length = n) (hr01 : ∀ x ∈ r, 0 ≤ x ∧ x < 1)
    (s : List α) (hs : lhsColumn n pmin pmax perm r = .ok s) : ∀ x ∈ s, pmin ≤ x ∧ x < pmax := by
  have hp : perm.length = n := by simpa using hperm.length_eq
  have hk : ∀ k ∈ perm, k < n := fun k hk => List.mem_range.mp (hperm.mem_iff.mp hk)
  obtain rfl := Except.ok.inj ((lhsColumn_eq n pmin pmax perm r hp hr hk).symm.trans hs)
  intro x hx
  obtain ⟨i, hi, rfl⟩ := List.mem_iff_getElem.mp hx
  rw [List.getElem_zipWith]
  have hri := hr01 _ (List.getElem_mem (List.lt_length_right_of_zipWith hi))
  have hpi := hk _ (List.getElem_mem (List.lt_length_left_of_zipWith hi))
  generalize perm[i]'(List.lt_length_left_of_zipWith hi) = p at hpi ⊢
  generalize r[i]'(List.lt_length_right_of_zipWith hi) = ri at hri ⊢
  have hn : (0 : α) < (n : α) := Nat.cast_pos.mpr (Nat.zero_lt_of_lt hpi)
  have hdu : 0 < (pmax - pmin) / (n : α) := div_pos (sub_pos.mpr h) hn
  -- `0 ≤ p + ri < p + 1 ≤ n`, and `n du = pmax - pmin`
  refine ⟨le_add_of_nonneg_right (mul_nonneg (add_nonneg (Nat.cast_nonneg _) hri.1) hdu.le), ?_⟩
  have hlt : (p : α) + ri < (n : α) := lt_of_lt_of_le ((add_lt_add_iff_left _).mpr hri.2) (by exact_mod_cast hpi)
  calc pmin + ((p : α) + ri) * ((pmax - pmin) / (n : α))
      < pmin + (n : α) * ((pmax - pmin) / (n : α)) := (add_lt_add_iff_left _).mpr (mul_lt_mul_of_pos_right hlt hdu)
    _ = pmax := by rw [mul_div_cancel₀ _ hn.ne', add_sub_cancel]

example : lhsColumn 3 (0 : Rat) 1 [2, 0, 1] [0, 1 / 2, 3 / 4] = .ok [2 / 3, 1 / 6, 7 / 12] := by decide +kernel

/-- all parameters at once (`LhsInputsOK`, `OnePerStratum`: the per-column statements, list-wise) -/
theorem lhsColumns_one_point_per_stratum (n : Nat) (pmin pmax : List α) (perms : List (List Nat))
    (rs : List (List α)) (h : LhsInputsOK n pmin pmax perms rs) :
    ∃ cols, lhsColumns n pmin pmax perms rs = .ok cols ∧ OnePerStratum n pmin pmax cols := by
  fun_induction LhsInputsOK n pmin pmax perms rs with
  | case1 a pmin b pmax p perms r rs ih =>
    obtain ⟨hab, hperm, hr, hr01, hrest⟩ := h
    obtain ⟨c, hc, hlen, hcount⟩ := lhsColumn_one_point_per_stratum n a b hab p r hperm hr hr01
    obtain ⟨cs, hcs, hok⟩ := ih hrest
    exact ⟨c :: cs, by simp only [lhsColumns, hc, hcs]; rfl, hlen, hcount, hok⟩
  | case2 => exact ⟨[], rfl, trivial⟩
  | case3 => exact h.elim

/-- `lhs(nsamples, pmin, pmax)` with `nsamples ≥ 1` and proper ranges: accepted, and every parameter
column places exactly one sample in each of its `nsamples` equal strata -/
theorem lhs_one_point_per_stratum (n : Nat) (hn : 0 < n) (pmin pmax : List α) (perms : List (List Nat))
    (rs : List (List α)) (h : LhsInputsOK n pmin pmax perms rs) :
    ∃ cols, lhs n pmin pmax perms rs = .ok cols ∧ OnePerStratum n pmin pmax cols := by
  obtain ⟨cols, hc, hok⟩ := lhsColumns_one_point_per_stratum n pmin pmax perms rs h
  refine ⟨cols, ?_, hok⟩
  have hlen := h.length_eq
  have hbc := broadcast_eq pmax pmin.length hlen
  unfold lhs
  simp only [hbc, hlen, ne_eq, not_true_eq_false, if_false, h.no_empty_range, Bool.false_eq_true]
  rw [if_neg (by omega)]
  exact hc

/-- a scalar / one-element `pmax` is repeated for every parameter -/
theorem lhs_broadcast (n : Nat) (pmin : List α) (p : α) (perms : List (List Nat)) (rs : List (List α)) :
    lhs n pmin [p] perms rs = lhs n pmin (List.replicate pmin.length p) perms rs := by
  unfold lhs
  simp only []
  rw [broadcast_singleton, broadcast_eq (List.replicate pmin.length p) pmin.length (by simp)]

theorem lhs_rejects_empty_range (n : Nat) (pmin pmax : List α) (hlen : pmax.length = pmin.length)
    (i : Nat) (a b : α) (ha : pmin[i]? = some a) (hb : pmax[i]? = some b) (hab : b ≤ a)
    (perms : List (List Nat)) (rs : List (List α)) :
    lhs n pmin pmax perms rs = .error .pmaxLePmin := by
  unfold lhs
  simp only [broadcast_eq pmax pmin.length hlen, hlen, ne_eq, not_true_eq_false, if_false]
  have hi : (List.zipWith (fun a b => decide (b - a ≤ 0)) pmin pmax)[i]? = some true :=
    List.getElem?_zipWith_eq_some.mpr ⟨a, b, ha, hb, decide_eq_true (sub_nonpos.mpr hab)⟩
  rw [if_pos (List.any_eq_true.mpr ⟨true, List.mem_of_getElem? hi, rfl⟩)]

theorem lhs_rejects_length (n : Nat) (pmin pmax : List α) (h1 : pmax.length ≠ 1) (h : pmax.length ≠ pmin.length)
    (perms : List (List Nat)) (rs : List (List α)) :
    lhs n pmin pmax perms rs = .error .pmaxLength := by
  unfold lhs
  simp only [broadcast_of_length_ne_one pmax pmin.length h1, ne_eq, h, not_false_eq_true, if_true]

/-- `nsamples = 0` with at least one proper parameter range fails (division by zero in the code) -/
theorem lhs_rejects_zero_samples (pmin pmax : List α) (perms : List (List Nat)) (rs : List (List α))
    (h : LhsInputsOK 0 pmin pmax perms rs) (hne : pmin ≠ []) :
    lhs 0 pmin pmax perms rs = .error .zeroSamples := by
  have hlen := h.length_eq
  unfold lhs
  simp only [broadcast_eq pmax pmin.length hlen, hlen, ne_eq, not_true_eq_false, if_false, h.no_empty_range,
    Bool.false_eq_true]
  rw [if_pos ⟨trivial, by simpa using hne⟩]

example : lhs 2 [(0 : Rat), 1] [5] [[1, 0], [0, 1]] [[1 / 2, 0], [0, 1 / 4]]
    = .ok [[15 / 4, 0], [1, 7 / 2]] := by decide +kernel
example : lhs 2 [(0 : Rat), 1] [1, 1] [] [] = .error .pmaxLePmin := by decide +kernel

end field

section floor
variable {α : Type} [Field α] [LinearOrder α] [IsStrictOrderedRing α] [FloorRing α]

/-! ### quantiles and percentiles (numpy method "linear") on the sorted finite values
`FloorNat.floorNat` is `⌊·⌋₊` here (instance in `Lemmas/C20Quantile.lean`). -/

theorem quantile_within_min_max (s : List α) (hs : s.Pairwise (· ≤ ·)) (first last : α)
    (hf : s.head? = some first) (hl : s.getLast? = some last) (q : α) (hq0 : 0 ≤ q) (hq1 : q ≤ 1) :
    ∃ v, quantile s q = .ok v ∧ first ≤ v ∧ v ≤ last :=
  ⟨_, quantile_eq s last hl q hq0 hq1, quantileVal_bounds s hs first last hf hl hq0⟩

theorem quantile_monotone (s : List α) (hs : s.Pairwise (· ≤ ·)) (q q' : α) (hq0 : 0 ≤ q) (hqq : q ≤ q')
    (hq1 : q' ≤ 1) (v v' : α) (hv : quantile s q = .ok v) (hv' : quantile s q' = .ok v') : v ≤ v' := by
  cases hl : s.getLast? with
  | none =>
    obtain rfl := List.getLast?_eq_none_iff.mp hl
    unfold quantile at hv
    split at hv <;> cases hv
  | some last =>
    rw [quantile_eq s last hl q hq0 (hqq.trans hq1)] at hv
    rw [quantile_eq s last hl q' (hq0.trans hqq) hq1] at hv'
    cases hv
    cases hv'
    exact quantileVal_mono s hs last hl hq0 hqq

/-- the value is the linear interpolation between the two order statistics around the virtual index
`(n - 1) q` (Hyndman–Fan definition 7) -/
theorem quantile_linear_interpolation (s : List α) (q : α) (hq0 : 0 ≤ q) (hq1 : q ≤ 1) (k : Nat)
    (hk : k + 1 < s.length) (h1 : (k : α) ≤ ((s.length - 1 : Nat) : α) * q)
    (h2 : ((s.length - 1 : Nat) : α) * q < (k : α) + 1) :
    quantile s q = .ok (s[k] + (s[k + 1] - s[k]) * (((s.length - 1 : Nat) : α) * q - (k : α))) := by
  have hne : s ≠ [] := List.ne_nil_of_length_pos (by omega)
  rw [quantile_eq s _ (List.getLast?_eq_some_getLast hne) q hq0 hq1, quantileVal,
    interpG_of_floor _ _ _ k (by omega) h1 h2, chord, ← List.getElem_eq_getD (l := s) (i := k) (h := by omega), ← List.getElem_eq_getD (h := hk)]

theorem quantile_zero_one (s : List α) (first last : α) (hf : s.head? = some first) (hl : s.getLast? = some last) :
    quantile s 0 = .ok first ∧ quantile s 1 = .ok last :=
  ⟨by rw [quantile_eq s last hl 0 le_rfl zero_le_one, quantileVal_zero s first last hf],
   by rw [quantile_eq s last hl 1 zero_le_one le_rfl, quantileVal_one s last hl]⟩

theorem percentile_within_min_max (s : List α) (hs : s.Pairwise (· ≤ ·)) (first last : α)
    (hf : s.head? = some first) (hl : s.getLast? = some last) (p : α) (hp0 : 0 ≤ p) (hp1 : p ≤ 100) :
    ∃ v, percentile s p = .ok v ∧ first ≤ v ∧ v ≤ last :=
  ⟨_, percentile_eq s last hl p hp0 hp1, percentileVal_bounds s hs first last hf hl hp0⟩

theorem percentile_monotone (s : List α) (hs : s.Pairwise (· ≤ ·)) (p p' : α) (hp0 : 0 ≤ p) (hpp : p ≤ p')
    (hp1 : p' ≤ 100) (v v' : α) (hv : percentile s p = .ok v) (hv' : percentile s p' = .ok v') : v ≤ v' := by
  have h100 : (0 : α) < ((100 : Nat) : α) := by norm_num
  exact quantile_monotone s hs _ _ (div_nonneg hp0 h100.le) (div_le_div_of_nonneg_right hpp h100.le)
    ((div_le_one h100).mpr (by simpa using hp1)) v v' hv hv'

/-- levels outside `[0, 100]` are rejected, as numpy does -/
theorem percentile_rejects_level (s : List α) (p : α) (h : p < 0 ∨ 100 < p) :
    percentile s p = .error .percentileRange := by
  have h100 : (0 : α) < ((100 : Nat) : α) := by norm_num
  unfold percentile quantile
  rw [if_pos]
  rintro ⟨h0, h1⟩
  rcases h with h | h
  · exact absurd h0 (not_le.mpr (div_neg_of_neg_of_pos h h100))
  · exact absurd h1 (not_le.mpr ((one_lt_div h100).mpr (by simpa using h)))

/-- the five levels implied by the coverages are ordered and symmetric about 50 -/
theorem computePercentiles_levels (b w : α) (hb : 0 ≤ b) (hbw : b ≤ w) (hw : w ≤ 100) :
    0 ≤ (computePercentiles w).1 ∧ (computePercentiles w).1 ≤ (computePercentiles b).1 ∧
    (computePercentiles b).1 ≤ 50 ∧ 50 ≤ (computePercentiles b).2 ∧
    (computePercentiles b).2 ≤ (computePercentiles w).2 ∧ (computePercentiles w).2 ≤ 100 ∧
    (computePercentiles b).1 + (computePercentiles b).2 = 100 ∧
    (computePercentiles w).1 + (computePercentiles w).2 = 100 ∧
    (computePercentiles b).2 - (computePercentiles b).1 = b ∧
    (computePercentiles w).2 - (computePercentiles w).1 = w := by
  simp only [computePercentiles_fst, computePercentiles_snd]
  have h0 : 0 ≤ (100 - w) / 2 := div_nonneg (sub_nonneg.mpr hw) two_pos.le
  have h1 : (100 - w) / 2 ≤ (100 - b) / 2 := div_le_div_of_nonneg_right (sub_le_sub_left hbw _) two_pos.le
  have h2 : (100 - b) / 2 ≤ 50 := (div_le_div_of_nonneg_right (sub_le_self _ hb) two_pos.le).trans_eq (by norm_num)
  exact ⟨h0, h1, h2, by linarith, sub_le_sub_left h1 _, sub_le_self _ h0, add_sub_cancel _ _, add_sub_cancel _ _,
    by ring, by ring⟩

/-- four finite values or more: the count is the number of finite values; the five percentiles are
those of the sorted finite values at the implied levels, in non-decreasing order between min and max;
min and max are attained and bound every finite value; mean times count is the sum -/
theorem boxStats_summary (data : List (Option α)) (b w : α) (hb : 0 ≤ b) (hbw : b ≤ w) (hw : w ≤ 100)
    (hcount : 3 < (data.filterMap id).length) :
    ∃ v, boxStats data b w = .ok ((data.filterMap id).length, some v) ∧
      v.min ≤ v.w1 ∧ v.w1 ≤ v.b1 ∧ v.b1 ≤ v.med ∧ v.med ≤ v.b2 ∧ v.b2 ≤ v.w2 ∧ v.w2 ≤ v.max ∧
      v.min ∈ data.filterMap id ∧ v.max ∈ data.filterMap id ∧
      (∀ x ∈ data.filterMap id, v.min ≤ x ∧ x ≤ v.max) ∧
      v.mean * ((data.filterMap id).length : α) = (data.filterMap id).sum ∧
      percentile (sortL (data.filterMap id)) (computePercentiles w).1 = .ok v.w1 ∧
      percentile (sortL (data.filterMap id)) (computePercentiles b).1 = .ok v.b1 ∧
      percentile (sortL (data.filterMap id)) 50 = .ok v.med ∧
      percentile (sortL (data.filterMap id)) (computePercentiles b).2 = .ok v.b2 ∧
      percentile (sortL (data.filterMap id)) (computePercentiles w).2 = .ok v.w2 := by
  set vals := data.filterMap id with hvals
  have hne : vals ≠ [] := List.ne_nil_of_length_pos (by omega)
  obtain ⟨mn, mx, hmn, hmx, hmnm, hmxm, hbd⟩ := exists_minL_maxL hne
  have hsne : sortL vals ≠ [] := List.ne_nil_of_mem (sortL_mem.mpr hmnm)
  have hf := List.head?_eq_some_head hsne
  have hl := List.getLast?_eq_some_getLast hsne
  have hs := sortL_sorted vals
  have val := percentile_eq (sortL vals) _ hl
  have mono := fun {p p' : α} => percentileVal_mono (sortL vals) hs _ hl (p := p) (p' := p')
  have bnd := fun {p : α} => percentileVal_bounds (sortL vals) hs _ _ hf hl (p := p)
  -- the five levels: 0 ≤ w.1 ≤ b.1 ≤ 50 ≤ b.2 ≤ w.2 ≤ 100
  obtain ⟨l0, l1, l2, l3, l4, l5, -⟩ := computePercentiles_levels b w hb hbw hw
  have h50 : (0 : α) ≤ 50 := by norm_num
  have h50' : (50 : α) ≤ 100 := by norm_num
  have e1 := val _ l0 (l1.trans (l2.trans h50'))
  have e2 := val _ (l0.trans l1) (l2.trans h50')
  have e3 := val 50 h50 h50'
  have e4 := val _ (h50.trans l3) (l4.trans l5)
  have e5 := val _ ((h50.trans l3).trans l4) l5
  refine ⟨⟨percentileVal (sortL vals) _ _, percentileVal (sortL vals) _ _, percentileVal (sortL vals) _ _,
      percentileVal (sortL vals) _ _, percentileVal (sortL vals) _ _, sumL vals / (vals.length : α), mx, mn⟩,
    ?_, (hbd _ (sortL_mem.mp (List.head_mem hsne))).1.trans (bnd l0).1, mono l0 l1, mono (l0.trans l1) l2, mono h50 l3,
    mono (h50.trans l3) l4, (bnd ((h50.trans l3).trans l4)).2.trans (hbd _ (sortL_mem.mp (List.getLast_mem hsne))).2,
    hmnm, hmxm, hbd, ?_, e1, e2, e3, e4, e5⟩
  · simp only [boxStats, ← hvals, gt_iff_lt, hcount, if_true, e1, e2, e4, e5, show ((50 : Nat) : α) = 50 by norm_num, e3, hmx, hmn]
  · simp only
    rw [sumL_eq_sum, div_mul_cancel₀ _ (Nat.cast_ne_zero.mpr (List.length_pos_iff.mpr hne).ne')]

/-- fewer than four finite values: only the count is reported (a NaN row) -/
theorem boxStats_few_values (data : List (Option α)) (b w : α) (hcount : (data.filterMap id).length ≤ 3) :
    boxStats data b w = .ok ((data.filterMap id).length, none) := by
  unfold boxStats
  simp only [gt_iff_lt, not_lt.mpr hcount, if_false]

/-- for coverages `0 ≤ box ≤ whiskers ≤ 100` the call never fails, whatever the column holds -/
theorem boxStats_total (data : List (Option α)) (b w : α) (hb : 0 ≤ b) (hbw : b ≤ w) (hw : w ≤ 100) :
    ∃ r, boxStats data b w = .ok r := by
  by_cases hcount : 3 < (data.filterMap id).length
  · obtain ⟨v, hv, _⟩ := boxStats_summary data b w hb hbw hw hcount
    exact ⟨_, hv⟩
  · exact ⟨_, boxStats_few_values data b w (not_lt.mp hcount)⟩

/-- a whiskers coverage above 100 asks numpy for a negative percentile: rejected as soon as there are
four finite values (with fewer the percentiles are never computed and the NaN row is returned) -/
theorem boxStats_rejects_whiskers_above_100 (data : List (Option α)) (b w : α) (hw : 100 < w)
    (hcount : 3 < (data.filterMap id).length) : boxStats data b w = .error .percentileRange := by
  have hneg : (computePercentiles w).1 < 0 := by
    rw [computePercentiles_fst]
    exact div_neg_of_neg_of_pos (sub_neg.mpr hw) two_pos
  have h1 := percentile_rejects_level (sortL (data.filterMap id)) (computePercentiles w).1 (Or.inl hneg)
  unfold boxStats
  simp only [gt_iff_lt, hcount, if_true, h1]

/-- NaN / ±inf entries change nothing: the statistics are those of the finite values alone -/
theorem boxStats_ignores_nonfinite (data : List (Option α)) (b w : α) :
    boxStats data b w = boxStats ((data.filterMap id).map some) b w := by
  have : ((data.filterMap id).map some).filterMap id = data.filterMap id := by
    simp [List.filterMap_map]
  unfold boxStats
  simp only [this]

/-- the coverage guards of `Boxplot`: box coverage at least 40, whiskers coverage strictly above it -/
theorem boxplotCheck_iff (b w : α) : boxplotCheck b w = .ok () ↔ 40 ≤ b ∧ b < w := by
  unfold boxplotCheck
  simp only [Nat.cast_ofNat]
  by_cases h1 : b < 40
  · simp [h1]
  · by_cases h2 : w ≤ b
    · simp [h1, h2]
    · simp [h1, h2, not_lt.mp h1, not_le.mp h2]

/-- the "reduce impact of censored data" step selects every finite value: the density is estimated on
all of them (the remainder mask is computed after the two tie masks were reduced) -/
theorem violinSelect_keeps_all (eps : α) (vals : List α) (x0 x1 : α) : violinSelect eps vals x0 x1 = vals := by
  unfold violinSelect
  simp only
  rw [select_mask_all _ _ (by simp [reduceMask_length])]
  simp only [reduceMask_length, List.length_map]
  exact zip_replicate_true_filterMap vals

/-- the median of the sorted values is their quantile at level 1/2 -/
theorem median_eq_quantile_half (s : List α) (hne : s ≠ []) :
    ∃ m, median s = some m ∧ quantile s (1 / 2) = .ok m := by
  have hlen : 0 < s.length := List.length_pos_iff.mpr hne
  have hl := List.getLast?_eq_some_getLast hne
  rw [quantile_eq s _ hl _ (by norm_num) (by norm_num), quantileVal, median, if_neg (by omega)]
  rcases Nat.mod_two_eq_zero_or_one s.length with h | h
  · -- even length `2 m`: the virtual index is `(m - 1) + 1/2`, half-way between the two middle values
    have hv : ((s.length - 1 : Nat) : α) * (1 / 2) = ((s.length / 2 - 1 : Nat) : α) + 1 / 2 := by
      rw [show s.length - 1 = 2 * (s.length / 2 - 1) + 1 by omega]
      push_cast
      ring
    rw [if_neg (by omega), hv, interpG_add_half _ _ _ (by omega), show s.length / 2 - 1 + 1 = s.length / 2 by omega,
      getElem?_eq_some_getD s _ _ (by omega : s.length / 2 - 1 < s.length),
      getElem?_eq_some_getD s _ _ (by omega : s.length / 2 < s.length)]
    exact ⟨_, rfl, rfl⟩
  · -- odd length `2 m + 1`: the virtual index is the middle index `m`
    have hv : ((s.length - 1 : Nat) : α) * (1 / 2) = ((s.length / 2 : Nat) : α) := by
      rw [show s.length - 1 = 2 * (s.length / 2) by omega]
      push_cast
      ring
    rw [if_pos h, hv, interpG_natCast _ _ _ (by omega), getElem?_eq_some_getD s _ _ (by omega : s.length / 2 < s.length)]
    exact ⟨_, rfl, rfl⟩

/-- `Violin.stats` of a column with at least one finite value: the five numbers are the quantiles of the
sorted finite values at levels 0, 1/4, 1/2, 3/4, 1; they are ordered, the first is the first and the last the
last entry of the sorted finite values -/
theorem violinStats_summary (data : List (Option α)) (hne : data.filterMap id ≠ []) (first last : α)
    (hf : (sortL (data.filterMap id)).head? = some first) (hl : (sortL (data.filterMap id)).getLast? = some last) :
    ∃ v, violinStats data = .ok (some v) ∧ v.q0 = first ∧ v.q100 = last ∧
      v.q0 ≤ v.q25 ∧ v.q25 ≤ v.med ∧ v.med ≤ v.q75 ∧ v.q75 ≤ v.q100 ∧
      quantile (sortL (data.filterMap id)) (1 / 4) = .ok v.q25 ∧
      quantile (sortL (data.filterMap id)) (1 / 2) = .ok v.med ∧
      quantile (sortL (data.filterMap id)) (3 / 4) = .ok v.q75 := by
  set s := sortL (data.filterMap id) with hs_def
  have hs := sortL_sorted (data.filterMap id)
  obtain ⟨m, hm, hmq⟩ := median_eq_quantile_half s (by rintro h; rw [h] at hf; cases hf)
  have q := quantile_eq s last hl
  have mono := fun {x y : α} => quantileVal_mono s hs last hl (q := x) (q' := y)
  obtain rfl : m = quantileVal s last (1 / 2) := Except.ok.inj (hmq.symm.trans (q _ (by norm_num) (by norm_num)))
  have z0 := quantileVal_zero s first last hf
  have z1 := quantileVal_one s last hl
  have h25 := q (1 / 4) (by norm_num) (by norm_num)
  have h75 := q (3 / 4) (by norm_num) (by norm_num)
  refine ⟨⟨first, quantileVal s last (1 / 4), quantileVal s last (1 / 2), quantileVal s last (3 / 4), last⟩,
    ?_, rfl, rfl, z0.ge.trans (mono le_rfl (by norm_num)), mono (by norm_num) (by norm_num),
    mono (by norm_num) (by norm_num), (mono (by norm_num) (by norm_num)).trans z1.le, h25, hmq, h75⟩
  -- the levels are `compute_percentiles(100) / 100` = 0, 1 and `compute_percentiles(50) / 100` = 1/4, 3/4
  simp only [violinStats, ← hs_def, hm, pquantile, computePercentiles_fst, computePercentiles_snd, Nat.cast_ofNat]
  norm_num
  simp only [q 0 le_rfl zero_le_one, q 1 zero_le_one le_rfl, z0, z1, h25, h75]
  rfl

/-- a column without finite value has no statistics (a NaN column) -/
theorem violinStats_no_finite_value (data : List (Option α)) (h : data.filterMap id = []) :
    violinStats data = .ok none := by
  unfold violinStats
  rw [h]
  simp [sortL, median]

/-- three finite values or more, not all equal: there is a profile; the density is estimated on ALL the
finite values, and the abscissae are `npoints_kde` numbers in non-decreasing order -/
theorem violinGrid_profile (eps : α) (data : List (Option α)) (npts : Nat) (err : List α)
    (herr : err.length = npts / 2) (h3 : 2 < (data.filterMap id).length)
    (a b : α) (ha : a ∈ data.filterMap id) (hb : b ∈ data.filterMap id) (hab : a < b) :
    ∃ x, violinGrid eps data npts err = .ok (some (data.filterMap id, x)) ∧ x.length = npts ∧
      x.Pairwise (· ≤ ·) := by
  obtain ⟨x0, x1, h0, h1, -, -, hbd⟩ := exists_minL_maxL (List.ne_nil_of_mem ha)
  have hlt : x0 < x1 := (hbd a ha).1.trans_lt (hab.trans_le (hbd b hb).2)
  have hsne : sortL (data.filterMap id) ≠ [] := List.ne_nil_of_length_pos (by rw [sortL_length]; omega)
  obtain ⟨qv, hqv, hqlen⟩ := mapOk_total (f := quantile (sortL (data.filterMap id))) fun q hq =>
    ⟨_, quantile_eq _ _ (List.getLast?_eq_some_getLast hsne) q (linspace_mem_Icc 0 1 zero_le_one (npts / 2) q hq).1
      (linspace_mem_Icc 0 1 zero_le_one (npts / 2) q hq).2⟩
  refine ⟨sortL (linspace x0 x1 (npts - npts / 2) ++ List.zipWith (fun a b => a + b) qv err), ?_, ?_, sortL_sorted _⟩
  · unfold violinGrid
    simp only [h0, h1]
    rw [if_neg (by push Not; exact ⟨by omega, hlt⟩), if_neg (by simp [herr])]
    simp only [quantilesAt_eq, hqv, violinSelect_keeps_all]
    rfl
  · rw [sortL_length, List.length_append, linspace_length, List.length_zipWith, hqlen, linspace_length, herr]
    omega

/-- fewer than three finite values, or a constant column: no density profile -/
theorem violinGrid_no_profile (eps : α) (data : List (Option α)) (npts : Nat) (err : List α)
    (h : (data.filterMap id).length ≤ 2 ∨ ∀ a ∈ data.filterMap id, ∀ b ∈ data.filterMap id, a = b) :
    violinGrid eps data npts err = .ok none := by
  unfold violinGrid
  cases hmin : minL (data.filterMap id) with
  | none => simp only [hmin]
  | some x0 =>
    cases hmax : maxL (data.filterMap id) with
    | none => simp only [hmin, hmax]
    | some x1 =>
      simp only [hmin, hmax]
      rw [if_pos]
      rcases h with h | h
      · left; exact h
      · right
        rw [h x0 (minL_spec hmin).1 x1 (maxL_spec hmax).1]
        exact lt_irrefl _

end floor

/-- the groups produced by the scan are exactly the non-empty categories, each holding its own rows -/
theorem groupBy_groups_are_buckets {β : Type} (cats : List Int) (data : List β) (k : Int) (vs : List β) :
    (k, vs) ∈ groupBy cats data ↔ vs = bucket cats data k ∧ vs ≠ [] := by
  rw [mem_iff_lookup_of_sorted_keys _ (groupBy_keys_sorted cats data), groupBy_lookup cats data k]
  cases hb : bucket cats data k with
  | nil => simp
  | cons x xs =>
    simp only [List.isEmpty_cons, Bool.false_eq_true, if_false, Option.some.injEq, eq_comm (a := vs)]
    exact ⟨fun h => ⟨h, h ▸ List.cons_ne_nil x xs⟩, fun h => h.1⟩

theorem groupBy_keys_increasing {β : Type} (cats : List Int) (data : List β) :
    ((groupBy cats data).map fun kv => kv.1).Pairwise (· < ·) :=
  groupBy_keys_sorted cats data

section groupstats
variable {α : Type} [Field α] [LinearOrder α] [IsStrictOrderedRing α] [FloorRing α]

/-- group-wise statistics equal those of each group taken alone: every column of the grouped result
is `boxStats` of the rows of that category, and every category with at least one row has a column -/
theorem boxStatsBy_group_alone (cats : List Int) (data : List (Option α)) (b w : α)
    (gs : List (Int × Nat × Option (BoxVals α))) (h : boxStatsBy cats data b w = .ok gs) :
    (∀ k cnt st, (k, cnt, st) ∈ gs → boxStats (bucket cats data k) b w = .ok (cnt, st)) ∧
    (∀ k, bucket cats data k ≠ [] → ∃ cnt st, (k, cnt, st) ∈ gs) := by
  unfold boxStatsBy at h
  simp only at h
  split at h
  · cases h
  · split at h
    · cases h
    · rw [statsOfGroups_eq] at h
      obtain ⟨k1, k2⟩ := mapOk_mem h
      constructor
      · intro k cnt st hm
        obtain ⟨⟨k', vs⟩, hvs, hbs⟩ := k1 _ hm
        cases hb : boxStats vs b w with
        | error e => rw [hb] at hbs; cases hbs
        | ok r =>
          rw [hb] at hbs
          cases hbs
          rw [← ((groupBy_groups_are_buckets cats data k' vs).mp hvs).1, hb]
      · intro k hk
        obtain ⟨⟨k', cnt, st⟩, hm, hbs⟩ := k2 _ ((groupBy_groups_are_buckets cats data k _).mpr ⟨rfl, hk⟩)
        cases hb : boxStats (bucket cats data k) b w with
        | error e => rw [hb] at hbs; cases hbs
        | ok r => rw [hb] at hbs; cases hbs; exact ⟨_, _, hm⟩

/-- with two categories or more (or none) and coverages `40 ≤ box < whiskers ≤ 100` the grouped call succeeds -/
theorem boxStatsBy_accepts (cats : List Int) (data : List (Option α)) (b w : α)
    (hcat : (groupBy cats data).length ≠ 1) (hb : 40 ≤ b) (hbw : b < w) (hw : w ≤ 100) :
    ∃ gs, boxStatsBy cats data b w = .ok gs ∧ gs.length = (groupBy cats data).length := by
  have hchk : boxplotCheck b w = .ok () := (boxplotCheck_iff b w).mpr ⟨hb, hbw⟩
  obtain ⟨out, hout, hlen⟩ := mapOk_total (l := groupBy cats data)
    (f := fun g => (boxStats g.2 b w).map fun st => (g.1, st.1, st.2)) fun g _ => by
      obtain ⟨st, hst⟩ := boxStats_total g.2 b w (by linarith) hbw.le hw
      exact ⟨_, by rw [hst]; rfl⟩
  refine ⟨out, ?_, hlen⟩
  unfold boxStatsBy
  simp only [hcat, if_false, hchk, statsOfGroups_eq, hout]

theorem boxStatsBy_rejects_one_category (cats : List Int) (data : List (Option α)) (b w : α)
    (hcat : (groupBy cats data).length = 1) : boxStatsBy cats data b w = .error .oneCategory := by
  unfold boxStatsBy
  simp only [hcat, if_true]

/-- box coverage below 40, or whiskers coverage not above it, is rejected (two categories or more) -/
theorem boxStatsBy_rejects_coverage (cats : List Int) (data : List (Option α)) (b w : α)
    (hcat : (groupBy cats data).length ≠ 1) (h : b < 40 ∨ w ≤ b) :
    boxStatsBy cats data b w = .error .boxCoverage ∨ boxStatsBy cats data b w = .error .whiskersCoverage :=
  (boxplotCheck_rejects b w h).imp (fun e => by simp only [boxStatsBy, hcat, if_false, e])
    fun e => by simp only [boxStatsBy, hcat, if_false, e]

example : (boxStatsBy [1, 2, 1, 2, 1, 1, 2] [some (1 : Rat), some 5, some 2, none, some 3, some 4, some 6] 50 90).toOption.map
      (fun gs => gs.map fun g => (g.1, g.2.1, g.2.2.map fun v => [v.w1, v.med, v.w2]))
    = some [(1, 4, some [23 / 20, 5 / 2, 77 / 20]), (2, 2, none)] := by decide +kernel

end groupstats

example : (boxStats [some (1 : Rat), none, some 3, some 2, some 4, some 10] 50 90).toOption.map
      (fun r => (r.1, r.2.map fun v => [v.w1, v.b1, v.med, v.b2, v.w2, v.mean, v.max, v.min]))
    = some (5, some [6 / 5, 2, 3, 4, 44 / 5, 4, 10, 1]) := by decide +kernel
example : groupBy [2, 1, 2, 1, 1] ["a", "b", "c", "d", "e"] = [(1, ["b", "d", "e"]), (2, ["a", "c"])] := by decide
example : (violinStats [some (1 : Rat), none, some 3, some 2, some 4]).toOption.map
      (fun r => r.map fun v => [v.q0, v.q25, v.med, v.q75, v.q100])
    = some (some [1, 7 / 4, 5 / 2, 13 / 4, 4]) := by decide +kernel
example : percentile [(1 : Rat), 2, 4, 8] 50 = .ok 3 := by decide +kernel
example : (violinGrid (1 / 10000000000 : Rat) [some 1, some 2, none, some 4] 4 [0, 1 / 1000000]).toOption
    = some (some ([1, 2, 4], [1, 1, 4, 4000001 / 1000000])) := by decide +kernel
example : LhsInputsOK 2 [(0 : Rat)] [1] [[1, 0]] [[1 / 2, 0]] := by
  simp only [LhsInputsOK, List.range_succ, List.range_zero, List.nil_append, List.cons_append]
  refine ⟨by norm_num, List.Perm.swap 0 1 [], rfl, ?_, trivial⟩
  intro x hx
  simp only [List.mem_cons, List.not_mem_nil, or_false] at hx
  rcases hx with rfl | rfl <;> norm_num

section extended
variable {α : Type} [Field α] [LinearOrder α] [IsStrictOrderedRing α]

/-- IEEE arithmetic inside the kernel is harmless: for ANY rounding that keeps the sign of what it rounds
(true of a double subtraction - gradual underflow - and of the product with an integer orientation) the flags are
those of the exact kernel -/
theorem paretoFrontX_rounding_irrelevant (rnd : α → α) (hp : ∀ x, 0 < rnd x ↔ 0 < x) (hn : ∀ x, rnd x < 0 ↔ x < 0)
    (o : α) (d : List (List (XVal α))) : paretoFrontX rnd o d = paretoFrontX id o d := by
  unfold paretoFrontX
  simp only [isDominatedAtX_eq, anyOtherRow_congr (domByX_rnd rnd hp hn o)]

/-- the instance the driver executes on exact rationals - round-to-nearest-even to 53 significant bits after the
subtraction and after the product - provably keeps signs, hence gives the flags of the exact kernel -/
theorem paretoFrontX_rnd53 (o : Rat) (d : List (List (XVal Rat))) : paretoFrontX rnd53 o d = paretoFrontX id o d :=
  paretoFrontX_rounding_irrelevant rnd53 (fun x => (rnd53_sign x).1) (fun x => (rnd53_sign x).2) o d

/-- on NaN / finite data the kernel on doubles is the kernel of the exact model, so every pareto theorem above
speaks about it -/
theorem paretoFrontX_of_finite (o : α) (d : List (List (Option α))) :
    paretoFrontX id o (d.map fun r => r.map xOfOpt) = paretoFront o d := by
  unfold paretoFrontX paretoFront
  simp only [List.length_map, isDominatedAtX_eq, isDominatedAt_eq, anyOtherRow_map, anyOtherRow_congr (domByX_of_opt o)]

/-- with ±inf coordinates: flag 1 exactly when another point is strictly better (on the extended line
`-inf < finite < +inf`) in every coordinate whose difference is a number; a coordinate where both points hold the SAME
infinity is skipped like a missing one (`inf - inf` is NaN) -/
theorem paretoFrontX_flag_iff (o : α) (d : List (List (XVal α))) (i : Nat) (hi : i < d.length) :
    ((paretoFrontX id o d)[i]? = some 1 ↔ XDominated o d i) ∧
    ((paretoFrontX id o d)[i]? = some 0 ↔ ¬ XDominated o d i) := by
  rw [← isDominatedAtX_iff]
  exact flags_getElem? _ _ i hi

/-- why ±inf is kept out of the property's quantifier: two points sharing `+inf` in one coordinate are compared on the
others alone, so one of them is flagged although it is not strictly worse in the shared coordinate -/
theorem paretoFrontX_same_infinity_skipped (a b : α) (h : a < b) :
    paretoFrontX id (1 : α) [[.pinf, .fin a], [.pinf, .fin b]] = [1, 0] ∧ ¬ XLt (XVal.pinf : XVal α) .pinf := by
  refine ⟨?_, by simp [XLt]⟩
  simp [paretoFrontX, isDominatedAtX, domByX, xdiffPos, coordOK, List.range_succ, h, h.le]

/-- only the sign of the orientation is used: any positive value behaves as `+1`, any negative value as `-1` -/
theorem paretoFront_orientation_sign (o : α) (d : List (List (Option α))) :
    (0 < o → paretoFront o d = paretoFront 1 d) ∧ (o < 0 → paretoFront o d = paretoFront (-1) d) :=
  ⟨fun ho => paretoFront_congr_sign o 1 (iff_of_true ho one_pos) (iff_of_false (not_lt.mpr ho.le) (by norm_num)) d,
   fun ho => paretoFront_congr_sign o (-1) (iff_of_false (not_lt.mpr ho.le) (by norm_num)) (iff_of_true ho (by norm_num)) d⟩

/-- the wrapper: an integer orientation reaches the kernel; 2-dimensional data are flagged by the sign of it -/
theorem paretoFrontWrap_sign (o : Int) (d : List (List (Option α))) :
    (0 < o → paretoFrontWrap 2 o d = .ok (paretoFront (1 : α) d)) ∧
    (o < 0 → paretoFrontWrap 2 o d = .ok (paretoFront (-1 : α) d)) ∧
    (∀ ndim, ndim ≠ 2 → paretoFrontWrap ndim o d = .error .ndim) := by
  have h2 := (paretoFrontNd_iff 2 ((o : Int) : α) d).1.mpr rfl
  exact ⟨fun ho => h2.trans (congrArg _ ((paretoFront_orientation_sign _ d).1 (Int.cast_pos.mpr ho))),
    fun ho => h2.trans (congrArg _ ((paretoFront_orientation_sign _ d).2 (Int.cast_lt_zero.mpr ho))),
    fun ndim hnd => (paretoFrontNd_iff ndim _ d).2.mpr hnd⟩

/-- the hypothesis `0 < ncol` of `paretoFront_exists_nondominated` is needed: two or more points without any
coordinate are all flagged (every comparison is vacuous) -/
theorem paretoFront_no_columns_all_dominated (o : α) (n : Nat) (hn : 2 ≤ n) :
    paretoFront o (List.replicate n ([] : List (Option α))) = List.replicate n 1 := by
  unfold paretoFront
  rw [List.length_replicate, List.eq_replicate_iff]
  refine ⟨by simp, fun b hb => ?_⟩
  obtain ⟨i, hi, rfl⟩ := List.mem_map.mp hb
  have hi := List.mem_range.mp hi
  -- any other point will do: two empty rows have no coordinate to compare
  have : Dominated o (List.replicate n ([] : List (Option α))) i :=
    ⟨if i = 0 then 1 else 0, [], [], by split <;> omega, by simp [hi], by rw [List.getElem?_replicate, if_pos (by split <;> omega)],
      fun k a b h => by simp at h⟩
  rw [if_pos ((isDominatedAt_iff o _ i).mpr this)]

example : paretoFront (1 : Rat) [[], [], []] = [1, 1, 1] := paretoFront_no_columns_all_dominated (1 : Rat) 3 (by norm_num)
example : paretoFrontX id (1 : Rat) [[.pinf, .fin 1], [.pinf, .fin 2], [.ninf, .fin 5], [.nan, .fin 0]] = [1, 0, 0, 1] := by
  decide +kernel
example : paretoFrontX rnd53 (1 : Rat) [[.fin (1 / 3), .fin 2], [.fin (2 / 3), .fin 3]] = [1, 0] := by decide +kernel
/-- a rounding that is not the identity and keeps signs (the hypotheses of `paretoFrontX_rounding_irrelevant`) -/
example : (∀ x : Rat, 0 < 2 * x ↔ 0 < x) ∧ (∀ x : Rat, 2 * x < 0 ↔ x < 0) :=
  ⟨fun x => by constructor <;> intro h <;> linarith, fun x => by constructor <;> intro h <;> linarith⟩
example : paretoFront (3 : Rat) [[some 1], [some 2]] = paretoFront (1 : Rat) [[some 1], [some 2]] :=
  (paretoFront_orientation_sign (3 : Rat) _).1 (by norm_num)

theorem pposR_exact (n : Nat) (cst : α) : pposR id n cst = ppos n cst := rfl

/-- whatever the (monotone) rounding of the four operations, the computed positions stay inside `[0, 1]` -/
theorem pposR_in_unit_interval (rnd : α → α) (hm : Monotone rnd) (hr0 : rnd 0 = 0) (hr1 : rnd 1 = 1)
    (n : Nat) (cst : α) (h0 : 0 ≤ cst) (h1 : cst ≤ 1 / 2) (l : List α) (h : pposR rnd n cst = .ok l) :
    l.length = n ∧ ∀ p ∈ l, 0 ≤ p ∧ p ≤ 1 := by
  rw [pposR, if_neg (not_or.mpr ⟨not_lt.mpr h0, not_lt.mpr h1⟩)] at h
  cases h
  refine ⟨by simp, fun p hp => ?_⟩
  obtain ⟨i, hi, rfl⟩ := List.mem_map.mp hp
  have hin : ((i + 1 : Nat) : α) ≤ (n : α) := Nat.cast_le.mpr (List.mem_range.mp hi)
  have hi1 : cst ≤ ((i + 1 : Nat) : α) := (h1.trans (by norm_num)).trans (Nat.one_le_cast.mpr (Nat.succ_pos i))
  refine Round.rnd_div_mem hm hr0 hr1 (hr0 ▸ hm (sub_nonneg.mpr hi1)) (hm ?_)
  -- the `+ 1` of the denominator absorbs the rounded `2 cst`
  calc ((i + 1 : Nat) : α) - cst ≤ ((i + 1 : Nat) : α) := sub_le_self _ h0
    _ ≤ (n : α) := hin
    _ = ((n + 1 : Nat) : α) - 1 := by rw [Nat.cast_succ, add_sub_cancel_right]
    _ ≤ ((n + 1 : Nat) : α) - rnd (2 * cst) := sub_le_sub_left (Round.rnd_le hm hr1 ((le_div_iff₀' two_pos).mp h1)) _

/-- ... and they never decrease with the index -/
theorem pposR_nondecreasing (rnd : α → α) (hm : Monotone rnd) (hr0 : rnd 0 = 0) (hr1 : rnd 1 = 1)
    (n : Nat) (cst : α) (h0 : 0 ≤ cst) (h1 : cst ≤ 1 / 2) (l : List α) (h : pposR rnd n cst = .ok l) :
    l.Pairwise (· ≤ ·) := by
  rw [pposR, if_neg (not_or.mpr ⟨not_lt.mpr h0, not_lt.mpr h1⟩)] at h
  cases h
  have hden : 0 ≤ rnd (((n + 1 : Nat) : α) - rnd (2 * cst)) :=
    hr0 ▸ hm (sub_nonneg.mpr ((Round.rnd_le hm hr1 ((le_div_iff₀' two_pos).mp h1)).trans (Nat.one_le_cast.mpr (Nat.succ_pos n))))
  refine List.pairwise_map.mpr (List.pairwise_lt_range.imp fun {a b} hab => ?_)
  exact hm (div_le_div_of_nonneg_right (hm (sub_le_sub_right (Nat.cast_le.mpr (Nat.succ_le_succ hab.le)) cst)) hden)

-- with the 53-bit rounding the positions are NOT the exact fractions (two negative instances, one positive)
example : pposR rnd53 3 (3 / 10 : Rat) = .ok [7 / 34, 1 / 2, 27 / 34] → False := by decide +kernel
example : (pposR rnd53 2 (1 / 4 : Rat)).toOption = some [3 / 10, 7 / 10] → False := by decide +kernel
example : pposR rnd53 1 (1 / 2 : Rat) = .ok [1 / 2] := by decide +kernel
/-- a monotone rounding that is not the identity and fixes 0 and 1 (the hypotheses of the two theorems above) -/
example : Monotone (fun x : Rat => min x 1) ∧ min (0 : Rat) 1 = 0 ∧ min (1 : Rat) 1 = 1 :=
  ⟨fun a b h => min_le_min_right 1 h, by norm_num, by norm_num⟩

/-- `standard_normal` does not check `cst`; the hypothesis `cst ≤ 1/2` of the score theorems is needed: with
`cst = 1` the smallest value of ANY sample is handed `ppf(0)` (minus infinity), outside `(0, 1)` -/
theorem normal_scores_argument_cst_needed (n : Nat) : ¬ (0 < scoreArg n (1 : α) 0) := by
  simp [scoreArg]

/-- every `rank_method` of pandas: the three tie methods of `Model/C20.lean` are the `.std` case, so the theorems
about `standardNormal` speak about `standardNormalX` as well -/
theorem standardNormalX_std (m : RankMethod) (cst : α) (x : List (Option α)) :
    standardNormalX (.std m) cst x = standardNormal m cst x := by
  unfold standardNormalX standardNormal ranksOf
  simp only [List.map_map]
  rfl

/-- `rank_method="dense"`: ranks follow the order of the data, ties share their rank, ranks lie in `1..n` -/
theorem rankDense_order_preserving (xs : List α) (x y : α) (hx : x ∈ xs) (hy : y ∈ xs) :
    (rankDense xs x < rankDense xs y ↔ x < y) ∧ 1 ≤ rankDense xs x ∧ rankDense xs x ≤ (xs.length : α) :=
  ⟨(rankDense_strictMonoOn xs).lt_iff_lt hx hy, rankDense_bounds xs hx⟩

/-- `rank_method="first"`: a strictly larger value gets a strictly larger rank, equal values are ranked in the order
they appear (so all ranks are different), and every rank lies in `1..n` -/
theorem ranksFirst_order (xs : List α) (i j : Nat) (hi : i < xs.length) (hj : j < xs.length) :
    ∃ ri rj, (ranksFirst xs)[i]? = some ri ∧ (ranksFirst xs)[j]? = some rj ∧
      (xs[i] < xs[j] → ri < rj) ∧ (xs[i] = xs[j] → i < j → ri < rj) ∧ 1 ≤ ri ∧ ri ≤ (xs.length : α) := by
  have ri := firstRank_isRankOf xs i hi
  refine ⟨_, _, ranksFirst_getElem xs i hi, ranksFirst_getElem xs j hj, ri.lt_of_lt (firstRank_isRankOf xs j hj),
    fun h hij => Nat.cast_lt.mpr ?_, ri.bounds⟩
  have := cntEq_take_lt xs _ i j hij hj.le h
  rw [h]
  omega

/-- whatever produced them, ranks between 1 and n are mapped to plotting positions inside (0, 1) and the scores are a
strictly increasing function of them (this is the clause for `first` and `dense` too) -/
theorem normal_scores_increasing_in_any_rank (ppf : α → α) (hppf : StrictMonoOn ppf (Set.Ioo 0 1))
    (n : Nat) (cst : α) (h0 : 0 ≤ cst) (h1 : cst ≤ 1 / 2) (r s : α)
    (hr : 1 ≤ r ∧ r ≤ (n : α)) (hs : 1 ≤ s ∧ s ≤ (n : α)) :
    (ppf (scoreArg n cst (r - 1)) < ppf (scoreArg n cst (s - 1)) ↔ r < s) ∧
    0 < scoreArg n cst (r - 1) ∧ scoreArg n cst (r - 1) < 1 :=
  ⟨ppf_scoreArg_lt_iff ppf hppf n cst h1 hr hs, scoreArg_rank_mem_unit n cst h1 hr⟩

example : ranksFirst [(3 : Rat), 1, 3, 2, 1] = [4, 1, 5, 3, 2] ∧ [(3 : Rat), 1, 3, 2, 1].map (rankDense [3, 1, 3, 2, 1]) = [3, 1, 3, 2, 1] := by
  decide +kernel
example : standardNormalX .first (0 : Rat) [some 3, some 1, some 3] = .ok ([1 / 2, 1 / 4, 3 / 4], [1, 0, 2]) := by decide +kernel

/-- `lhs_norm` draws its probabilities with `lhs(nsamples, [0]*nvars, [1]*nvars)`: for any permutations and unit draws
every variable gets exactly one probability in each of the strata `[k/n, (k+1)/n)` -/
theorem lhsUnit_one_point_per_stratum (n : Nat) (hn : 0 < n) (nvars : Nat) (perms : List (List Nat)) (rs : List (List α))
    (hp : perms.length = nvars) (hr : rs.length = nvars) (hperm : ∀ p ∈ perms, p.Perm (List.range n))
    (hdraw : ∀ r ∈ rs, r.length = n ∧ ∀ x ∈ r, 0 ≤ x ∧ x < 1) :
    ∃ cols, lhsUnit n nvars perms rs = .ok cols ∧ cols.length = nvars ∧ ∀ c ∈ cols, c.length = n ∧
      ∀ k, k < n → c.countP (fun x => decide ((k : α) / (n : α) ≤ x ∧ x < ((k : α) + 1) / (n : α))) = 1 := by
  have hok := LhsInputsOK_replicate n nvars (0 : α) 1 zero_lt_one perms rs hp hr hperm hdraw
  obtain ⟨cols, hc, hstr⟩ := lhs_one_point_per_stratum n hn _ _ perms rs hok
  obtain ⟨hlen, hcols⟩ := OnePerStratum_replicate n nvars (0 : α) 1 cols hstr
  refine ⟨cols, hc, hlen, ?_⟩
  intro c hcm
  obtain ⟨hl, hk⟩ := hcols c hcm
  refine ⟨hl, ?_⟩
  intro k hkn
  have := hk k hkn
  simpa only [zero_add, sub_zero, mul_one_div] using this

example : lhsUnit 2 2 [[1, 0], [0, 1]] [[(1 / 2 : Rat), 0], [0, 1 / 4]] = .ok [[3 / 4, 0], [0, 5 / 8]] := by decide +kernel

end extended

section columns
variable {α : Type} [Field α] [LinearOrder α] [IsStrictOrderedRing α] [FloorRing α]

/-- every column of `Boxplot(df).stats` is `boxplot_stats` of that data column alone, in the order of the columns -/
theorem boxStatsCols_column_alone (cols : List (List (Option α))) (b w : α)
    (out : List (Nat × Option (BoxVals α))) (h : boxStatsCols cols b w = .ok out)
    (hrows : ¬ cols.all List.isEmpty = true) :
    out.length = cols.length ∧ ∀ (i : Nat) c, cols[i]? = some c → ∃ st, out[i]? = some st ∧ boxStats c b w = .ok st := by
  unfold boxStatsCols at h
  split at h
  · cases h
  · rw [if_neg hrows] at h
    exact mapOk_eq_ok (statsOfColumns_eq b w cols ▸ h)

/-- a frame without rows has no statistics -/
theorem boxStatsCols_no_rows (cols : List (List (Option α))) (b w : α) (hb : 40 ≤ b) (hbw : b < w)
    (h : cols.all List.isEmpty = true) : boxStatsCols cols b w = .ok [] := by
  unfold boxStatsCols
  rw [(boxplotCheck_iff b w).mpr ⟨hb, hbw⟩]
  simp only [h, if_true]

/-- coverages `40 ≤ box < whiskers ≤ 100`: the frame is accepted whatever its columns hold -/
theorem boxStatsCols_accepts (cols : List (List (Option α))) (b w : α) (hb : 40 ≤ b) (hbw : b < w) (hw : w ≤ 100) :
    ∃ out, boxStatsCols cols b w = .ok out := by
  unfold boxStatsCols
  rw [(boxplotCheck_iff b w).mpr ⟨hb, hbw⟩]
  by_cases h : cols.all List.isEmpty = true
  · exact ⟨[], by simp only [h, if_true]⟩
  · simp only [h]
    rw [statsOfColumns_eq]
    obtain ⟨out, hout, _⟩ := mapOk_total (l := cols) (f := fun c => boxStats c b w)
      fun c _ => boxStats_total c b w (by linarith) hbw.le hw
    exact ⟨out, hout⟩

/-- box coverage below 40, or whiskers coverage not above it: rejected before anything is computed -/
theorem boxStatsCols_rejects_coverage (cols : List (List (Option α))) (b w : α) (h : b < 40 ∨ w ≤ b) :
    boxStatsCols cols b w = .error .boxCoverage ∨ boxStatsCols cols b w = .error .whiskersCoverage :=
  (boxplotCheck_rejects b w h).imp (fun e => by simp only [boxStatsCols, e]) fun e => by simp only [boxStatsCols, e]

example : (boxStatsCols [[some (1 : Rat), some 2, some 3, some 4, none], [none, none, some 1, none, none]] 50 90).toOption.map
      (fun l => l.map fun g => (g.1, g.2.map fun v => [v.w1, v.med, v.w2]))
    = some [(4, some [23 / 20, 5 / 2, 77 / 20]), (1, none)] := by decide +kernel

end columns

/-- the statistics are those computed at construction, whatever is called afterwards and whether or not it raised -/
theorem boxRun_stats_unchanged {σ : Type} (s : BoxObj σ) (ops : List BoxOp) :
    (boxRun s ops).1.stats = s.stats ∧ (boxRun s ops).1.strNames = s.strNames ∧ (boxRun s ops).2.length = ops.length := by
  exact ⟨boxRun_trace.preserves (fun t => t.stats = s.stats) (fun t op _ ht => (boxStep_state t op).1.trans ht) rfl,
    boxRun_trace.preserves (fun t => t.strNames = s.strNames) (fun t op _ ht => (boxStep_state t op).2.1.trans ht) rfl,
    boxRun_trace.outs_length s ops⟩

/-- which calls raise: a `draw` out of which an exception escapes, `show_count` before any `draw` or with the count text
hidden, `set_ylim` before any `draw`, `set_color` before any `draw` or on stored labels that are not strings; nothing else -/
theorem boxStep_rejected_iff {σ : Type} (s : BoxObj σ) (op : BoxOp) :
    (boxStep s op).2 = false ↔
      (∃ st, op = .draw false st) ∨ (op = .showCount ∧ ¬ (s.drawn = true ∧ s.countText = true)) ∨
      (op = .setYlim ∧ s.drawn = false) ∨
      (op = .setColor ∧ ¬ (s.drawn = true ∧ (s.elems = false ∨ s.strNames = true))) := by
  cases op <;> simp [boxStep]

/-- a call that raises leaves the object as it was - except a failing `draw`, after which the object counts as drawn
(its statistics are untouched in every case, `boxRun_stats_unchanged`) -/
theorem boxStep_rejected_state {σ : Type} (s : BoxObj σ) (op : BoxOp) (h : (boxStep s op).2 = false) :
    (boxStep s op).1 = s ∨ ∃ st, op = .draw false st ∧ (boxStep s op).1 = { s with drawn := true, elems := st } := by
  cases op <;> simp_all [boxStep]

/-- once `draw` was called (successfully or not), the object stays drawn: `set_ylim` is accepted from then on -/
theorem boxRun_drawn_persists {σ : Type} (s : BoxObj σ) (ops : List BoxOp)
    (h : s.drawn = true ∨ ∃ ok st, BoxOp.draw ok st ∈ ops) :
    (boxRun s ops).1.drawn = true ∧ (boxStep (boxRun s ops).1 .setYlim).2 = true := by
  have keep := fun (t : BoxObj σ) (ops : List BoxOp) (ht : t.drawn = true) =>
    boxRun_trace.preserves (fun u => u.drawn = true) (ops := ops) (fun u op _ => (boxStep_state u op).2.2.1) ht
  have hd : (boxRun s ops).1.drawn = true := by
    rcases h with h | ⟨ok, st, h⟩
    · exact keep s ops h
    · -- the history up to that `draw`, the `draw`, and a history from a drawn object
      obtain ⟨a, b, rfl⟩ := List.append_of_mem h
      rw [boxRun_trace.run_append, boxRun_trace.cons]
      exact keep _ b ((boxStep_state _ _).2.2.2 ok st rfl)
  exact ⟨hd, by simp [boxStep, hd]⟩

example : (boxRun ({ stats := 7, drawn := false, elems := false, countText := true, strNames := false } : BoxObj Nat)
    [.showCount, .draw false false, .showCount, .setColor, .draw true true, .setColor, .hideCount, .showCount]).2
    = [false, false, true, true, true, false, true, false] := by
  decide

/-- the default `npoints_kde` is the number of rows clipped to `[100, 500]`; a given value is taken as it is -/
theorem violinNpts_range (nrows : Nat) (k : Nat) :
    100 ≤ violinNpts none nrows ∧ violinNpts none nrows ≤ 500 ∧
    (100 ≤ nrows → nrows ≤ 500 → violinNpts none nrows = nrows) ∧ violinNpts (some k) nrows = k := by
  refine ⟨?_, ?_, ?_, ?_⟩ <;> simp only [violinNpts] <;> omega

example : violinNpts none 30 = 100 ∧ violinNpts none 333 = 333 ∧ violinNpts none 9999 = 500 ∧ violinNpts (some 11) 30 = 11 := by decide

end HydroVerif.C20
