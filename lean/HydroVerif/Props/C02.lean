/-
C02 — property theorems (only). Model: `Model/C01.lean` (`X.fwd`, `X.jac`, `X.jacobian`) + `Model/C02.lean`
(`X.jdom`, Softmax partial-derivative matrix) + `Model/C02Hist.lean` (the transform object as a state machine: Vector
slots and clipping, constructors and their guards, public operations, get_transform, dutils.cast); helper lemmas:
`Lemmas/C01Real.lean`, `Lemmas/C02*.lean` (`C02Hist`: invariants of the object model; `C02Round`: the rounded instance
`Rd M` of the model text and its order lemmas).

For every transform class, over ℝ, for every parameter vector inside the declared bounds and every branch:
* `X.hasDerivAt`    `HasDerivAt (fun t => X.fwd p t) (X.jac p x) x` at every point of the (open) domain of the
                    smooth branch that contains `x`;
* `X.jac_pos`       `0 < X.jac p x` there;
* `X.jacobian_spec` on the set where `_jacobian` returns a number (its `np.where` guard) that number is
                    `X.jac p x`, it is positive and it is the derivative of the forward formula;
* `X.strictMonoOn`  the forward formula is strictly increasing on the domain.
From any object a program can build (`mk` / `viaGet`) and after any list of public operations (`run`):
* `history_inv`, `step_rejected_unchanged`, `call_after_history`, `X.after_history` (stated for six classes: Sinh,
                    Yeo-Johnson, Manly, LogSinh, BoxCox2sym, BoxCox1lam; for the other six the same fact is `X.of_inv` of
                    Lemmas/C02Hist applied to `history_inv`)  the admissibility hypotheses above are consequences of the
                    constructors' and setters' guards; rejected operations change nothing.
In the arithmetic the code performs (every operation rounded — `Rd M`, assumptions in `FP`):
* `X.fwd_mono_fp`   `x1 ≤ x2 → X.fwd p x1 ≤ X.fwd p x2` exactly (no rounding allowance);
* `X.jac(obian)_nonneg_fp`  the number `jacobian` returns is never negative.

Clause → theorems → what remains outside (same table as harness/registry.d/C02.json "clauses"):

* for every transform (12 scalar classes) and admissible parameters, jacobian(x) equals the derivative of forward at
  x [to 1e-4 relative]
    theorems: Identity.hasDerivAt, Logit.hasDerivAt, Log.hasDerivAt, BoxCox2.hasDerivAt, BoxCox1lam.jacobian_spec,
              BoxCox1nu.jacobian_spec, BoxCox2sym.hasDerivAt_of_pos, BoxCox2sym.hasDerivAt_of_neg,
              BoxCox2sym.hasDerivAt_zero, BoxCox2sym.hasDerivAt, BoxCox2sym.jacobian_spec_nu_zero (nu = 0, x ≠ 0),
              YeoJohnson.hasDerivAt, LogSinh.hasDerivAt,
              Reciprocal.hasDerivAt, Sinh.hasDerivAt, Manly.hasDerivAt, X.jacobian_spec (every class: the number
              `jacobian` returns on its guard is that derivative), LogSinh.forward_eq, Reciprocal.forward_eq
    outside:  exact over the reals, every branch and every admissible parameter vector; the 1e-4 allowance and IEEE
              rounding are carried by the correspondence (Float model, propagated bound) and the finite-difference
              oracle. Yeo-Johnson is stated at every x with nu + scale x != EPS (the property's quantifier excludes
              the switch point)

* for Softmax, jacobian is the determinant of the matrix of partial derivatives
    theorems: Softmax.partial_derivatives, Softmax.det_partial_derivatives, Softmax.jacobian_eq_det,
              Softmax.jacobian_spec, Softmax.pdDet_eq_det, Softmax.pdDet_eq_jacRow, Softmax.jacobianM_eq
    outside:  every row length n (matrix determinant lemma); the determinant the driver executes (Laplace expansion
              on nested lists) is proved equal to Matrix.det; floating point by correspondence (FD matrix of the
              real forward vs model entries, numpy det vs jacobian)

* jacobian is strictly positive on the domain
    theorems: Identity.jac_pos, Logit.jac_pos, Log.jac_pos, Log.bf_pos, Log.jac_neg_of_base_lt_one, BoxCox2.jac_pos,
              BoxCox2sym.jac_pos, YeoJohnson.jac_pos, LogSinh.jac_pos, Reciprocal.jac_pos, Sinh.jac_pos,
              Manly.jac_pos, Softmax.jacRow_pos, Softmax.partial_pos, X.jacobian_spec, Sinh.jacH_eq_jac,
              Sinh.jacobianH_spec, Identity.jac_nonneg_fp, Logit.jacobian_nonneg_fp, Log.jacobian_nonneg_fp,
              BoxCox2.jacobian_nonneg_fp, BoxCox2sym.jacobian_nonneg_fp, YeoJohnson.jac_nonneg_fp,
              LogSinh.jac_nonneg_fp, Reciprocal.jac_nonneg_fp, Sinh.jacH_nonneg_fp, Manly.jac_nonneg_fp,
              Softmax.sumFrom_nonneg_fp, Softmax.prodFrom_nonneg_fp, Softmax.jacobian_nonneg_fp,
              Log.base_one_not_pos
    outside:  Log needs log(base) > 0: for 0 < base < 1 the Jacobian is proved negative (known finding
              Log/positive/base_below_one). Sinh's u*u overflow in doubles (Jacobian 0 for |u| > 1.34e154) is
              repaired in the code (fix 7814906, `np.hypot`) and the repaired formula is `Sinh.jacH`: Sinh.jacH_eq_jac,
              Sinh.jacobianH_spec. In floating point: X.jac(obian)_nonneg_fp
              prove 'never negative' exactly in the rounded arithmetic (assumptions of FP); STRICT positivity in
              doubles (no underflow to 0) stays with the oracle

* NaN outside the domain via np.where (anchor): the domain of jacobian is its guard
    theorems: Logit.jacobian_none, Log.jacobian_none, BoxCox2.jacobian_none, BoxCox1lam.jacobian_none,
              BoxCox1nu.jacobian_none, BoxCox2sym.jacobian_none, LogSinh.jacobian_none, Reciprocal.jacobian_none,
              Logit.jdom_dom, Log.dom_of_jdom, BoxCox2.dom_of_jdom
    outside:  nothing; unguarded classes (Identity, Yeo-Johnson, Sinh, Manly) have no NaN branch

* equivalently forward is strictly increasing: x1 < x2 implies forward(x1) <= forward(x2), equality only within
  rounding; all ordered pairs of domain points
    theorems: Identity.strictMono, Logit.strictMonoOn, Log.strictMonoOn, BoxCox2.strictMonoOn,
              BoxCox1lam.strictMonoOn, BoxCox1nu.strictMonoOn, BoxCox2sym.strictMono_of, BoxCox2sym.strictMono,
              BoxCox2sym.strictMono_nu_zero, YeoJohnson.strictMonoOn_pos, YeoJohnson.strictMonoOn_neg,
              YeoJohnson.forward_lt_add, YeoJohnson.fwd_lam_one, YeoJohnson.strictMono_lam_one,
              YeoJohnson.not_strictMono_lam_three, LogSinh.strictMonoOn, Reciprocal.strictMonoOn, Sinh.strictMono,
              Manly.strictMono, Identity.fwd_mono_fp, Logit.fwd_mono_fp, Log.fwd_mono_fp, BoxCox2.fwd_mono_fp,
              BoxCox1lam.fwd_mono_fp, BoxCox1nu.fwd_mono_fp, BoxCox2sym.fwd_mono_fp, YeoJohnson.fwdW_mono_fp,
              YeoJohnson.fwd_mono_fp, LogSinh.fwd_mono_fp, Reciprocal.fwd_mono_fp, Sinh.fwd_mono_fp,
              Manly.fwd_mono_fp
    outside:  strict over the reals on each domain, across the junction for BoxCox2sym; for Yeo-Johnson across w =
              EPS only up to 3 EPS^2 (proved necessary: not_strictMono_lam_three) - that allowance and float
              equality 'within rounding' are judged by the ordered-pair oracle with the evaluation-error slack. 'x1
              < x2 implies forward(x1) <= forward(x2)' is also a theorem about the ROUNDED evaluation
              (X.fwd_mono_fp, no allowance), under the monotone-library assumption; what stays with the oracle is
              that assumption itself (numpy / libm) and Yeo-Johnson pairs across w = EPS

* all parameter vectors as in C01 - including objects reused across parameter re-assignments (any history), unset
  constants
    theorems: BoxCox1lam.state_jacobian_eq, BoxCox1nu.state_jacobian_eq, BoxCox2sym.state_jacobian_eq,
              BoxCox1lam.state_jacobianArr_eq, BoxCox1nu.state_jacobianArr_eq, BoxCox2sym.state_jacobianArr_eq,
              BoxCox1lam.jacobianArr_after_forwardArr, LogSinh.state_jacobianArr_eq, Manly.state_jacobianArr_eq,
              BoxCox1lam.state_jacobian_unset, BoxCox1nu.state_jacobian_unset, LogSinh.state_jacobian_unset,
              LogSinh.state_jacobian_set, Manly.state_jacobian_unset, Manly.state_jacobian_set, Manly.jac_lam_zero,
              history_inv, step_rejected_unchanged, mk_rejects, call_after_history, Sinh.after_history,
              YeoJohnson.after_history, Manly.after_history, LogSinh.after_history, BoxCox2sym.after_history,
              BoxCox1lam.after_history, viaGet_inv, Log.guard_wider_than_domain
    outside:  the theorems quantify over arbitrary operation lists on the modelled object (constructor guards,
              clipping, NaN / length / key tests, reset, re-synchronisation, get_transform routing): the clipping is
              computed by the model and compared bit for bit with the object after every operation (store
              stream). Outside: Vector's hit-bound flags, aliasing of the arrays returned by the
              getters, clone / to_dict (C12); copy.deepcopy / pickle of a Transform; in-place edits of
              t.params.values

* rejected input (Softmax: negative entry, row sum > 1 - EPS, more than two dimensions)
    theorems: Softmax.jacobian_rejects, Softmax.jacobianND_spec, publicOnArray_spec, cast_kinds
    outside:  dutils.cast is modelled for float64 / float32 / int64 arrays of any shape and python floats
              (Model/C02Hist.cast, compared with the real function); integer scalars (converted by truncation or
              rejected, depending on numpy's scalar-vs-0-d result type) are outside the quantifier and only recorded
-/
import HydroVerif.Lemmas.C02
import HydroVerif.Lemmas.C02Softmax
import HydroVerif.Lemmas.C02Hist
import HydroVerif.Lemmas.C02Round

namespace HydroVerif.C02
open HydroVerif.C01 Set Filter Topology

theorem Identity.hasDerivAt (p : Identity.Params ℝ) (x : ℝ) :
    HasDerivAt (fun t => Identity.fwd p t) (Identity.jac p x) x := hasDerivAt_id x

theorem Identity.jac_pos (p : Identity.Params ℝ) (x : ℝ) : 0 < Identity.jac p x := one_pos

theorem Identity.jacobian_spec (p : Identity.Params ℝ) (x : ℝ) :
    ∃ j, Identity.jacobian p x = some j ∧ 0 < j ∧ HasDerivAt (fun t => Identity.fwd p t) j x :=
  ⟨_, rfl, Identity.jac_pos p x, Identity.hasDerivAt p x⟩

theorem Identity.strictMono (p : Identity.Params ℝ) : StrictMono (fun t => Identity.fwd p t) :=
  fun _ _ h => h

theorem Logit.hasDerivAt (p : Logit.Params ℝ) (x : ℝ) (hx : Logit.dom p x) :
    HasDerivAt (fun t => Logit.fwd p t) (Logit.jac p x) x :=
  hasDerivAt_logit (((hasDerivAt_id' x).sub_const p.lower).div_const (Logit.upper p - p.lower))
    (Logit.value_mem p hx).1 (Logit.value_mem p hx).2

theorem Logit.jac_pos (p : Logit.Params ℝ) (x : ℝ) (hx : Logit.dom p x) : 0 < Logit.jac p x :=
  div_pos (div_pos (one_div_pos.mpr (Logit.width_pos p)) (Logit.value_mem p hx).1)
    (sub_pos.mpr (Logit.value_mem p hx).2)

/-- the guard `lower + EPS < x < upper - EPS` lies inside the open interval -/
theorem Logit.jdom_dom (p : Logit.Params ℝ) (x : ℝ) (hx : Logit.jdom p x) : Logit.dom p x :=
  ⟨(lt_add_of_pos_right _ eps_pos).trans hx.1, hx.2.trans (sub_lt_self _ eps_pos)⟩

theorem Logit.jacobian_spec (p : Logit.Params ℝ) (x : ℝ) (hx : Logit.jdom p x) :
    ∃ j, Logit.jacobian p x = some j ∧ 0 < j ∧ HasDerivAt (fun t => Logit.fwd p t) j x :=
  spec_of_guard (Bool.and_eq_true_iff.mpr ⟨decide_eq_true hx.1, decide_eq_true hx.2⟩)
    (Logit.jac_pos p x (Logit.jdom_dom p x hx)) (Logit.hasDerivAt p x (Logit.jdom_dom p x hx))

theorem Logit.strictMonoOn (p : Logit.Params ℝ) : StrictMonoOn (fun t => Logit.fwd p t) {x | Logit.dom p x} :=
  strictMonoOn_of_hasDerivAt_pos (f' := Logit.jac p) (convex_Ioo p.lower (Logit.upper p))
    (fun x hx => Logit.hasDerivAt p x hx) (fun x hx => Logit.jac_pos p x hx)

theorem Log.hasDerivAt (p : Log.Params ℝ) (x : ℝ) (hx : Log.dom p x) :
    HasDerivAt (fun t => Log.fwd p t) (Log.jac p x) x :=
  (((hasDerivAt_id' x).add_const p.nu).log (ne_of_gt hx)).div_const (Log.bf p)

theorem Log.bf_pos (p : Log.Params ℝ) (h : ∀ b, p.base = some b → 1 < b) : 0 < Log.bf p := by
  unfold Log.bf
  cases hb : p.base with
  | none => exact one_pos
  | some b => exact Real.log_pos (h b hb)

theorem Log.jac_pos (p : Log.Params ℝ) (x : ℝ) (hb : 0 < Log.bf p) (hx : Log.dom p x) : 0 < Log.jac p x :=
  div_pos (one_div_pos.mpr hx) hb

/-- the hypothesis on the base is forced: for `0 < base < 1` (accepted by the constructor) the Jacobian is negative
on the whole domain — the transform is decreasing (known finding `Log/positive/base_below_one`) -/
theorem Log.jac_neg_of_base_lt_one (p : Log.Params ℝ) (x b : ℝ) (hb : p.base = some b) (hb0 : 0 < b) (hb1 : b < 1)
    (hx : Log.dom p x) : Log.jac p x < 0 := by
  have hbf : Log.bf p < 0 := by
    rw [Log.bf, hb]; exact Real.log_neg hb0 hb1
  exact div_neg_of_pos_of_neg (one_div_pos.mpr hx) hbf

theorem Log.jacobian_spec (p : Log.Params ℝ) (x : ℝ) (hb : 0 < Log.bf p) (hx : Log.dom p x) (hj : Log.jdom p x) :
    ∃ j, Log.jacobian p x = some j ∧ 0 < j ∧ HasDerivAt (fun t => Log.fwd p t) j x :=
  spec_of_guard (decide_eq_true hj) (Log.jac_pos p x hb hx) (Log.hasDerivAt p x hx)

/-- with the parameter inside its bound (`nu ≥ mininu`) and `mininu ≥ 0` (every default), the guard alone suffices -/
theorem Log.dom_of_jdom (p : Log.Params ℝ) (x : ℝ) (hm : 0 ≤ p.mininu) (hj : Log.jdom p x) : Log.dom p x :=
  lt_of_le_of_lt hm hj

theorem Log.strictMonoOn (p : Log.Params ℝ) (hb : 0 < Log.bf p) :
    StrictMonoOn (fun t => Log.fwd p t) {x | Log.dom p x} :=
  fun _ hx _ _ hxy => div_lt_div_of_pos_right (Real.log_lt_log hx ((add_lt_add_iff_right p.nu).mpr hxy)) hb

theorem BoxCox2.hasDerivAt (p : BoxCox2.Params ℝ) (x : ℝ) (hx : BoxCox2.dom p x) :
    HasDerivAt (fun t => BoxCox2.fwd p t) (BoxCox2.jac p x) x := by
  simp only [BoxCox2.fwd_eq, BoxCox2.jac_eq_bc']
  exact HasDerivAt.comp_add_const x p.nu (hasDerivAt_bc (lamBig_ne _) hx)

theorem BoxCox2.jac_pos (p : BoxCox2.Params ℝ) (x : ℝ) (hx : BoxCox2.dom p x) : 0 < BoxCox2.jac p x := by
  rw [BoxCox2.jac_eq_bc']
  exact bc'_pos _ _ hx

/-- where `_jacobian` returns a number (`x + nu > mininu`) inside the domain of the formula (`x + nu > 0`) -/
theorem BoxCox2.jacobian_spec (p : BoxCox2.Params ℝ) (x : ℝ) (hx : BoxCox2.dom p x) (hj : BoxCox2.jdom p x) :
    ∃ j, BoxCox2.jacobian p x = some j ∧ 0 < j ∧ HasDerivAt (fun t => BoxCox2.fwd p t) j x :=
  spec_of_guard (decide_eq_true hj) (BoxCox2.jac_pos p x hx) (BoxCox2.hasDerivAt p x hx)

theorem BoxCox2.dom_of_jdom (p : BoxCox2.Params ℝ) (x : ℝ) (hm : 0 ≤ p.mininu) (hj : BoxCox2.jdom p x) :
    BoxCox2.dom p x := lt_of_le_of_lt hm hj

theorem BoxCox2.jacobian_none (p : BoxCox2.Params ℝ) (x : ℝ) (hj : ¬ BoxCox2.jdom p x) :
    BoxCox2.jacobian p x = none :=
  guard_false (decide_eq_false (show ¬ p.mininu < x + p.nu from hj)) _

theorem BoxCox2.strictMonoOn (p : BoxCox2.Params ℝ) :
    StrictMonoOn (fun t => BoxCox2.fwd p t) {x | BoxCox2.dom p x} :=
  fun _ hx _ _ hxy => BoxCox2.fwd_lt p hx hxy

theorem BoxCox1lam.jacobian_spec (p : BoxCox1lam.Params ℝ) (x : ℝ) (hx : 0 < x + p.nu) (hj : p.mininu < x + p.nu) :
    ∃ j, BoxCox1lam.jacobian p x = some j ∧ 0 < j ∧ HasDerivAt (fun t => BoxCox1lam.fwd p t) j x :=
  BoxCox2.jacobian_spec (BoxCox1lam.toBC p) x hx hj

theorem BoxCox1lam.strictMonoOn (p : BoxCox1lam.Params ℝ) :
    StrictMonoOn (fun t => BoxCox1lam.fwd p t) {x | 0 < x + p.nu} :=
  BoxCox2.strictMonoOn (BoxCox1lam.toBC p)

/-- whatever the inner object held before the call (any history), `jacobian` first copies the current `nu`, `lam`
into it: the result is BoxCox2's Jacobian at the current parameters -/
theorem BoxCox1lam.state_jacobian_eq (s : BoxCox1lam.State ℝ) (nu x : ℝ) (hnu : s.nu = some nu) :
    BoxCox1lam.State.jacobian s x =
      .ok (⟨s.lam, some nu, ⟨nu, s.lam, s.bc.mininu⟩⟩, BoxCox1lam.jacobian ⟨s.lam, nu, s.bc.mininu⟩ x) := by
  cases s
  cases hnu
  rfl

theorem BoxCox1lam.state_jacobian_unset (s : BoxCox1lam.State ℝ) (x : ℝ) (hnu : s.nu = none) :
    BoxCox1lam.State.jacobian s x = .error .nuUnset := by
  cases s
  cases hnu
  rfl

theorem BoxCox1nu.jacobian_spec (p : BoxCox1nu.Params ℝ) (x : ℝ) (hx : 0 < x + p.nu) (hj : p.mininu < x + p.nu) :
    ∃ j, BoxCox1nu.jacobian p x = some j ∧ 0 < j ∧ HasDerivAt (fun t => BoxCox1nu.fwd p t) j x :=
  BoxCox2.jacobian_spec (BoxCox1nu.toBC p) x hx hj

theorem BoxCox1nu.strictMonoOn (p : BoxCox1nu.Params ℝ) :
    StrictMonoOn (fun t => BoxCox1nu.fwd p t) {x | 0 < x + p.nu} :=
  BoxCox2.strictMonoOn (BoxCox1nu.toBC p)

theorem BoxCox1nu.state_jacobian_eq (s : BoxCox1nu.State ℝ) (lam x : ℝ) (hlam : s.lam = some lam) :
    BoxCox1nu.State.jacobian s x =
      .ok (⟨s.nu, some lam, ⟨s.nu, lam, s.bc.mininu⟩⟩, BoxCox1nu.jacobian ⟨s.nu, lam, s.bc.mininu⟩ x) := by
  cases s
  cases hlam
  rfl

theorem BoxCox1nu.state_jacobian_unset (s : BoxCox1nu.State ℝ) (x : ℝ) (hlam : s.lam = none) :
    BoxCox1nu.State.jacobian s x = .error .lamUnset := by
  cases s
  cases hlam
  rfl

theorem Reciprocal.hasDerivAt (p : Reciprocal.Params ℝ) (x : ℝ) (hx : Reciprocal.dom p x) :
    HasDerivAt (fun t => Reciprocal.fwd p t) (Reciprocal.jac p x) x :=
  ((hasDerivAt_const x (-1 : ℝ)).fun_div ((hasDerivAt_id' x).const_add p.nu) (Reciprocal.arg_pos p hx).ne').congr_deriv
    (by rw [Reciprocal.jac, zero_mul, mul_one, zero_sub, neg_neg, sq])

theorem Reciprocal.jac_pos (p : Reciprocal.Params ℝ) (x : ℝ) (hx : Reciprocal.dom p x) : 0 < Reciprocal.jac p x :=
  one_div_pos.mpr (mul_pos (Reciprocal.arg_pos p hx) (Reciprocal.arg_pos p hx))

theorem Reciprocal.jacobian_spec (p : Reciprocal.Params ℝ) (x : ℝ) (hx : Reciprocal.jdom p x) :
    ∃ j, Reciprocal.jacobian p x = some j ∧ 0 < j ∧ HasDerivAt (fun t => Reciprocal.fwd p t) j x :=
  spec_of_guard (decide_eq_true (show -p.nu < x from hx)) (Reciprocal.jac_pos p x hx) (Reciprocal.hasDerivAt p x hx)

theorem Reciprocal.strictMonoOn (p : Reciprocal.Params ℝ) :
    StrictMonoOn (fun t => Reciprocal.fwd p t) {x | Reciprocal.dom p x} :=
  strictMonoOn_of_hasDerivAt_pos (f' := Reciprocal.jac p) (convex_Ioi (-p.nu))
    (fun x hx => Reciprocal.hasDerivAt p x hx) (fun x hx => Reciprocal.jac_pos p x hx)

theorem Sinh.hasDerivAt (p : Sinh.Params ℝ) (x : ℝ) :
    HasDerivAt (fun t => Sinh.fwd p t) (Sinh.jac p x) x :=
  (((hasDerivAt_id' x).sub_const p.nu).mul_const p.scale).arsinh.congr_deriv
    (by rw [Sinh.jac, smul_eq_mul, one_mul, sq, inv_mul_eq_div]; rfl)

theorem Sinh.jac_pos (p : Sinh.Params ℝ) (x : ℝ) (hp : Sinh.admissible p) : 0 < Sinh.jac p x :=
  div_pos (Sinh.scale_pos p hp) (Real.sqrt_pos.mpr (add_pos_of_pos_of_nonneg one_pos (mul_self_nonneg _)))

theorem Sinh.jacobian_spec (p : Sinh.Params ℝ) (x : ℝ) (hp : Sinh.admissible p) :
    ∃ j, Sinh.jacobian p x = some j ∧ 0 < j ∧ HasDerivAt (fun t => Sinh.fwd p t) j x :=
  ⟨_, rfl, Sinh.jac_pos p x hp, Sinh.hasDerivAt p x⟩

theorem Sinh.strictMono (p : Sinh.Params ℝ) (hp : Sinh.admissible p) : StrictMono (fun t => Sinh.fwd p t) :=
  strictMonoOn_univ.mp (strictMonoOn_of_hasDerivAt_pos (f' := Sinh.jac p) convex_univ
    (fun x _ => Sinh.hasDerivAt p x) (fun x _ => Sinh.jac_pos p x hp))

/-- the repaired code (`scale / np.hypot(1., u)`, model `Sinh.jacH`: no `u*u`, hence no overflow to a zero Jacobian in
doubles) is the same real function as `Sinh.jac`: every Sinh theorem above holds for it verbatim -/
theorem Sinh.jacH_eq_jac (p : Sinh.Params ℝ) (x : ℝ) : C02.Sinh.jacH p x = Sinh.jac p x := by
  rw [C02.Sinh.jacH, Sinh.hypot1_eq]
  rfl

theorem Sinh.jacobianH_spec (p : Sinh.Params ℝ) (x : ℝ) (hp : Sinh.admissible p) :
    ∃ j, C02.Sinh.jacobianH p x = some j ∧ 0 < j ∧ HasDerivAt (fun t => Sinh.fwd p t) j x := by
  unfold C02.Sinh.jacobianH
  rw [Sinh.jacH_eq_jac]
  exact Sinh.jacobian_spec p x hp

/-! ### Manly (repaired branch test `abs(lam) > EPS`) -/

theorem Manly.hasDerivAt (p : Manly.Params ℝ) (x : ℝ) :
    HasDerivAt (fun t => Manly.fwd p t) (Manly.jac p x) x := by
  have hu : HasDerivAt (fun t : ℝ => t / p.xmax) (1 / p.xmax) x := (hasDerivAt_id' x).div_const p.xmax
  unfold Manly.fwd Manly.jac
  cases h : lamBig p.lam with
  | true =>
    refine ((((hu.const_mul p.lam).exp).sub_const 1).div_const p.lam).congr_deriv ?_
    rw [← mul_assoc, mul_right_comm, mul_div_cancel_right₀ _ (lamBig_true h), mul_one_div]
    rfl
  | false => exact hu

theorem Manly.jac_pos (p : Manly.Params ℝ) (x : ℝ) (hp : Manly.admissible p) : 0 < Manly.jac p x := by
  have hxm := Manly.xmax_pos p hp
  unfold Manly.jac
  split_ifs
  · exact div_pos (Real.exp_pos _) hxm
  · exact one_div_pos.mpr hxm

theorem Manly.jacobian_spec (p : Manly.Params ℝ) (x : ℝ) (hp : Manly.admissible p) :
    ∃ j, Manly.jacobian p x = some j ∧ 0 < j ∧ HasDerivAt (fun t => Manly.fwd p t) j x :=
  ⟨_, rfl, Manly.jac_pos p x hp, Manly.hasDerivAt p x⟩

theorem Manly.strictMono (p : Manly.Params ℝ) (hp : Manly.admissible p) : StrictMono (fun t => Manly.fwd p t) :=
  strictMonoOn_univ.mp (strictMonoOn_of_hasDerivAt_pos (f' := Manly.jac p) convex_univ
    (fun x _ => Manly.hasDerivAt p x) (fun x _ => Manly.jac_pos p x hp))

/-- `lam = 0` exactly takes the identity branch: Jacobian `1/xmax` (the pinned code raised AttributeError) -/
theorem Manly.jac_lam_zero (xmax x : ℝ) : Manly.jac ⟨0, xmax⟩ x = 1 / xmax := by
  rw [Manly.jac, lamBig_zero]
  rfl

theorem Manly.state_jacobian_unset (s : Manly.State ℝ) (x : ℝ) (h : s.xmax = none) :
    Manly.State.jacobian s x = .error .xmaxUnset := by
  cases s
  cases h
  rfl

theorem Manly.state_jacobian_set (s : Manly.State ℝ) (x xm : ℝ) (h : s.xmax = some xm) :
    Manly.State.jacobian s x = .ok (Manly.jacobian ⟨s.lam, xm⟩ x) := by
  cases s
  cases h
  rfl

theorem LogSinh.hasDerivAt (p : LogSinh.Params ℝ) (x : ℝ) (hp : LogSinh.admissible p) (hx : LogSinh.dom p x) :
    HasDerivAt (fun t => LogSinh.fwd p t) (LogSinh.jac p x) x := by
  have hb : LogSinh.b p ≠ 0 := (Real.exp_pos _).ne'
  have hg : HasDerivAt (fun t => LogSinh.a p + LogSinh.b p * (t / p.xmax)) (LogSinh.b p * (1 / p.xmax)) x :=
    (((hasDerivAt_id' x).div_const p.xmax).const_mul (LogSinh.b p)).const_add (LogSinh.a p)
  refine ((hasDerivAt_logsinh_core hg (LogSinh.w_pos p x hx)).div_const (LogSinh.b p)).congr_deriv ?_
  rw [mul_left_comm, mul_div_cancel_left₀ _ hb, mul_comm]
  rfl

theorem LogSinh.jac_pos (p : LogSinh.Params ℝ) (x : ℝ) (hp : LogSinh.admissible p) (hx : LogSinh.dom p x) :
    0 < LogSinh.jac p x :=
  mul_pos (one_div_pos.mpr (LogSinh.xmax_pos p hp)) (one_div_pos.mpr (tanh_pos (LogSinh.w_pos p x hx)))

theorem LogSinh.jacobian_spec (p : LogSinh.Params ℝ) (x : ℝ) (hp : LogSinh.admissible p) (hx : LogSinh.dom p x) :
    ∃ j, LogSinh.jacobian p x = some j ∧ 0 < j ∧ HasDerivAt (fun t => LogSinh.fwd p t) j x :=
  spec_of_guard hx (LogSinh.jac_pos p x hp hx) (LogSinh.hasDerivAt p x hp hx)

theorem LogSinh.strictMonoOn (p : LogSinh.Params ℝ) (hp : LogSinh.admissible p) :
    StrictMonoOn (fun t => LogSinh.fwd p t) {x | LogSinh.dom p x} := by
  have hxm := LogSinh.xmax_pos p hp
  refine strictMonoOn_of_hasDerivAt_pos (f' := LogSinh.jac p) (OrdConnected.convex ⟨?_⟩)
    (fun x hx => LogSinh.hasDerivAt p x hp hx) (fun x hx => LogSinh.jac_pos p x hp hx)
  intro x hx _ _ z hz
  exact decide_eq_true (lt_of_lt_of_le (of_decide_eq_true hx) (div_le_div_of_nonneg_right hz.1 hxm.le))

theorem LogSinh.state_jacobian_unset (s : LogSinh.State ℝ) (x : ℝ) (h : s.xmax = none) :
    LogSinh.State.jacobian s x = .error .xmaxUnset := by
  cases s
  cases h
  rfl

theorem LogSinh.state_jacobian_set (s : LogSinh.State ℝ) (x xm : ℝ) (h : s.xmax = some xm) :
    LogSinh.State.jacobian s x = .ok (LogSinh.jacobian ⟨s.loga, s.logb, xm⟩ x) := by
  cases s
  cases h
  rfl

/-! outside its guard `_jacobian` is NaN, never a wrong number -/

theorem Logit.jacobian_none (p : Logit.Params ℝ) (x : ℝ) (hj : ¬ Logit.jdom p x) : Logit.jacobian p x = none :=
  guard_false (Bool.eq_false_iff.mpr fun h =>
    hj ⟨of_decide_eq_true (Bool.and_eq_true_iff.mp h).1, of_decide_eq_true (Bool.and_eq_true_iff.mp h).2⟩) _

theorem Log.jacobian_none (p : Log.Params ℝ) (x : ℝ) (hj : ¬ Log.jdom p x) : Log.jacobian p x = none :=
  guard_false (decide_eq_false (show ¬ p.mininu < x + p.nu from hj)) _

theorem Reciprocal.jacobian_none (p : Reciprocal.Params ℝ) (x : ℝ) (hj : ¬ Reciprocal.jdom p x) :
    Reciprocal.jacobian p x = none :=
  guard_false (decide_eq_false (show ¬ -p.nu < x from hj)) _

theorem LogSinh.jacobian_none (p : LogSinh.Params ℝ) (x : ℝ) (hj : ¬ LogSinh.dom p x) :
    LogSinh.jacobian p x = none :=
  guard_false (Bool.eq_false_iff.mpr hj) _

theorem BoxCox2sym.jacobian_none (p : BoxCox2sym.Params ℝ) (x : ℝ) (hj : ¬ p.mininu < |x| + p.nu) :
    BoxCox2sym.jacobian p x = none :=
  BoxCox2.jacobian_none (BoxCox2sym.toBC p) (absv x) (by rwa [absv_eq])

theorem BoxCox1lam.jacobian_none (p : BoxCox1lam.Params ℝ) (x : ℝ) (hj : ¬ p.mininu < x + p.nu) :
    BoxCox1lam.jacobian p x = none := BoxCox2.jacobian_none (BoxCox1lam.toBC p) x hj

theorem BoxCox1nu.jacobian_none (p : BoxCox1nu.Params ℝ) (x : ℝ) (hj : ¬ p.mininu < x + p.nu) :
    BoxCox1nu.jacobian p x = none := BoxCox2.jacobian_none (BoxCox1nu.toBC p) x hj

/-- the function whose derivative `LogSinh.hasDerivAt` takes is what `forward` returns on the domain (NaN outside) -/
theorem LogSinh.forward_eq (p : LogSinh.Params ℝ) (x : ℝ) :
    (LogSinh.dom p x → LogSinh.forward p x = some (LogSinh.fwd p x)) ∧
    (¬ LogSinh.dom p x → LogSinh.forward p x = none) :=
  ⟨fun h => guard_true h _, fun h => guard_false (Bool.eq_false_iff.mpr h) _⟩

theorem Reciprocal.forward_eq (p : Reciprocal.Params ℝ) (x : ℝ) :
    (Reciprocal.dom p x → Reciprocal.forward p x = some (Reciprocal.fwd p x)) ∧
    (¬ Reciprocal.dom p x → Reciprocal.forward p x = none) :=
  ⟨fun h => guard_true (decide_eq_true (show -p.nu < x from h)) _,
    fun h => guard_false (decide_eq_false (show ¬ -p.nu < x from h)) _⟩

/-! ### BoxCox2sym — odd extension `sign(x) (BC(|x|) - BC(0))`, Jacobian `BC'(|x|)`: the derivative on each
half-line, and — because both one-sided derivatives at 0 equal `BC'(0)` — also at `x = 0` when `nu > 0` -/

theorem BoxCox2sym.hasDerivAt_of_pos (p : BoxCox2sym.Params ℝ) (x : ℝ) (hx : 0 < x) (hd : 0 < x + p.nu) :
    HasDerivAt (fun t => BoxCox2sym.fwd p t) (BoxCox2sym.jac p x) x := by
  rw [BoxCox2sym.jac, absv_eq, abs_of_pos hx]
  exact hasDerivAt_oddExt_of_pos hx (BoxCox2.hasDerivAt (BoxCox2sym.toBC p) x hd)

theorem BoxCox2sym.hasDerivAt_of_neg (p : BoxCox2sym.Params ℝ) (x : ℝ) (hx : x < 0) (hd : 0 < -x + p.nu) :
    HasDerivAt (fun t => BoxCox2sym.fwd p t) (BoxCox2sym.jac p x) x := by
  rw [BoxCox2sym.jac, absv_eq, abs_of_neg hx]
  exact hasDerivAt_oddExt_of_neg hx (BoxCox2.hasDerivAt (BoxCox2sym.toBC p) (-x) hd)

theorem BoxCox2sym.hasDerivAt_zero (p : BoxCox2sym.Params ℝ) (hnu : 0 < p.nu) :
    HasDerivAt (fun t => BoxCox2sym.fwd p t) (BoxCox2sym.jac p 0) 0 := by
  rw [BoxCox2sym.jac, absv_eq, abs_zero]
  exact hasDerivAt_oddExt_zero (BoxCox2.hasDerivAt (BoxCox2sym.toBC p) 0 (show 0 < 0 + p.nu by rwa [zero_add]))

theorem BoxCox2sym.hasDerivAt (p : BoxCox2sym.Params ℝ) (x : ℝ) (hnu : 0 < p.nu) :
    HasDerivAt (fun t => BoxCox2sym.fwd p t) (BoxCox2sym.jac p x) x := by
  rcases lt_trichotomy x 0 with h | rfl | h
  · exact BoxCox2sym.hasDerivAt_of_neg p x h (by linarith)
  · exact BoxCox2sym.hasDerivAt_zero p hnu
  · exact BoxCox2sym.hasDerivAt_of_pos p x h (by linarith)

theorem BoxCox2sym.jac_pos (p : BoxCox2sym.Params ℝ) (x : ℝ) (hd : 0 < |x| + p.nu) : 0 < BoxCox2sym.jac p x :=
  BoxCox2.jac_pos (BoxCox2sym.toBC p) (absv x) (by rwa [BoxCox2.dom, absv_eq])

theorem BoxCox2sym.jacobian_spec (p : BoxCox2sym.Params ℝ) (x : ℝ) (hnu : 0 < p.nu) (hj : p.mininu < |x| + p.nu) :
    ∃ j, BoxCox2sym.jacobian p x = some j ∧ 0 < j ∧ HasDerivAt (fun t => BoxCox2sym.fwd p t) j x :=
  spec_of_guard (decide_eq_true (by rwa [absv_eq])) (BoxCox2sym.jac_pos p x (by positivity))
    (BoxCox2sym.hasDerivAt p x hnu)

/-- `nu = 0` (constructor option `mininu = 0`), away from 0 -/
theorem BoxCox2sym.jacobian_spec_nu_zero (p : BoxCox2sym.Params ℝ) (x : ℝ) (hnu : p.nu = 0) (hx : x ≠ 0)
    (hj : p.mininu < |x| + p.nu) :
    ∃ j, BoxCox2sym.jacobian p x = some j ∧ 0 < j ∧ HasDerivAt (fun t => BoxCox2sym.fwd p t) j x := by
  refine spec_of_guard (decide_eq_true (by rwa [absv_eq]))
    (BoxCox2sym.jac_pos p x (by rw [hnu, add_zero]; exact abs_pos.mpr hx)) ?_
  rcases lt_or_gt_of_ne hx with h | h
  · exact BoxCox2sym.hasDerivAt_of_neg p x h (by rw [hnu]; linarith)
  · exact BoxCox2sym.hasDerivAt_of_pos p x h (by rw [hnu]; linarith)

theorem BoxCox2sym.strictMono_of (p : BoxCox2sym.Params ℝ) (hnu : 0 ≤ p.nu)
    (h0 : ∀ t, 0 < t → BoxCox2sym.y0 p < BoxCox2.fwd (BoxCox2sym.toBC p) t) :
    StrictMono (fun t => BoxCox2sym.fwd p t) :=
  strictMono_oddExt (fun _ hs _ _ hst => BoxCox2.fwd_lt (BoxCox2sym.toBC p) (add_pos_of_pos_of_nonneg hs hnu) hst) h0

theorem BoxCox2sym.strictMono (p : BoxCox2sym.Params ℝ) (hnu : 0 < p.nu) :
    StrictMono (fun t => BoxCox2sym.fwd p t) :=
  BoxCox2sym.strictMono_of p hnu.le fun _ ht =>
    BoxCox2.fwd_lt (BoxCox2sym.toBC p) (show 0 < 0 + p.nu by rwa [zero_add]) ht

theorem BoxCox2sym.strictMono_nu_zero (p : BoxCox2sym.Params ℝ) (hnu : p.nu = 0) (hl : lamBig p.lam = true)
    (hpos : 0 < p.lam) : StrictMono (fun t => BoxCox2sym.fwd p t) := by
  refine BoxCox2sym.strictMono_of p hnu.ge fun t ht => ?_
  simp only [BoxCox2sym.y0, BoxCox2.fwd, BoxCox2sym.toBC, hl, if_true, transc_pow, hnu, add_zero,
    Real.zero_rpow (lamBig_true hl)]
  exact div_lt_div_of_pos_right (sub_lt_sub_right (Real.rpow_pos_of_pos ht p.lam) 1) hpos

theorem BoxCox2sym.state_jacobian_eq (s : BoxCox2sym.State ℝ) (x : ℝ) :
    BoxCox2sym.State.jacobian s x =
      (⟨s.nu, s.lam, ⟨s.nu, s.lam, s.bc.mininu⟩⟩, BoxCox2sym.jacobian ⟨s.nu, s.lam, s.bc.mininu⟩ x) := rfl

/-! ### Yeo-Johnson — four formulas; `w = nu + scale x`, Jacobian `jacW(lam, w) * scale`.
The derivative holds at every `x` with `w ≠ EPS` (the interior of the two branches); at `w = EPS` the two formulas
meet with a mismatch below `3 EPS²` (zero for `lam = 1`), so monotonicity is exact on either side and holds up to
that amount across the junction. -/

theorem YeoJohnson.hasDerivAt (p : YeoJohnson.Params ℝ) (x : ℝ) (hw : p.nu + x * p.scale ≠ eps) :
    HasDerivAt (fun t => YeoJohnson.fwd p t) (YeoJohnson.jac p x) x :=
  (YeoJohnson.hasDerivAt_fwdW p.lam hw).comp x
    ((((hasDerivAt_id' x).mul_const p.scale).const_add p.nu).congr_deriv (one_mul _))

theorem YeoJohnson.jac_pos (p : YeoJohnson.Params ℝ) (x : ℝ) (hp : YeoJohnson.admissible p) :
    0 < YeoJohnson.jac p x :=
  mul_pos (YeoJohnson.jacW_pos p.lam _) (YeoJohnson.scale_pos p hp)

theorem YeoJohnson.jacobian_spec (p : YeoJohnson.Params ℝ) (x : ℝ) (hp : YeoJohnson.admissible p)
    (hw : p.nu + x * p.scale ≠ eps) :
    ∃ j, YeoJohnson.jacobian p x = some j ∧ 0 < j ∧ HasDerivAt (fun t => YeoJohnson.fwd p t) j x :=
  ⟨_, rfl, YeoJohnson.jac_pos p x hp, YeoJohnson.hasDerivAt p x hw⟩

theorem YeoJohnson.strictMonoOn_pos (p : YeoJohnson.Params ℝ) (hp : YeoJohnson.admissible p) :
    StrictMonoOn (fun t => YeoJohnson.fwd p t) {x | eps ≤ p.nu + x * p.scale} := by
  intro x (hx : eps ≤ p.nu + x * p.scale) y (hy : eps ≤ p.nu + y * p.scale) hxy
  have hm1 : (-1 : ℝ) < eps := by linarith [eps_pos]
  simp only [YeoJohnson.fwd, C01.YeoJohnson.fwdW_eq, if_pos hx, if_pos hy]
  exact YeoJohnson.posF_strictMonoOn p.lam (hm1.trans_le hx) (hm1.trans_le hy) (YeoJohnson.w_lt p hp hxy)

theorem YeoJohnson.strictMonoOn_neg (p : YeoJohnson.Params ℝ) (hp : YeoJohnson.admissible p) :
    StrictMonoOn (fun t => YeoJohnson.fwd p t) {x | p.nu + x * p.scale < eps} := by
  intro x (hx : p.nu + x * p.scale < eps) y (hy : p.nu + y * p.scale < eps) hxy
  simp only [YeoJohnson.fwd, C01.YeoJohnson.fwdW_eq, if_neg hx.not_ge, if_neg hy.not_ge]
  exact YeoJohnson.negF_strictMonoOn p.lam (lt_trans hx eps_lt_one) (lt_trans hy eps_lt_one)
    (YeoJohnson.w_lt p hp hxy)

/-- all ordered pairs, junction included: `x₁ < x₂` implies `forward(x₁) < forward(x₂) + 3 EPS²` (3e-20, below the
rounding error of the formula `((1+w)^lam - 1)/lam` near `w = EPS`) -/
theorem YeoJohnson.forward_lt_add (p : YeoJohnson.Params ℝ) (hp : YeoJohnson.admissible p) {x1 x2 : ℝ}
    (h : x1 < x2) : YeoJohnson.fwd p x1 < YeoJohnson.fwd p x2 + 3 * eps ^ 2 :=
  YeoJohnson.fwdW_lt_add (YeoJohnson.lam_mem p hp).1 (YeoJohnson.lam_mem p hp).2
    (YeoJohnson.w_lt p hp h)

theorem YeoJohnson.fwd_lam_one (p : YeoJohnson.Params ℝ) (hl : p.lam = 1) (x : ℝ) :
    YeoJohnson.fwd p x = p.nu + x * p.scale := by
  have h0 : isclose0 (1 : ℝ) = false := isclose0_of (by norm_num)
  have h2 : isclose2 (1 : ℝ) = false := isclose2_of (by norm_num)
  simp only [YeoJohnson.fwd, YeoJohnson.fwdW, hl, h0, h2, Bool.false_eq_true, if_false, transc_pow]
  split_ifs <;> norm_num

theorem YeoJohnson.strictMono_lam_one (p : YeoJohnson.Params ℝ) (hp : YeoJohnson.admissible p) (hl : p.lam = 1) :
    StrictMono (fun t => YeoJohnson.fwd p t) := by
  intro x y hxy
  show YeoJohnson.fwd p x < YeoJohnson.fwd p y
  rw [YeoJohnson.fwd_lam_one p hl, YeoJohnson.fwd_lam_one p hl]
  exact YeoJohnson.w_lt p hp hxy

/-- the `3 EPS²` allowance above cannot be dropped: at `lam = 3` (`nu = 0`, `scale = 1`) the exact formulas give
`forward(EPS - 5e-31) > forward(EPS)` — the negative-branch formula ends ≈ 2e-31 above the value at which the
positive-branch formula starts. A drop of that size is ≈ 1e-5 of the spacing of doubles at `1e-10`: it is the
"equality only within rounding" of the property text, not an observable defect. -/
theorem YeoJohnson.not_strictMono_lam_three :
    ¬ StrictMono (fun t => YeoJohnson.fwd (⟨0, 1, 3⟩ : YeoJohnson.Params ℝ) t) := by
  intro h
  have hlt : (1e-10 - 5e-31 : ℝ) < 1e-10 := by norm_num
  have h3 := h hlt
  have h0 : isclose0 (3 : ℝ) = false := isclose0_of (by norm_num)
  have h2 : isclose2 (3 : ℝ) = false := isclose2_of (by norm_num)
  have c1 : ¬ (eps : ℝ) ≤ 0 + (1e-10 - 5e-31) * 1 := by unfold eps; norm_num
  have c2 : (eps : ℝ) ≤ 0 + 1e-10 * 1 := by unfold eps; norm_num
  simp only [YeoJohnson.fwd, YeoJohnson.fwdW, h0, h2, Bool.false_eq_true, if_false, transc_pow, if_neg c1, if_pos c2] at h3
  rw [show (2 - 3 : ℝ) = -1 by norm_num, Real.rpow_neg_one, show (3 : ℝ) = ((3 : ℕ) : ℝ) by norm_num,
    Real.rpow_natCast] at h3
  norm_num at h3

theorem Softmax.partial_derivatives {n : ℕ} (x : Fin n → ℝ) (hpos : ∀ k, 0 < x k) (hs : ∑ k, x k < 1) (i j : Fin n) :
    (∀ z : Fin n → ℝ, Softmax.fwdRow (List.ofFn z) = List.ofFn (Softmax.fwdFn z)) ∧
    Softmax.pdMat x i j = (if i = j then 1 / x i else 0) + 1 / (1 - ∑ k, x k) ∧
    HasDerivAt (fun t => Softmax.fwdFn (Function.update x j t) i) (Softmax.pdMat x i j) (x j) :=
  ⟨Softmax.fwdRow_ofFn, rfl, Softmax.hasDerivAt_fwdFn x hpos hs i j⟩

theorem Softmax.det_partial_derivatives {n : ℕ} (x : Fin n → ℝ) (hx : ∀ i, x i ≠ 0) :
    (Softmax.pdMat x).det = Softmax.jacRow (List.ofFn x) := by
  rw [Softmax.det_pdMat x hx]
  simp only [Softmax.jacRow, sumL_eq, Softmax.prodL_eq, List.sum_ofFn, List.prod_ofFn]

theorem Softmax.jacobian_eq_det (xs : List ℝ) (hd : Softmax.dom xs) :
    Softmax.jacobian xs = .ok (Matrix.det (Matrix.of fun i j : Fin xs.length => C02.Softmax.pdEntry xs i j)) := by
  rw [Softmax.jacobian_of_dom hd, Softmax.det_pdEntry xs fun x hx => (hd.1 x hx).ne']

theorem Softmax.jacRow_pos (xs : List ℝ) (hd : Softmax.dom xs) : 0 < Softmax.jacRow xs := by
  obtain ⟨hpos, hs⟩ := hd
  rw [sumL_eq] at hs
  have hs1 : 0 < 1 - xs.sum := sub_pos.mpr (lt_of_le_of_lt hs (sub_lt_self 1 eps_pos))
  have hs0 : 0 ≤ xs.sum := List.sum_nonneg fun x hx => (hpos x hx).le
  rw [Softmax.jacRow, sumL_eq, Softmax.prodL_eq]
  exact div_pos (add_pos_of_pos_of_nonneg one_pos (div_nonneg hs0 hs1.le)) (List.prod_pos fun x hx => hpos x hx)

theorem Softmax.jacobian_spec (xs : List ℝ) (hd : Softmax.dom xs) :
    ∃ j, Softmax.jacobian xs = .ok j ∧ 0 < j ∧
      j = Matrix.det (Matrix.of fun i k : Fin xs.length => C02.Softmax.pdEntry xs i k) :=
  ⟨_, Softmax.jacobian_of_dom hd, Softmax.jacRow_pos xs hd,
    (Softmax.det_pdEntry xs fun x hx => (hd.1 x hx).ne').symm⟩

theorem Softmax.partial_pos {n : ℕ} (x : Fin n → ℝ) (hpos : ∀ k, 0 < x k) (hs : ∑ k, x k < 1) (i j : Fin n) :
    0 < Softmax.pdMat x i j := by
  have h1 : 0 < 1 / (1 - ∑ k, x k) := one_div_pos.mpr (sub_pos.mpr hs)
  rw [Softmax.pdMat, Matrix.of_apply]
  split_ifs
  · exact add_pos (one_div_pos.mpr (hpos i)) h1
  · rwa [zero_add]

theorem Softmax.jacobianM_eq (rows : List (List ℝ)) (hd : ∀ r ∈ rows, Softmax.dom r) :
    Softmax.jacobianM rows = .ok (rows.map Softmax.jacRow) := by
  rw [Softmax.jacobianM, (Softmax.any_of_dom hd).1, (Softmax.any_of_dom hd).2]
  rfl

/-- the determinant the driver executes (`pdDet`: Laplace expansion of the nested-list matrix `pdMatrix`) is
`Matrix.det` of the same entries, hence equals `jacRow`: the executable cross-check is the theorem's object -/
theorem Softmax.pdDet_eq_det (xs : List ℝ) :
    C02.Softmax.pdDet xs = Matrix.det (Matrix.of fun i j : Fin xs.length => C02.Softmax.pdEntry xs i j) :=
  detL_toL (Matrix.of fun i j : Fin xs.length => C02.Softmax.pdEntry xs i j)

theorem Softmax.pdDet_eq_jacRow (xs : List ℝ) (hd : Softmax.dom xs) : C02.Softmax.pdDet xs = Softmax.jacRow xs := by
  rw [Softmax.pdDet_eq_det, Softmax.det_pdEntry xs fun x hx => (hd.1 x hx).ne']

theorem Softmax.jacobian_rejects (xs : List ℝ) (h : (∃ x ∈ xs, x < 0) ∨ 1 - eps < Softmax.sumL xs) :
    ∃ e, Softmax.jacobian xs = .error e := by
  unfold Softmax.jacobian
  split_ifs with h1 h2
  · exact ⟨_, rfl⟩
  · exact ⟨_, rfl⟩
  · rcases h with ⟨x, hx, hneg⟩ | h
    · exact absurd (List.any_eq_true.mpr ⟨x, hx, decide_eq_true hneg⟩) h1
    · exact absurd (decide_eq_true h) h2

/-! ### the public method on a whole 1-D array, from ANY object state (i.e. after any history of calls, parameter
re-assignments and earlier results): one re-synchronisation, then the Jacobian formula at the CURRENT parameters on
every element — nothing is remembered from earlier calls -/

theorem BoxCox1lam.state_jacobianArr_eq (s : BoxCox1lam.State ℝ) (nu : ℝ) (xs : List ℝ) (hnu : s.nu = some nu) :
    BoxCox1lam.State.jacobianArr s xs =
      .ok (⟨s.lam, some nu, ⟨nu, s.lam, s.bc.mininu⟩⟩, xs.map (BoxCox2.jacobian ⟨nu, s.lam, s.bc.mininu⟩)) := by
  cases s
  cases hnu
  rfl

theorem BoxCox1nu.state_jacobianArr_eq (s : BoxCox1nu.State ℝ) (lam : ℝ) (xs : List ℝ) (hlam : s.lam = some lam) :
    BoxCox1nu.State.jacobianArr s xs =
      .ok (⟨s.nu, some lam, ⟨s.nu, lam, s.bc.mininu⟩⟩, xs.map (BoxCox2.jacobian ⟨s.nu, lam, s.bc.mininu⟩)) := by
  cases s
  cases hlam
  rfl

theorem BoxCox2sym.state_jacobianArr_eq (s : BoxCox2sym.State ℝ) (xs : List ℝ) :
    BoxCox2sym.State.jacobianArr s xs =
      (⟨s.nu, s.lam, ⟨s.nu, s.lam, s.bc.mininu⟩⟩, xs.map (BoxCox2sym.jacobian ⟨s.nu, s.lam, s.bc.mininu⟩)) := rfl

/-- two calls in a row (a forward call, then a Jacobian call, as the likelihood code does) on the same object: the
second result does not depend on what the first call left in the inner BoxCox2 -/
theorem BoxCox1lam.jacobianArr_after_forwardArr (s : BoxCox1lam.State ℝ) (nu : ℝ) (xs zs : List ℝ) (hnu : s.nu = some nu) :
    ∃ s1 r1, BoxCox1lam.State.forwardArr s zs = .ok (s1, r1) ∧
      BoxCox1lam.State.jacobianArr s1 xs = BoxCox1lam.State.jacobianArr s xs := by
  cases s
  cases hnu
  exact ⟨_, _, rfl, rfl⟩

theorem LogSinh.state_jacobianArr_eq (s : LogSinh.State ℝ) (xm : ℝ) (xs : List ℝ) (h : s.xmax = some xm) :
    LogSinh.State.jacobianArr s xs = .ok (xs.map (LogSinh.jacobian ⟨s.loga, s.logb, xm⟩)) := by
  cases s
  cases h
  rfl

theorem Manly.state_jacobianArr_eq (s : Manly.State ℝ) (xm : ℝ) (xs : List ℝ) (h : s.xmax = some xm) :
    Manly.State.jacobianArr s xs = .ok (xs.map (Manly.jacobian ⟨s.lam, xm⟩)) := by
  cases s
  cases h
  rfl

theorem Softmax.jacobianND_spec (ndim : ℕ) (rows : List (List ℝ)) :
    (2 < ndim → Softmax.jacobianND ndim rows = .error .ndimGt2) ∧
    (ndim ≤ 2 → Softmax.jacobianND ndim rows = Softmax.jacobianM rows) := by
  constructor
  · intro h; simp only [Softmax.jacobianND, if_pos h]
  · intro h; simp only [Softmax.jacobianND, if_neg (not_lt.mpr h)]


/-! ### the transform OBJECT after any history of public operations (Model/C02Hist.lean): the hypotheses
`X.admissible p` of the theorems above are consequences of the code's own guards -/

theorem history_inv (cls : Cls) (c : Ctor ℝ) (o0 : Obj ℝ) (h0 : mk cls c = .ok o0) (ops : List (Op ℝ)) :
    (run o0 ops).Inv ∧ (run o0 ops).cls = cls ∧ (run o0 ops).ctor = c := by
  have h := run_inv o0 (mk_inv cls c o0 h0) ops
  rwa [(mk_eq_build h0).2] at h ⊢

/-- fault paths: an operation the code rejects (`ValueError`: NaN into a parameter, a vector of the wrong length, an
unknown key, a call with an unset constant) leaves the object exactly as it was -/
theorem step_rejected_unchanged (o : Obj ℝ) (op : Op ℝ) (e : SErr) (h : (step o op).2 = .rejected e) :
    (step o op).1 = o := by
  rcases step_outcome o op with ⟨e', h'⟩ | ⟨hn, -⟩
  · rw [h']
  · exact absurd h (hn e)

/-- the guards of the four Box-Cox constructors: `minilam < -3` is the explicit test; `minilam > 1 + EPS` is caught by
`Vector.__init__` (`maxsOutside` above `3 + EPS`, else `defaultsOutside`), hence only `∃ e` -/
theorem mk_rejects (cls : Cls) (c : Ctor ℝ) (hcls : cls = .BoxCox2 ∨ cls = .BoxCox1lam ∨ cls = .BoxCox1nu ∨ cls = .BoxCox2sym) :
    (c.minilam < -3 → mk cls c = .error .minilamBelowM3) ∧
    (1 + eps < c.minilam → ∃ e, mk cls c = .error e) := by
  rw [mk, ctorGuard_bc hcls]
  constructor
  · intro h
    rw [bcGuard, if_pos (lt_of_lt_of_eq h (by norm_num))]
  · intro h
    cases hg : bcGuard c with
    | error e => exact ⟨e, rfl⟩
    | ok u => exact absurd (bcGuard_ok c hg).2 (not_le.mpr h)

theorem call_after_history (cls : Cls) (c : Ctor ℝ) (o0 : Obj ℝ) (h0 : mk cls c = .ok o0) (ops : List (Op ℝ))
    (jac : Bool) (xs : List ℝ) :
    (∃ e, callOp (run o0 ops) jac xs = .error (.call e)) ∨
    (∃ o' ys, callOp (run o0 ops) jac xs = .ok (o', ys) ∧ ys.length = xs.length ∧
      o'.params = (run o0 ops).params ∧ o'.consts = (run o0 ops).consts ∧ o'.Inv) :=
  (callOp_total _ (history_inv cls c o0 h0 ops).1 jac xs).imp id
    fun ⟨o', ys, h, hl, hp, hc, hi, _⟩ => ⟨o', ys, h, hl, hp, hc, hi⟩

/-- Sinh, any history: the object's `scale` is ≥ 1e-10 whatever was assigned, and `jacobian` returns at every point the
positive derivative of `forward` — `Sinh.admissible` is not a hypothesis. The object runs the repaired `Sinh.jacH`,
the same real function as `Sinh.jac` (`Sinh.jacH_eq_jac`) -/
theorem Sinh.after_history (c : Ctor ℝ) (o0 : Obj ℝ) (h0 : mk .Sinh c = .ok o0) (ops : List (Op ℝ)) (x : ℝ) :
    ∃ (p : Sinh.Params ℝ) (j : ℝ), Sinh.admissible p ∧
      callOp (run o0 ops) true [x] = .ok (run o0 ops, [some j]) ∧ 0 < j ∧ HasDerivAt (fun t => Sinh.fwd p t) j x := by
  obtain ⟨hi, hc, _⟩ := history_inv .Sinh c o0 h0 ops
  obtain ⟨p, hp, h⟩ := Sinh.of_inv _ hi hc true [x]
  refine ⟨p, C02.Sinh.jacH p x, hp, h, ?_⟩
  rw [Sinh.jacH_eq_jac]
  exact ⟨Sinh.jac_pos p x hp, Sinh.hasDerivAt p x⟩

theorem YeoJohnson.after_history (c : Ctor ℝ) (o0 : Obj ℝ) (h0 : mk .YeoJohnson c = .ok o0) (ops : List (Op ℝ)) (x : ℝ) :
    ∃ (p : YeoJohnson.Params ℝ) (j : ℝ), YeoJohnson.admissible p ∧
      callOp (run o0 ops) true [x] = .ok (run o0 ops, [some j]) ∧ 0 < j ∧
      (p.nu + x * p.scale ≠ eps → HasDerivAt (fun t => YeoJohnson.fwd p t) j x) := by
  obtain ⟨hi, hc, _⟩ := history_inv .YeoJohnson c o0 h0 ops
  obtain ⟨p, hp, h⟩ := YeoJohnson.of_inv _ hi hc true [x]
  exact ⟨p, YeoJohnson.jac p x, hp, h, YeoJohnson.jac_pos p x hp, YeoJohnson.hasDerivAt p x⟩

theorem Manly.after_history (c : Ctor ℝ) (o0 : Obj ℝ) (h0 : mk .Manly c = .ok o0) (ops : List (Op ℝ)) (x : ℝ) :
    callOp (run o0 ops) true [x] = .error (.call .xmaxUnset) ∨
    ∃ (p : Manly.Params ℝ) (j : ℝ), Manly.admissible p ∧
      callOp (run o0 ops) true [x] = .ok (run o0 ops, [some j]) ∧ 0 < j ∧ HasDerivAt (fun t => Manly.fwd p t) j x := by
  obtain ⟨hi, hc, _⟩ := history_inv .Manly c o0 h0 ops
  obtain ⟨lam, xm, hp, h⟩ := Manly.of_inv _ hi hc true [x]
  cases xm with
  | none => exact Or.inl h
  | some xm =>
    exact Or.inr ⟨⟨lam, xm⟩, _, hp xm rfl, h, Manly.jac_pos _ x (hp xm rfl), Manly.hasDerivAt _ x⟩

theorem LogSinh.after_history (c : Ctor ℝ) (o0 : Obj ℝ) (h0 : mk .LogSinh c = .ok o0) (ops : List (Op ℝ)) (x : ℝ) :
    callOp (run o0 ops) true [x] = .error (.call .xmaxUnset) ∨
    ∃ p : LogSinh.Params ℝ, LogSinh.admissible p ∧
      callOp (run o0 ops) true [x] = .ok (run o0 ops, [LogSinh.jacobian p x]) ∧
      (LogSinh.dom p x → ∃ j, LogSinh.jacobian p x = some j ∧ 0 < j ∧ HasDerivAt (fun t => LogSinh.fwd p t) j x) ∧
      (¬ LogSinh.dom p x → LogSinh.jacobian p x = none) := by
  obtain ⟨hi, hc, _⟩ := history_inv .LogSinh c o0 h0 ops
  obtain ⟨la, lb, xm, hp, h⟩ := LogSinh.of_inv _ hi hc true [x]
  cases xm with
  | none => exact Or.inl h
  | some xm =>
    exact Or.inr ⟨⟨la, lb, xm⟩, hp xm rfl, h, LogSinh.jacobian_spec _ x (hp xm rfl), LogSinh.jacobian_none _ x⟩

/-- BoxCox2sym built with a positive `mininu` (the default is EPS), any history: `nu ≥ mininu > 0`, so `BC(0)` exists,
the inner object holds exactly the outer values after the call, and on the guard the answer is the positive
derivative — `0 < nu` is not a hypothesis -/
theorem BoxCox2sym.after_history (c : Ctor ℝ) (hm : 0 < c.mininu) (o0 : Obj ℝ) (h0 : mk .BoxCox2sym c = .ok o0)
    (ops : List (Op ℝ)) (x : ℝ) :
    ∃ p : BoxCox2sym.Params ℝ, 0 < p.nu ∧ p.mininu = c.mininu ∧
      callOp (run o0 ops) true [x] = .ok ({ run o0 ops with bc := some ⟨bcSlots c, false, [some p.nu, some p.lam]⟩ },
        [BoxCox2sym.jacobian p x]) ∧
      (p.mininu < |x| + p.nu →
        ∃ j, BoxCox2sym.jacobian p x = some j ∧ 0 < j ∧ HasDerivAt (fun t => BoxCox2sym.fwd p t) j x) := by
  obtain ⟨hi, hc, rfl⟩ := history_inv .BoxCox2sym c o0 h0 ops
  obtain ⟨nu, lam, h1, _, _, h⟩ := BoxCox2sym.of_inv _ hi hc true [x]
  have hnu : 0 < nu := lt_of_lt_of_le hm h1
  exact ⟨⟨nu, lam, _⟩, hnu, rfl, h, BoxCox2sym.jacobian_spec _ x hnu⟩

theorem BoxCox1lam.after_history (c : Ctor ℝ) (o0 : Obj ℝ) (h0 : mk .BoxCox1lam c = .ok o0) (ops : List (Op ℝ))
    (x : ℝ) :
    callOp (run o0 ops) true [x] = .error (.call .nuUnset) ∨
    ∃ nu lam : ℝ, c.mininu ≤ nu ∧ c.minilam ≤ lam ∧ lam ≤ 3 ∧
      callOp (run o0 ops) true [x] = .ok ({ run o0 ops with bc := some ⟨bcSlots c, false, [some nu, some lam]⟩ },
        [BoxCox2.jacobian ⟨nu, lam, c.mininu⟩ x]) ∧
      (0 < x + nu → c.mininu < x + nu → ∃ j, BoxCox2.jacobian ⟨nu, lam, c.mininu⟩ x = some j ∧ 0 < j ∧
        HasDerivAt (fun t => BoxCox2.fwd ⟨nu, lam, c.mininu⟩ t) j x) := by
  obtain ⟨hi, hc, rfl⟩ := history_inv .BoxCox1lam c o0 h0 ops
  obtain ⟨lam, nu, h2, h3, h1, h⟩ := BoxCox1lam.of_inv _ hi hc true [x]
  cases nu with
  | none => exact Or.inl h
  | some nu => exact Or.inr ⟨nu, lam, h1 nu rfl, h2, h3, h, BoxCox2.jacobian_spec ⟨nu, lam, _⟩ x⟩

/-- `get_transform(name, **kwargs)` is the constructor followed by one assignment per keyword that names a parameter or
a constant: the object it returns satisfies the same invariant, hence everything above -/
theorem viaGet_inv (cls : Cls) (c : Ctor ℝ) (kw : List (String × Option ℝ)) (o : Obj ℝ)
    (h : viaGet cls c kw = .ok o) : o.Inv ∧ o.cls = cls ∧ o.ctor = c := by
  unfold viaGet at h
  cases hm : mk cls c with
  | error e => rw [hm] at h; cases h
  | ok o0 =>
    rw [hm] at h
    have h1 := foldlM_step_inv (fun o1 op o' hs => ?_) (kwOps cls kw) o0 o (mk_inv cls c o0 hm) h
    · rwa [(mk_eq_build hm).2] at h1
    · split at hs
      · cases hs
      · rename_i heq
        cases hs
        rw [heq]

/-! ### `dutils.cast`: on the property's inputs (float64 arrays of any shape) the public method returns exactly the
elementwise values of `_jacobian`, with the shape of the argument -/

theorem publicOnArray_spec (f : ℝ → Option ℝ) (shape : List ℕ) (xs : List ℝ) :
    publicOnArray f shape xs = .ok (.arr .f64 shape (xs.map f)) := rfl

/-- a python float goes through `float(y)` (a numpy scalar / 0-d result); an integer or float32 ARRAY with a float64
result is a `TypeError`, never silently converted -/
theorem cast_kinds (shape : List ℕ) (xs ys : List ℝ) (v y : ℝ) :
    cast (.pyFloat v) .f64 [] [y] = .ok (.pyFloat y) ∧
    cast (.arr .i64 shape xs) .f64 shape ys = .error .typeError ∧
    cast (.arr .f32 shape xs) .f64 shape ys = .error .typeError := ⟨rfl, rfl, rfl⟩

section Rounded
variable {M : FP}

/-! ### in the arithmetic the code performs (every operation rounded, library functions monotone): `forward` is
(weakly) increasing — the property's `x1 < x2 ⇒ forward(x1) ≤ forward(x2)` with NO rounding allowance -/

theorem Identity.fwd_mono_fp (p : Identity.Params (Rd M)) {x1 x2 : Rd M} (h : x1 ≤ x2) :
    Identity.fwd p x1 ≤ Identity.fwd p x2 := h

theorem Logit.fwd_mono_fp (p : Logit.Params (Rd M)) {x1 x2 : Rd M} (h : x1 ≤ x2)
    (hW : 0 < Logit.upper p - p.lower)
    (h2 : 0 < 1 - (x2 - p.lower) / (Logit.upper p - p.lower))
    (h1 : 0 < 1 / (1 - (x1 - p.lower) / (Logit.upper p - p.lower)) - 1) :
    Logit.fwd p x1 ≤ Logit.fwd p x2 :=
  Rd.log_le_log' h1 (Rd.sub_le_sub' (Rd.div_le_div_left_nonneg Rd.one_pos'.le h2
    (Rd.sub_le_sub' le_rfl (Rd.div_le_div_right' (Rd.sub_le_sub' h le_rfl) hW.le))) le_rfl)

theorem Log.fwd_mono_fp (p : Log.Params (Rd M)) {x1 x2 : Rd M} (h : x1 ≤ x2) (hd : 0 < x1 + p.nu)
    (hb : 0 < Log.bf p) : Log.fwd p x1 ≤ Log.fwd p x2 :=
  Rd.div_le_div_right' (Rd.log_le_log' hd (Rd.add_le_add' h le_rfl)) hb.le

theorem BoxCox2.fwd_mono_fp (p : BoxCox2.Params (Rd M)) {x1 x2 : Rd M} (h : x1 ≤ x2) (hd : 0 < x1 + p.nu) :
    BoxCox2.fwd p x1 ≤ BoxCox2.fwd p x2 := by
  have hs : x1 + p.nu ≤ x2 + p.nu := Rd.add_le_add' h le_rfl
  unfold BoxCox2.fwd
  split_ifs
  · exact Rd.div_le_div_of_sign (fun hk => Rd.sub_le_sub' (Rd.pow_le_pow_base hk hd hs) le_rfl)
      fun hk => Rd.sub_le_sub' (Rd.pow_le_pow_base_of_nonpos hk hd hs) le_rfl
  · exact Rd.log_le_log' hd hs

theorem BoxCox1lam.fwd_mono_fp (p : BoxCox1lam.Params (Rd M)) {x1 x2 : Rd M} (h : x1 ≤ x2) (hd : 0 < x1 + p.nu) :
    BoxCox1lam.fwd p x1 ≤ BoxCox1lam.fwd p x2 := BoxCox2.fwd_mono_fp (BoxCox1lam.toBC p) h hd

theorem BoxCox1nu.fwd_mono_fp (p : BoxCox1nu.Params (Rd M)) {x1 x2 : Rd M} (h : x1 ≤ x2) (hd : 0 < x1 + p.nu) :
    BoxCox1nu.fwd p x1 ≤ BoxCox1nu.fwd p x2 := BoxCox2.fwd_mono_fp (BoxCox1nu.toBC p) h hd

/-- across the junction too: for ALL ordered pairs of the real line (the exact-arithmetic theorem is
`BoxCox2sym.strictMono`); the only hypothesis is that `BC(0)` exists as computed, `0 + nu > 0` -/
theorem BoxCox2sym.fwd_mono_fp (p : BoxCox2sym.Params (Rd M)) {x1 x2 : Rd M} (h : x1 ≤ x2) (hnu : 0 < 0 + p.nu) :
    BoxCox2sym.fwd p x1 ≤ BoxCox2sym.fwd p x2 :=
  Rd.oddExt_mono (F := BoxCox2.fwd (BoxCox2sym.toBC p))
    (fun _ _ ha hab => BoxCox2.fwd_mono_fp (BoxCox2sym.toBC p) hab (lt_of_lt_of_le hnu (Rd.add_le_add' ha le_rfl))) h

theorem YeoJohnson.fwdW_mono_fp (lam : Rd M) {w1 w2 : Rd M} (h : w1 ≤ w2) (side : eps ≤ w1 ∨ ¬ eps ≤ w2) :
    YeoJohnson.fwdW lam w1 ≤ YeoJohnson.fwdW lam w2 := by
  unfold YeoJohnson.fwdW
  rcases side with hp | hn
  · rw [if_pos hp, if_pos (le_trans hp h)]
    have hpos := Rd.add_one_pos hp
    have hs : w1 + 1 ≤ w2 + 1 := Rd.add_le_add' h le_rfl
    split_ifs
    · exact Rd.log_le_log' hpos hs
    · exact Rd.div_le_div_of_sign (fun hk => Rd.sub_le_sub' (Rd.pow_le_pow_base hk hpos hs) le_rfl)
        fun hk => Rd.sub_le_sub' (Rd.pow_le_pow_base_of_nonpos hk hpos hs) le_rfl
  · rw [if_neg fun hc => hn (le_trans hc h), if_neg hn]
    have hpos := Rd.neg_add_one_pos hn
    have hs : -w2 + 1 ≤ -w1 + 1 := Rd.add_le_add' (Rd.neg_le_neg' h) le_rfl
    split_ifs
    · exact Rd.neg_le_neg' (Rd.log_le_log' hpos hs)
    · exact Rd.div_le_div_of_sign
        (fun hk => Rd.neg_le_neg' (Rd.sub_le_sub' (Rd.pow_le_pow_base hk hpos hs) le_rfl))
        fun hk => Rd.neg_le_neg' (Rd.sub_le_sub' (Rd.pow_le_pow_base_of_nonpos hk hpos hs) le_rfl)

/-- `scale ≥ 0` is the declared bound `scale ≥ 1e-5` -/
theorem YeoJohnson.fwd_mono_fp (p : YeoJohnson.Params (Rd M)) (hs : 0 ≤ p.scale) {x1 x2 : Rd M} (h : x1 ≤ x2)
    (side : eps ≤ p.nu + x1 * p.scale ∨ ¬ eps ≤ p.nu + x2 * p.scale) :
    YeoJohnson.fwd p x1 ≤ YeoJohnson.fwd p x2 :=
  YeoJohnson.fwdW_mono_fp p.lam (Rd.add_le_add' le_rfl (Rd.mul_le_mul_right' h hs)) side

theorem LogSinh.fwd_mono_fp (p : LogSinh.Params (Rd M)) (hx : 0 ≤ p.xmax) {x1 x2 : Rd M} (h : x1 ≤ x2)
    (hd : 0 < (1 - Transc.exp (-2 * (LogSinh.a p + LogSinh.b p * (x1 / p.xmax)))) / 2) :
    LogSinh.fwd p x1 ≤ LogSinh.fwd p x2 := by
  have hb : (0 : Rd M) ≤ LogSinh.b p := Rd.exp_nonneg' _
  have hw : LogSinh.a p + LogSinh.b p * (x1 / p.xmax) ≤ LogSinh.a p + LogSinh.b p * (x2 / p.xmax) :=
    Rd.add_le_add' le_rfl (Rd.mul_le_mul_left' (Rd.div_le_div_right' h hx) hb)
  have he := Rd.exp_le_exp' (Rd.mul_le_mul_left_of_nonpos hw Rd.neg_two_nonpos)
  have hq := Rd.div_le_div_right' (Rd.sub_le_sub' (le_refl (1 : Rd M)) he) (Rd.two_pos (M := M)).le
  exact Rd.div_le_div_right' (Rd.add_le_add' hw (Rd.log_le_log' hd hq)) hb

theorem Reciprocal.fwd_mono_fp (p : Reciprocal.Params (Rd M)) {x1 x2 : Rd M} (h : x1 ≤ x2) (hd : 0 < p.nu + x1) :
    Reciprocal.fwd p x1 ≤ Reciprocal.fwd p x2 :=
  Rd.div_le_div_left_nonpos Rd.neg_one_nonpos hd (Rd.add_le_add' le_rfl h)

theorem Sinh.fwd_mono_fp (p : Sinh.Params (Rd M)) (hs : 0 ≤ p.scale) {x1 x2 : Rd M} (h : x1 ≤ x2) :
    Sinh.fwd p x1 ≤ Sinh.fwd p x2 :=
  Rd.asinh_le_asinh' (Rd.mul_le_mul_right' (Rd.sub_le_sub' h le_rfl) hs)

theorem Manly.fwd_mono_fp (p : Manly.Params (Rd M)) (hx : 0 ≤ p.xmax) {x1 x2 : Rd M} (h : x1 ≤ x2) :
    Manly.fwd p x1 ≤ Manly.fwd p x2 := by
  have hu : x1 / p.xmax ≤ x2 / p.xmax := Rd.div_le_div_right' h hx
  unfold Manly.fwd
  split_ifs
  · exact Rd.div_le_div_of_sign (fun hk => Rd.sub_le_sub' (Rd.exp_le_exp' (Rd.mul_le_mul_left' hu hk)) le_rfl)
      fun hk => Rd.sub_le_sub' (Rd.exp_le_exp' (Rd.mul_le_mul_left_of_nonpos hu hk)) le_rfl
  · exact hu

theorem Identity.jac_nonneg_fp (p : Identity.Params (Rd M)) (x : Rd M) : 0 ≤ Identity.jac p x := Rd.one_pos'.le

/-- from the `np.where` guard alone (`lower` a floating-point number) -/
theorem Logit.jacobian_nonneg_fp (p : Logit.Params (Rd M)) (hl : Rd.Repr p.lower) (x j : Rd M)
    (hj : Logit.jacobian p x = some j) : 0 ≤ j := by
  obtain ⟨hg, rfl⟩ := guard_eq_some hj
  obtain ⟨g1, g2⟩ := Bool.and_eq_true_iff.mp hg
  have he : 0 ≤ (eps : Rd M).val := Rd.nonneg_iff.mp Rd.eps_nonneg
  -- the guard compares `x` with ROUNDED bounds: `lower ≤ fl(lower + EPS) < x < fl(upper - EPS) ≤ upper`
  have hlo : p.lower ≤ x :=
    le_trans (hl.symm.trans_le (M.rnd_mono (le_add_of_nonneg_right he))) (of_decide_eq_true g1).le
  have hup : x ≤ Logit.upper p :=
    le_trans (of_decide_eq_true g2).le ((M.rnd_mono (sub_le_self _ he)).trans_eq (Rd.repr_add _ _))
  have hnum : (0 : Rd M) ≤ x - p.lower := Rd.sub_nonneg' hlo
  have hle : x - p.lower ≤ Logit.upper p - p.lower := Rd.sub_le_sub' hup le_rfl
  have hW : (0 : Rd M) ≤ Logit.upper p - p.lower := le_trans hnum hle
  have hv1 : (x - p.lower) / (Logit.upper p - p.lower) ≤ 1 :=
    Rd.le_def.mpr (Rd.one_val (M := M) ▸ Rd.rnd_le_one (div_le_one_of_le₀ hle (Rd.nonneg_iff.mp hW)))
  exact Rd.div_nonneg' (Rd.div_nonneg' (Rd.div_nonneg' Rd.one_pos'.le hW) (Rd.div_nonneg' hnum hW))
    (Rd.sub_nonneg' hv1)

theorem Log.jacobian_nonneg_fp (p : Log.Params (Rd M)) (hm : 0 ≤ p.mininu) (hb : 0 ≤ Log.bf p) (x j : Rd M)
    (hj : Log.jacobian p x = some j) : 0 ≤ j := by
  obtain ⟨hg, rfl⟩ := guard_eq_some hj
  exact Rd.div_nonneg' (Rd.div_nonneg' Rd.one_pos'.le (le_trans hm (of_decide_eq_true hg).le)) hb

theorem BoxCox2.jacobian_nonneg_fp (p : BoxCox2.Params (Rd M)) (hm : 0 ≤ p.mininu) (x j : Rd M)
    (hj : BoxCox2.jacobian p x = some j) : 0 ≤ j := by
  obtain ⟨hg, rfl⟩ := guard_eq_some hj
  have hpos : (0 : Rd M) < x + p.nu := lt_of_le_of_lt hm (of_decide_eq_true hg)
  unfold BoxCox2.jac
  split_ifs
  · exact Rd.pow_nonneg' _ hpos
  · exact Rd.div_nonneg' Rd.one_pos'.le hpos.le

theorem BoxCox2sym.jacobian_nonneg_fp (p : BoxCox2sym.Params (Rd M)) (hm : 0 ≤ p.mininu) (x j : Rd M)
    (hj : BoxCox2sym.jacobian p x = some j) : 0 ≤ j :=
  BoxCox2.jacobian_nonneg_fp (BoxCox2sym.toBC p) hm (absv x) j hj

theorem YeoJohnson.jac_nonneg_fp (p : YeoJohnson.Params (Rd M)) (hs : 0 ≤ p.scale) (x : Rd M) :
    0 ≤ YeoJohnson.jac p x := by
  refine Rd.mul_nonneg' ?_ hs
  unfold YeoJohnson.jacW
  split_ifs with hw h0 h2
  · exact Rd.div_nonneg' Rd.one_pos'.le (Rd.add_one_pos hw).le
  · exact Rd.pow_nonneg' _ (Rd.add_one_pos hw)
  · exact Rd.div_nonneg' Rd.one_pos'.le (Rd.neg_add_one_pos hw).le
  · exact Rd.pow_nonneg' _ (Rd.neg_add_one_pos hw)

theorem LogSinh.jac_nonneg_fp (p : LogSinh.Params (Rd M)) (hx : 0 ≤ p.xmax) (x : Rd M)
    (hw : 0 ≤ LogSinh.a p + LogSinh.b p * (x / p.xmax)) : 0 ≤ LogSinh.jac p x :=
  Rd.mul_nonneg' (Rd.div_nonneg' Rd.one_pos'.le hx) (Rd.div_nonneg' Rd.one_pos'.le (Rd.tanh_nonneg' hw))

theorem Reciprocal.jac_nonneg_fp (p : Reciprocal.Params (Rd M)) (x : Rd M) : 0 ≤ Reciprocal.jac p x :=
  Rd.div_nonneg' Rd.one_pos'.le (Rd.mul_self_nonneg' _)

theorem Sinh.jacH_nonneg_fp (p : Sinh.Params (Rd M)) (hs : 0 ≤ p.scale) (x : Rd M) : 0 ≤ C02.Sinh.jacH p x := by
  refine Rd.div_nonneg' hs ?_
  unfold C02.Sinh.hypot1
  simp only
  split_ifs
  · exact Rd.mul_nonneg' (Rd.absv_nonneg _) (Rd.sqrt_nonneg' _)
  · exact Rd.sqrt_nonneg' _

theorem Manly.jac_nonneg_fp (p : Manly.Params (Rd M)) (hx : 0 ≤ p.xmax) (x : Rd M) : 0 ≤ Manly.jac p x := by
  unfold Manly.jac
  split_ifs
  · exact Rd.div_nonneg' (Rd.exp_nonneg' _) hx
  · exact Rd.div_nonneg' Rd.one_pos'.le hx

theorem Softmax.sumFrom_nonneg_fp (xs : List (Rd M)) (acc : Rd M) (ha : 0 ≤ acc) (h : ∀ x ∈ xs, (0 : Rd M) ≤ x) :
    0 ≤ Softmax.sumFrom acc xs := by
  induction xs generalizing acc with
  | nil => exact ha
  | cons x t ih =>
    exact ih _ (Rd.add_nonneg' ha (h x List.mem_cons_self)) fun y hy => h y (List.mem_cons_of_mem x hy)

theorem Softmax.prodFrom_nonneg_fp (xs : List (Rd M)) (acc : Rd M) (ha : 0 ≤ acc) (h : ∀ x ∈ xs, (0 : Rd M) ≤ x) :
    0 ≤ Softmax.prodFrom acc xs := by
  induction xs generalizing acc with
  | nil => exact ha
  | cons x t ih =>
    exact ih _ (Rd.mul_nonneg' ha (h x List.mem_cons_self)) fun y hy => h y (List.mem_cons_of_mem x hy)

theorem Softmax.jacobian_nonneg_fp (xs : List (Rd M)) (j : Rd M) (hj : Softmax.jacobian xs = .ok j) : 0 ≤ j := by
  unfold Softmax.jacobian at hj
  split_ifs at hj with hneg hbig
  cases hj
  have hall : ∀ x ∈ xs, (0 : Rd M) ≤ x := fun x hx =>
    not_lt.mp fun hc => hneg (List.any_eq_true.mpr ⟨x, hx, decide_eq_true hc⟩)
  have hs1 : Softmax.sumL xs ≤ 1 :=
    le_trans (not_lt.mp fun hc => hbig (decide_eq_true hc))
      (Rd.le_def.mpr (Rd.one_val (M := M) ▸ Rd.rnd_le_one
        (by rw [Rd.one_val]; exact sub_le_self _ (Rd.nonneg_iff.mp Rd.eps_nonneg))))
  exact Rd.div_nonneg'
    (Rd.add_nonneg' Rd.one_pos'.le
      (Rd.div_nonneg' (Softmax.sumFrom_nonneg_fp xs 0 le_rfl hall) (Rd.sub_nonneg' hs1)))
    (Softmax.prodFrom_nonneg_fp xs 1 Rd.one_pos'.le hall)

end Rounded

/-! ### hypotheses that cannot be dropped (each excluded point is probed on the real code by the harness) -/

/-- the guard of `Log._jacobian` is wider than the domain when `mininu < 0` (a constructor option the code accepts):
`0 ≤ mininu` in `Log.dom_of_jdom` cannot be dropped -/
theorem Log.guard_wider_than_domain :
    ∃ (p : Log.Params ℝ) (x : ℝ), Log.admissible p ∧ Log.jdom p x ∧ ¬ Log.dom p x :=
  ⟨⟨-5, none, -10⟩, 0, by simp only [Log.admissible]; norm_num, by simp only [Log.jdom]; norm_num,
    by simp only [Log.dom]; norm_num⟩

/-- `base = 1` is accepted by the constructor (`math.log(1) = 0`): the formula divides by zero (`inf` in doubles; `0` in
the real-number reading of `/`): no positive Jacobian there, `0 < Log.bf p` cannot be dropped -/
theorem Log.base_one_not_pos (nu mininu x : ℝ) : Log.bf (⟨nu, some 1, mininu⟩ : Log.Params ℝ) = 0 ∧
    ¬ 0 < Log.jac (⟨nu, some 1, mininu⟩ : Log.Params ℝ) x := by
  have h : Log.bf (⟨nu, some 1, mininu⟩ : Log.Params ℝ) = 0 := by simp [Log.bf]
  exact ⟨h, by simp [Log.jac, h]⟩

/-! ### non-vacuity: every hypothesis above is met by concrete, non-trivial inputs -/

example : Logit.jdom (⟨0, 0⟩ : Logit.Params ℝ) (1 / 2) := by
  simp only [Logit.jdom, Logit.upper, transc_exp, Real.exp_zero, eps]; norm_num
example : Log.dom (⟨0.1, some 10, 1e-10⟩ : Log.Params ℝ) 1 ∧ Log.jdom (⟨0.1, some 10, 1e-10⟩ : Log.Params ℝ) 1 := by
  simp only [Log.dom, Log.jdom]; norm_num
example : 0 < Log.bf (⟨0.1, some 10, 1e-10⟩ : Log.Params ℝ) :=
  Log.bf_pos _ (fun b hb => by cases hb; norm_num)
example : (⟨0.1, some 0.5, 1e-10⟩ : Log.Params ℝ).base = some 0.5 ∧ (0 : ℝ) < 0.5 ∧ (0.5 : ℝ) < 1 := by norm_num
example : BoxCox2.dom (⟨0.1, 0, 1e-10⟩ : BoxCox2.Params ℝ) (-0.05) ∧
    BoxCox2.jdom (⟨0.1, 0, 1e-10⟩ : BoxCox2.Params ℝ) (-0.05) := by
  simp only [BoxCox2.dom, BoxCox2.jdom]; norm_num
/-- the guard excludes `x = 0` at the default parameters `nu = mininu` (the formula itself is defined there) -/
example : BoxCox2.dom (⟨1e-10, 1, 1e-10⟩ : BoxCox2.Params ℝ) 0 ∧ ¬ BoxCox2.jdom (⟨1e-10, 1, 1e-10⟩ : BoxCox2.Params ℝ) 0 := by
  simp only [BoxCox2.dom, BoxCox2.jdom]; norm_num
example : (0 : ℝ) < (⟨0.3, 0.5, 1e-10⟩ : BoxCox2sym.Params ℝ).nu ∧
    (⟨0.3, 0.5, 1e-10⟩ : BoxCox2sym.Params ℝ).mininu < |(-2 : ℝ)| + (⟨0.3, 0.5, 1e-10⟩ : BoxCox2sym.Params ℝ).nu := by
  norm_num
example : YeoJohnson.admissible (⟨-3, 1e-5, 2⟩ : YeoJohnson.Params ℝ) ∧
    (⟨-3, 1e-5, 2⟩ : YeoJohnson.Params ℝ).nu + 7 * (⟨-3, 1e-5, 2⟩ : YeoJohnson.Params ℝ).scale ≠ eps := by
  simp only [YeoJohnson.admissible, eps]; norm_num
example : LogSinh.admissible (⟨-1, 0, 1⟩ : LogSinh.Params ℝ) := by
  simp only [LogSinh.admissible, eps]; norm_num
example : LogSinh.dom (⟨0, 0, 1⟩ : LogSinh.Params ℝ) 1 := by
  simp only [LogSinh.dom, LogSinh.inDom, LogSinh.a, LogSinh.b, transc_exp, Real.exp_zero, eps, decide_eq_true_iff]
  norm_num
example : Reciprocal.jdom (⟨0.5, 1e-10⟩ : Reciprocal.Params ℝ) 3 := by simp only [Reciprocal.jdom]; norm_num
example : Sinh.admissible (⟨-2, 1e-10⟩ : Sinh.Params ℝ) := by simp only [Sinh.admissible]; norm_num
example : Manly.admissible (⟨0, 2⟩ : Manly.Params ℝ) ∧ Manly.admissible (⟨-5, 1e-10⟩ : Manly.Params ℝ) := by
  simp only [Manly.admissible, eps]; norm_num
example : Softmax.dom ([0.2, 0.3, 0.1] : List ℝ) := by
  refine ⟨?_, ?_⟩
  · intro x hx; simp only [List.mem_cons, List.not_mem_nil, or_false] at hx
    rcases hx with rfl | rfl | rfl <;> norm_num
  · simp only [Softmax.sumL, Softmax.sumFrom, eps]; norm_num
example : (∀ k : Fin 2, (0 : ℝ) < ![0.2, 0.3] k) ∧ ∑ k : Fin 2, (![0.2, 0.3] : Fin 2 → ℝ) k < 1 := by
  rw [Fin.forall_fin_two, Fin.sum_univ_two]
  norm_num

example : ¬ Logit.jdom (⟨0, 0⟩ : Logit.Params ℝ) (1e-11) := by
  simp only [Logit.jdom, Logit.upper, transc_exp, Real.exp_zero, eps]; norm_num
example : ¬ LogSinh.dom (⟨0, 0, 1⟩ : LogSinh.Params ℝ) (-1) := by
  simp only [LogSinh.dom, LogSinh.inDom, LogSinh.a, LogSinh.b, transc_exp, Real.exp_zero, eps, decide_eq_true_iff]
  norm_num
example : (∃ x ∈ ([0.2, -0.1] : List ℝ), x < 0) := ⟨-0.1, by simp, by norm_num⟩


example : ∃ o, mk .Sinh (Ctor.default : Ctor ℝ) = .ok o := ⟨_, rfl⟩
example : ∃ o, mk .YeoJohnson (Ctor.default : Ctor ℝ) = .ok o := ⟨_, rfl⟩
example : ∃ o, mk .Manly (Ctor.default : Ctor ℝ) = .ok o := ⟨_, rfl⟩
example : ∃ o, mk .LogSinh (Ctor.default : Ctor ℝ) = .ok o := ⟨_, rfl⟩
example : ∃ o, mk .BoxCox2sym (⟨1e-10, 0, none⟩ : Ctor ℝ) = .ok o ∧ (0 : ℝ) < 1e-10 := by
  refine ⟨build .BoxCox2sym ⟨1e-10, 0, none⟩, ?_, by norm_num⟩
  have : bcGuard (⟨1e-10, 0, none⟩ : Ctor ℝ) = .ok () := by
    unfold bcGuard eps
    norm_num
  simp [mk, ctorGuard, this]
example : ∃ o, mk .BoxCox1lam (⟨1e-10, -3, none⟩ : Ctor ℝ) = .ok o := by
  refine ⟨build .BoxCox1lam ⟨1e-10, -3, none⟩, ?_⟩
  have : bcGuard (⟨1e-10, -3, none⟩ : Ctor ℝ) = .ok () := by
    unfold bcGuard eps
    norm_num
  simp [mk, ctorGuard, this]
example : (step (build .Sinh (Ctor.default : Ctor ℝ)) (.setAttr "scale" (some (-5)))).1.params.vals
    = [some 0, some 1e-10] := by
  simp [step, setAttr, build, Vec.ofSlots, paramSlots, constSlots, hasInner, Vec.names, Vec.setName, Vec.setIdx,
    Vec.clipAll, clipO, clip, Except.map]
  norm_num
example : (step (build .Sinh (Ctor.default : Ctor ℝ)) (.setAttr "nu" none)).2 = .rejected .nanValue := by
  simp [step, setAttr, build, Vec.ofSlots, paramSlots, Vec.names, Vec.setName, Except.map]
example : mk .BoxCox2 (⟨1e-10, -4, none⟩ : Ctor ℝ) = .error .minilamBelowM3 :=
  (mk_rejects .BoxCox2 _ (Or.inl rfl)).1 (by norm_num)

example : (0 : Rd FP.exact) < (⟨1⟩ : Rd FP.exact) + (⟨0.1⟩ : Rd FP.exact) ∧
    (0 : Rd FP.exact) < Log.bf (⟨⟨0.1⟩, none, ⟨1e-10⟩⟩ : Log.Params (Rd FP.exact)) := by
  constructor
  · rw [Rd.lt_def, Rd.zero_val, Rd.add_val]; show (0 : ℝ) < id (1 + 0.1); norm_num
  · exact Rd.one_pos'
example : Rd.Repr (⟨3⟩ : Rd FP.exact) := rfl
example : (0 : Rd FP.exact) ≤ (⟨1e-5⟩ : Rd FP.exact) := by rw [Rd.le_def, Rd.zero_val]; norm_num
example : Softmax.jacobian ([⟨0.25⟩, ⟨0.5⟩] : List (Rd FP.exact)) = .ok (Softmax.jacRow [⟨0.25⟩, ⟨0.5⟩]) := by
  have hn : ∀ v : ℝ, 0 ≤ v → decide ((⟨v⟩ : Rd FP.exact) < 0) = false :=
    fun v hv => decide_eq_false (not_lt.mpr (Rd.nonneg_iff.mpr hv))
  have h2 : Softmax.sumTooBig ([⟨0.25⟩, ⟨0.5⟩] : List (Rd FP.exact)) = false := by
    refine decide_eq_false (not_lt.mpr ?_)
    show id (id (id ((0 : ℕ) : ℝ) + 0.25) + 0.5) ≤ id (id ((1 : ℕ) : ℝ) - id 1e-10)
    norm_num
  rw [Softmax.jacobian, Softmax.anyNeg, List.any_cons, List.any_cons, List.any_nil, hn _ (by norm_num),
    hn _ (by norm_num), h2]
  rfl

end HydroVerif.C02
