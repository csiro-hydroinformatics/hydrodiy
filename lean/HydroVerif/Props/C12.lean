/-
C12 — property theorems (only). Model: `HydroVerif/Model/C12.lean` (Vector, Transform state) and
`HydroVerif/Model/C12T.lean` (the 13 transform classes, `get_transform`, histories over several instances); invariants
(`VecOk`, `WorldOk`, `MOk`, `EpsOk`) and helper lemmas: `HydroVerif/Lemmas/C12.lean`, `HydroVerif/Lemmas/C12T.lean`; the two
instances of `EpsOk` (ordered group, rounded arithmetic): `HydroVerif/Lemmas/C12Eps.lean`.

The state machine: a `World` = an array store + the list of live vectors; `step` applies one operation to the
`k`-th vector; `run` folds a whole history. `step` has a case for EVERY public entry point of `Vector`:
  mutators   `setAttr` (`v.a = x`), `setKey` (`v["a"] = x`), `setAll` (`v.values = xs`), `reset`, `setBad`
             (a value `float()` rejects, on any of the three paths)
  copies     `clone`, `dictRT` (`from_dict(to_dict())`), `pyCopy` (`copy.deepcopy` / `pickle`: external protocol,
             rejected on the pinned class, a deep copy when it works)
  accessors  `getKey` (`v["a"]`), `getAttr` (`v.a`), `read` (`to_dict`, `to_series`, `str`, all property getters)
  constructor `init` (all argument combinations given / omitted)
and for transforms: `tinit` (from given vector specs) / `cinit` (from the CLASS and its constructor keywords: the model's
own table `classSpecs` of names, defaults, bounds, flags, inner BoxCox2 and guards) / `getTransform`; `tstep` (forward,
backward, jacobian, sample, logprior, print, item / attribute reads, item / attribute / whole-vector assignments, reset);
`mstepC` / `mrun` (constructions by class and operations on any of several live instances).
Values are `XR α` (NaN, ±∞, finite `α`); the theorems hold for every linearly ordered `α` (the driver runs
`α = Float`). The `EPS` margin enters only through `EpsOk eps` (`a - eps ≤ a ≤ a + eps`): true in every ordered additive
group for `0 ≤ eps` AND under any monotone rounding of `+` / `-` (`epsOk_of_rounding`), hence of float arithmetic.

CLAUSE → THEOREMS (what stays outside)
 1 values always within bounds, any history ............ init_ok, init_view, step_ok, run_ok, worldOk_view_ok,
                                                          values_within_bounds_always; every transform class: cinit_ok
                                                          (hypothesis "bounds NaN-free" = the quantifier's "finite or
                                                          infinite bounds": NEEDED — nanFree_bounds_needed; DISCHARGED for
                                                          the classes from their own NaN guard — cinit_ok)
 2 NaN stored only when explicitly allowed .............. same invariant (`valuesOk`), failing_assignments_rejected (—)
 3 a rejected assignment leaves the state untouched ..... rejected_identity, tstep_rejected_identity (true by the way the
                                                          model is built: `World.update` / `World.spawn` drop what a
                                                          rejected operation computed; tied to the code by the
                                                          correspondence only), mstepC_ok (a rejected
                                                          construction); which assignments are rejected:
                                                          failing_assignments_rejected, accessors_identity
                                                          (exception class / message text: not modelled)
 4 names, bounds, defaults never change ................. step_frozen, run_frozen, tstep_frozen, trun_frozen,
                                                          getTransform_ok
                                                          (names are an immutable list in the model: no entry point
                                                          writes `_names`; in-place edits by the CALLER through the
                                                          aliased getters are outside the operation set)
 5 hit flag == latest assignment was clipped ............ setAttr_hit_exact, setAll_hit_exact, reset_exact,
                                                          step_setAttr_exact, step_setAll_exact, step_reset_exact,
                                                          whole_assignment_exact_always, attr_assignment_exact_always,
                                                          reset_exact_always; under rounded arithmetic:
                                                          epsOk_of_nonneg, epsOk_of_rounding, setAll_hit_exact_rounded
                                                          (flag is maintained only when check_hitbounds: theorems state
                                                          hit = check_hitbounds ∧ clipped; inside the (0, EPS] margin
                                                          the two code paths differ: excluded by the property's own
                                                          conditioning = hypothesis `inRegion`, NEEDED: inRegion_needed)
 6 clones / dict round-trips = full state, independent .. clone_spec, dictRT_spec, toDict_faithful, copies_exact_always,
                                                          copies_exact_rounded, pyCopy_spec, storage_disjoint_always,
                                                          step_frame, spawn_keeps_all            (—)
 7 read-only transform uses keep params/constants/bounds  readonly_preserves, readonly_preserves_always, tstep_ok,
                                                          trun_ok, trun_frozen, tinit_ok, add_ok, tstep_frozen;
                                                          BY CLASS, no hypothesis: cinit_ok, class_table_coherent,
                                                          class_readonly_always, getTransform_ok,
                                                          getTransform_readonly_always; several live instances
                                                          (independent objects, fresh instance at its defaults):
                                                          tstep_frame, mstep_ok, mstep_independent, mstep_readonly,
                                                          madd_spec, maddC_spec, mstepC_ok, mrun_ok,
                                                          instances_independent_always, emptyM_ok; noname_inert (the
                                                          shared default `Vector([])` of `Transform.__init__` cannot be
                                                          told from one empty vector per instance)
                                                          (numerical results of forward/backward/jacobian are C01/C02;
                                                          the class table is tied to the code by the correspondence:
                                                          the harness names only the class and the keywords)
 quantifier: 0..4 names (any length here), finite/infinite bounds (hypothesis: NaN-free bounds), all flags, all
 histories (induction over `List Op`), every transform class (`TClass`, all constructor arguments), all interleavings
 (`List TOp`), all multi-instance histories (`List MOp`).
-/
import HydroVerif.Lemmas.C12
import HydroVerif.Lemmas.C12T
import HydroVerif.Lemmas.C12Eps
import Mathlib.Data.List.Basic
import Mathlib.Algebra.Order.Group.Int

set_option linter.unusedSectionVars false

namespace HydroVerif.C12

section order
variable {α : Type} [LinearOrder α] [Add α] [Sub α] [OfNat α 0]


/-- `Vector(names, defaults, mins, maxs, flags)` with NaN-free bounds (the property's "finite or infinite
bounds"), whenever the constructor accepts: the world made of that one vector is well formed — values inside
the bounds (NaN only if allowed), real intervals, unique names, consistent flags, four distinct arrays. -/
theorem init_ok (eps : α) (names : List String) (defaults mins maxs : Option (List (XR α))) (cb ch an : Bool)
    (w : World α) (e : init eps names defaults mins maxs cb ch an = .ok w)
    (hmins : ∀ m, mins = some m → m.any XR.isNaN = false)
    (hmaxs : ∀ m, maxs = some m → m.any XR.isNaN = false) : WorldOk w :=
  (add_extends emptyWorld_ok ((init_eq_add ..).symm.trans e) ⟨hmins, hmaxs⟩).1.ok

/-- a fresh vector holds its defaults, its hit flag is off, and it carries the flags it was given -/
theorem init_view (eps : α) (names : List String) (defaults mins maxs : Option (List (XR α))) (cb ch an : Bool)
    (w : World α) (e : init eps names defaults mins maxs cb ch an = .ok w) :
    ∃ vw, w.view 0 = some vw ∧ vw.values = vw.defaults ∧ vw.hit = false ∧ vw.names = names
      ∧ vw.checkBounds = cb ∧ vw.checkHit = ch ∧ vw.acceptNan = an := by
  obtain ⟨s, v, emk, rfl⟩ := add_eq ((init_eq_add ..).symm.trans e)
  obtain ⟨lo, hi, d, _, rfl, rfl⟩ := mk_eq emk
  exact ⟨_, rfl, by rw [mkFrom_view]; exact ⟨rfl, rfl, rfl, rfl, rfl, rfl⟩⟩


/-- INVARIANT STEP: whatever the operation (accepted or rejected, on whichever vector), a well-formed world
stays well formed -/
theorem step_ok (eps : α) (w : World α) (op : Op α) (hw : WorldOk w) : WorldOk (step eps w op).1 := by
  rcases step_cases eps w op with ⟨f, hf, e⟩ | ⟨f, hf, e⟩ | e <;> rw [e]
  · exact (update_touch hw hf).ok
  · exact (spawn_ok hw hf).1
  · exact hw

/-- INVARIANT, ALL HISTORIES: after any sequence of operations of any length -/
theorem run_ok (eps : α) (ops : List (Op α)) : ∀ (w : World α), WorldOk w → WorldOk (run eps w ops) := by
  induction ops with
  | nil => intro w hw; exact hw
  | cons op ops ih => intro w hw; exact ih _ (step_ok eps w op hw)

/-- DISJOINT STORAGE, ALL HISTORIES: in every reachable state no array is shared between two live vectors
(original, clones, round-trips), and within one vector values / mins / maxs / defaults are four different arrays -/
theorem storage_disjoint_always (eps : α) (ops : List (Op α)) (w : World α) (hw : WorldOk w) :
    (∀ (i j : Nat) (vi vj : Vec), (run eps w ops).vecs[i]? = some vi → (run eps w ops).vecs[j]? = some vj → i ≠ j →
        ∀ r ∈ vi.refs, r ∉ vj.refs)
    ∧ (∀ (k : Nat) (v : Vec), (run eps w ops).vecs[k]? = some v → v.refs.Nodup) :=
  ⟨(run_ok eps ops w hw).sep, fun k v h => ((run_ok eps ops w hw).each k v h).nodup⟩

/-- what the invariant says about the observable state of each vector: values and defaults inside
`[mins, maxs]` or NaN-with-permission, bounds real intervals (`View.ok` is the executable form the driver
also reports) -/
theorem worldOk_view_ok (w : World α) (hw : WorldOk w) (k : Nat) (vw : View α) (h : w.view k = some vw) :
    vw.ok = true := by
  obtain ⟨v, hk, rfl⟩ := view_some h
  have ok := (hw.each k v hk).view_ok
  simp [View.ok, ok.values_ok, ok.defaults_ok, ok.bounds]

/-- the property's first two clauses for every history from a constructed vector: values always lie within
the bounds and NaN is stored only when `accept_nan` — for every live vector (original, clones, round-trips) -/
theorem values_within_bounds_always (eps : α) (names : List String) (defaults mins maxs : Option (List (XR α)))
    (cb ch an : Bool) (w : World α) (e : init eps names defaults mins maxs cb ch an = .ok w)
    (hmins : ∀ m, mins = some m → m.any XR.isNaN = false)
    (hmaxs : ∀ m, maxs = some m → m.any XR.isNaN = false)
    (ops : List (Op α)) (k : Nat) (vw : View α) (h : (run eps w ops).view k = some vw) :
    valuesOk vw.acceptNan vw.values vw.mins vw.maxs = true := by
  have := worldOk_view_ok _ (run_ok eps ops w (init_ok eps names defaults mins maxs cb ch an w e hmins hmaxs)) k vw h
  simp only [View.ok, Bool.and_eq_true] at this
  exact this.1.1


/-- the returned world is the very same store and objects. No hypothesis is needed because `World.update` / `World.spawn`
discard whatever a rejected operation computed: this is how the model is built, not a fact about `setAttr` / `setAll` -/
theorem rejected_identity (eps : α) (w : World α) (op : Op α) (e : Err)
    (h : (step eps w op).2 = .rejected e) : (step eps w op).1 = w := by
  rcases step_cases eps w op with ⟨f, _, e'⟩ | ⟨f, _, e'⟩ | e'
  · rw [e'] at h ⊢; exact update_rejected w _ f e h
  · rw [e'] at h ⊢; exact spawn_rejected w _ f e h
  · exact e'

/-- the failing assignments of the property are rejected: NaN without permission (by attribute / by key),
wrong length, unknown key -/
theorem failing_assignments_rejected (eps : α) (w : World α) (k : Nat) (v : Vec) (hk : w.vecs[k]? = some v) :
    (∀ nm i, indexOf nm v.names = some i → v.acceptNan = false →
        (step eps w (.setAttr k nm .nan)).2 = .rejected .nanValue
        ∧ (step eps w (.setKey k nm .nan)).2 = .rejected .nanValue)
    ∧ (∀ nm x, indexOf nm v.names = none → (step eps w (.setKey k nm x)).2 = .rejected .unknownKey)
    ∧ (∀ xs, xs.length ≠ v.n → (step eps w (.setAll k xs)).2 = .rejected .badLength)
    ∧ (∀ xs, xs.length = v.n → xs.any XR.isNaN = true → v.acceptNan = false →
        (step eps w (.setAll k xs)).2 = .rejected .nanValue) := by
  refine ⟨?_, ?_, ?_, ?_⟩
  · intro nm i hi ha
    simp [step, World.update, hk, setAttr, setKey, hi, ha, XR.isNaN]
  · intro nm x hi
    simp [step, World.update, hk, setKey, hi]
  · intro xs hl
    simp [step, World.update, hk, setAll, reject?, hl]
  · intro xs hl hn ha
    simp [step, World.update, hk, setAll, reject?, hl, hn, ha]

/-- ACCESSORS AND NON-NUMERIC VALUES: every pure accessor (`v[name]`, `v.name`, `to_dict`, `to_series`, `str`,
property getters), an assignment of something `float()` rejects, and a failing copy protocol return the very same
world; a read by key / attribute is accepted exactly for the vector's names and returns the stored element -/
theorem accessors_identity (eps : α) (w : World α) (k : Nat) (nm : String) :
    (step eps w (.getKey k nm)).1 = w ∧ (step eps w (.getAttr k nm)).1 = w ∧ (step eps w (.read k)).1 = w
      ∧ (step eps w (.setBad k)).1 = w ∧ (step eps w (.pyCopy k false)).1 = w
      ∧ (∀ v, w.vecs[k]? = some v →
          ((step eps w (.getKey k nm)).2 = .ok ↔ (indexOf nm v.names).isSome)
          ∧ ((step eps w (.getAttr k nm)).2 = .ok ↔ (indexOf nm v.names).isSome)
          ∧ (step eps w (.read k)).2 = .ok
          ∧ (step eps w (.setBad k)).2 = .rejected .notNumber
          ∧ (∀ i, indexOf nm v.names = some i → readItem w k nm = (w.store.cells v.values)[i]?)) := by
  refine ⟨by simp [step], by simp [step], by simp [step], by simp [step], by simp [step], ?_⟩
  intro v hk
  refine ⟨?_, ?_, by simp [step, World.peek, hk], by simp [step, World.peek, hk], ?_⟩
  · cases h : indexOf nm v.names <;> simp [step, World.peek, hk, h]
  · cases h : indexOf nm v.names <;> simp [step, World.peek, hk, h]
  · intro i hi; simp [readItem, hk, hi]


/-- FRAME: an operation addressed to vector `op.target` does not change anything any OTHER live vector
shows (values, bounds, defaults, names, flags, hit) — clones and originals are independent -/
theorem step_frame (eps : α) (w : World α) (op : Op α) (hw : WorldOk w) (j : Nat) (hj : j < w.vecs.length)
    (hne : j ≠ op.target) : (step eps w op).1.view j = w.view j := by
  rcases step_cases eps w op with ⟨f, hf, e⟩ | ⟨f, hf, e⟩ | e <;> rw [e]
  · exact (update_touch hw hf).view_other j hne
  · exact (spawn_ok hw hf).2 j hj

/-- clone / dictionary round-trip do not change the source either -/
theorem spawn_keeps_all (eps : α) (w : World α) (k : Nat) (hw : WorldOk w) (j : Nat) (hj : j < w.vecs.length) :
    (step eps w (.clone k)).1.view j = w.view j ∧ (step eps w (.dictRT k)).1.view j = w.view j :=
  ⟨(spawn_ok hw (clone_spawner eps)).2 j hj, (spawn_ok hw (dictRT_spawner eps)).2 j hj⟩

/-- FROZEN STEP: names, mins, maxs, defaults, check_bounds, check_hitbounds, accept_nan of every live vector
are the same after any operation -/
theorem step_frozen (eps : α) (w : World α) (op : Op α) (hw : WorldOk w) (j : Nat) (hj : j < w.vecs.length) :
    (step eps w op).1.frozen j = w.frozen j := by
  rcases step_cases eps w op with ⟨f, hf, e⟩ | ⟨f, hf, e⟩ | e <;> rw [e]
  · exact (update_touch hw hf).frozen j
  · rw [World.frozen, (spawn_ok hw hf).2 j hj]; rfl

/-- FROZEN, ALL HISTORIES: for every vector alive at some point, names / bounds / defaults / flags are the same
after any further sequence of operations -/
theorem run_frozen (eps : α) (ops : List (Op α)) : ∀ (w : World α), WorldOk w → ∀ j, j < w.vecs.length →
    (run eps w ops).frozen j = w.frozen j := by
  induction ops with
  | nil => intro w _ j _; rfl
  | cons op ops ih =>
    intro w hw j hj
    exact (ih _ (step_ok eps w op hw) j (Nat.lt_of_lt_of_le hj (step_length_le eps w op))).trans
      (step_frozen eps w op hw j hj)

end order

section hit
variable {α : Type} [LinearOrder α] [Add α] [Sub α] [OfNat α 0]

/-- set by attribute / by key on element `i` (known name, accepted): element `i` becomes the assigned value
moved to the nearest bound, nothing else moves, and the flag is set iff hit checking is on and the stored
value differs from the assigned one. No margin is involved on this path, hence no conditioning. -/
theorem setAttr_hit_exact {s s' : Store α} {v v' : Vec} (h : VecOk s v) (nm : String) (i : Nat) (x : XR α)
    (hi : indexOf nm v.names = some i) (e : setAttr s v nm x = ((s', v'), .ok)) :
    ∃ lo hi, (s.cells v.mins)[i]? = some lo ∧ (s.cells v.maxs)[i]? = some hi
      ∧ s'.cells v'.values = (s.cells v.values).set i (XR.clipNp x lo hi)
      ∧ (v'.hit = true ↔ v.checkHit = true ∧ XR.clipNp x lo hi ≠ x) := by
  obtain ⟨lo, hi', hlo, hhi, _, rfl, rfl⟩ := setAttr_accepted hi e
  obtain ⟨hl, hh, hlt⟩ := boundElem_iff.mp (all2_get boundElem _ _ i lo hi' h.bounds hlo hhi)
  refine ⟨lo, hi', hlo, hhi, ?_, ?_⟩
  · simp [XR.clipPy_eq_clipNp x lo hi' hl hh]
  · rw [XR.clipNp_ne_iff x lo hi' hl hh hlt]
    cases hc : v.checkHit
    · simp [h.hit_off hc]
    · simp

/-- whole-vector assignment (accepted) with every assigned value inside/on the bounds, NaN, or more than EPS
outside: the new values are the assigned values clipped element-wise into a FRESH array, and the flag is set
iff hit checking is on and some stored value differs from the assigned one -/
theorem setAll_hit_exact {eps : α} (heps : EpsOk eps) {s s' : Store α} {v v' : Vec} (h : VecOk s v)
    (xs : List (XR α)) (e : setAll eps s v xs = ((s', v'), .ok))
    (hr : all3 (XR.inRegion eps) xs (s.cells v.mins) (s.cells v.maxs) = true) :
    s'.cells v'.values = clipAll xs (s.cells v.mins) (s.cells v.maxs)
      ∧ s.next ≤ v'.values
      ∧ (v'.hit = true ↔ v.checkHit = true ∧ s'.cells v'.values ≠ xs) := by
  unfold setAll at e
  split at e
  · cases e
  · rename_i hrej
    obtain ⟨hl, _⟩ := reject?_eq_none.mp hrej
    simp only [Prod.mk.injEq, and_true] at e; obtain ⟨rfl, rfl⟩ := e
    have hh := hitAll_iff heps (hl.trans h.len_mins.symm) (hl.trans h.len_maxs.symm) h.bounds hr
    refine ⟨by simp, by simp, ?_⟩
    simp only [alloc_ref, alloc_cells_new, Bool.and_eq_true, hh]

/-- reset = assignment of the defaults: never clipped, so the flag is off afterwards and values = defaults -/
theorem reset_exact {eps : α} (heps : EpsOk eps) {s : Store α} {v : Vec} (h : VecOk s v) :
    ∃ s' v', reset eps s v = ((s', v'), .ok) ∧ s'.cells v'.values = s.cells v.defaults ∧ v'.hit = false
      ∧ s.next ≤ v'.values := by
  obtain ⟨c1, c2, c3⟩ :=
    checkvalues_self heps v.acceptNan h.len_defaults h.len_mins h.len_maxs h.bounds h.defaults_ok
  simp [reset, setAll, c1, c2, c3, Store.alloc]

/-- the same facts read on the state machine: `step` with a whole-vector assignment that is accepted -/
theorem step_setAll_exact {eps : α} (heps : EpsOk eps) (w : World α) (hw : WorldOk w) (k : Nat) (xs : List (XR α))
    (vw : View α) (hv : w.view k = some vw) (hacc : (step eps w (.setAll k xs)).2 = .ok)
    (hr : all3 (XR.inRegion eps) xs vw.mins vw.maxs = true) :
    ∃ vw', (step eps w (.setAll k xs)).1.view k = some vw'
      ∧ vw'.values = clipAll xs vw.mins vw.maxs
      ∧ (vw'.hit = true ↔ vw.checkHit = true ∧ vw'.values ≠ xs) := by
  obtain ⟨v, hk, rfl⟩ := view_some hv
  obtain ⟨s', v', e, hv'⟩ := update_accepted (f := fun s v => setAll eps s v xs) hk hacc
  obtain ⟨h1, _, h3⟩ := setAll_hit_exact heps (hw.each k v hk) xs e hr
  exact ⟨_, hv', h1, h3⟩

/-- `step` with an assignment by attribute or by key to a known name, accepted -/
theorem step_setAttr_exact (eps : α) (w : World α) (hw : WorldOk w) (k : Nat) (nm : String) (i : Nat) (x : XR α)
    (vw : View α) (hv : w.view k = some vw) (hi : indexOf nm vw.names = some i) (byKey : Bool)
    (hacc : (step eps w (if byKey then .setKey k nm x else .setAttr k nm x)).2 = .ok) :
    ∃ vw' lo hi, (step eps w (if byKey then .setKey k nm x else .setAttr k nm x)).1.view k = some vw'
      ∧ vw.mins[i]? = some lo ∧ vw.maxs[i]? = some hi
      ∧ vw'.values = vw.values.set i (XR.clipNp x lo hi)
      ∧ (vw'.hit = true ↔ vw.checkHit = true ∧ XR.clipNp x lo hi ≠ x) := by
  obtain ⟨v, hk, rfl⟩ := view_some hv
  have hi' : indexOf nm v.names = some i := hi
  have hred : step eps w (if byKey then .setKey k nm x else .setAttr k nm x)
      = w.update k fun s u => if byKey then setKey s u nm x else setAttr s u nm x := by
    cases byKey <;> rfl
  rw [hred] at hacc ⊢
  obtain ⟨s', v', e, hv'⟩ := update_accepted hk hacc
  have e' : setAttr w.store v nm x = ((s', v'), .ok) := by
    cases byKey
    · exact e
    · simpa [setKey, hi'] using e
  obtain ⟨lo, hi2, h1, h2, h3, h4⟩ := setAttr_hit_exact (hw.each k v hk) nm i x hi' e'
  exact ⟨_, lo, hi2, hv', h1, h2, h3, h4⟩

/-- `step` with a reset: always accepted on a well-formed world; values become the defaults, the flag is off -/
theorem step_reset_exact {eps : α} (heps : EpsOk eps) (w : World α) (hw : WorldOk w) (k : Nat) (vw : View α)
    (hv : w.view k = some vw) :
    (step eps w (.reset k)).2 = .ok
      ∧ ∃ vw', (step eps w (.reset k)).1.view k = some vw' ∧ vw'.values = vw.defaults ∧ vw'.hit = false := by
  obtain ⟨v, hk, rfl⟩ := view_some hv
  obtain ⟨s', v', e, h1, h2, _⟩ := reset_exact heps (hw.each k v hk)
  have h0 : step eps w (.reset k) = (⟨s', w.vecs.set k v'⟩, .ok) := by simp only [step, World.update, hk, e]
  rw [h0]
  exact ⟨rfl, _, view_set_self _ _ _ _ (List.getElem?_eq_some_iff.mp hk).1, h1, h2⟩

/-- HIT FLAG, ALL HISTORIES: from any constructed vector, after ANY history, an accepted whole-vector assignment
(values inside / on the bounds, NaN, or more than EPS outside) stores the element-wise clipped values and sets the
flag iff hit checking is on and something was clipped -/
theorem whole_assignment_exact_always {eps : α} (heps : EpsOk eps) (names : List String)
    (defaults mins maxs : Option (List (XR α))) (cb ch an : Bool) (w0 : World α)
    (e : init eps names defaults mins maxs cb ch an = .ok w0)
    (hmins : ∀ m, mins = some m → m.any XR.isNaN = false) (hmaxs : ∀ m, maxs = some m → m.any XR.isNaN = false)
    (ops : List (Op α)) (k : Nat) (xs : List (XR α)) (vw : View α)
    (hv : (run eps w0 ops).view k = some vw) (hacc : (step eps (run eps w0 ops) (.setAll k xs)).2 = .ok)
    (hr : all3 (XR.inRegion eps) xs vw.mins vw.maxs = true) :
    ∃ vw', (step eps (run eps w0 ops) (.setAll k xs)).1.view k = some vw'
      ∧ vw'.values = clipAll xs vw.mins vw.maxs
      ∧ (vw'.hit = true ↔ vw.checkHit = true ∧ vw'.values ≠ xs) :=
  step_setAll_exact heps _ (run_ok eps ops w0 (init_ok eps names defaults mins maxs cb ch an w0 e hmins hmaxs))
    k xs vw hv hacc hr

/-- HIT FLAG BY ATTRIBUTE / BY KEY, ALL HISTORIES: from any constructed vector, after ANY history, an accepted
assignment by attribute or by key to a known name stores the value moved to the nearest bound, moves nothing else, and
sets the flag iff hit checking is on and the value was clipped — no conditioning on this path -/
theorem attr_assignment_exact_always (eps : α) (names : List String)
    (defaults mins maxs : Option (List (XR α))) (cb ch an : Bool) (w0 : World α)
    (e : init eps names defaults mins maxs cb ch an = .ok w0)
    (hmins : ∀ m, mins = some m → m.any XR.isNaN = false) (hmaxs : ∀ m, maxs = some m → m.any XR.isNaN = false)
    (ops : List (Op α)) (k : Nat) (nm : String) (i : Nat) (x : XR α) (vw : View α)
    (hv : (run eps w0 ops).view k = some vw) (hi : indexOf nm vw.names = some i) (byKey : Bool)
    (hacc : (step eps (run eps w0 ops) (if byKey then .setKey k nm x else .setAttr k nm x)).2 = .ok) :
    ∃ vw' lo hi, (step eps (run eps w0 ops) (if byKey then .setKey k nm x else .setAttr k nm x)).1.view k = some vw'
      ∧ vw.mins[i]? = some lo ∧ vw.maxs[i]? = some hi
      ∧ vw'.values = vw.values.set i (XR.clipNp x lo hi)
      ∧ (vw'.hit = true ↔ vw.checkHit = true ∧ XR.clipNp x lo hi ≠ x) :=
  step_setAttr_exact eps _ (run_ok eps ops w0 (init_ok eps names defaults mins maxs cb ch an w0 e hmins hmaxs))
    k nm i x vw hv hi byKey hacc

/-- RESET, ALL HISTORIES: after ANY history a reset of any live vector is accepted, restores the defaults and clears
the flag -/
theorem reset_exact_always {eps : α} (heps : EpsOk eps) (names : List String)
    (defaults mins maxs : Option (List (XR α))) (cb ch an : Bool) (w0 : World α)
    (e : init eps names defaults mins maxs cb ch an = .ok w0)
    (hmins : ∀ m, mins = some m → m.any XR.isNaN = false) (hmaxs : ∀ m, maxs = some m → m.any XR.isNaN = false)
    (ops : List (Op α)) (k : Nat) (vw : View α) (hv : (run eps w0 ops).view k = some vw) :
    (step eps (run eps w0 ops) (.reset k)).2 = .ok
      ∧ ∃ vw', (step eps (run eps w0 ops) (.reset k)).1.view k = some vw' ∧ vw'.values = vw.defaults ∧ vw'.hit = false :=
  step_reset_exact heps _ (run_ok eps ops w0 (init_ok eps names defaults mins maxs cb ch an w0 e hmins hmaxs)) k vw hv

end hit

section copies
variable {α : Type} [LinearOrder α] [Add α] [Sub α] [OfNat α 0]

/-- `clone()` of any live vector in any reachable world: never rejected; the new vector shows exactly what
the source shows (names, values, bounds, defaults, hit flag, all three option flags); every array of the new
vector is freshly allocated (so disjoint from every array that existed); every existing vector, the source
included, shows what it showed before; the world stays well formed (hence later operations on either side
never reach the other: `step_frame`). -/
theorem clone_spec {eps : α} (heps : EpsOk eps) (w : World α) (hw : WorldOk w) (k : Nat) (v : Vec)
    (hk : w.vecs[k]? = some v) :
    ∃ w' c, step eps w (.clone k) = (w', .ok) ∧ w'.vecs = w.vecs ++ [c]
      ∧ w'.view w.vecs.length = w.view k
      ∧ (∀ r ∈ c.refs, w.store.next ≤ r)
      ∧ (∀ j, j < w.vecs.length → w'.view j = w.view j)
      ∧ WorldOk w' := by
  have ok := hw.each k v hk
  obtain ⟨s', c, ec, vw⟩ := clone_self heps ok
  obtain ⟨sp, okc⟩ := clone_spawner eps _ _ _ _ ok ec
  obtain ⟨h1, h2⟩ := append_ok hw sp okc
  refine ⟨_, c, by simp only [step, World.spawn, hk, ec], rfl, ?_, sp.fresh, h2, h1⟩
  simp only [World.view, List.getElem?_concat_length, hk, Option.map_some, vw]

/-- the same for `Vector.from_dict(vect.to_dict())` -/
theorem dictRT_spec {eps : α} (heps : EpsOk eps) (w : World α) (hw : WorldOk w) (k : Nat) (v : Vec)
    (hk : w.vecs[k]? = some v) :
    ∃ w' c, step eps w (.dictRT k) = (w', .ok) ∧ w'.vecs = w.vecs ++ [c]
      ∧ w'.view w.vecs.length = w.view k
      ∧ (∀ r ∈ c.refs, w.store.next ≤ r)
      ∧ (∀ j, j < w.vecs.length → w'.view j = w.view j)
      ∧ WorldOk w' := by
  have e : step eps w (.dictRT k) = step eps w (.clone k) := by
    simp only [step, World.spawn, hk, fromDict_toDict eps (hw.each k v hk)]
  rw [e]
  exact clone_spec heps w hw k v hk

/-- the exported dictionary holds exactly the observable state (so a round-trip loses nothing) -/
theorem toDict_faithful (s : Store α) (v : Vec) (h : VecOk s v) :
    let d := toDict s v
    d.nval = v.n ∧ d.hit = v.hit ∧ d.checkBounds = v.checkBounds ∧ d.checkHit = v.checkHit
      ∧ d.acceptNan = v.acceptNan ∧ d.data.length = v.n
      ∧ d.data.map (·.name) = v.names ∧ d.data.map (·.value) = s.cells v.values
      ∧ d.data.map (·.min) = s.cells v.mins ∧ d.data.map (·.max) = s.cells v.maxs
      ∧ d.data.map (·.default) = s.cells v.defaults := by
  obtain ⟨il, i1, i2, i3, i4, i5⟩ := items_spec v.names (s.cells v.values) (s.cells v.mins) (s.cells v.maxs)
    (s.cells v.defaults) h.len_values h.len_mins h.len_maxs h.len_defaults
  exact ⟨rfl, rfl, rfl, rfl, rfl, il, i1, i2, i3, i4, i5⟩

/-- `copy.deepcopy` / `pickle` round-trip, when CPython's copy protocol succeeds, is `clone` (so `clone_spec` applies) -/
theorem pyCopy_spec (eps : α) (w : World α) (k : Nat) : step eps w (.pyCopy k true) = step eps w (.clone k) := by
  simp [step]

/-- COPIES, ALL HISTORIES: from any constructed vector, after ANY history (any mix of mutators, accessors, failing
operations, copies), cloning or round-tripping ANY live vector is accepted and yields a vector that shows exactly
the source's state in freshly allocated arrays, every other vector unchanged -/
theorem copies_exact_always {eps : α} (heps : EpsOk eps) (names : List String)
    (defaults mins maxs : Option (List (XR α))) (cb ch an : Bool) (w0 : World α)
    (e : init eps names defaults mins maxs cb ch an = .ok w0)
    (hmins : ∀ m, mins = some m → m.any XR.isNaN = false) (hmaxs : ∀ m, maxs = some m → m.any XR.isNaN = false)
    (ops : List (Op α)) (k : Nat) (v : Vec) (hk : (run eps w0 ops).vecs[k]? = some v) (viaDict : Bool) :
    let w := run eps w0 ops
    ∃ w' c, step eps w (if viaDict then .dictRT k else .clone k) = (w', .ok) ∧ w'.vecs = w.vecs ++ [c]
      ∧ w'.view w.vecs.length = w.view k ∧ (∀ r ∈ c.refs, w.store.next ≤ r)
      ∧ (∀ j, j < w.vecs.length → w'.view j = w.view j) ∧ WorldOk w' := by
  intro w
  have hw : WorldOk w := run_ok eps ops w0 (init_ok eps names defaults mins maxs cb ch an w0 e hmins hmaxs)
  cases viaDict
  · exact clone_spec heps w hw k v hk
  · exact dictRT_spec heps w hw k v hk

end copies

section transforms
variable {α : Type} [LinearOrder α] [Add α] [Sub α] [OfNat α 0]

/-- READ-ONLY USES: forward, backward, jacobian, params_sample, params_logprior, printing leave everything the
parameter vector and the constant vector show — values, bounds, defaults, names, flags, hit — exactly as it
was (the only write, for the classes that own an inner BoxCox2, goes to that inner object's fresh array) -/
theorem readonly_preserves (eps : α) (w : World α) (t : Trans) (op : TOp α) (hw : WorldOk w) (ht : t.wf)
    (hro : op.readOnly = true) :
    (tstep eps w t op).1.view t.params = w.view t.params
      ∧ (tstep eps w t op).1.view t.constants = w.view t.constants :=
  tstep_readonly eps hw t op (fun _ => ht) hro

/-- one transform operation, read-only call or assignment, keeps the world of the transform well formed: its
parameter values stay inside their bounds, NaN only where allowed (the constants of BoxCox1lam/1nu, LogSinh,
Manly) -/
theorem tstep_ok (eps : α) (w : World α) (t : Trans) (op : TOp α) (hw : WorldOk w) :
    WorldOk (tstep eps w t op).1 :=
  (tstep_spec eps hw t op).1

/-- … hence any interleaving of read-only calls and assignments does -/
theorem trun_ok (eps : α) (t : Trans) (ops : List (TOp α)) : ∀ (w : World α), WorldOk w →
    WorldOk (ops.foldl (fun w op => (tstep eps w t op).1) w) :=
  fun _ hw => (trun_spec eps t ops hw).1

/-- bounds, defaults, names and flags of the parameter and constant vectors (and of the inner BoxCox2) are the
same after ANY transform operation, assignments included -/
theorem tstep_frozen (eps : α) (w : World α) (t : Trans) (op : TOp α) (hw : WorldOk w) (j : Nat) :
    (tstep eps w t op).1.frozen j = w.frozen j :=
  (tstep_spec eps hw t op).2.2 j

/-- a rejected assignment on a transform leaves the whole state untouched -/
theorem tstep_rejected_identity (eps : α) (w : World α) (t : Trans) (op : TOp α) (e : Err)
    (h : (tstep eps w t op).2 = .rejected e) : (tstep eps w t op).1 = w := by
  rcases tstep_cases eps w t op with ⟨o, e'⟩ | ⟨k, f, _, _, _, e'⟩ | ⟨f, _, _, e'⟩ <;> rw [e'] at h ⊢
  · exact update_rejected w k f e h
  · cases h

/-- one more `Vector(...)` with NaN-free bounds next to live vectors keeps the world well formed -/
theorem add_ok (eps : α) (w w' : World α) (sp : Spec α) (hw : WorldOk w) (e : World.add eps w sp = .ok w')
    (hmins : ∀ m, sp.mins = some m → m.any XR.isNaN = false)
    (hmaxs : ∀ m, sp.maxs = some m → m.any XR.isNaN = false) : WorldOk w' :=
  (add_extends hw e ⟨hmins, hmaxs⟩).1.ok

/-- a freshly constructed transform (parameter vector, constant vector, inner BoxCox2 parameters when the class
has one; bounds NaN-free as in every class of transform.py) is a well-formed world -/
theorem tinit_ok (eps : α) (p c : Spec α) (b : Option (Spec α)) (w : World α) (e : tinit eps p c b = .ok w)
    (hp : (∀ m, p.mins = some m → m.any XR.isNaN = false) ∧ (∀ m, p.maxs = some m → m.any XR.isNaN = false))
    (hc : (∀ m, c.mins = some m → m.any XR.isNaN = false) ∧ (∀ m, c.maxs = some m → m.any XR.isNaN = false))
    (hb : ∀ sb, b = some sb →
      (∀ m, sb.mins = some m → m.any XR.isNaN = false) ∧ (∀ m, sb.maxs = some m → m.any XR.isNaN = false)) :
    WorldOk w :=
  (tinit_extends e fun _ _ => ⟨hp, hc, hb⟩).1.ok

/-- READ-ONLY USES, ALL INTERLEAVINGS: from a freshly constructed transform, after ANY history of read-only calls
and (accepted or rejected) assignments, one more read-only call leaves params and constants exactly as they were -/
theorem readonly_preserves_always (eps : α) (p c : Spec α) (b : Option (Spec α)) (w : World α)
    (e : tinit eps p c b = .ok w)
    (hp : (∀ m, p.mins = some m → m.any XR.isNaN = false) ∧ (∀ m, p.maxs = some m → m.any XR.isNaN = false))
    (hc : (∀ m, c.mins = some m → m.any XR.isNaN = false) ∧ (∀ m, c.maxs = some m → m.any XR.isNaN = false))
    (hb : ∀ sb, b = some sb →
      (∀ m, sb.mins = some m → m.any XR.isNaN = false) ∧ (∀ m, sb.maxs = some m → m.any XR.isNaN = false))
    (kind : TKind) (history : List (TOp α)) (op : TOp α) (hro : op.readOnly = true) :
    let t : Trans := ⟨kind, 0, 1, 2⟩
    let w' := history.foldl (fun w op => (tstep eps w t op).1) w
    (tstep eps w' t op).1.view 0 = w'.view 0 ∧ (tstep eps w' t op).1.view 1 = w'.view 1 := by
  intro t w'
  obtain ⟨_, r0, r1, _⟩ := trun_readonly eps t (fun _ => Trans.wf_012 _) (tinit_ok eps p c b w e hp hc hb)
    history op hro
  exact ⟨r0, r1⟩

end transforms

section instances
variable {α : Type} [LinearOrder α] [Add α] [Sub α] [OfNat α 0]

/-- FRAME FOR TRANSFORMS: any operation on a transform (read-only call or assignment) leaves every vector that is
not one of ITS OWN (params, constants, inner BoxCox2) exactly as it was -/
theorem tstep_frame (eps : α) (w : World α) (t : Trans) (op : TOp α) (hw : WorldOk w) (j : Nat) (hj : j ∉ t.idx) :
    (tstep eps w t op).1.view j = w.view j := by
  rcases tstep_touch eps hw t op with e | ⟨k, tc, hk, _⟩
  · rw [e]
  · exact tc.view_other j fun h => hj (h ▸ hk)

/-- the instance invariant is kept by every operation on every instance -/
theorem mstep_ok (eps : α) (m : MWorld α) (i : Nat) (op : TOp α) (hm : MOk m) : MOk (mstep eps m i op).1 := by
  unfold mstep
  split
  · exact hm
  · rename_i t ht
    exact { world := tstep_ok eps m.world t op hm.world
            wf := hm.wf
            lt := fun i' t' h j hj => (hm.lt i' t' h j hj).trans_eq (tstep_spec eps hm.world t op).2.1.symm
            sep := hm.sep }

/-- INDEPENDENT INSTANCES: an assignment or a read-only call on one transform instance changes nothing that any
OTHER live instance shows — same class or not: its params, constants, inner vector, values, bounds, defaults, flags -/
theorem mstep_independent (eps : α) (m : MWorld α) (i i' : Nat) (op : TOp α) (hm : MOk m) (t' : Trans)
    (hi' : m.insts[i']? = some t') (hne : i ≠ i') (j : Nat) (hj : j ∈ t'.idx) :
    (mstep eps m i op).1.world.view j = m.world.view j := by
  unfold mstep
  split
  · rfl
  · rename_i t ht
    exact tstep_frame eps m.world t op hm.world j (hm.sep i i' t t' ht hi' hne j hj)

/-- … and on the instance itself a read-only call changes nothing its params and constants show -/
theorem mstep_readonly (eps : α) (m : MWorld α) (i : Nat) (op : TOp α) (hm : MOk m) (t : Trans)
    (hi : m.insts[i]? = some t) (hro : op.readOnly = true) :
    (mstep eps m i op).1.world.view t.params = m.world.view t.params
      ∧ (mstep eps m i op).1.world.view t.constants = m.world.view t.constants := by
  unfold mstep
  simp only [hi]
  exact tstep_readonly eps hm.world t op (hm.wf i t hi) hro

/-- FRESH INSTANCE: constructing one more transform (any class) in a process that already holds instances — whatever
was assigned on them before — keeps the invariant, leaves every existing vector as it was, and the new instance's
params / constants / inner vector show their constructor defaults with the hit flag off -/
theorem madd_spec (eps : α) (m m' : MWorld α) (kind : TKind) (p c : Spec α) (b : Option (Spec α)) (hm : MOk m)
    (e : madd eps m kind p c b = .ok m')
    (hp : (∀ x, p.mins = some x → x.any XR.isNaN = false) ∧ (∀ x, p.maxs = some x → x.any XR.isNaN = false))
    (hc : (∀ x, c.mins = some x → x.any XR.isNaN = false) ∧ (∀ x, c.maxs = some x → x.any XR.isNaN = false))
    (hb : ∀ sb, b = some sb →
      (∀ x, sb.mins = some x → x.any XR.isNaN = false) ∧ (∀ x, sb.maxs = some x → x.any XR.isNaN = false)) :
    MOk m' ∧ (∀ j, j < m.world.vecs.length → m'.world.view j = m.world.view j)
      ∧ (∀ j, m.world.vecs.length ≤ j → j < m'.world.vecs.length →
          ∃ vw, m'.world.view j = some vw ∧ vw.values = vw.defaults ∧ vw.hit = false)
      ∧ m'.insts.length = m.insts.length + 1 := by
  obtain ⟨ok, x, t, ht⟩ := madd_extends hm e fun _ _ => ⟨hp, hc, hb⟩
  exact ⟨ok, x.old, x.fresh, by simp [ht]⟩

/-- a process without instances: where every multi-instance history starts -/
theorem emptyM_ok : MOk (MWorld.empty : MWorld α) :=
  ⟨emptyWorld_ok, fun _ _ h => (nomatch h), fun _ _ h => (nomatch h), fun _ _ _ _ h => (nomatch h)⟩

end instances

section classes
variable {α : Type} [LinearOrder α] [Add α] [Sub α] [OfNat α 0]

/-- BOUNDS NEVER CHANGE, ALL INTERLEAVINGS: after ANY history of transform operations (read-only calls, accepted and
rejected assignments, resets) every vector of the transform has the names, bounds, defaults and flags it had -/
theorem trun_frozen (eps : α) (t : Trans) (ops : List (TOp α)) : ∀ (w : World α), WorldOk w → ∀ j,
    (ops.foldl (fun w op => (tstep eps w t op).1) w).frozen j = w.frozen j :=
  fun _ hw => (trun_spec eps t ops hw).2

/-- CLASS CONSTRUCTORS, NO HYPOTHESIS ON THE BOUNDS: for every class of transform.py and every `mininu` / `minilam`
(finite, infinite or NaN) the constructor either raises or yields a well-formed transform: two vectors (three for the
classes that own an inner BoxCox2), each showing its defaults with the hit flag off. The "finite or infinite bounds"
hypothesis of `tinit_ok` is discharged from the classes' own guards (`classSpecs_nanFree`). -/
theorem cinit_ok (eps : α) (K : TConsts α) (cls : TClass) (a : CArgs α) (w : World α)
    (e : cinit eps K cls a = .ok w) :
    WorldOk w ∧ w.vecs.length = (if cls.kind = .plain then 2 else 3)
      ∧ ∀ j, j < w.vecs.length → ∃ vw, w.view j = some vw ∧ vw.values = vw.defaults ∧ vw.hit = false := by
  unfold cinit at e
  split at e
  · cases e
  · rename_i p c b es
    obtain ⟨x, l⟩ := tinit_extends e (classSpecs_nanFree es)
    refine ⟨x.ok, ?_, fun j hj => x.fresh j (Nat.zero_le _) hj⟩
    have hkb := classSpecs_bc es
    rw [l]
    by_cases hk : cls.kind = .plain
    · rw [if_pos hk, if_neg fun h => hkb.mp h hk]
    · rw [if_neg hk, if_pos (hkb.mpr hk)]

/-- the class table is coherent: exactly the classes whose forward / backward / jacobian write to an inner BoxCox2 are
constructed with one, and the descriptor of such a transform keeps its three vectors apart -/
theorem class_table_coherent (K : TConsts α) (cls : TClass) (a : CArgs α) (p c : Spec α) (b : Option (Spec α))
    (e : classSpecs K cls a = .ok (p, c, b)) :
    (b.isSome = true ↔ cls.kind ≠ .plain) ∧ cls.trans.wf ∧ TClass.ofName? cls.name = some cls :=
  ⟨classSpecs_bc e, Trans.wf_012 _, ofName_name cls⟩

/-- READ-ONLY USES, EVERY CLASS, ALL INTERLEAVINGS, NO HYPOTHESIS: for every class and constructor arguments the
constructor accepts, after ANY history of read-only calls (forward, backward, jacobian, sampling, scoring, printing,
item / attribute reads) and accepted or rejected assignments, one more read-only call leaves everything the parameter
vector and the constant vector show exactly as it was, and the names / bounds / defaults / flags of all the transform's
vectors are still those the constructor gave them -/
theorem class_readonly_always (eps : α) (K : TConsts α) (cls : TClass) (a : CArgs α) (w : World α)
    (e : cinit eps K cls a = .ok w) (history : List (TOp α)) (op : TOp α) (hro : op.readOnly = true) :
    let t := cls.trans
    let w' := history.foldl (fun w op => (tstep eps w t op).1) w
    WorldOk w' ∧ (tstep eps w' t op).1.view 0 = w'.view 0 ∧ (tstep eps w' t op).1.view 1 = w'.view 1
      ∧ ∀ j, (tstep eps w' t op).1.frozen j = w.frozen j :=
  trun_readonly eps cls.trans (fun _ => Trans.wf_012 _) (cinit_ok eps K cls a w e).1 history op hro

/-- `get_transform(name, **kwargs)`: when it returns, the object is a well-formed transform of the named class whose
vectors have exactly the names / bounds / defaults / flags of `Class(**constructor arguments)` — the remaining keywords
only assigned values (clipped like any assignment by key); an unknown name, a constructor guard or a rejected
assignment yields no object -/
theorem getTransform_ok (eps : α) (K : TConsts α) (name : String) (kw : List (String × XR α)) (cls : TClass)
    (w : World α) (e : getTransform eps K name kw = .ok (cls, w)) :
    TClass.ofName? name = some cls ∧ WorldOk w
      ∧ ∃ w0, cinit eps K cls (gtArgs K cls kw) = .ok w0 ∧ w.vecs.length = w0.vecs.length
          ∧ ∀ j, w.frozen j = w0.frozen j := by
  unfold getTransform at e
  split at e
  · simp at e
  · rename_i cls' hn
    split at e
    · simp at e
    · rename_i w0 e0
      split at e
      · simp at e
      · rename_i w1 e1
        simp only [Except.ok.injEq, Prod.mk.injEq] at e
        obtain ⟨rfl, rfl⟩ := e
        obtain ⟨o, l, f⟩ := gtAssignAll_ok _ (cinit_ok eps K cls' _ w0 e0).1 e1
        exact ⟨hn, o, w0, e0, l, f⟩

/-- … and the same after `get_transform`: whatever keywords built the object, after ANY history a read-only call leaves
params and constants as they were and the bounds are those of `Class(**constructor arguments)` -/
theorem getTransform_readonly_always (eps : α) (K : TConsts α) (name : String) (kw : List (String × XR α))
    (cls : TClass) (w : World α) (e : getTransform eps K name kw = .ok (cls, w)) (history : List (TOp α))
    (op : TOp α) (hro : op.readOnly = true) :
    let t := cls.trans
    let w' := history.foldl (fun w op => (tstep eps w t op).1) w
    WorldOk w' ∧ (tstep eps w' t op).1.view 0 = w'.view 0 ∧ (tstep eps w' t op).1.view 1 = w'.view 1
      ∧ ∃ w0, cinit eps K cls (gtArgs K cls kw) = .ok w0 ∧ ∀ j, (tstep eps w' t op).1.frozen j = w0.frozen j := by
  obtain ⟨_, hw, w0, e0, _, f0⟩ := getTransform_ok eps K name kw cls w e
  obtain ⟨hw', r0, r1, fr⟩ := trun_readonly eps cls.trans (fun _ => Trans.wf_012 _) hw history op hro
  exact ⟨hw', r0, r1, w0, e0, fun j => (fr j).trans (f0 j)⟩

/-- FRESH INSTANCE BY CLASS, NO HYPOTHESIS: `Class(**args)` in a process that already holds instances keeps the instance
invariant, leaves every existing vector as it was and starts from the constructor defaults with the hit flag off -/
theorem maddC_spec (eps : α) (K : TConsts α) (m m' : MWorld α) (cls : TClass) (a : CArgs α) (hm : MOk m)
    (e : maddC eps K m cls a = .ok m') :
    MOk m' ∧ (∀ j, j < m.world.vecs.length → m'.world.view j = m.world.view j)
      ∧ (∀ j, m.world.vecs.length ≤ j → j < m'.world.vecs.length →
          ∃ vw, m'.world.view j = some vw ∧ vw.values = vw.defaults ∧ vw.hit = false)
      ∧ m'.insts.length = m.insts.length + 1
      ∧ (∀ (i : Nat) (t : Trans), m.insts[i]? = some t → m'.insts[i]? = some t) := by
  unfold maddC at e
  split at e
  · cases e
  · rename_i p c b es
    obtain ⟨ok, x, t', ht'⟩ := madd_extends hm e fun ap ab =>
      classSpecs_nanFree es ap fun sb h => ab sb h ((classSpecs_bc es).mp (h ▸ rfl))
    refine ⟨ok, x.old, x.fresh, by simp [ht'], fun i t hi => ?_⟩
    rw [ht', List.getElem?_append_left (List.getElem?_eq_some_iff.mp hi).1]; exact hi

/-- every event of a multi-instance history — a construction by class (accepted or rejected) or an operation on one
instance — keeps the instance invariant; a rejected construction returns the very same process -/
theorem mstepC_ok (eps : α) (K : TConsts α) (m : MWorld α) (op : MOp α) (hm : MOk m) :
    MOk (mstepC eps K m op).1 ∧ (∀ e, (mstepC eps K m op).2 = .rejected e → ∀ cls a, op = .new cls a →
      (mstepC eps K m op).1 = m) := by
  cases op with
  | new cls a =>
    simp only [mstepC]
    cases h : maddC eps K m cls a with
    | error err => exact ⟨hm, fun _ _ _ _ _ => rfl⟩
    | ok m' => exact ⟨(maddC_spec eps K m m' cls a hm h).1, fun e he => by simp at he⟩
  | «at» i o => exact ⟨mstep_ok eps m i o hm, fun e _ cls a h => by cases h⟩

/-- INSTANCE INVARIANT, ALL HISTORIES -/
theorem mrun_ok (eps : α) (K : TConsts α) (ops : List (MOp α)) : ∀ (m : MWorld α), MOk m → MOk (mrun eps K m ops) := by
  induction ops with
  | nil => intro m hm; exact hm
  | cons op ops ih => intro m hm; exact ih _ (mstepC_ok eps K m op hm).1

/-- INDEPENDENT INSTANCES, ALL HISTORIES: whatever happens in the process — any number of constructions of any class
(accepted or rejected), any operations on OTHER instances, in any order — an instance that is not addressed shows,
on every one of its vectors, exactly what it showed -/
theorem instances_independent_always (eps : α) (K : TConsts α) (ops : List (MOp α)) :
    ∀ (m : MWorld α), MOk m → ∀ (i' : Nat) (t' : Trans), m.insts[i']? = some t' →
      (∀ i o, MOp.at i o ∈ ops → i ≠ i') →
      (mrun eps K m ops).insts[i']? = some t'
        ∧ ∀ j ∈ t'.idx, (mrun eps K m ops).world.view j = m.world.view j := by
  induction ops with
  | nil => intro m _ i' t' h _; exact ⟨h, fun _ _ => rfl⟩
  | cons op ops ih =>
    intro m hm i' t' hi' hno
    have key : (mstepC eps K m op).1.insts[i']? = some t'
        ∧ ∀ j ∈ t'.idx, (mstepC eps K m op).1.world.view j = m.world.view j := by
      cases op with
      | new cls a =>
        simp only [mstepC]
        cases h : maddC eps K m cls a with
        | error err => exact ⟨hi', fun _ _ => rfl⟩
        | ok m' =>
          obtain ⟨_, h2, _, _, h5⟩ := maddC_spec eps K m m' cls a hm h
          exact ⟨h5 i' t' hi', fun j hj => h2 j (hm.lt i' t' hi' j hj)⟩
      | «at» i o =>
        have hne : i ≠ i' := hno i o (List.mem_cons_self ..)
        refine ⟨?_, fun j hj => mstep_independent eps m i i' o hm t' hi' hne j hj⟩
        simp only [mstepC, mstep]
        split <;> exact hi'
    obtain ⟨r1, r2⟩ := ih _ (mstepC_ok eps K m op hm).1 i' t' key.1 fun i o h => hno i o (List.mem_cons_of_mem _ h)
    exact ⟨r1, fun j hj => (r2 j hj).trans (key.2 j hj)⟩

end classes

/-! ### an empty vector is inert (why the shared default `Vector([])` of `Transform.__init__` is not observable) -/
section noname
variable {α : Type} [LinearOrder α] [Add α] [Sub α] [OfNat α 0]

/-- A VECTOR WITHOUT NAMES SHOWS THE SAME THING WHATEVER IS DONE: every operation of the state machine, addressed to it
or to any other vector, accepted or rejected, leaves the view of a no-name vector (hit flag off, as after construction)
exactly as it was. `Transform.__init__(self, name, params=Vector([]), constants=Vector([]))` evaluates its default
arguments once, so all transforms without parameters / constants share ONE empty vector object; the model gives each
instance its own. The statement is about `step`; a transform operation reaches a vector only as `World.update` with one
of the same `Mutator`s (`tstep_cases`), so the same argument covers `tstep` / `mstep`: no history can tell the difference. -/
theorem noname_inert (eps : α) (w : World α) (hw : WorldOk w) (k : Nat) (v : Vec) (hk : w.vecs[k]? = some v)
    (hn : v.names = []) (hh : v.hit = false) (op : Op α) :
    (step eps w op).1.view k = w.view k ∧ ∃ v', (step eps w op).1.vecs[k]? = some v' ∧ v'.names = [] ∧ v'.hit = false := by
  have hklt : k < w.vecs.length := (List.getElem?_eq_some_iff.mp hk).1
  have hview : (step eps w op).1.view k = w.view k := by
    by_cases hne : k = op.target
    · rcases step_cases eps w op with ⟨f, hf, e⟩ | ⟨f, hf, e⟩ | e <;> rw [e]
      · subst hne
        rcases update_cases w op.target f with ⟨_, h'⟩ | ⟨v0, s', v', hk', e', h'⟩ <;> rw [h']
        cases hk.symm.trans hk'
        obtain ⟨a, ok', hh'⟩ := hf _ _ _ _ (hw.each _ v hk) e'
        rw [view_set_self _ _ _ _ hklt, World.view, hk, Option.map_some,
          a.view_noname (hw.each _ v hk) ok' hn ((hh' hn hh).trans hh.symm)]
      · exact (spawn_ok hw hf).2 k hklt
    · exact step_frame eps w op hw k hklt hne
  refine ⟨hview, ?_⟩
  obtain ⟨v', hk', e⟩ := view_some (hview.trans (by rw [World.view, hk]; rfl))
  exact ⟨v', hk', (congrArg View.names e).trans hn, (congrArg View.hit e).trans hh⟩

end noname

section rounding

/-- in an ordered additive group every non-negative margin satisfies `EpsOk` (exact arithmetic) -/
theorem epsOk_of_nonneg {α : Type} [LinearOrder α] [AddCommGroup α] [IsOrderedAddMonoid α] {eps : α} (h : 0 ≤ eps) :
    EpsOk eps :=
  ⟨fun a => sub_le_self a h, fun _ => le_add_of_nonneg_right h⟩

/-- ROUNDED ARITHMETIC: let `+` and `-` be the exact operations of an ordered group followed by ANY rounding that is
monotone and leaves representable values alone (IEEE-754 round-to-nearest, toward zero, up, down …), on the type of
representable values. A non-negative margin still satisfies `EpsOk`: `mins - EPS ≤ mins` and `maxs ≤ maxs + EPS` survive
rounding (possibly as equalities: `1e8 + 1e-10 == 1e8`). Hence every theorem of this file stated with `EpsOk` holds for
float-like arithmetic, not only for exact arithmetic. -/
theorem epsOk_of_rounding {β : Type} [LinearOrder β] [AddCommGroup β] [IsOrderedAddMonoid β] (R : Rounding β)
    (eps : R.Fl) (h : (0 : β) ≤ eps.1) : EpsOk eps := by
  -- `rnd (a - eps) ≤ rnd a = a` because `a` is representable
  constructor
  · intro a
    rw [Rounding.Fl.le_def, Rounding.Fl.sub_val]
    calc R.rnd (a.1 - eps.1) ≤ R.rnd a.1 := R.mono _ _ (sub_le_self _ h)
      _ = a.1 := a.2
  · intro a
    rw [Rounding.Fl.le_def, Rounding.Fl.add_val]
    calc a.1 = R.rnd a.1 := a.2.symm
      _ ≤ R.rnd (a.1 + eps.1) := R.mono _ _ (le_add_of_nonneg_right h)

/-- the hit-flag clause for whole-vector assignment under rounded arithmetic (instance of `setAll_hit_exact`) -/
theorem setAll_hit_exact_rounded {β : Type} [LinearOrder β] [AddCommGroup β] [IsOrderedAddMonoid β] (R : Rounding β)
    (eps : R.Fl) (h : (0 : β) ≤ eps.1) {s s' : Store R.Fl} {v v' : Vec} (hv : VecOk s v) (xs : List (XR R.Fl))
    (e : setAll eps s v xs = ((s', v'), .ok))
    (hr : all3 (XR.inRegion eps) xs (s.cells v.mins) (s.cells v.maxs) = true) :
    s'.cells v'.values = clipAll xs (s.cells v.mins) (s.cells v.maxs)
      ∧ (v'.hit = true ↔ v.checkHit = true ∧ s'.cells v'.values ≠ xs) := by
  obtain ⟨h1, _, h3⟩ := setAll_hit_exact (epsOk_of_rounding R eps h) hv xs e hr
  exact ⟨h1, h3⟩

/-- clones / dictionary round-trips under rounded arithmetic (instance of `clone_spec` / `dictRT_spec`): the
constructor's own hit test `mins - EPS`, `maxs + EPS` never rejects the data of a live vector -/
theorem copies_exact_rounded {β : Type} [LinearOrder β] [AddCommGroup β] [IsOrderedAddMonoid β] (R : Rounding β)
    (eps : R.Fl) (h : (0 : β) ≤ eps.1) (w : World R.Fl) (hw : WorldOk w) (k : Nat) (v : Vec)
    (hk : w.vecs[k]? = some v) (viaDict : Bool) :
    ∃ w' c, step eps w (if viaDict then .dictRT k else .clone k) = (w', .ok) ∧ w'.vecs = w.vecs ++ [c]
      ∧ w'.view w.vecs.length = w.view k ∧ (∀ j, j < w.vecs.length → w'.view j = w.view j) ∧ WorldOk w' := by
  cases viaDict
  · obtain ⟨w', c, a1, a2, a3, _, a5, a6⟩ := clone_spec (epsOk_of_rounding R eps h) w hw k v hk
    exact ⟨w', c, a1, a2, a3, a5, a6⟩
  · obtain ⟨w', c, a1, a2, a3, _, a5, a6⟩ := dictRT_spec (epsOk_of_rounding R eps h) w hw k v hk
    exact ⟨w', c, a1, a2, a3, a5, a6⟩

end rounding

/-! ### the two hypotheses the theorems carry are needed (counterexamples on the model; the harness probes the real
code at the same excluded points: streams `margin` and `nanbounds`) -/
section needed

/-- one name, bounds [0, 10], hit checking on -/
def cexW : World Int :=
  match init (1 : Int) ["a"] (some [.fin 5]) (some [.fin 0]) (some [.fin 10]) true true false with
  | .ok w => w
  | .error _ => ⟨Store.empty, []⟩

/-- one name, `mins=[nan]`, `accept_nan=True` -/
def cexN : World Int :=
  match init (1 : Int) ["a"] none (some [.nan]) none true false true with
  | .ok w => w
  | .error _ => ⟨Store.empty, []⟩

/-- THE CONDITIONING OF THE HIT CLAUSE IS NEEDED: inside the margin (here `-1` against the bound `0` with margin `1`)
a whole-vector assignment is accepted and CLIPPED (`0` is stored) while the flag stays off — `step_setAll_exact`
without `inRegion` is false. (The attribute path has no margin: `setAttr_hit_exact` carries no such hypothesis.) -/
theorem inRegion_needed :
    WorldOk cexW ∧ ∃ vw vw', cexW.view 0 = some vw ∧ (step 1 cexW (.setAll 0 [.fin (-1)])).2 = .ok
      ∧ (step 1 cexW (.setAll 0 [.fin (-1)])).1.view 0 = some vw'
      ∧ all3 (XR.inRegion 1) [.fin (-1)] vw.mins vw.maxs = false
      ∧ ¬ (vw'.hit = true ↔ vw.checkHit = true ∧ vw'.values ≠ [.fin (-1)]) := by
  refine ⟨init_ok (1 : Int) ["a"] (some [.fin 5]) (some [.fin 0]) (some [.fin 10]) true true false cexW (by rfl)
    (by intro m h; cases h; decide) (by intro m h; cases h; decide), ?_⟩
  exact ⟨_, _, rfl, by decide, rfl, by decide, by decide⟩

/-- THE "FINITE OR INFINITE BOUNDS" HYPOTHESIS IS NEEDED: with `accept_nan=True` the constructor accepts a NaN bound
(`__checkvalues__` lets it through), and the resulting vector is NOT well formed: its bounds are not an interval and
its default is `clip(0, nan, inf) = nan` -/
theorem nanFree_bounds_needed :
    init (1 : Int) ["a"] none (some [.nan]) none true false true = .ok cexN ∧ ¬ WorldOk cexN
      ∧ (cexN.view 0).map (fun v => (v.mins, v.defaults, v.ok)) = some ([.nan], [.nan], false) :=
  ⟨rfl, fun hw => absurd (worldOk_view_ok _ hw 0 _ rfl) (by decide), by decide⟩

end needed

section examples

/-- a 2-name vector with half-infinite bounds, hit checking on, NaN allowed; the history assigns out of bounds by
key, clones, assigns a NaN by attribute on the clone, round-trips it and resets the original -/
def exInit : Except Err (World Int) :=
  init (1 : Int) ["a", "b"] (some [.fin 5, .nan]) (some [.fin 0, .ninf]) (some [.fin 10, .pinf]) true true true

def exOps : List (Op Int) :=
  [.setKey 0 "a" (.fin 50), .clone 0, .setAttr 1 "b" .nan, .getKey 1 "zz", .dictRT 1, .reset 0, .read 0,
   .setAll 0 [.fin 3], .setBad 2, .pyCopy 0 false, .getAttr 2 "a", .setAll 1 [.fin (-4), .pinf]]

example : (match exInit with
    | .ok w => ((run 1 w exOps).vecs.length, (run 1 w exOps).view 0 |>.map (·.values),
                (run 1 w exOps).view 1 |>.map (fun v => (v.values, v.hit)), (run 1 w exOps).view 2 |>.map (·.hit))
    | .error _ => (0, none, none, none))
    = (3, some [.fin 5, .nan], some ([.fin 0, .pinf], true), some false) := by decide

/-- `init_ok`'s hypotheses hold for it (NaN-free bounds) -/
example : (∀ m, (some [XR.fin (0 : Int), .ninf]) = some m → m.any XR.isNaN = false) := by
  intro m h; cases h; decide

/-- the region hypothesis of `setAll_hit_exact` is met by an assignment that IS clipped -/
example : all3 (XR.inRegion (1 : Int)) [.fin 50, .nan] [.fin 0, .ninf] [.fin 10, .pinf] = true := by decide

/-- a well-formed transform descriptor (params 0, constants 1, inner BoxCox2 2) -/
example : (⟨.bc1lam, 0, 1, 2⟩ : Trans).wf := by constructor <;> decide

/-- `tinit_ok` / `readonly_preserves_always`: a BoxCox1lam-like transform world is constructible, and a
forward call after an assignment re-syncs the inner vector while params / constants stay put -/
def exT : Except Err (World Int) :=
  tinit (1 : Int) ⟨["lam"], some [.fin 1], some [.fin 0], some [.fin 3], true, false, false⟩
    ⟨["nu"], some [.nan], some [.fin 0], some [.pinf], true, false, true⟩
    (some ⟨["nu", "lam"], some [.fin 0, .fin 1], some [.fin 0, .fin 0], some [.pinf, .fin 3], true, false, false⟩)

example : (match exT with
    | .ok w =>
      let t : Trans := ⟨.bc1lam, 0, 1, 2⟩
      let w1 := (tstep 1 w t (.setItem "nu" (.fin 7))).1
      let w2 := (tstep 1 w1 t (.setAttr "lam" (.fin 9))).1
      let w3 := (tstep 1 w2 t .forward).1
      (w3.vecs.length, w3.view 0 |>.map (·.values), w3.view 1 |>.map (·.values), w3.view 2 |>.map (·.values))
    | .error _ => (0, none, none, none))
    = (3, some [.fin 3], some [.fin 7], some [.fin 7, .fin 3]) := by decide

/-- `MOk` / `madd_spec` / `mstep_independent`: two LogSinh/Manly-like instances and a fresh one after an assignment -/
def exM : Except Err (MWorld Int) :=
  let p : Spec Int := ⟨["lam"], some [.fin 1], some [.fin (-5)], some [.fin 5], true, false, false⟩
  let c : Spec Int := ⟨["xmax"], some [.nan], some [.fin 0], some [.pinf], true, false, true⟩
  match madd 1 MWorld.empty .plain p c none with
  | .error e => .error e
  | .ok m1 => match madd 1 m1 .plain p c none with
    | .error e => .error e
    | .ok m2 => madd 1 (mstep 1 m2 0 (.setItem "xmax" (.fin 7))).1 .plain p c none

example : (match exM with
    | .ok m => (m.insts.length, m.world.view 1 |>.map (·.values), m.world.view 3 |>.map (·.values),
                m.world.view 5 |>.map (·.values))
    | .error _ => (0, none, none, none)) = (3, some [.fin 7], some [.nan], some [.nan]) := by decide

/-- a float-like rounding on `Int`: exact below 8 in magnitude, multiples of 4 beyond — `12 - 1` rounds to `8` and
`12 + 1` is absorbed (`= 12`), as `1e8 + 1e-10 == 1e8` in double precision; `EpsOk 1` holds all the same -/
def exR : Rounding Int where
  rnd := fun x => if 8 ≤ x ∨ x ≤ -8 then 4 * (x / 4) else x
  mono := by intro x y h; split_ifs <;> omega
  idem := by intro x; split_ifs <;> omega
  zero := by decide

example : EpsOk (exR.toFl 1 (by decide)) := epsOk_of_rounding exR _ (by decide)
example : (exR.toFl 12 (by decide) + exR.toFl 1 (by decide)).1 = 12
    ∧ (exR.toFl 12 (by decide) - exR.toFl 1 (by decide)).1 = 8 := by decide

/-- transform.py's literals, scaled by 10 so that they are integers (EPS and 1e-5 become 1) -/
def exK : TConsts Int := ⟨1, 1, 1, 0, 10, 30, 50, 100, -10, -30, -50, -100, -200⟩

/-- `cinit_ok` / `class_readonly_always`: BoxCox1lam(mininu=2) is accepted; after `nu = 7`, `lam = 90` (clipped to 3.0)
and a forward call, the inner vector is re-synced and params / constants are untouched -/
def exC : World Int :=
  match cinit (1 : Int) exK .boxcox1lam ⟨.fin 2, .fin 0⟩ with
  | .ok w => [TOp.setItem "nu" (.fin 7), .setAttr "lam" (.fin 90), .getItem "zz", .forward].foldl
      (fun w op => (tstep 1 w TClass.boxcox1lam.trans op).1) w
  | .error _ => ⟨Store.empty, []⟩

example : (exC.vecs.length, exC.view 0 |>.map (·.values), exC.view 1 |>.map (·.values), exC.view 2 |>.map (·.values))
    = (3, some [.fin 30], some [.fin 7], some [.fin 7, .fin 30]) := by decide
example : (treadItem exC TClass.boxcox1lam.trans "nu", (tstep 1 exC TClass.boxcox1lam.trans (.getItem "zz")).2,
      (tstep 1 exC TClass.boxcox1lam.trans (.getAttr "lam")).2)
    = (some (.fin 7), .rejected .unknownKey, .ok) := by decide

/-- the constructor guards: `minilam < -3` and a NaN `mininu` are rejected, by every class that has the argument -/
example : (cinit (1 : Int) exK .boxcox2 ⟨.fin 2, .fin (-40)⟩).toOption.isNone
    ∧ (cinit (1 : Int) exK .boxcox1nu ⟨.nan, .fin 0⟩).toOption.isNone
    ∧ (cinit (1 : Int) exK .log ⟨.nan, .fin 0⟩).toOption.isNone
    ∧ (cinit (1 : Int) exK .log ⟨.pinf, .nan⟩).toOption.isSome := by decide

/-- `getTransform_ok`: constructor arguments are split off, parameter and constant values assigned (clipped), foreign
keywords skipped; an unknown name or a NaN for a parameter yields no object -/
example : ((getTransform (1 : Int) exK "BoxCox1nu"
        ([("mininu", .fin 2), ("nu", .fin 0), ("lam", .fin 20), ("zz", .nan)] : List (String × XR Int))).toOption.map
      fun r => (r.1, r.2.view 0 |>.map (·.values), r.2.view 1 |>.map (·.values)))
    = some (.boxcox1nu, some [.fin 2], some [.fin 20])
    ∧ (getTransform (1 : Int) exK "Nope" []).toOption.isNone
    ∧ (getTransform (1 : Int) exK "Log" ([("nu", .nan)] : List (String × XR Int))).toOption.isNone
    ∧ (getTransform (1 : Int) exK "Logit" ([("mininu", .nan)] : List (String × XR Int))).toOption.isSome := by decide

/-- `mrun_ok` / `instances_independent_always`: two Manly instances and a LogSinh, a rejected BoxCox2 in between, writes
on instance 0 only: instances 1 and 2 still show their constructor state -/
def exMR : MWorld Int := mrun (1 : Int) exK MWorld.empty
  [.new .manly (CArgs.default exK), .new .manly (CArgs.default exK), .at 0 (.setItem "xmax" (.fin 7)),
   .new .boxcox2 ⟨.fin 1, .fin (-50)⟩, .new .logsinh (CArgs.default exK), .at 0 (.setParams [.fin 99]), .at 0 .forward]

example : (exMR.insts.length, exMR.world.view 0 |>.map (·.values), exMR.world.view 1 |>.map (·.values))
    = (3, some [.fin 50], some [.fin 7]) := by decide
example : (exMR.world.view 3 |>.map (·.values), exMR.world.view 5 |>.map (·.values)) = (some [.nan], some [.nan]) := by
  decide

/-- `noname_inert`: the empty vector of an Identity transform after assignments addressed to it -/
example : (match cinit (1 : Int) exK .identity (CArgs.default exK) with
    | .ok w => decide ((run 1 w [.setAll 1 [], .setAttr 1 "zz" (XR.fin 3), .reset 1, .setAll 1 [XR.fin 1]]).view 1 = w.view 1)
    | .error _ => false) = true := by decide

end examples

end HydroVerif.C12
