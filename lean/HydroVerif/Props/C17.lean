/-
C17 — property theorems; the statements about Lean's own `Float` at the end stay `def`s.  Model: `HydroVerif/Model/C17.lean` (kernels, guards, wrappers), `Model/C17Spec.lean`
(the specification-side quantities, executable), `Model/C17Hist.lean` (histories of calls), `Model/C17Round.lean`
(rounding arithmetic `Fl rnd`, `rnd53`); helper lemmas: `HydroVerif/Lemmas/C17*.lean`.

`α` is any commutative ring (ℚ, ℝ, ℤ, ...); `nf = fun _ => false` is `isnan` in exact arithmetic.
The theorems named `kernel_*` hold for every order (the length of the coefficient vector, no upper bound), every
starting lag buffer and every series length; the others speak about `sim` / `residual` (the kernels behind their
guards, orders 1..10), about the Python wrappers `pySim` / `pyResidual(D)` and about histories of calls (`step`,
`run`, `exec`).  Everything a theorem mentions is executed by the driver on the correspondence stream: the Float
instance bit for bit against the real code (calls, histories, runs cut and resumed from `simBuf` / `resBuf`), the
Rat instance within a rounding budget, the `Fl rnd53` instance (53-bit rounding over Rat) value for value against
the real kernels, and the statements themselves (`specq`, `linq`, `boundr`: `past`, `glag`, `zeroNaN`, `scaleOpt`,
`shiftOpt`, `addInnov`, the two rounding budgets) evaluated on the model's runs.

Clause of the property                                   | theorems                                   | outside the theorems
---------------------------------------------------------|--------------------------------------------|---------------------
every order 1..10, any finite φ, mean, initial value:    | sim_recursion, wrapper_sim_recursion       | overflow / subnormal range at
 armodel_sim reproduces y[t]-m = Σφ[k](y[t-k]-m)+e[t]    | (defaults / explicit sim_mean, sim_ini),   | IEEE double (executed bit for
 started from the initial value                          | kernel_sim_recursion (every p),            | bit, oracle budget with an
                                                         | kernel_buffer_holds_centred_past;          | absolute floor); Lean's own
                                                         | any finite magnitude, sign, shift:         | `Float` is opaque:
                                                         | sim_homogeneous, wrapper_sim_homogeneous,  | float_recursion_statement
                                                         | sim_shift_invariant, kernel_sim_additive;  | stays a def
                                                         | IEEE rounding (standard model, u = 2^-53): |
                                                         | kernel_recursion_rounded (+ _from_ini),    |
                                                         | double_rounding_is_standard_model          |
armodel_residual is its inverse: residual(sim e) = e     | kernel_residual_sim, residual_sim,         | overflow / subnormal range;
                                                         | wrapper_residual_sim (hyp. hm),            | sim_mean defaulted on BOTH calls:
                                                         | kernel_same_buffer_every_step,             | false on the code, known finding
                                                         | residual_homogeneous,                      | (wrapper_defaults_not_inverse)
                                                         | residual_shift_invariant;                  |
                                                         | IEEE rounding: kernel_residual_sim_rounded,| at Lean's `Float` stated only:
                                                         | kernel_residual_sim_double                 | float_residual_sim_statement
sim(residual y) = y                                      | kernel_sim_residual, sim_residual,         | IEEE rounding amplified by the AR
                                                         | sim_residual_present (y with NaN),         | impulse response:
                                                         | wrapper_sim_residual (hyp. hm),            | float_sim_residual_statement
                                                         | kernel_same_buffer_every_step'             | (stated, oracle budget); same
                                                         |                                            | known finding
missing innovations act as zero innovations              | nan_innovation_is_zero,                    | any isnan, but a commutative ring:
                                                         | wrapper_nan_innovation_is_zero             | not an instance at Float / Fl (the
                                                         |                                            | proofs use no ring law)
missing inputs give zero residuals                       | residual_zero_at_missing,                  | order ≥ 2 at IEEE double: zero up
                                                         | wrapper_residual_zero_at_missing;          | to rounding only (ascending
                                                         | order 1, any arithmetic, exactly zero:     | prediction, descending
                                                         | residual_zero_at_missing_order1_any_arithmetic | subtraction; oracle budget)
unsupported orders or NaN parameters are rejected        | accepts_iff, rejects_bad_order,            | exception class / message text
 with an error (orders 0, 11+; NaN φ, mean, ini;         | rejects_nan_param, rejects_nan_mean,       | (only "ValueError + which guard")
 every series length incl. empty)                        | rejects_nan_ini, wrapper_accepts_iff,      |
                                                         | wrapper_rejects, wrapper_scalar_params;    |
                                                         | the isnan tests on computed values:        |
                                                         | kernel_sim_isnan_skip_dead,                |
                                                         | kernel_residual_isnan_dead                 |
default and explicit sim_mean / sim_ini                  | wrapper_defaults, wrapper_is_kernel,       | numpy.nanmean's summation order
                                                         | data_mean_undefined_iff,                   | (pairwise; the model sums in order,
                                                         | wrapper_residual_default_mean_without_data,| compared within n·u and used when
                                                         | wrapper_residual_default_mean_with_data    | the bits coincide)
series of length 0 to several thousand, NaN anywhere     | every theorem is ∀ series (induction);     | numpy astype / atleast_1d /
 incl. the first `order` steps                           | output_length; kernel_sim_resume,          | contiguity (trusted); 0-d and 2-D
                                                         | kernel_residual_resume (cut anywhere)      | [n,p] series (recorded, not compared)
the functions keep no state: every call answers for the  | history_call_reads_current_contents,       | Python object identity beyond the
 objects as they are, whatever happened before (valid,   | history_call_writes_no_argument,           | one alias the model has (the
 rejected, edited in place, fed back)                    | history_rejected_call_leaves_nothing,      | returned array handed back as the
                                                         | history_rejected_call_invisible,           | series)
                                                         | history_reply_at, history_inverse          |
-/
import HydroVerif.Lemmas.C17
import HydroVerif.Lemmas.C17Extra
import HydroVerif.Lemmas.C17Rounded
import HydroVerif.Lemmas.C17Rnd53

namespace HydroVerif.C17

open Finset

variable {α : Type} [CommRing α] {p : Nat}

/-- acceptance depends on neither the series nor on what `isnan` does on computed values -/
theorem accepts_iff (nan : α → Bool) (params : List (Option α)) (mean ini : Option α)
    (series : List (Option α)) :
    ((∃ ys, sim nan params mean ini series = .ok ys) ↔
      (1 ≤ params.length ∧ params.length ≤ 10 ∧ none ∉ params ∧ mean ≠ none ∧ ini ≠ none)) ∧
    ((∃ rs, residual nan params mean ini series = .ok rs) ↔
      (1 ≤ params.length ∧ params.length ≤ 10 ∧ none ∉ params ∧ mean ≠ none ∧ ini ≠ none)) := by
  rw [← validate_isOk_iff]
  unfold sim residual
  cases validate params mean ini with
  | error e => exact ⟨⟨nofun, nofun⟩, ⟨nofun, nofun⟩⟩
  | ok r => exact ⟨⟨fun _ => ⟨r, rfl⟩, fun _ => ⟨_, rfl⟩⟩, ⟨fun _ => ⟨r, rfl⟩, fun _ => ⟨_, rfl⟩⟩⟩

/-- the order test comes first: `mean`, `ini` and the coefficients may be NaN here -/
theorem rejects_bad_order (nan : α → Bool) (params : List (Option α)) (mean ini : Option α)
    (series : List (Option α)) (h : params.length = 0 ∨ 10 < params.length) :
    sim nan params mean ini series = .error .badOrder ∧
    residual nan params mean ini series = .error .badOrder :=
  error_of_validate nan _ _ _ series _ ((validate_error params mean ini).1.mpr h)

theorem rejects_nan_param (nan : α → Bool) (params : List (Option α)) (mean ini : Option α)
    (series : List (Option α)) (h1 : 1 ≤ params.length) (h10 : params.length ≤ 10) (h : none ∈ params) :
    sim nan params mean ini series = .error .nanParam ∧
    residual nan params mean ini series = .error .nanParam :=
  error_of_validate nan _ _ _ series _ ((validate_error params mean ini).2.1.mpr ⟨h1, h10, h⟩)

theorem rejects_nan_mean (nan : α → Bool) (params : List (Option α)) (ini : Option α)
    (series : List (Option α)) (h1 : 1 ≤ params.length) (h10 : params.length ≤ 10) (h : none ∉ params) :
    sim nan params none ini series = .error .nanMean ∧
    residual nan params none ini series = .error .nanMean :=
  error_of_validate nan _ _ _ series _ ((validate_error params none ini).2.2.1.mpr ⟨h1, h10, h, rfl⟩)

theorem rejects_nan_ini (nan : α → Bool) (params : List (Option α)) (m : α)
    (series : List (Option α)) (h1 : 1 ≤ params.length) (h10 : params.length ≤ 10) (h : none ∉ params) :
    sim nan params (some m) none series = .error .nanIni ∧
    residual nan params (some m) none series = .error .nanIni :=
  error_of_validate nan _ _ _ series _ ((validate_error params (some m) none).2.2.2.mpr ⟨h1, h10, h, nofun, rfl⟩)

theorem output_length (nan : α → Bool) (params : List (Option α)) (mean ini : Option α)
    (series : List (Option α)) :
    (∀ ys, sim nan params mean ini series = .ok ys → ys.length = series.length) ∧
    (∀ rs, residual nan params mean ini series = .ok rs → rs.length = series.length) := by
  constructor
  · intro ys h
    obtain ⟨ps, m, i, rfl, -⟩ := sim_eq_ok nan _ _ _ _ _ h
    exact (simTrace nan _ _).outs_length _ _
  · intro rs h
    obtain ⟨ps, m, i, rfl, -⟩ := residual_eq_ok nan _ _ _ _ _ h
    exact (resTrace nan _ _).outs_length _ _

/-- the recursion for every order `p` (no upper bound) and every starting lag buffer: at step `t`
the lag-`k+1` term is an earlier output minus the mean, or what the starting buffer held -/
theorem kernel_sim_recursion (ps : Vector α p) (m : α) (buf : Vector α p) (es : List (Option α))
    (t : Nat) (e : Option α) (y : α)
    (he : es[t]? = some e) (hy : (simRun nf ps m buf es)[t]? = some y) :
    y - m = (∑ k : Fin p, ps[k.val] * glag (simRun nf ps m buf es) buf m t k.val k.isLt) + zeroNaN e := by
  induction es generalizing buf t with
  | nil => simp at he
  | cons e0 es ih =>
    rw [simRun_cons] at hy ⊢
    cases t with
    | zero =>
      simp only [List.getElem?_cons_zero, Option.some.injEq] at he hy
      subst he; subst hy
      rw [dot_eq_sum_fin]
      simp only [glag, Nat.not_lt_zero, if_false, Nat.sub_zero]
      ring
    | succ t =>
      simp only [List.getElem?_cons_succ] at he hy
      rw [ih _ t he hy]
      congr 1
      exact sum_congr rfl fun k _ => by rw [glag_cons]

/-- through the guards (orders 1..10): `y[t] - m = Σ_k φ[k]·(y[t-(k+1)] - m) + e[t]`, with `y[-j] = ini` (`past`)
and a NaN `e[t]` read as 0 -/
theorem sim_recursion (ps : List α) (m ini : α) (innov : List (Option α))
    (h1 : 1 ≤ ps.length) (h10 : ps.length ≤ 10) :
    ∃ ys, sim nf (ps.map some) (some m) (some ini) innov = .ok ys ∧
      ∃ hlen : ys.length = innov.length,
      ∀ (t : Nat) (ht : t < ys.length),
        ys[t] - m = (∑ k : Fin ps.length, ps[k.val] * (past ys ini t k.val - m))
                      + zeroNaN (innov[t]'(hlen ▸ ht)) := by
  refine ⟨_, (ok_of_valid nf ps m ini innov h1 h10).1, (simTrace nf _ _).outs_length _ _, ?_⟩
  intro t ht
  have hlen := (simTrace nf (toVec ps) m).outs_length (Vector.replicate ps.length (ini - m)) innov
  have ht' : t < innov.length := hlen ▸ ht
  rw [kernel_sim_recursion (toVec ps) m _ innov t (innov[t]) _
    (List.getElem?_eq_getElem ht') (List.getElem?_eq_getElem ht)]
  congr 1
  apply sum_congr rfl
  intro k _
  rw [glag_replicate _ ini m t k.val k.isLt (by omega), toVec_getElem]

/-- the lag buffer of the simulation kernel holds the centred past outputs, most recent first
(initially `ini - m` at every lag) -/
theorem kernel_buffer_holds_centred_past (ps : Vector α p) (m : α) (buf : Vector α p)
    (es : List (Option α)) (k : Nat) (hk : k < p) :
    (simBuf nf ps buf es)[k] = glag (simRun nf ps m buf es) buf m es.length k hk := by
  induction es generalizing buf with
  | nil => simp [simBuf, glag]
  | cons e es ih => rw [simBuf_cons, simRun_cons, List.length_cons, glag_cons, ih]

/-- a NaN innovation acts as a zero innovation — literally the same run (any `isnan`; the statement is over a
commutative ring, the proof uses no ring law) -/
theorem nan_innovation_is_zero (nan : α → Bool) (params : List (Option α)) (mean ini : Option α)
    (innov : List (Option α)) :
    sim nan params mean ini (innov.map fun e => some (zeroNaN e)) = sim nan params mean ini innov := by
  unfold sim
  cases validate params mean ini with
  | error e => rfl
  | ok r =>
    obtain ⟨ps, m, i⟩ := r
    show Except.ok _ = Except.ok _
    congr 1
    generalize Vector.replicate _ _ = buf
    induction innov generalizing buf with
    | nil => rfl
    | cons e es ih => cases e <;> simp only [List.map_cons, simRun, zeroNaN_none, zeroNaN_some, ih]

/-! The inverse theorems below do not go through the buffer invariant: their inductions run both kernels from one
universally quantified `buf`, and `cval_sim` / `sub_add_cancel` make the two shifted buffers syntactically equal. -/

theorem kernel_same_buffer_every_step (ps : Vector α p) (m : α) (buf : Vector α p)
    (es : List (Option α)) (n : Nat) :
    resBuf nf ps m buf (((simRun nf ps m buf es).map some).take n) = simBuf nf ps buf (es.take n) := by
  induction es generalizing buf n with
  | nil => simp [resBuf, simBuf]
  | cons e es ih =>
    cases n with
    | zero => simp [resBuf, simBuf]
    | succ n =>
      rw [simRun_cons, List.map_cons, List.take_succ_cons, List.take_succ_cons, resBuf_cons, simBuf_cons,
        cval_sim, ih]

theorem kernel_same_buffer_every_step' (ps : Vector α p) (m : α) (buf : Vector α p)
    (xs : List (Option α)) (n : Nat) :
    simBuf nf ps buf (((resRun nf ps m buf xs).map some).take n) = resBuf nf ps m buf (xs.take n) := by
  induction xs generalizing buf n with
  | nil => simp [resBuf, simBuf]
  | cons x xs ih =>
    cases n with
    | zero => simp [resBuf, simBuf]
    | succ n =>
      rw [resRun_cons, List.map_cons, List.take_succ_cons, List.take_succ_cons, resBuf_cons, simBuf_cons,
        zeroNaN_some, sub_add_cancel, ih]

/-- `residual (sim e) = e` with NaN ↦ 0, every order `p`, every starting buffer, every length -/
theorem kernel_residual_sim (ps : Vector α p) (m : α) (buf : Vector α p) (es : List (Option α)) :
    resRun nf ps m buf ((simRun nf ps m buf es).map some) = es.map zeroNaN := by
  induction es generalizing buf with
  | nil => rfl
  | cons e es ih => rw [simRun_cons, List.map_cons, resRun_cons, cval_sim, ih, add_sub_cancel_right, List.map_cons]

/-- `sim (residual y) = y` for NaN-free `y`, every order `p`, every starting buffer, every length -/
theorem kernel_sim_residual (ps : Vector α p) (m : α) (buf : Vector α p) (ys : List α) :
    simRun nf ps m buf ((resRun nf ps m buf (ys.map some)).map some) = ys := by
  rw [simRun_resRun, fill_present]

/-- `residual (sim e) = e` with NaN ↦ 0 through the guards: whenever the simulation is accepted, the
residuals of its output (same coefficients, mean, initial value) are the innovations -/
theorem residual_sim (params : List (Option α)) (mean ini : Option α) (innov : List (Option α))
    (ys : List α) (h : sim nf params mean ini innov = .ok ys) :
    residual nf params mean ini (ys.map some) = .ok (innov.map zeroNaN) := by
  obtain ⟨ps, m, i, rfl, rfl, rfl, rfl, h1, h10⟩ := sim_eq_ok nf _ _ _ _ _ h
  rw [(ok_of_valid nf ps m i _ h1 h10).2, kernel_residual_sim]

/-- `sim (residual y) = y` for NaN-free `y` through the guards -/
theorem sim_residual (params : List (Option α)) (mean ini : Option α) (ys : List α)
    (rs : List α) (h : residual nf params mean ini (ys.map some) = .ok rs) :
    sim nf params mean ini (rs.map some) = .ok ys := by
  obtain ⟨ps, m, i, rfl, rfl, rfl, rfl, h1, h10⟩ := residual_eq_ok nf _ _ _ _ _ h
  rw [(ok_of_valid nf ps m i _ h1 h10).1, kernel_sim_residual]

/-- with NaN in `y`: simulating the residuals gives back `y` at every position where `y` is present -/
theorem sim_residual_present (params : List (Option α)) (mean ini : Option α)
    (xs : List (Option α)) (rs : List α) (h : residual nf params mean ini xs = .ok rs) :
    ∃ zs, sim nf params mean ini (rs.map some) = .ok zs ∧ zs.length = xs.length ∧
      ∀ (t : Nat) (y : α), xs[t]? = some (some y) → zs[t]? = some y := by
  obtain ⟨ps, m, i, rfl, rfl, rfl, rfl, h1, h10⟩ := residual_eq_ok nf _ _ _ _ _ h
  refine ⟨_, (ok_of_valid nf ps m i _ h1 h10).1, ?_, ?_⟩
  · rw [(simTrace nf _ _).outs_length, List.length_map, resRun_length]
  · intro t y hx
    rw [simRun_resRun]
    clear h
    generalize Vector.replicate _ _ = buf
    induction xs generalizing buf t with
    | nil => simp at hx
    | cons x xs ih =>
      cases t with
      | zero =>
        obtain rfl : x = some y := Option.some.inj hx
        simp [fill, cval]
      | succ t => exact ih t hx _

/-- missing inputs give zero residuals -/
theorem residual_zero_at_missing (params : List (Option α)) (mean ini : Option α)
    (xs : List (Option α)) (rs : List α) (h : residual nf params mean ini xs = .ok rs)
    (t : Nat) (ht : xs[t]? = some none) : rs[t]? = some 0 := by
  obtain ⟨ps, m, i, rfl, rfl, rfl, rfl, h1, h10⟩ := residual_eq_ok nf _ _ _ _ _ h
  -- one step on a missing input: the prediction `φ·b` is put in its place, and `φ·b` is subtracted
  rw [(resTrace nf _ m).outs_getElem?, ht, Option.map_some, resStep, resLoop_eq, acc_sub, centred_eq]
  exact congrArg some (sub_self _)

/-- `armodel_sim(params, innov)` is `sim_mean = 0, sim_ini = 0`; `armodel_sim(params, innov, m)` starts
from `sim_ini = m`; `armodel_residual(params, y)` uses `nanmean(y)` for both (any `isnan`) -/
theorem wrapper_defaults (nan : α → Bool) (params : List (Option α)) (series : List (Option α))
    (m i μ : Option α) :
    pySim nan params series none none = sim nan params (some 0) (some 0) series ∧
    pySim nan params series (some m) none = sim nan params m m series ∧
    pySim nan params series none (some i) = sim nan params (some 0) i series ∧
    pySim nan params series (some m) (some i) = sim nan params m i series ∧
    pyResidual nan params series μ none none = residual nan params μ μ series ∧
    pyResidual nan params series μ (some m) none = residual nan params m m series ∧
    pyResidual nan params series μ none (some i) = residual nan params μ i series ∧
    pyResidual nan params series μ (some m) (some i) = residual nan params m i series :=
  ⟨rfl, rfl, rfl, rfl, rfl, rfl, rfl, rfl⟩

/-- the inverse through the wrappers, same `sim_mean` / `sim_ini` arguments on both calls (each left at
its default or passed explicitly).  Hypothesis `hm`: the mean is passed explicitly, or the data mean the
residual wrapper falls back to is the 0 the simulation wrapper falls back to — see
`wrapper_defaults_not_inverse` for why it cannot be dropped. -/
theorem wrapper_residual_sim (params : List (Option α)) (innov : List (Option α))
    (meanArg iniArg : Option (Option α)) (μ : Option α) (ys : List α)
    (hm : meanArg ≠ none ∨ μ = some 0)
    (h : pySim nf params innov meanArg iniArg = .ok ys) :
    pyResidual nf params (ys.map some) μ meanArg iniArg = .ok (innov.map zeroNaN) := by
  unfold pyResidual
  rw [resolveMean_eq meanArg μ hm]
  exact residual_sim _ _ _ _ _ h

theorem wrapper_sim_residual (params : List (Option α)) (ys : List α)
    (meanArg iniArg : Option (Option α)) (μ : Option α) (rs : List α)
    (hm : meanArg ≠ none ∨ μ = some 0)
    (h : pyResidual nf params (ys.map some) μ meanArg iniArg = .ok rs) :
    pySim nf params (rs.map some) meanArg iniArg = .ok ys := by
  unfold pyResidual at h
  rw [resolveMean_eq meanArg μ hm] at h
  exact sim_residual _ _ _ _ _ h

/-- with `sim_mean` left at its default on both calls the wrappers are NOT inverses: the simulation
centres on 0, the residual on the mean of its input (order 1, φ = 1, one innovation equal to 1:
the simulated series is `[1]`, its data mean is 1, the residual comes back as 0) -/
theorem wrapper_defaults_not_inverse :
    pySim nf [some (1 : ℤ)] [some 1] none none = .ok [1] ∧
    pyResidual nf [some (1 : ℤ)] [some 1] (some 1) none none = .ok [0] := by
  constructor <;> rfl

/-- both wrappers are the guarded kernels at the mean and initial value the call stands for; `wrapper_defaults` spells
out the eight cases of an argument left out or passed -/
theorem wrapper_is_kernel (nan : α → Bool) (params : List (Option α)) (series : List (Option α))
    (meanArg iniArg : Option (Option α)) (μ : Option α) :
    pySim nan params series meanArg iniArg =
      sim nan params (resolveMean (some 0) meanArg)
        (resolveIni (resolveMean (some 0) meanArg) iniArg) series ∧
    pyResidual nan params series μ meanArg iniArg =
      residual nan params (resolveMean μ meanArg) (resolveIni (resolveMean μ meanArg) iniArg) series :=
  ⟨rfl, rfl⟩

/-- `armodel_sim` / `armodel_residual` accept exactly: order 1..10, no NaN coefficient, and the mean and
initial value the call stands for (argument or default) are not NaN — for every series, empty included -/
theorem wrapper_accepts_iff (nan : α → Bool) (params : List (Option α)) (series : List (Option α))
    (meanArg iniArg : Option (Option α)) (μ : Option α) :
    ((∃ ys, pySim nan params series meanArg iniArg = .ok ys) ↔
      (1 ≤ params.length ∧ params.length ≤ 10 ∧ none ∉ params ∧
        resolveMean (some 0) meanArg ≠ none ∧
        resolveIni (resolveMean (some 0) meanArg) iniArg ≠ none)) ∧
    ((∃ rs, pyResidual nan params series μ meanArg iniArg = .ok rs) ↔
      (1 ≤ params.length ∧ params.length ≤ 10 ∧ none ∉ params ∧
        resolveMean μ meanArg ≠ none ∧ resolveIni (resolveMean μ meanArg) iniArg ≠ none)) :=
  ⟨(accepts_iff nan params _ _ series).1, (accepts_iff nan params _ _ series).2⟩

theorem wrapper_rejects (nan : α → Bool) (params : List (Option α)) (series : List (Option α))
    (meanArg iniArg : Option (Option α)) (μ : Option α) :
    ((params.length = 0 ∨ 10 < params.length) →
      pySim nan params series meanArg iniArg = .error .badOrder ∧
      pyResidual nan params series μ meanArg iniArg = .error .badOrder) ∧
    (1 ≤ params.length → params.length ≤ 10 → none ∈ params →
      pySim nan params series meanArg iniArg = .error .nanParam ∧
      pyResidual nan params series μ meanArg iniArg = .error .nanParam) ∧
    (1 ≤ params.length → params.length ≤ 10 → none ∉ params →
      (resolveMean (some 0) meanArg = none → pySim nan params series meanArg iniArg = .error .nanMean) ∧
      (resolveMean μ meanArg = none → pyResidual nan params series μ meanArg iniArg = .error .nanMean)) ∧
    (1 ≤ params.length → params.length ≤ 10 → none ∉ params →
      (resolveMean (some 0) meanArg ≠ none → resolveIni (resolveMean (some 0) meanArg) iniArg = none →
        pySim nan params series meanArg iniArg = .error .nanIni) ∧
      (resolveMean μ meanArg ≠ none → resolveIni (resolveMean μ meanArg) iniArg = none →
        pyResidual nan params series μ meanArg iniArg = .error .nanIni)) := by
  refine ⟨fun h => ⟨(rejects_bad_order nan params _ _ series h).1, (rejects_bad_order nan params _ _ series h).2⟩,
    fun h1 h10 h => ⟨(rejects_nan_param nan params _ _ series h1 h10 h).1,
      (rejects_nan_param nan params _ _ series h1 h10 h).2⟩,
    fun h1 h10 h => ⟨fun hm => ?_, fun hm => ?_⟩, fun h1 h10 h => ⟨fun hm hi => ?_, fun hm hi => ?_⟩⟩
  · exact (error_of_validate nan params _ _ series _ ((validate_error params _ _).2.2.1.mpr ⟨h1, h10, h, hm⟩)).1
  · exact (error_of_validate nan params _ _ series _ ((validate_error params _ _).2.2.1.mpr ⟨h1, h10, h, hm⟩)).2
  · exact (error_of_validate nan params _ _ series _ ((validate_error params _ _).2.2.2.mpr ⟨h1, h10, h, hm, hi⟩)).1
  · exact (error_of_validate nan params _ _ series _ ((validate_error params _ _).2.2.2.mpr ⟨h1, h10, h, hm, hi⟩)).2

/-- `params` given as a Python float is the order-1 coefficient vector (`np.atleast_1d`): the first equation, by
definition of `paramsOf`; the next two are it under `pySim` / `pyResidual`, the last is `wrapper_accepts_iff` at `[φ]` -/
theorem wrapper_scalar_params (nan : α → Bool) (φ : Option α) (series : List (Option α))
    (meanArg iniArg : Option (Option α)) (μ : Option α) :
    paramsOf (.scalar φ) = [φ] ∧
    pySim nan (paramsOf (.scalar φ)) series meanArg iniArg = pySim nan [φ] series meanArg iniArg ∧
    pyResidual nan (paramsOf (.scalar φ)) series μ meanArg iniArg = pyResidual nan [φ] series μ meanArg iniArg ∧
    ((∃ ys, pySim nan (paramsOf (.scalar φ)) series meanArg iniArg = .ok ys) ↔
      (φ ≠ none ∧ resolveMean (some 0) meanArg ≠ none ∧ resolveIni (resolveMean (some 0) meanArg) iniArg ≠ none)) := by
  refine ⟨rfl, rfl, rfl, ?_⟩
  show (∃ ys, pySim nan [φ] series meanArg iniArg = .ok ys) ↔ _
  rw [(wrapper_accepts_iff nan [φ] series meanArg iniArg μ).1]
  cases φ <;> simp

/-- the recursion through `armodel_sim`, `sim_mean` / `sim_ini` each left at its default or passed:
`m`, `ini` are the values the call stands for (`m = 0` by default, `ini = m` by default) -/
theorem wrapper_sim_recursion (ps : List α) (m ini : α) (meanArg iniArg : Option (Option α))
    (innov : List (Option α)) (h1 : 1 ≤ ps.length) (h10 : ps.length ≤ 10)
    (hm : resolveMean (some 0) meanArg = some m) (hi : resolveIni (some m) iniArg = some ini) :
    ∃ ys, pySim nf (ps.map some) innov meanArg iniArg = .ok ys ∧
      ∃ hlen : ys.length = innov.length,
      ∀ (t : Nat) (ht : t < ys.length),
        ys[t] - m = (∑ k : Fin ps.length, ps[k.val] * (past ys ini t k.val - m))
                      + zeroNaN (innov[t]'(hlen ▸ ht)) := by
  have : pySim nf (ps.map some) innov meanArg iniArg = sim nf (ps.map some) (some m) (some ini) innov := by
    show sim nf _ (resolveMean (some 0) meanArg) (resolveIni (resolveMean (some 0) meanArg) iniArg) _ = _
    rw [hm, hi]
  rw [this]
  exact sim_recursion ps m ini innov h1 h10

/-- NaN innovation = zero innovation through `armodel_sim` (any `isnan`, any defaults) -/
theorem wrapper_nan_innovation_is_zero (nan : α → Bool) (params : List (Option α))
    (innov : List (Option α)) (meanArg iniArg : Option (Option α)) :
    pySim nan params (innov.map fun e => some (zeroNaN e)) meanArg iniArg =
      pySim nan params innov meanArg iniArg :=
  nan_innovation_is_zero nan params _ _ innov

/-- missing inputs give zero residuals through `armodel_residual` (any defaults, any data mean) -/
theorem wrapper_residual_zero_at_missing (params : List (Option α)) (xs : List (Option α))
    (μ : Option α) (meanArg iniArg : Option (Option α)) (rs : List α)
    (h : pyResidual nf params xs μ meanArg iniArg = .ok rs) (t : Nat) (ht : xs[t]? = some none) :
    rs[t]? = some 0 :=
  residual_zero_at_missing params _ _ xs rs h t ht

/-- This is what ties `simBuf` (never returned by the code) to the outputs the code does return. -/
theorem kernel_sim_resume (nan : α → Bool) (ps : Vector α p) (m : α) (buf : Vector α p)
    (es1 es2 : List (Option α)) :
    simRun nan ps m buf (es1 ++ es2) =
      simRun nan ps m buf es1 ++ simRun nan ps m (simBuf nan ps buf es1) es2 ∧
    simBuf nan ps buf (es1 ++ es2) = simBuf nan ps (simBuf nan ps buf es1) es2 :=
  ⟨(simTrace nan ps m).outs_append buf es1 es2, (simTrace nan ps m).append buf es1 es2⟩

theorem kernel_residual_resume (nan : α → Bool) (ps : Vector α p) (m : α) (buf : Vector α p)
    (xs1 xs2 : List (Option α)) :
    resRun nan ps m buf (xs1 ++ xs2) =
      resRun nan ps m buf xs1 ++ resRun nan ps m (resBuf nan ps m buf xs1) xs2 ∧
    resBuf nan ps m buf (xs1 ++ xs2) = resBuf nan ps m (resBuf nan ps m buf xs1) xs2 :=
  ⟨(resTrace nan ps m).outs_append buf xs1 xs2, (resTrace nan ps m).append buf xs1 xs2⟩

section
variable {F : Type} [Field F]

/-- the data mean is undefined (NaN) exactly when no value is present: empty or all-missing series
(the "if" direction for any `isnan`: `dataMean_of_no_data`) -/
theorem data_mean_undefined_iff (xs : List (Option F)) :
    dataMean nf xs = none ↔ ∀ x ∈ xs, x = none := by
  refine ⟨fun h => (dataCount_eq_zero_iff xs).mp ?_, dataMean_of_no_data nf xs⟩
  unfold dataMean at h
  by_contra h0
  rw [if_neg h0] at h
  cases h

/-- `armodel_residual(params, y)` with the default mean on an empty or all-missing series is rejected
(NaN mean) whatever `sim_ini`; an explicit mean makes the data mean irrelevant -/
theorem wrapper_residual_default_mean_without_data (nan : F → Bool) (params : List (Option F))
    (xs : List (Option F)) (iniArg : Option (Option F)) (m : Option F)
    (hx : ∀ x ∈ xs, x = none) :
    (1 ≤ params.length → params.length ≤ 10 → none ∉ params →
      pyResidualD nan params xs none iniArg = .error .nanMean) ∧
    (∃ e, pyResidualD nan params xs none iniArg = .error e) ∧
    pyResidualD nan params xs (some m) iniArg = residual nan params m (resolveIni m iniArg) xs := by
  have hD : pyResidualD nan params xs none iniArg = residual nan params none (resolveIni none iniArg) xs := by
    simp only [pyResidualD, pyResidual, resolveMean, dataMean_of_no_data nan xs hx]
  refine ⟨fun h1 h10 hp => ?_, ?_, rfl⟩
  · rw [hD]
    exact (rejects_nan_mean nan params _ xs h1 h10 hp).2
  · obtain ⟨e, he⟩ := validate_none_mean params (resolveIni none iniArg)
    exact ⟨e, hD ▸ (error_of_validate nan params none _ xs e he).2⟩

/-- with data present the default mean is defined, so (order and coefficients being fine) the call is accepted -/
theorem wrapper_residual_default_mean_with_data (ps : List F) (xs : List (Option F))
    (h1 : 1 ≤ ps.length) (h10 : ps.length ≤ 10) (hx : ∃ v, some v ∈ xs) :
    ∃ rs, pyResidualD nf (ps.map some) xs none none = .ok rs := by
  have hμ : dataMean nf xs ≠ none := by
    intro h
    obtain ⟨v, hv⟩ := hx
    have := (data_mean_undefined_iff xs).mp h _ hv
    cases this
  obtain ⟨μ, hμ'⟩ := Option.ne_none_iff_exists'.mp hμ
  refine (wrapper_accepts_iff nf (ps.map some) xs none none (dataMean nf xs)).2.mpr ?_
  simp [resolveMean, resolveIni, hμ', h1, h10]

end

/-! Every finite magnitude is inside the property's quantifier; the linearity theorems below (scaling, a common
shift, additivity) are why one magnitude stands for
all of them in exact arithmetic, and the harness runs the real code on a ladder of powers of two from the
subnormal range to `1e270`. -/

theorem sim_homogeneous (params : List (Option α)) (mean ini : Option α) (innov : List (Option α)) (c : α) :
    sim nf params (scaleOpt c mean) (scaleOpt c ini) (innov.map (scaleOpt c)) =
      (sim nf params mean ini innov).map (List.map (c * ·)) := by
  unfold sim
  rw [validate_scale]
  cases validate params mean ini with
  | error e => rfl
  | ok r =>
    obtain ⟨ps, m, i⟩ := r
    simp only [Except.map]
    rw [← mul_sub, ← Vector.map_replicate (f := (c * ·)), simRun_scale]

theorem residual_homogeneous (params : List (Option α)) (mean ini : Option α) (xs : List (Option α)) (c : α) :
    residual nf params (scaleOpt c mean) (scaleOpt c ini) (xs.map (scaleOpt c)) =
      (residual nf params mean ini xs).map (List.map (c * ·)) := by
  unfold residual
  rw [validate_scale]
  cases validate params mean ini with
  | error e => rfl
  | ok r =>
    obtain ⟨ps, m, i⟩ := r
    simp only [Except.map]
    rw [← mul_sub, ← Vector.map_replicate (f := (c * ·)), resRun_scale]

/-- through `armodel_sim`: `sim_mean` / `sim_ini` scaled when passed, left at their defaults otherwise -/
theorem wrapper_sim_homogeneous (params : List (Option α)) (innov : List (Option α))
    (meanArg iniArg : Option (Option α)) (c : α) :
    pySim nf params (innov.map (scaleOpt c)) (meanArg.map (scaleOpt c)) (iniArg.map (scaleOpt c)) =
      (pySim nf params innov meanArg iniArg).map (List.map (c * ·)) := by
  simp only [pySim, resolveMean_scale, resolveIni_scale]
  exact sim_homogeneous params _ _ innov c

/-- adding `d` to mean and initial value adds `d` to the simulated series; adding `d` to mean, initial value
and inputs leaves the residuals unchanged: only `ini - mean` and `y - mean` matter -/
theorem sim_shift_invariant (params : List (Option α)) (m i d : α) (innov : List (Option α)) :
    sim nf params (some (m + d)) (some (i + d)) innov =
      (sim nf params (some m) (some i) innov).map (List.map (· + d)) := by
  unfold sim
  rw [validate_shift]
  cases validate params (some m) (some i) with
  | error e => rfl
  | ok r =>
    obtain ⟨ps, m', i'⟩ := r
    simp only [Except.map]
    rw [add_sub_add_right_eq_sub, simRun_shift]

theorem residual_shift_invariant (params : List (Option α)) (m i d : α) (xs : List (Option α)) :
    residual nf params (some (m + d)) (some (i + d)) (xs.map (shiftOpt d)) =
      residual nf params (some m) (some i) xs := by
  unfold residual
  rw [validate_shift]
  cases validate params (some m) (some i) with
  | error e => rfl
  | ok r =>
    obtain ⟨ps, m', i'⟩ := r
    simp only [Except.map]
    rw [add_sub_add_right_eq_sub, resRun_shift]

theorem kernel_sim_additive (ps : Vector α p) (m m' : α) (es es' : List (Option α)) (buf buf' : Vector α p) :
    simRun nf ps (m + m') (Vector.zipWith (· + ·) buf buf') (addInnov es es') =
      List.zipWith (· + ·) (simRun nf ps m buf es) (simRun nf ps m' buf' es') := by
  induction es generalizing es' buf buf' with
  | nil => simp [addInnov]
  | cons e es ih =>
    cases es' with
    | nil => simp [addInnov]
    | cons e' es' =>
      rw [addInnov, simRun_cons, simRun_cons, simRun_cons, List.zipWith_cons_cons, zeroNaN_some, dot_add,
        add_add_add_comm (zeroNaN e) (zeroNaN e'), shift_add, ih, add_add_add_comm (zeroNaN e + dot ps buf)]

/-! The exact theorems above take `isnan = false` on computed values.  For any `isnan`, again over a commutative
ring (no ring law is used: the loop fact behind it, `simLoop_nan_dead`, asks for `+` and `*` only): as long as it is
false on the lag buffer entries the simulation reads, resp. on `inputs[i] - sim_mean`, the run is the run without
those tests. -/

theorem kernel_sim_isnan_skip_dead (nan : α → Bool) (ps : Vector α p) (m : α) (es : List (Option α))
    (buf : Vector α p) (h : ∀ n k (hk : k < p), nan (simBuf nf ps buf (es.take n))[k] = false) :
    simRun nan ps m buf es = simRun nf ps m buf es := by
  induction es generalizing buf with
  | nil => rfl
  | cons e es ih =>
    simp only [simRun]
    rw [simLoop_nan_dead nan ps p (Nat.le_refl p) _ buf fun j hj _ => h 0 j hj]
    congr 1
    exact ih _ fun n k hk => h (n + 1) k hk

theorem kernel_residual_isnan_dead (nan : α → Bool) (ps : Vector α p) (m : α) (xs : List (Option α))
    (buf : Vector α p) (h : ∀ x, some x ∈ xs → nan (x - m) = false) :
    resRun nan ps m buf xs = resRun nf ps m buf xs := by
  induction xs generalizing buf with
  | nil => rfl
  | cons x xs ih =>
    have hc : centred nan ps buf m x = centred nf ps buf m x := by
      cases x with
      | none => rfl
      | some v => simp [centred, h v List.mem_cons_self, nf]
    simp only [resRun, hc]
    congr 1
    exact ih _ fun v hv => h v (List.mem_cons_of_mem _ hv)

/-! Histories of calls on one set of argument objects (`Model/C17Hist.lean`).  The functions keep no state: a call reads the argument objects as they are, writes none of them, and a
rejected call leaves nothing behind.  `ops` is an arbitrary list of operations (in-place edits, other
objects, feeding a result back, calls of either function — accepted or rejected). -/

theorem history_call_reads_current_contents (nan : α → Bool) (s : St α) (nm : Option α)
    (ma ia : Option (Option α)) :
    (step nan s (.callSim ma ia)).2 = some (pySim nan s.params s.series ma ia) ∧
    (step nan s (.callRes nm ma ia)).2 = some (pyResidual nan s.params s.series nm ma ia) :=
  ⟨rfl, rfl⟩

theorem history_call_writes_no_argument (nan : α → Bool) (s : St α) (op : Op α) (h : op.isCall = true) :
    (step nan s op).1.params = s.params ∧ (step nan s op).1.series = s.series :=
  step_call_args nan s op h

theorem history_rejected_call_leaves_nothing (nan : α → Bool) (s : St α) (op : Op α) (e : Err)
    (h : (step nan s op).2 = some (.error e)) : (step nan s op).1 = s :=
  step_rejected nan s op e h

theorem history_reply_at (nan : α → Bool) : ∀ (ops : List (Op α)) (s : St α) (n : Nat),
    (run nan s ops)[n]? = ops[n]?.map fun op => (step nan (exec nan s (ops.take n)) op).2 :=
  fun ops s n => (trace nan).outs_getElem? s ops n

/-- a rejected call anywhere in a history is invisible: every other reply and the final state are those of
the history without it -/
theorem history_rejected_call_invisible (nan : α → Bool) (s : St α) (ops1 ops2 : List (Op α)) (op : Op α)
    (e : Err) (h : (step nan (exec nan s ops1) op).2 = some (.error e)) :
    run nan s (ops1 ++ op :: ops2) = run nan s ops1 ++ some (.error e) :: run nan (exec nan s ops1) ops2 ∧
    run nan s (ops1 ++ ops2) = run nan s ops1 ++ run nan (exec nan s ops1) ops2 ∧
    exec nan s (ops1 ++ op :: ops2) = exec nan s (ops1 ++ ops2) := by
  have hs := step_rejected nan _ op e h
  refine ⟨?_, run_append nan ops1 ops2 s, ?_⟩
  · rw [run_append]; simp only [run, h, hs]
  · rw [(trace nan).append, (trace nan).append]; simp only [exec, hs]

/-- the inverse inside a history: simulate, hand the returned array over as the series, take the residuals
with the same `sim_mean` (passed explicitly) and `sim_ini`.  Both gaps hold the SAME list `faults`, and `hf` asks each of
its operations to be rejected in every state (a NaN mean argument, say), not only in the one it meets -/
theorem history_inverse (params : List (Option α)) (innov : List (Option α)) (lst : Option (List (Option α)))
    (m : Option α) (ia : Option (Option α)) (μ : Option α) (ys : List α) (faults : List (Op α))
    (hf : ∀ f ∈ faults, ∀ s : St α, ∃ e, (step nf s f).2 = some (.error e))
    (h : pySim nf params innov (some m) ia = .ok ys) :
    (run nf { params := params, series := innov, last := lst }
        ([.callSim (some m) ia] ++ faults ++ [.feedBack] ++ faults ++ [.callRes μ (some m) ia])).getLast? =
      some (some (.ok (innov.map zeroNaN))) := by
  rw [(trace nf).outs_concat_getLast?, (trace nf).append, (trace nf).append, (trace nf).append, exec_rejected nf faults hf]
  simp only [exec, step, h, afterCall]
  rw [exec_rejected nf faults hf, wrapper_residual_sim params innov (some m) ia μ ys (Or.inl (by simp)) h]

/-! `Fl rnd` (`Model/C17Round.lean`) is the SAME model text with every `+ - *` followed by `rnd`.  The standard
model `StdModel rnd u` is `|rnd x - x| ≤ u |x|` (no overflow / underflow).  `rnd53` (53-bit significand,
ties to even, unbounded exponent) is proved to satisfy it with `u = 2^-53`, and the driver runs the kernels
at `Fl rnd53` against the real C kernels value for value — so the two budgets below are theorems about the
arithmetic the real code computes in, as long as nothing leaves the normal range.
The budgets are relative to `S`, and `hb` (the lag buffer of the ROUNDED simulation stays within `S` at every step) is a
hypothesis about the run, not about the inputs: nothing here derives it from a bound on `φ`, `e`, `ini`. -/

section rounding
variable {F : Type} [Field F] [LinearOrder F] [IsStrictOrderedRing F] {rnd : F → F} {q : Nat}

/-- `residual(sim e) = e` in rounding arithmetic, every order `q`, every starting lag buffer, every length, NaN
innovations anywhere: with `S` bounding mean, innovations and the lag buffer of the simulation at every step,
every residual is within `2 (1 + Σ|φ|) ((1+u)^(2q+2) - 1) S` of its innovation (first order: `4(q+1)u(1+Σ|φ|)S`;
errors are NOT amplified along the series — the residual kernel is a finite filter of the output) -/
theorem kernel_residual_sim_rounded {u : F} (h : StdModel rnd u) (ps : Vector (Fl rnd) q) (m : Fl rnd)
    (buf : Vector (Fl rnd) q) (es : List (Option (Fl rnd))) (S : F)
    (hm : |m.val| ≤ S) (he : ∀ e ∈ es, |z0 e| ≤ S)
    (hb : ∀ n k (hk : k < q), |(simBuf nf ps buf (es.take n))[k].val| ≤ S)
    (t : Nat) (r : Fl rnd) (e : Option (Fl rnd))
    (hr : (resRun nf ps m buf ((simRun nf ps m buf es).map some))[t]? = some r) (het : es[t]? = some e) :
    |r.val - z0 e| ≤ 2 * (1 + absSum ps) * ((1 + u) ^ (2 * q + 2) - 1) * S := by
  rw [← Nat.mul_succ, ← G_pow]
  refine coupled_run h ps m S hm es buf buf (fun k hk => ?_) he hb t r e hr het
  rw [sub_self, abs_zero]
  exact mul_nonneg (sub_nonneg.mpr (G_ge_one h.1)) (add_nonneg ((abs_nonneg _).trans hm) ((abs_nonneg _).trans hm))

/-- the AR recursion in rounding arithmetic: every output misses `y[t]-m = Σ_k φ_k (y[t-k]-m) + e[t]`
(exact subtraction, exact sum, lags before the start = the starting buffer) by at most
`(1 + Σ|φ|) ((1+u)^(2q) - 1 + 2u) S` -/
theorem kernel_recursion_rounded {u : F} (h : StdModel rnd u) (ps : Vector (Fl rnd) q) (m : Fl rnd)
    (buf : Vector (Fl rnd) q) (es : List (Option (Fl rnd))) (S : F)
    (hm : |m.val| ≤ S) (he : ∀ e ∈ es, |z0 e| ≤ S)
    (hb : ∀ n k (hk : k < q), |(simBuf nf ps buf (es.take n))[k].val| ≤ S) :
    ∀ d ∈ recDefects ps m.val (buf.map Fl.val) (es.map z0) ((simRun nf ps m buf es).map Fl.val),
      |d| ≤ (1 + absSum ps) * ((1 + u) ^ (2 * q) - 1 + 2 * u) * S := by
  rw [← G_pow]
  refine recursion_run h ps m S hm es buf (buf.map Fl.val) (fun k hk => ?_) he hb
  rw [Vector.getElem_map, sub_self, abs_zero]
  exact mul_nonneg h.1 (add_nonneg ((abs_nonneg _).trans hm) ((abs_nonneg _).trans hm))

/-- the same started from the initial value, as `c_armodel_sim` does (lag buffer `fl(ini - m)` at every lag):
the lags before the start of the series are the EXACT `ini - m` -/
theorem kernel_recursion_rounded_from_ini {u : F} (h : StdModel rnd u) (ps : Vector (Fl rnd) q) (m ini : Fl rnd)
    (es : List (Option (Fl rnd))) (S : F)
    (hm : |m.val| ≤ S) (hi : |ini.val| ≤ S) (he : ∀ e ∈ es, |z0 e| ≤ S)
    (hb : ∀ n k (hk : k < q), |(simBuf nf ps (Vector.replicate q (ini - m)) (es.take n))[k].val| ≤ S) :
    ∀ d ∈ recDefects ps m.val (Vector.replicate q (ini.val - m.val)) (es.map z0)
        ((simRun nf ps m (Vector.replicate q (ini - m)) es).map Fl.val),
      |d| ≤ (1 + absSum ps) * ((1 + u) ^ (2 * q) - 1 + 2 * u) * S := by
  rw [← G_pow]
  refine recursion_run h ps m S hm es _ _ (fun k hk => ?_) he hb
  rw [Vector.getElem_replicate, Vector.getElem_replicate, Fl.sub_val, abs_sub_comm]
  exact one_rounding h ((abs_sub _ _).trans (add_le_add hi hm))

end rounding

/-- IEEE double rounding without range limits is an instance of the standard model, `u = 2^-53` -/
theorem double_rounding_is_standard_model : StdModel rnd53 ((2 : ℚ) ^ (-53 : ℤ)) :=
  ⟨(zpow_pos (by norm_num) _).le, rnd53_err⟩

/-- hence, in the arithmetic of the real kernels (nothing leaving the normal range): -/
theorem kernel_residual_sim_double {q : Nat} (ps : Vector (Fl rnd53) q) (m : Fl rnd53)
    (buf : Vector (Fl rnd53) q) (es : List (Option (Fl rnd53))) (S : ℚ)
    (hm : |m.val| ≤ S) (he : ∀ e ∈ es, |z0 e| ≤ S)
    (hb : ∀ n k (hk : k < q), |(simBuf nf ps buf (es.take n))[k].val| ≤ S)
    (t : Nat) (r : Fl rnd53) (e : Option (Fl rnd53))
    (hr : (resRun nf ps m buf ((simRun nf ps m buf es).map some))[t]? = some r) (het : es[t]? = some e) :
    |r.val - z0 e| ≤ 2 * (1 + absSum ps) * ((1 + (2 : ℚ) ^ (-53 : ℤ)) ^ (2 * q + 2) - 1) * S :=
  kernel_residual_sim_rounded double_rounding_is_standard_model ps m buf es S hm he hb t r e hr het

/-- order 1, ANY arithmetic in which `0 + x = x` and `x - x = 0` for finite `x` (IEEE double included, no
other law needed) and any `isnan`: the residual at a missing input is EXACTLY zero (for order ≥ 2 the
ascending prediction and the descending subtraction round differently: zero up to rounding only) -/
theorem residual_zero_at_missing_order1_any_arithmetic {β : Type} [Add β] [Sub β] [Mul β] [OfNat β 0]
    (nan : β → Bool) (fin : β → Prop) (h0 : ∀ x : β, 0 + x = x) (hs : ∀ x, fin x → x - x = 0)
    (ps : Vector β 1) (m : β) (xs : List (Option β)) (buf : Vector β 1) (t : Nat)
    (ht : xs[t]? = some none) (hfin : fin (ps[0] * (resBuf nan ps m buf (xs.take t))[0])) :
    (resRun nan ps m buf xs)[t]? = some 0 := by
  -- residual number `t` is one step on the lag buffer its predecessors left: prediction `0 + φ b`, then `- φ b`
  rw [(resTrace nan ps m).outs_getElem?, ht]
  simp only [Option.map_some, resStep, centred, predLoop, resLoop, Nat.sub_self, h0]
  exact congrArg some (hs _ hfin)

/-! The `Float` instance of the very same model text is executed by the driver and compared bit for bit with the
kernels; the statements below say what the property means at `Float`: rounding budgets, first order in
`u = 2⁻⁵³`, with the constant `8(p+4)u` of the harness oracle, but the scale taken once over the whole run (the oracle
takes it step by step) and without the oracle's absolute floor `1e-318`.  They are not theorems: Lean's `Float`
is opaque to the kernel.  What IS proved about rounding: `kernel_recursion_rounded`, `kernel_residual_sim_rounded`
(any arithmetic meeting the standard model) and `double_rounding_is_standard_model` (`rnd53`, the rounding the
driver runs value for value against the real kernels) — i.e. the first two statements below for IEEE double
arithmetic without overflow / underflow, with the explicit constants of those theorems.  The third (`sim(residual y)`,
errors amplified by the impulse response) is stated only. -/

def maxAbs (xs : List Float) : Float := xs.foldl (fun a x => if a < x.abs then x.abs else a) 0
def sumAbs (xs : List Float) : Float := xs.foldl (fun a x => a + x.abs) 0
/-- `8 (p+4) u (1+Σ|φ|) (max|y| + |m| + |ini| + max|e|)` -/
def floatBudget (ps : List Float) (m ini : Float) (es ys : List Float) : Float :=
  8 * (ps.length + 4).toFloat * 1.1102230246251565e-16 * (1 + sumAbs ps) *
    (maxAbs ys + m.abs + ini.abs + maxAbs es)
def allFinite (xs : List Float) : Prop := ∀ x ∈ xs, x.isFinite = true
/-- `Σ_k φ[k]·(y[t-(k+1)] - m)` in the order of the list -/
def floatLagSum (ps ys : List Float) (m ini : Float) (t : Nat) : Float :=
  ps.zipIdx.foldl (fun acc φk => acc + φk.1 * (past ys ini t φk.2 - m)) 0

/-- the recursion at `Float`, one step at a time, within the budget.  Hypotheses: finite inputs and outputs; that
`floatLagSum`, which adds in ascending order where the kernel adds in descending order, does not overflow is NOT among them -/
def float_recursion_statement : Prop :=
  ∀ (ps : List Float) (m ini : Float) (es ys : List Float),
    1 ≤ ps.length → ps.length ≤ 10 → allFinite ps → allFinite es → m.isFinite = true → ini.isFinite = true →
    sim Float.isNaN (ps.map some) (some m) (some ini) (es.map some) = .ok ys → allFinite ys →
    ∀ (t : Nat) (h1 : t < ys.length) (h2 : t < es.length),
      ((ys[t] - m) - (floatLagSum ps ys m ini t + es[t])).abs ≤ floatBudget ps m ini es ys

/-- `residual (sim e) = e` at `Float`, within the budget (the residual kernel is a finite filter of `y`:
rounding errors are not amplified).  Finite inputs and simulated values; the residuals are not asked to be finite -/
def float_residual_sim_statement : Prop :=
  ∀ (ps : List Float) (m ini : Float) (es ys rs : List Float),
    allFinite ps → allFinite es → m.isFinite = true → ini.isFinite = true →
    sim Float.isNaN (ps.map some) (some m) (some ini) (es.map some) = .ok ys → allFinite ys →
    residual Float.isNaN (ps.map some) (some m) (some ini) (ys.map some) = .ok rs →
    ∀ (t : Nat) (h1 : t < rs.length) (h2 : t < es.length),
      (rs[t] - es[t]).abs ≤ floatBudget ps m ini es ys

/-- `sim (residual y) = y` at `Float`: the one-step budget amplified by the absolute impulse response of
the AR model (`sim` on `|φ|` with a unit impulse, summed), as the errors travel through the recursion -/
def float_sim_residual_statement : Prop :=
  ∀ (ps : List Float) (m ini : Float) (ys rs zs ψ : List Float),
    allFinite ps → allFinite ys → m.isFinite = true → ini.isFinite = true →
    residual Float.isNaN (ps.map some) (some m) (some ini) (ys.map some) = .ok rs → allFinite rs →
    sim Float.isNaN (ps.map some) (some m) (some ini) (rs.map some) = .ok zs →
    sim Float.isNaN (ps.map fun φ => some φ.abs) (some 0) (some 0)
      ((List.range ys.length).map fun j => some (if j = 0 then 1 else 0)) = .ok ψ →
    ∀ (t : Nat) (h1 : t < zs.length) (h2 : t < ys.length),
      (zs[t] - ys[t]).abs ≤ (1 + sumAbs ψ) * floatBudget ps m ini rs ys

example : sim nf [some (2 : ℤ), some (-1)] (some 5) (some 10) [some 1, none, some 2, some (-1)]
    = .ok [11, 12, 15, 17] := by rfl
example : residual nf [some (2 : ℤ), some (-1)] (some 5) (some 10) [some 11, some 12, some 15, some 17]
    = .ok [1, 0, 2, -1] := by rfl
example : residual nf [some (2 : ℤ), some (-1)] (some 5) (some 10) [some 11, none, some 10, none]
    = .ok [1, 0, -3, 0] := by rfl
example : (1 : Nat) ≤ [some (2 : ℤ), some (-1)].length ∧ [some (2 : ℤ), some (-1)].length ≤ 10 := by decide
example : sim nf ([] : List (Option ℤ)) (some 0) (some 0) [some 1] = .error .badOrder := by rfl
example : sim nf [some (1 : ℤ), none] (some 0) (some 0) [some 1] = .error .nanParam := by rfl
example : past [11, 12, 15, (17 : ℤ)] 10 2 0 = 12 ∧ past [11, 12, 15, (17 : ℤ)] 10 2 1 = 11
    ∧ past [11, 12, 15, (17 : ℤ)] 10 2 2 = 10 := by decide
/-- `hm` of `wrapper_residual_sim` is satisfiable both ways -/
example : ((some (some (5 : ℤ)) : Option (Option ℤ)) ≠ none ∨ (none : Option ℤ) = some 0) := by simp
example : ((none : Option (Option ℤ)) ≠ none ∨ (some (0 : ℤ)) = some 0) := by simp
/-- hypotheses of `wrapper_sim_recursion`: defaults give `m = 0`, `ini = m`; explicit values are themselves -/
example : resolveMean (some (0 : ℤ)) none = some 0 ∧ resolveIni (some (0 : ℤ)) none = some 0 := ⟨rfl, rfl⟩
example : resolveMean (some (0 : ℤ)) (some (some 5)) = some 5 ∧ resolveIni (some (5 : ℤ)) (some (some 10)) = some 10 :=
  ⟨rfl, rfl⟩
example : resolveMean (some (0 : ℤ)) (some (some 5)) = some 5 ∧ resolveIni (some (5 : ℤ)) none = some 5 := ⟨rfl, rfl⟩
example : ∀ x ∈ ([] : List (Option ℚ)), x = none := by simp
example : ∀ x ∈ ([none, none] : List (Option ℚ)), x = none := by simp
example : ∃ v, some v ∈ [none, some (3 : ℚ), none] := ⟨3, by simp⟩
example : sim nf [some (2 : ℤ), some (-1)] (scaleOpt 3 (some 5)) (scaleOpt 3 (some 10))
    ([some 1, none, some 2, some (-1)].map (scaleOpt 3)) = .ok [33, 36, 45, 51] := by rfl
example : sim nf [some (2 : ℤ), some (-1)] (some (5 + 7)) (some (10 + 7)) [some 1, none, some 2, some (-1)]
    = .ok [18, 19, 22, 24] := by rfl
example : addInnov [some (1 : ℤ), none] [none, some 2] = [some 1, some 2] := by rfl
example : run nf { params := [some (2 : ℤ), some (-1)], series := [some 1, none, some 2, some (-1)], last := none }
    [.callSim (some (some 5)) (some (some 10)), .setParam 0 none, .callSim (some (some 5)) (some (some 10)),
     .setParam 0 (some 2), .feedBack, .callRes none (some (some 5)) (some (some 10)), .newParams [],
     .callRes none (some (some 5)) (some (some 10))]
    = [some (.ok [11, 12, 15, 17]), none, some (.error .nanParam), none, none, some (.ok [1, 0, 2, -1]), none,
       some (.error .badOrder)] := by rfl
/-- hypothesis `hf` of `history_inverse`: operations that are rejected in every state exist (here: a call whose
mean argument is NaN) -/
example : ∀ s : St ℤ, ∃ e, (step nf s (.callSim (some none) none)).2 = some (.error e) := by
  intro s
  show ∃ e, some (sim nf s.params none none s.series) = some (.error e)
  cases h : sim nf s.params none none s.series with
  | error e => exact ⟨e, rfl⟩
  | ok ys => exact absurd rfl ((accepts_iff nf s.params none none s.series).1.mp ⟨ys, h⟩).2.2.2.1
/-- the dead `isnan` test: hypothesis met by an `isnan` that fires on a value never computed -/
example : ∀ x, some x ∈ [some (11 : ℤ), some 12] → (fun v : ℤ => v == 1000) (x - 5) = false := by
  intro x hx; simp at hx; rcases hx with rfl | rfl <;> rfl
/-- a rounding that is not the identity and meets the standard model: every result 0.1 % too large -/
example : StdModel (fun x : ℚ => x * (1 + 1 / 1000)) (1 / 1000) := stdModel_inflate (by norm_num)
/-- all hypotheses of `kernel_residual_sim_rounded` / `kernel_recursion_rounded` at once, on a run in which every
operation does round (order 1, φ = 1/2, one innovation, `S = 2`) -/
example : ∀ r, (resRun nf (#v[(⟨1 / 2⟩ : Fl (fun x : ℚ => x * (1 + 1 / 1000)))]) ⟨0⟩ (#v[⟨0⟩])
      ((simRun nf (#v[(⟨1 / 2⟩ : Fl (fun x : ℚ => x * (1 + 1 / 1000)))]) ⟨0⟩ (#v[⟨0⟩]) [some ⟨1⟩]).map some))[0]? = some r →
    |r.val - 1| ≤ 2 * (1 + absSum (#v[(⟨1 / 2⟩ : Fl (fun x : ℚ => x * (1 + 1 / 1000)))])) *
      ((1 + 1 / 1000) ^ (2 * 1 + 2) - 1) * 2 := by
  intro r hr
  refine kernel_residual_sim_rounded (stdModel_inflate (by norm_num)) _ _ _ [some ⟨1⟩] 2 ?_ ?_ ?_ 0 r (some ⟨1⟩) hr rfl
  · exact (abs_zero (α := ℚ)).trans_le zero_le_two
  · intro e he
    rw [List.mem_singleton.mp he]
    exact (abs_one (α := ℚ)).trans_le one_le_two
  · intro n k hk
    obtain rfl : k = 0 := Nat.lt_one_iff.mp hk
    rcases n with _ | n
    · exact (abs_zero (α := ℚ)).trans_le zero_le_two
    · rw [List.take_succ_cons, List.take_nil]
      -- the lag buffer after the one step: `fl(1 + fl(1/2 · 0))`
      show |((1 : ℚ) + (1 / 2 * 0) * (1 + 1 / 1000)) * (1 + 1 / 1000)| ≤ 2
      norm_num [abs_le]
/-- the hypotheses of `kernel_recursion_rounded_from_ini` on the same kind of run (mean 1, initial value 2) -/
example : ∀ d ∈ recDefects (#v[(⟨1 / 2⟩ : Fl (fun x : ℚ => x * (1 + 1 / 1000)))]) 1 (Vector.replicate 1 ((2 : ℚ) - 1)) [1]
      ((simRun nf (#v[(⟨1 / 2⟩ : Fl (fun x : ℚ => x * (1 + 1 / 1000)))]) ⟨1⟩ (Vector.replicate 1 ((⟨2⟩ : Fl _) - ⟨1⟩))
        [some ⟨1⟩]).map Fl.val),
    |d| ≤ (1 + absSum (#v[(⟨1 / 2⟩ : Fl (fun x : ℚ => x * (1 + 1 / 1000)))])) * ((1 + 1 / 1000) ^ (2 * 1) - 1 + 2 * (1 / 1000)) * 2 := by
  refine kernel_recursion_rounded_from_ini (stdModel_inflate (by norm_num)) _ ⟨1⟩ ⟨2⟩ [some ⟨1⟩] 2 ?_ ?_ ?_ ?_
  · exact (abs_one (α := ℚ)).trans_le one_le_two
  · exact (abs_two (α := ℚ)).le
  · intro e he
    rw [List.mem_singleton.mp he]
    exact (abs_one (α := ℚ)).trans_le one_le_two
  · intro n k hk
    obtain rfl : k = 0 := Nat.lt_one_iff.mp hk
    rcases n with _ | n
    · -- the starting lag buffer `fl(2 - 1)`, then the buffer after the one step
      show |((2 : ℚ) - 1) * (1 + 1 / 1000)| ≤ 2
      norm_num [abs_le]
    · rw [List.take_succ_cons, List.take_nil]
      show |((1 : ℚ) + (1 / 2 * (((2 : ℚ) - 1) * (1 + 1 / 1000))) * (1 + 1 / 1000)) * (1 + 1 / 1000)| ≤ 2
      norm_num [abs_le]
/-- order 1 in plain integer arithmetic: the hypotheses of `residual_zero_at_missing_order1_any_arithmetic` -/
example : (resRun (fun _ : ℤ => false) (#v[3]) 5 (#v[2]) [some 9, none, some 4])[1]? = some 0 :=
  residual_zero_at_missing_order1_any_arithmetic (fun _ => false) (fun _ => True) (by intro x; simp)
    (by intro x _; simp) _ _ _ _ 1 rfl trivial
example : simRun nf (toVec [(2 : ℤ), -1]) 5 (Vector.replicate 2 5) ([some 1, none] ++ [some 2, some (-1)])
    = [11, 12] ++ simRun nf (toVec [(2 : ℤ), -1]) 5 (simBuf nf (toVec [(2 : ℤ), -1]) (Vector.replicate 2 5) [some 1, none])
        [some 2, some (-1)] := by rfl

end HydroVerif.C17
