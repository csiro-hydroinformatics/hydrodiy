/-
C08 — property theorems (only). Model: `HydroVerif/Model/C08.lean`; specification vocabulary (Mathlib-free, executed by
the driver): `HydroVerif/Model/C08Spec.lean`; loop invariants and helper lemmas: `HydroVerif/Lemmas/C08.lean`,
`C08Buf.lean` (buffers, histories), `C08Cal.lean` (calendar days, daily Series), `C08Round.lean` (rounding),
`C08Stamp.lean` (time stamps as a mixed-radix code), `C08Sample.lean` (the roundings of the `example`s).
The theorems are followed, singly or by family, by `example`s applying them to (or evaluating the model on) concrete
non-trivial inputs over ℚ (or over the round-down arithmetic `Fl floorRounding`), so that their hypotheses are seen to be
satisfiable. Every model function AND every
specification function named below runs in the driver and is compared with the real code (requests `agg`, `aggspec`,
`aggbuf`, `aggw`, `aggwb`, `aggwf`, `pyxagg`, `homog`, `homogspec`, `homogbuf`, `homogw`, `homogwb`, `pyxhomog`, `hist`,
`aggindex`, `stampinfo`, `m2d`, `m2ds` of harness/c08.py).

Vocabulary used in the statements (defined in `Model/C08Spec.lean`, independent of the kernels' loops):
* `keys l`        the distinct index values in order of first appearance (`eraseDups` of the index column);
* `groupOf l k`   the inputs whose index is `k`, in order (`filter`);
* `vals g`, `nmiss g`  the non-missing values / the number of missing values of a group;
* `reduce op maxnan g` `none` (NaN) when `nmiss g > maxnan`, else `red op (vals g)` with
  `red 0 = sumL` (sum from the left), `red 1 = sumL / length`, `red 2 = maxOf`, `red 3 = getLast` (0 for an empty list);
  over an ordered field `sumL = List.sum` and `maxOf = List.maximum` (`red_sum_spec`, `red_max_spec`, Lemmas `red_eq`);
* `cell maxnan g x`    what flathomogen writes at an entry `x` of group `g`;
* `aggregateSpec`, `aggregatePerGroup`, `flathomogenSpec`, `flathomogenPerGroup`  the right-hand sides as functions.
Field theorems hold for every ordered field `α` (ℚ, ℝ, …); `_any_carrier` theorems assume no arithmetic law at all;
`_of_add_zero` theorems assume only `x + 0 = x`; `_rounded` / `rounded_*` theorems are over `Fl R`, the representable
numbers of a monotone idempotent rounding `R.rnd` with `rnd 0 = 0` (`a + b := rnd (a + b)` …) — true of IEEE doubles.

Clause → theorems → what stays outside
| clause of the property | theorems | outside (trusted / compared only) |
|---|---|---|
| non-decreasing index, any input: one value per distinct index value, in order | `aggregate_spec`, `aggregate_spec_of_add_zero`, `aggregate_spec_rounded`, `keys_strictly_increasing`, `mem_keys`, `aggregate_length`, `groups_partition`, `aggregate_per_group(_any_carrier)`, `aggregate_ok_iff`; in the caller's buffers `cAggregate_on_nondecreasing` (`iend` = number of keys, tail untouched); through the wrapper `aggregateW_eq_aggregate`, `aggregateW_spec`, `aggregateWB_eq_aggregateW`, `wrap32_id`; from time stamps `aggIndex_nondecreasing`, `computeAggindex_nondecreasing`, `aggregateW_on_time_index`, `aggregateW_on_compute_aggindex`; float index `aggregateWF_accepts_nondecreasing` | numpy `astype` / Cython buffer acquisition (compared bit-exact) |
| … equal to the sum, mean, maximum or last value of the non-missing inputs of the group | `aggregate_spec` + `red_sum_spec`, `red_mean_spec`, `red_max_spec`, `red_last_spec`; exact in floating point: `aggregate_spec_max_tail_any_carrier`, `maxOf_spec_linear_order`, `flush_tail_any_carrier`; rounded sum / mean: `rounded_sum_nonneg_dominates`, `rounded_mean_nonneg`, `rounded_sum_mono`, `rounded_sum_exact`, `rounded_sum_error_bound`, `rounded_sum_error_budget` | overflow to ±inf (executed, not modelled); all-missing groups reduce to 0 (only the sum is constrained there) |
| … or NaN when the group holds more than maxnan missing values; maxnan 0 … beyond the length | `reduce_eq_none_iff`, `flush_isNone_any_carrier`, `aggregate_never_nan_of_maxnan_ge_length`, `aggregate_all_nan_of_negative_maxnan` | — |
| operators 0..3 | `aggregate_spec`; outside the range: `aggregate_negative_operator_is_sum`, `aggregate_operator_above_3_is_zero`, `wrappers_reject_non_int32_arguments` | codes outside 0..3 accepted by the code, not constrained |
| flathomogen: non-missing ↦ group mean, missing kept | `flathomogen_spec`, `flathomogen_spec_of_add_zero`, `flathomogen_spec_rounded`, `flathomogen_pointwise`, `flathomogen_per_group_any_carrier`, `flathomogenW_eq_flathomogen`, `flathomogenWB_eq_flathomogenW`, `cFlathomogen_on_nondecreasing`, `flathomogen_ok_iff` | groups beyond maxnan are all-NaN (text silent; counter-`example` after `flathomogen_group_total`) |
| aggregated sums add up to the sum of the inputs | `aggregate_sum_conserved`, `aggregate_sum_conserved_general`, `aggregate_sum_conserved_of_maxnan_ge`; up to rounding `rounded_totals_conserved_within` | overflow |
| flathomogen preserves each group's total | `flathomogen_group_total` | rounding |
| monthly2daily (flat or cubic): one value per calendar day, monthly sums = inputs | per month: `m2d_spec`, `m2dFlat_spec`, `flatMonth_spec`, `m2dCubic_spec`, `cubicMonth_spec`; the returned daily Series with its day stamps: `m2dSeries_eq_stamped`, `m2dSeries_spec`, `daysFrom_covers_months`, `nextDay_spec`; calendar `ndaysAt_range`, `monthAt_zero`, `monthAt_succ`, `days_in_year`, `isLeap_iff`; why non-negative: `flatMonth_negative_masked` | pandas `date_range` / `resample` / `days_in_month` agree with the model's Gregorian calendar (compared stamp by stamp on every series; oracle uses python `calendar`), `np.dot`/`polyval` rounding |
| a decreasing index is rejected with an error | `aggregate_rejects_decreasing`, `flathomogen_rejects_decreasing`, `*_ok_iff`, `not_sorted_iff_adjacent_decrease`, `*_rejects_decreasing_any_carrier`; in the buffers `cAggregate_on_error`, `cFlathomogen_on_error` (`iend` untouched, tail untouched) | code → ValueError translation (compared) |
| histories on one set of arrays (the harness's history stream) | `histRun_arguments`, `histRun_answer`, `histStep_rejected_changes_nothing`, `histStep_keeps_earlier_results`, `histRun_call_repeatable` | numpy copies (`astype`, `0.*inputs`) are what makes the model's purity true: compared by replaying whole histories |
| glue outside the quantifier | `wrappers_reject_length_mismatch`, `kernels_reject_empty`, `pyx_rejects_mismatched_buffers`, `wrap32_range`, `castIdx_mono`, `castIdx_intCast`, `aggregateWF_on_integer_valued_index`, `parseStep_accepts`, `parseStep_ASm_range`, `chrono_iff_pairwise`, `aggIndex_mono`, `aggIndex_*_eq_iff`, `aggIndex_ASm`, `aggIndexRaw_fits_int32`, `aggIndex_fits_int32`, `aggIndex_H_wraps_beyond_2147`, `m2d_rejects_other_interpolation` | list / Series / 2-D inputs (numpy conversion, Cython buffer checks) not modelled; a float index beyond int32 / NaN casts to INT_MIN on x86-64 (modelled as such, platform behaviour) |
Nothing is left as `_statement` / `_partial`.
-/
import HydroVerif.Lemmas.C08
import HydroVerif.Lemmas.C08Buf
import HydroVerif.Lemmas.C08Cal
import HydroVerif.Lemmas.C08Round
import HydroVerif.Lemmas.Round
import HydroVerif.Lemmas.C08Stamp
import HydroVerif.Lemmas.C08Sample
import Mathlib.Algebra.Order.Field.Rat
import Mathlib.Data.Rat.Floor

namespace HydroVerif.C08

/-- sample input of the `example`s: negative values, a NaN inside a group and at the end of a group -/
local notation "ℓ₀" => ([(1, some (-3)), (1, none), (1, some (-1)), (2, some 5), (2, none)] : List (Int × Option ℚ))

section agg
-- several statements of this file do not use every class of the section they stand in (`reduce_eq_none_iff`,
-- `aggregate_per_group`, `red_last_spec`, … need no order): the linter that reports it is silenced, here and below
set_option linter.unusedSectionVars false
variable {α : Type} [Field α] [LinearOrder α] [IsStrictOrderedRing α]

theorem keys_strictly_increasing {β : Type} (l : List (Int × β))
    (hs : (l.map Prod.fst).Pairwise (· ≤ ·)) : (keys l).Pairwise (· < ·) := by
  unfold keys
  -- strong induction on the length: `eraseDups` recurses on the FILTERED tail, not on the tail
  generalize hn : (l.map Prod.fst).length = n
  generalize l.map Prod.fst = xs at hs hn
  induction n using Nat.strong_induction_on generalizing xs with
  | _ n ih =>
    cases xs with
    | nil => simp
    | cons i tl =>
      rw [List.eraseDups_cons, List.pairwise_cons]
      rw [List.pairwise_cons] at hs
      constructor
      · intro b hb
        rw [List.mem_eraseDups, List.mem_filter] at hb
        have h1 := hs.1 b hb.1
        have h2 : b ≠ i := by simpa using hb.2
        omega
      · have hlen : (tl.filter fun b => !b == i).length < n := by
          have := List.length_filter_le (fun b => !b == i) tl
          simp only [List.length_cons] at hn
          omega
        exact ih _ hlen _ (hs.2.filter _) rfl

example : (keys ℓ₀).Pairwise (· < ·) := keys_strictly_increasing ℓ₀ (by decide +kernel)

theorem mem_keys {β : Type} (l : List (Int × β)) (k : Int) : k ∈ keys l ↔ ∃ p ∈ l, p.1 = k := by
  rw [keys, List.mem_eraseDups, List.mem_map]

example : (2 : Int) ∈ keys ℓ₀ := (mem_keys ℓ₀ 2).mpr ⟨(2, some 5), by decide +kernel, rfl⟩

theorem red_max_spec (v : List α) (hv : v ≠ []) : red 2 v ∈ v ∧ ∀ x ∈ v, x ≤ red 2 v :=
  maxOf_mem_and_ge v hv

example : red 2 ([-3, -1] : List ℚ) ∈ [-3, -1] ∧ ∀ x ∈ ([-3, -1] : List ℚ), x ≤ red 2 [-3, -1] :=
  red_max_spec _ (List.cons_ne_nil _ _)

theorem red_last_spec (v : List α) (hv : v ≠ []) : red 3 v = v.getLast hv := by
  simp [red_eq, List.getLast?_eq_getLast_of_ne_nil hv]

example : red 3 ([-3, -1] : List ℚ) = -1 := by rw [red_last_spec _ (List.cons_ne_nil _ _)]; rfl

theorem red_mean_spec (v : List α) (hv : v ≠ []) : red 1 v * (v.length : α) = v.sum := by
  have : (v.length : α) ≠ 0 := by
    have : 0 < v.length := List.length_pos_iff.mpr hv
    exact_mod_cast this.ne'
  simp [red_eq, hv]

example : red 1 ([-3, -1] : List ℚ) * (([-3, -1] : List ℚ).length : ℚ) = ([-3, -1] : List ℚ).sum :=
  red_mean_spec _ (List.cons_ne_nil _ _)

theorem red_sum_spec (v : List α) : red 0 v = v.sum := sumL_eq_sum v

/-- **aggregate reduces by group**: for a non-decreasing index, every operator 0..3 and every `maxnan`,
the result is one value per distinct index value, in order, equal to the reduction of the non-missing
inputs of that group, or NaN when the group holds more than `maxnan` missing values -/
theorem aggregate_spec (op maxnan : Int) (h0 : 0 ≤ op) (h3 : op ≤ 3) (l : List (Int × Option α))
    (hne : l ≠ []) (hs : (l.map Prod.fst).Pairwise (· ≤ ·)) :
    aggregate op maxnan l = .ok ((keys l).map fun k => reduce op maxnan (groupOf l k)) :=
  aggregate_eq_map op maxnan _ (flush_accOf op maxnan h0 h3 fun _ => add_zero) l hne hs

example : aggregate 2 1 ℓ₀ = .ok ((keys ℓ₀).map fun k => reduce 2 1 (groupOf ℓ₀ k)) :=
  aggregate_spec 2 1 (by decide) (by decide) ℓ₀ (List.cons_ne_nil _ _) (by decide +kernel)
example : aggregate 2 1 ℓ₀ = .ok [some (-1), some 5] := by decide +kernel

theorem aggregate_per_group (op maxnan : Int) (l : List (Int × Option α)) (hne : l ≠ [])
    (hs : (l.map Prod.fst).Pairwise (· ≤ ·)) :
    aggregate op maxnan l = .ok ((keys l).map fun k => flush op maxnan (accOf op (groupOf l k))) :=
  (aggregate_eq op maxnan l).trans (onSorted_ok _ hne hs)

theorem reduce_eq_none_iff (op maxnan : Int) (g : List (Option α)) :
    reduce op maxnan g = none ↔ maxnan < (nmiss g : Int) := by
  unfold reduce
  split <;> simp_all

example : reduce (α := ℚ) 1 1 [some 2, none, none] = none ∧ reduce (α := ℚ) 1 2 [some 2, none, none] = some 2 := by
  decide +kernel

/-- `maxnan` from 0 to beyond the group length: once `maxnan` reaches the length of the series no group is
ever turned into NaN, whatever its content -/
theorem aggregate_never_nan_of_maxnan_ge_length (op maxnan : Int) (h0 : 0 ≤ op) (h3 : op ≤ 3)
    (l : List (Int × Option α)) (hne : l ≠ []) (hs : (l.map Prod.fst).Pairwise (· ≤ ·))
    (hm : (l.length : Int) ≤ maxnan) :
    ∃ out, aggregate op maxnan l = .ok out ∧ ∀ o ∈ out, o ≠ none := by
  refine ⟨_, aggregate_spec op maxnan h0 h3 l hne hs, ?_⟩
  intro o ho
  obtain ⟨k, _, rfl⟩ := List.mem_map.mp ho
  have h1 : nmiss (groupOf l k) ≤ (groupOf l k).length := List.countP_le_length
  have h2 : (groupOf l k).length ≤ l.length := by
    unfold groupOf; rw [List.length_map]; exact List.length_filter_le _ _
  intro hnone
  have := (reduce_eq_none_iff op maxnan _).mp hnone
  omega

example : ∃ out, aggregate 1 5 ℓ₀ = .ok out ∧ ∀ o ∈ out, o ≠ none :=
  aggregate_never_nan_of_maxnan_ge_length 1 5 (by decide) (by decide) ℓ₀ (List.cons_ne_nil _ _) (by decide +kernel) (by decide)

/-- a negative `maxnan` (outside the property's range, accepted by the code) turns every group into NaN -/
theorem aggregate_all_nan_of_negative_maxnan (op maxnan : Int) (h0 : 0 ≤ op) (h3 : op ≤ 3)
    (l : List (Int × Option α)) (hne : l ≠ []) (hs : (l.map Prod.fst).Pairwise (· ≤ ·)) (hm : maxnan < 0) :
    aggregate op maxnan l = .ok ((keys l).map fun _ => none) := by
  rw [aggregate_spec op maxnan h0 h3 l hne hs]
  congr 1
  apply List.map_congr_left
  intro k _
  exact (reduce_eq_none_iff op maxnan _).mpr (by omega)

example : aggregate 0 (-1) ℓ₀ = .ok [none, none] := by decide +kernel

/-- operator codes outside 0..3 are outside the property but accepted by the code -/
theorem aggregate_negative_operator_is_sum (op maxnan : Int) (hop : op < 0) (l : List (Int × Option α))
    (hne : l ≠ []) (hs : (l.map Prod.fst).Pairwise (· ≤ ·)) :
    aggregate op maxnan l = .ok ((keys l).map fun k => reduce 0 maxnan (groupOf l k)) := by
  refine aggregate_eq_map op maxnan _ (fun g => ?_) l hne hs
  -- a negative code takes the summing branch of the fold and is not the mean
  simp only [flush, accOf_eq, if_pos (show op ≤ 1 by omega), sumL_fill_zero (α := α) add_zero,
    show ¬ (op = 1 ∧ 0 < (vals g).length) from fun h => by omega, if_false]
  rfl

theorem aggregate_operator_above_3_is_zero (op maxnan : Int) (hop : 3 < op) (l : List (Int × Option α))
    (hne : l ≠ []) (hs : (l.map Prod.fst).Pairwise (· ≤ ·)) :
    aggregate op maxnan l =
      .ok ((keys l).map fun k => if maxnan < (nmiss (groupOf l k) : Int) then none else some 0) := by
  refine aggregate_eq_map op maxnan (fun g => if maxnan < (nmiss g : Int) then none else some 0) (fun g => ?_) l hne hs
  -- a code above 3 falls through every branch of the fold: the accumulator keeps its initial 0
  simp only [flush, accOf_eq, if_neg (show ¬ op ≤ 1 by omega), if_neg (show ¬ op = 2 by omega),
    if_neg (show ¬ op = 3 by omega), show ¬ (op = 1 ∧ 0 < (vals g).length) from fun h => by omega, if_false]

example : aggregate (-1) 1 ℓ₀ = .ok [some (-4), some 5] ∧ aggregate 7 1 ℓ₀ = .ok [some 0, some 0] := by
  decide +kernel

/-- an aggregation index that decreases anywhere is rejected with the decreasing-index error -/
theorem aggregate_rejects_decreasing (op maxnan : Int) (l : List (Int × Option α)) (hne : l ≠ [])
    (hs : ¬ (l.map Prod.fst).Pairwise (· ≤ ·)) :
    aggregate op maxnan l = .error .decreasingIndex :=
  (aggregate_eq op maxnan l).trans (onSorted_err _ hne hs)

example : aggregate (α := ℚ) 1 0 [(2, some 1), (1, some 2)] = .error .decreasingIndex :=
  aggregate_rejects_decreasing 1 0 _ (List.cons_ne_nil _ _) (by decide +kernel)

/-- nothing else is rejected: in particular the `count >= nval` guard of the kernel can never fire -/
theorem aggregate_ok_iff (op maxnan : Int) (l : List (Int × Option α)) (hne : l ≠ []) :
    (∃ out, aggregate op maxnan l = .ok out) ↔ (l.map Prod.fst).Pairwise (· ≤ ·) := by
  rw [aggregate_eq]; exact onSorted_ok_iff _ hne

example : ∃ out, aggregate 3 0 ℓ₀ = .ok out := (aggregate_ok_iff 3 0 ℓ₀ (List.cons_ne_nil _ _)).mpr (by decide +kernel)

theorem not_sorted_iff_adjacent_decrease (xs : List Int) :
    ¬ xs.Pairwise (· ≤ ·) ↔ ∃ i, ∃ h : i + 1 < xs.length, xs[i + 1] < xs[i] := by
  rw [← List.isChain_iff_pairwise, List.isChain_iff_getElem]
  simp only [not_forall, not_le]

example : ¬ ([1, 3, 2, 4] : List Int).Pairwise (· ≤ ·) :=
  (not_sorted_iff_adjacent_decrease _).mpr ⟨1, by decide, by decide⟩

theorem aggregate_length (op maxnan : Int) (l : List (Int × Option α)) (out : List (Option α))
    (hs : (l.map Prod.fst).Pairwise (· ≤ ·)) (h : aggregate op maxnan l = .ok out) :
    out.length = (keys l).length := by
  have hne : l ≠ [] := by rintro rfl; cases h
  cases (aggregate_per_group op maxnan l hne hs).symm.trans h
  exact List.length_map _

example : ([some (-1), some 5] : List (Option ℚ)).length = (keys ℓ₀).length :=
  aggregate_length 2 1 ℓ₀ [some (-1), some 5] (by decide +kernel) (by decide +kernel)

theorem groups_partition (l : List (Int × Option α)) (hs : (l.map Prod.fst).Pairwise (· ≤ ·)) :
    (keys l).flatMap (groupOf l) = l.map Prod.snd := by
  simpa [List.map_flatMap] using congrArg (List.map Prod.snd) (keyed_groups l hs)

example : (keys ℓ₀).flatMap (groupOf ℓ₀) = (ℓ₀).map Prod.snd := groups_partition ℓ₀ (by decide +kernel)

/-- totals in general: the non-NaN outputs add up to the non-missing inputs of exactly the groups that are
not turned into NaN (those holding at most `maxnan` missing values) -/
theorem aggregate_sum_conserved_general (maxnan : Int) (l : List (Int × Option α)) (out : List (Option α))
    (hs : (l.map Prod.fst).Pairwise (· ≤ ·)) (h : aggregate 0 maxnan l = .ok out) :
    (vals out).sum =
      (vals ((l.filter fun p => decide ((nmiss (groupOf l p.1) : Int) ≤ maxnan)).map Prod.snd)).sum := by
  have hne : l ≠ [] := by rintro rfl; cases h
  rw [aggregate_spec 0 maxnan le_rfl (by decide) l hne hs] at h
  cases h
  have := sum_vals_kept (fun k => decide ((nmiss (groupOf l k) : Int) ≤ maxnan)) (groupOf l) (keys l)
  rw [keyed_groups l hs] at this
  rw [← this]
  congr 2
  apply List.map_congr_left
  intro k _
  by_cases hk : maxnan < (nmiss (groupOf l k) : Int)
  · simp [reduce, hk]
  · simp [reduce, hk, not_lt.mp hk, red_eq]

-- maxnan = 0 on ℓ₀: both groups hold a NaN and become NaN, both sides of the identity are empty sums;
-- on the second input only group 1 becomes NaN and both sides are 5
example : aggregate 0 0 ℓ₀ = .ok [none, none] := by decide +kernel
example : aggregate (α := ℚ) 0 0 [(1, some 2), (1, none), (2, some 5)] = .ok [none, some 5] := by decide +kernel

/-- **totals are conserved**: when no group is turned into NaN the aggregated sums add up to the sum of
the non-missing inputs -/
theorem aggregate_sum_conserved (maxnan : Int) (l : List (Int × Option α)) (out : List (Option α))
    (hs : (l.map Prod.fst).Pairwise (· ≤ ·)) (h : aggregate 0 maxnan l = .ok out)
    (hall : ∀ o ∈ out, o ≠ none) : (vals out).sum = (vals (l.map Prod.snd)).sum := by
  rw [aggregate_sum_conserved_general maxnan l out hs h, List.filter_eq_self.mpr]
  intro p hp
  have hne : l ≠ [] := List.ne_nil_of_mem hp
  rw [aggregate_spec 0 maxnan le_rfl (by decide) l hne hs] at h
  cases h
  have := hall _ (List.mem_map.mpr ⟨p.1, (mem_keys l p.1).mpr ⟨p, hp, rfl⟩, rfl⟩)
  rw [ne_eq, reduce_eq_none_iff] at this
  exact decide_eq_true (by omega)

example : (vals ([some (-4), some 5] : List (Option ℚ))).sum = (vals ((ℓ₀).map Prod.snd)).sum :=
  aggregate_sum_conserved 1 ℓ₀ [some (-4), some 5] (by decide +kernel) (by decide +kernel) (by decide +kernel)

theorem aggregate_sum_conserved_of_maxnan_ge (maxnan : Int) (l : List (Int × Option α))
    (hne : l ≠ []) (hs : (l.map Prod.fst).Pairwise (· ≤ ·))
    (hm : (nmiss (l.map Prod.snd) : Int) ≤ maxnan) :
    ∃ out, aggregate 0 maxnan l = .ok out ∧ (∀ o ∈ out, o ≠ none) ∧
      (vals out).sum = (vals (l.map Prod.snd)).sum := by
  have h := aggregate_spec 0 maxnan le_rfl (by decide) l hne hs
  -- a group holds no more missing values than the whole series
  have hall : ∀ o ∈ (keys l).map fun k => reduce 0 maxnan (groupOf l k), o ≠ none := by
    intro o ho
    obtain ⟨k, _, rfl⟩ := List.mem_map.mp ho
    have hle : nmiss (groupOf l k) ≤ nmiss (l.map Prod.snd) := ((List.filter_sublist).map _).countP_le
    have : ¬ maxnan < (nmiss (groupOf l k) : Int) := by omega
    simp [reduce, this]
  exact ⟨_, h, hall, aggregate_sum_conserved maxnan l _ hs h hall⟩

example : ∃ out, aggregate 0 2 ℓ₀ = .ok out ∧ (∀ o ∈ out, o ≠ none) ∧ (vals out).sum = (vals ((ℓ₀).map Prod.snd)).sum :=
  aggregate_sum_conserved_of_maxnan_ge 2 ℓ₀ (List.cons_ne_nil _ _) (by decide +kernel) (by decide +kernel)

/-- **flathomogen**: for a non-decreasing index, every entry is rewritten from its own group only —
missing stays missing, a non-missing entry becomes the mean of the non-missing values of its group
(NaN when the group holds more than `maxnan` missing values) -/
theorem flathomogen_spec (maxnan : Int) (l : List (Int × Option α)) (hne : l ≠ [])
    (hs : (l.map Prod.fst).Pairwise (· ≤ ·)) :
    flathomogen maxnan l = .ok (l.map fun p => cell maxnan (groupOf l p.1) p.2) :=
  flathomogen_eq_spec maxnan (hcells_eq add_zero maxnan) l hne hs

example : flathomogen 1 ℓ₀ = .ok [some (-2), none, some (-2), some 5, none] := by decide +kernel
example : flathomogen 1 ℓ₀ = .ok ((ℓ₀).map fun p => cell 1 (groupOf ℓ₀ p.1) p.2) :=
  flathomogen_spec 1 ℓ₀ (List.cons_ne_nil _ _) (by decide +kernel)

theorem flathomogen_rejects_decreasing (maxnan : Int) (l : List (Int × Option α)) (hne : l ≠ [])
    (hs : ¬ (l.map Prod.fst).Pairwise (· ≤ ·)) :
    flathomogen maxnan l = .error .decreasingIndex :=
  (flathomogen_eq maxnan l).trans (onSorted_err _ hne hs)

example : flathomogen (α := ℚ) 1 [(2, some 1), (1, some 2)] = .error .decreasingIndex :=
  flathomogen_rejects_decreasing 1 _ (List.cons_ne_nil _ _) (by decide +kernel)

theorem flathomogen_ok_iff (maxnan : Int) (l : List (Int × Option α)) (hne : l ≠ []) :
    (∃ out, flathomogen maxnan l = .ok out) ↔ (l.map Prod.fst).Pairwise (· ≤ ·) := by
  rw [flathomogen_eq]; exact onSorted_ok_iff _ hne

example : ∃ out, flathomogen 0 ℓ₀ = .ok out := (flathomogen_ok_iff 0 ℓ₀ (List.cons_ne_nil _ _)).mpr (by decide +kernel)

theorem flathomogen_pointwise (maxnan : Int) (l : List (Int × Option α)) (out : List (Option α))
    (hs : (l.map Prod.fst).Pairwise (· ≤ ·)) (h : flathomogen maxnan l = .ok out) :
    out.length = l.length ∧
    ∀ (i : Nat) (hi : i < l.length) (ho : i < out.length),
      (l[i].2 = none → out[i] = none) ∧
      (∀ v, l[i].2 = some v → (nmiss (groupOf l l[i].1) : Int) ≤ maxnan →
        out[i] = some ((vals (groupOf l l[i].1)).sum / ((vals (groupOf l l[i].1)).length : α))) := by
  have hne : l ≠ [] := by rintro rfl; cases h
  rw [flathomogen_spec maxnan l hne hs] at h
  cases h
  refine ⟨by simp, ?_⟩
  intro i hi ho
  simp only [List.getElem_map]
  constructor
  · intro hx; simp [cell_eq, hx]
  · intro v hx hm
    have : ¬ maxnan < (nmiss (groupOf l l[i].1) : Int) := by omega
    simp [cell_eq, hx, this]

example : ([some (-2), none, some (-2), some 5, none] : List (Option ℚ)).length = (ℓ₀).length :=
  (flathomogen_pointwise 1 ℓ₀ [some (-2), none, some (-2), some 5, none] (by decide +kernel) (by decide +kernel)).1

/-- **flathomogen preserves each group's total** (groups within the NaN budget): the non-missing outputs
of a group add up to the non-missing inputs of that group -/
theorem flathomogen_group_total (maxnan : Int) (l : List (Int × Option α)) (out : List (Option α))
    (hs : (l.map Prod.fst).Pairwise (· ≤ ·)) (h : flathomogen maxnan l = .ok out) (k : Int)
    (hm : (nmiss (groupOf l k) : Int) ≤ maxnan) :
    (vals (groupOf ((l.map Prod.fst).zip out) k)).sum = (vals (groupOf l k)).sum := by
  have hne : l ≠ [] := by rintro rfl; cases h
  rw [flathomogen_spec maxnan l hne hs] at h
  cases h
  have hnot : ¬ maxnan < (nmiss (groupOf l k) : Int) := by omega
  have hgrp : groupOf ((l.map Prod.fst).zip (l.map fun p => cell maxnan (groupOf l p.1) p.2)) k =
      (groupOf l k).map (cell maxnan (groupOf l k)) := by
    rw [List.zip_map']
    unfold groupOf
    rw [List.filter_map, List.map_map, List.map_map]
    apply List.map_congr_left
    intro p hp
    have : p.1 = k := by simpa using (List.mem_filter.mp hp).2
    simp [this]
  have hc : cell maxnan (groupOf l k) =
      Option.map fun _ => (vals (groupOf l k)).sum / ((vals (groupOf l k)).length : α) := by
    funext x
    cases x <;> simp [cell_eq, hnot]
  rw [hgrp, hc, vals_map_map, List.map_const']
  exact sum_replicate_div _ _ fun h => by rw [List.length_eq_zero_iff.mp h, List.sum_nil]

-- group 1 holds one NaN ≤ maxnan = 1: outputs -2 + -2 = inputs -3 + -1
example : (vals (groupOf (((ℓ₀).map Prod.fst).zip [some (-2), none, some (-2), some 5, none]) 1)).sum =
    (vals (groupOf ℓ₀ 1)).sum :=
  flathomogen_group_total 1 ℓ₀ [some (-2), none, some (-2), some 5, none] (by decide +kernel) (by decide +kernel) 1 (by decide +kernel)

-- why `flathomogen_group_total` needs the group to be within the NaN allowance: beyond it the group is written
-- all-NaN (total 0), while its non-missing inputs add up to -4
example : flathomogen 0 ℓ₀ = .ok [none, none, none, none, none] ∧ (vals (groupOf ℓ₀ 1)).sum = -4 := by decide +kernel

end agg

section anycarrier
set_option linter.unusedSectionVars false
variable {β : Type} [Add β] [Div β] [LT β] [DecidableLT β] [OfNat β 0] [NatCast β]

/-- over ANY carrier with the kernel's operations (no algebraic law assumed — this covers floating point):
one output per distinct index value, in order, each computed from its own group alone by the kernel's
left-to-right running reduction `accOf` and `flush`; every operator value, every `maxnan` -/
theorem aggregate_per_group_any_carrier (op maxnan : Int) (l : List (Int × Option β)) (hne : l ≠ [])
    (hs : (l.map Prod.fst).Pairwise (· ≤ ·)) :
    aggregate op maxnan l = .ok ((keys l).map fun k => flush op maxnan (accOf op (groupOf l k))) :=
  (aggregate_eq op maxnan l).trans (onSorted_ok _ hne hs)

example : aggregate 3 1 ℓ₀ = .ok ((keys ℓ₀).map fun k => flush 3 1 (accOf 3 (groupOf ℓ₀ k))) :=
  aggregate_per_group_any_carrier 3 1 ℓ₀ (List.cons_ne_nil _ _) (by decide +kernel)

theorem aggregate_rejects_decreasing_any_carrier (op maxnan : Int) (l : List (Int × Option β)) (hne : l ≠ [])
    (hs : ¬ (l.map Prod.fst).Pairwise (· ≤ ·)) :
    aggregate op maxnan l = .error .decreasingIndex :=
  (aggregate_eq op maxnan l).trans (onSorted_err _ hne hs)

theorem flathomogen_per_group_any_carrier (maxnan : Int) (l : List (Int × Option β)) (hne : l ≠ [])
    (hs : (l.map Prod.fst).Pairwise (· ≤ ·)) :
    flathomogen maxnan l = .ok ((keys l).flatMap fun k => hcells maxnan (groupOf l k)) :=
  (flathomogen_eq maxnan l).trans (onSorted_ok _ hne hs)

example : flathomogen 1 ℓ₀ = .ok ((keys ℓ₀).flatMap fun k => hcells 1 (groupOf ℓ₀ k)) :=
  flathomogen_per_group_any_carrier 1 ℓ₀ (List.cons_ne_nil _ _) (by decide +kernel)

theorem flathomogen_rejects_decreasing_any_carrier (maxnan : Int) (l : List (Int × Option β)) (hne : l ≠ [])
    (hs : ¬ (l.map Prod.fst).Pairwise (· ≤ ·)) :
    flathomogen maxnan l = .error .decreasingIndex :=
  (flathomogen_eq maxnan l).trans (onSorted_err _ hne hs)


theorem wrap32_id (i : Int) (h : inInt32 i = true) : wrap32 i = i :=
  wrap32_of_inInt32 h

example : wrap32 (-2147483648) = -2147483648 ∧ wrap32 2147483647 = 2147483647 ∧ wrap32 2147483648 = -2147483648 := by
  decide

theorem wrap32_range (i : Int) : inInt32 (wrap32 i) = true := by
  simp only [inInt32, Bool.and_eq_true, decide_eq_true_eq]
  unfold wrap32
  omega


theorem aggregateW_eq_aggregate (op maxnan : Int) (idx : List Int) (vals : List (Option β))
    (hlen : idx.length = vals.length) (hop : inInt32 op = true) (hmx : inInt32 maxnan = true)
    (hidx : ∀ i ∈ idx, inInt32 i = true) :
    aggregateW op maxnan idx vals = aggregate op maxnan (idx.zip vals) := by
  rw [aggregateW, if_neg (not_not.mpr hlen), hop, hmx, map_wrap32_of_inInt32 hidx]
  rfl

example : aggregateW (α := ℚ) 2 1 [-2147483648, -2147483648, 2147483647] [some (-3), none, some 7] =
    aggregate 2 1 [(-2147483648, some (-3)), (-2147483648, none), (2147483647, some 7)] :=
  aggregateW_eq_aggregate 2 1 _ _ rfl (by decide) (by decide) (by decide)

theorem flathomogenW_eq_flathomogen (maxnan : Int) (idx : List Int) (vals : List (Option β))
    (hlen : idx.length = vals.length) (hmx : inInt32 maxnan = true)
    (hidx : ∀ i ∈ idx, inInt32 i = true) :
    flathomogenW maxnan idx vals = flathomogen maxnan (idx.zip vals) := by
  rw [flathomogenW, if_neg (not_not.mpr hlen), hmx, map_wrap32_of_inInt32 hidx]
  rfl

example : flathomogenW (α := ℚ) 1 [3, 3, 4] [some 1, none, some 7] = .ok [some 1, none, some 7] := by decide +kernel

theorem wrappers_reject_length_mismatch (op maxnan : Int) (idx : List Int) (vals : List (Option β))
    (hlen : idx.length ≠ vals.length) :
    aggregateW op maxnan idx vals = .error .lengthMismatch ∧
    flathomogenW maxnan idx vals = .error .lengthMismatch := by
  simp [aggregateW, flathomogenW, hlen]

example : aggregateW (α := ℚ) 0 0 [1, 2] [some 1] = .error .lengthMismatch := by decide +kernel

theorem wrappers_reject_non_int32_arguments (op maxnan : Int) (idx : List Int) (vals : List (Option β))
    (hlen : idx.length = vals.length) (h : inInt32 op = false ∨ inInt32 maxnan = false) :
    aggregateW op maxnan idx vals = .error .intOverflow := by
  rcases h with h | h <;> simp [aggregateW, hlen, h]

example : aggregateW (α := ℚ) 2147483648 0 [1] [some 1] = .error .intOverflow := by decide +kernel

theorem kernels_reject_empty (op maxnan : Int) :
    aggregate op maxnan ([] : List (Int × Option β)) = .error .emptyInput ∧
    flathomogen maxnan ([] : List (Int × Option β)) = .error .emptyInput := ⟨rfl, rfl⟩

theorem flush_isNone_any_carrier (op maxnan : Int) (g : List (Option β)) :
    flush op maxnan (accOf op g) = none ↔ maxnan < (nmiss g : Int) := by
  simp [flush, accOf_eq]

example : flush (α := ℚ) 2 0 (accOf 2 [some 1, none]) = none := (flush_isNone_any_carrier 2 0 _).mpr (by decide)

theorem flush_tail_any_carrier (maxnan : Int) (g : List (Option β)) :
    flush 3 maxnan (accOf 3 g) =
      if maxnan < (nmiss g : Int) then none else some ((vals g).getLast?.getD 0) := by
  simp [flush, accOf_eq]

example : flush (α := ℚ) 3 1 (accOf 3 [some 4, some 1, none]) = some 1 := by decide +kernel

end anycarrier

/-- years within ±2147: the hourly index is `y·10^6 + m·10^4 + d·100 + h` and `2^31 = 2 147 483 648`; the other steps
have room to spare -/
theorem aggIndexRaw_fits_int32 (st : Step) (he : ∀ e, st = .ASm e → 1 ≤ e ∧ e ≤ 12) (a : Stamp) (ha : a.valid)
    (hy : -2147 ≤ a.y ∧ a.y ≤ 2147) : inInt32 (aggIndexRaw st a) = true := by
  unfold Stamp.valid at ha
  simp only [inInt32, Bool.and_eq_true, decide_eq_true_eq]
  cases st with
  | AS => simp only [aggIndexRaw]; omega
  | ASm e =>
    rw [aggIndexRaw_ASm e (he e rfl).2 a ha.1 ha.2.1]
    split <;> omega
  | MS => simp only [aggIndexRaw]; omega
  | D => simp only [aggIndexRaw]; omega
  | H => simp only [aggIndexRaw]; omega

theorem aggIndex_fits_int32 (st : Step) (he : ∀ e, st = .ASm e → 1 ≤ e ∧ e ≤ 12) (a : Stamp) (ha : a.valid)
    (hy : -2147 ≤ a.y ∧ a.y ≤ 2147) : aggIndex st a = aggIndexRaw st a ∧ inInt32 (aggIndex st a) = true := by
  have h := aggIndexRaw_fits_int32 st he a ha hy
  have : aggIndex st a = aggIndexRaw st a := wrap32_id _ h
  exact ⟨this, this ▸ h⟩

example : aggIndex .H ⟨2147, 12, 31, 23⟩ = 2147123123 ∧ inInt32 (aggIndexRaw .H ⟨2148, 1, 1, 0⟩) = false := by decide

/-- the year bound cannot be dropped: the hourly index of 2148 has wrapped, a chronological series crossing from
2147 into 2148 gets a DECREASING index (which `aggregate` then rejects) -/
theorem aggIndex_H_wraps_beyond_2147 :
    Stamp.le ⟨2147, 12, 31, 23⟩ ⟨2148, 1, 1, 0⟩ ∧ aggIndex .H ⟨2148, 1, 1, 0⟩ < aggIndex .H ⟨2147, 12, 31, 23⟩ ∧
      aggIndex .H ⟨2148, 1, 1, 0⟩ = -2146957196 := by decide

theorem aggIndex_mono (st : Step) (he : ∀ e, st = .ASm e → 1 ≤ e ∧ e ≤ 12) (a b : Stamp)
    (ha : a.valid) (hb : b.valid) (hya : -2147 ≤ a.y ∧ a.y ≤ 2147) (hyb : -2147 ≤ b.y ∧ b.y ≤ 2147)
    (hab : Stamp.le a b) : aggIndex st a ≤ aggIndex st b := by
  rw [(aggIndex_fits_int32 st he a ha hya).1, (aggIndex_fits_int32 st he b hb hyb).1]
  exact aggIndexRaw_mono st he a b ha hb hab

example : aggIndex .H ⟨1999, 12, 31, 23⟩ ≤ aggIndex .H ⟨2000, 1, 1, 0⟩ :=
  aggIndex_mono .H nofun _ _ (by decide) (by decide) (by decide) (by decide) (by decide)

/-- the index separates the periods: two stamps get the same index exactly when they lie in the same year / month /
day / hour -/
theorem aggIndex_AS_eq_iff (a b : Stamp) (ha : a.valid) (hb : b.valid) (hya : -2147 ≤ a.y ∧ a.y ≤ 2147)
    (hyb : -2147 ≤ b.y ∧ b.y ≤ 2147) : aggIndex .AS a = aggIndex .AS b ↔ a.y = b.y := by
  rw [(aggIndex_fits_int32 .AS nofun a ha hya).1,
    (aggIndex_fits_int32 .AS nofun b hb hyb).1]
  simp [aggIndexRaw]

theorem aggIndex_MS_eq_iff (a b : Stamp) (ha : a.valid) (hb : b.valid) (hya : -2147 ≤ a.y ∧ a.y ≤ 2147)
    (hyb : -2147 ≤ b.y ∧ b.y ≤ 2147) : aggIndex .MS a = aggIndex .MS b ↔ a.y = b.y ∧ a.m = b.m := by
  rw [(aggIndex_fits_int32 .MS nofun a ha hya).1,
    (aggIndex_fits_int32 .MS nofun b hb hyb).1]
  exact raw_MS_eq_iff a b ha hb

theorem aggIndex_D_eq_iff (a b : Stamp) (ha : a.valid) (hb : b.valid) (hya : -2147 ≤ a.y ∧ a.y ≤ 2147)
    (hyb : -2147 ≤ b.y ∧ b.y ≤ 2147) : aggIndex .D a = aggIndex .D b ↔ a.y = b.y ∧ a.m = b.m ∧ a.d = b.d := by
  rw [(aggIndex_fits_int32 .D nofun a ha hya).1,
    (aggIndex_fits_int32 .D nofun b hb hyb).1]
  exact raw_D_eq_iff a b ha hb

theorem aggIndex_H_eq_iff (a b : Stamp) (ha : a.valid) (hb : b.valid) (hya : -2147 ≤ a.y ∧ a.y ≤ 2147)
    (hyb : -2147 ≤ b.y ∧ b.y ≤ 2147) :
    aggIndex .H a = aggIndex .H b ↔ a.y = b.y ∧ a.m = b.m ∧ a.d = b.d ∧ a.h = b.h := by
  rw [(aggIndex_fits_int32 .H nofun a ha hya).1,
    (aggIndex_fits_int32 .H nofun b hb hyb).1]
  exact raw_H_eq_iff a b ha hb

theorem aggIndex_ASm (e : Nat) (he1 : 1 ≤ e) (he12 : e ≤ 12) (a : Stamp) (ha : a.valid)
    (hya : -2147 ≤ a.y ∧ a.y ≤ 2147) : aggIndex (.ASm e) a = if a.m ≤ e then a.y - 1 else a.y := by
  rw [(aggIndex_fits_int32 (.ASm e) (by intro e' h; cases h; exact ⟨he1, he12⟩) a ha hya).1]
  exact aggIndexRaw_ASm e he12 a ha.1 ha.2.1

example : aggIndex (.ASm 7) ⟨1999, 7, 31, 0⟩ = 1998 ∧ aggIndex (.ASm 7) ⟨1999, 8, 1, 0⟩ = 1999 := by decide

theorem parseStep_accepts :
    parseStep "AS".toList = .ok .AS ∧ parseStep ['M','S'] = .ok .MS ∧ parseStep ['D'] = .ok .D ∧
    parseStep ['h'] = .ok .H ∧ parseStep ['A','S','-','J','U','L'] = .ok (.ASm 7) ∧
    parseStep ['A','S','-','J','A','N'] = .ok (.ASm 1) ∧ parseStep ['A','S','-','D','E','C'] = .ok (.ASm 12) ∧
    parseStep ['W'] = .error .badTimestep ∧ parseStep ['A','S','J','A','N'] = .error .badTimestep := by
  decide


/-- the index built from chronologically ordered time stamps is non-decreasing: `aggregate` and `flathomogen`
never reject it -/
theorem aggIndex_nondecreasing (st : Step) (he : ∀ e, st = .ASm e → 1 ≤ e ∧ e ≤ 12) (ts : List Stamp)
    (hv : ∀ t ∈ ts, t.valid ∧ -2147 ≤ t.y ∧ t.y ≤ 2147) (hc : ts.Pairwise Stamp.le) :
    (ts.map (aggIndex st)).Pairwise (· ≤ ·) := by
  rw [List.pairwise_map]
  exact hc.imp_of_mem fun ha hb hab =>
    aggIndex_mono st he _ _ (hv _ ha).1 (hv _ hb).1 (hv _ ha).2 (hv _ hb).2 hab

example : ([⟨1999, 12, 31, 23⟩, ⟨2000, 1, 1, 0⟩, ⟨2000, 1, 1, 5⟩, ⟨2000, 2, 29, 0⟩].map (aggIndex .D)).Pairwise (· ≤ ·) :=
  aggIndex_nondecreasing .D nofun _ (by decide) (by decide)
example : [⟨1999, 12, 31, 23⟩, ⟨2000, 1, 1, 0⟩, ⟨2000, 1, 1, 5⟩, ⟨2000, 2, 29, 0⟩].map (aggIndex .D) =
    [19991231, 20000101, 20000101, 20000229] := by decide

section chain
set_option linter.unusedSectionVars false
variable {α : Type} [Field α] [LinearOrder α] [IsStrictOrderedRing α]

theorem aggregateW_spec (op maxnan : Int) (h0 : 0 ≤ op) (h3 : op ≤ 3) (hmx : inInt32 maxnan = true)
    (idx : List Int) (vals : List (Option α)) (hlen : idx.length = vals.length) (hne : idx ≠ [])
    (hidx : ∀ i ∈ idx, inInt32 i = true) (hs : idx.Pairwise (· ≤ ·)) :
    aggregateW op maxnan idx vals =
      .ok ((keys (idx.zip vals)).map fun k => reduce op maxnan (groupOf (idx.zip vals) k)) := by
  have hop : inInt32 op = true := by
    simp only [inInt32, Bool.and_eq_true, decide_eq_true_eq]; omega
  rw [aggregateW_eq_aggregate op maxnan idx vals hlen hop hmx hidx]
  exact aggregate_spec op maxnan h0 h3 _ (zip_ne_nil hlen hne) (by rwa [List.map_fst_zip (by simp [hlen])])

example := aggregateW_spec (α := ℚ) 2 1 (by decide) (by decide) (by decide) [-2147483648, -2147483648, 2147483647]
  [some (-3), none, some 7] rfl (List.cons_ne_nil _ _) (by decide) (by decide)

/-- **end to end through the wrapper glue**: time stamps in chronological order (years within ±2147, so that the
index survives the int32 cast), the index `compute_aggindex` builds for them, values of the same length ≥ 1,
operator 0..3 — `dutils.aggregate` returns one value per period, the reduction of that period's non-missing values
under the NaN policy -/
theorem aggregateW_on_time_index (op maxnan : Int) (h0 : 0 ≤ op) (h3 : op ≤ 3) (hmx : inInt32 maxnan = true)
    (st : Step) (he : ∀ e, st = .ASm e → 1 ≤ e ∧ e ≤ 12) (ts : List Stamp) (vals : List (Option α))
    (hlen : ts.length = vals.length) (hne : ts ≠ [])
    (hv : ∀ t ∈ ts, t.valid ∧ -2147 ≤ t.y ∧ t.y ≤ 2147) (hc : ts.Pairwise Stamp.le) :
    aggregateW op maxnan (ts.map (aggIndex st)) vals =
      .ok ((keys ((ts.map (aggIndex st)).zip vals)).map fun k =>
        reduce op maxnan (groupOf ((ts.map (aggIndex st)).zip vals) k)) := by
  refine aggregateW_spec op maxnan h0 h3 hmx _ vals (by rwa [List.length_map]) (by rwa [ne_eq, List.map_eq_nil_iff])
    ?_ (aggIndex_nondecreasing st he ts hv hc)
  intro i hi
  obtain ⟨t, ht, rfl⟩ := List.mem_map.mp hi
  exact (aggIndex_fits_int32 st he t (hv t ht).1 (hv t ht).2).2

example : aggregateW (α := ℚ) 0 0
    ([⟨1999, 12, 31, 23⟩, ⟨2000, 1, 1, 0⟩, ⟨2000, 1, 1, 5⟩, ⟨2000, 2, 29, 0⟩].map (aggIndex .MS))
    [some 1, some 2, some 3, some 4] = .ok [some 1, some 5, some 4] := by decide +kernel
example := aggregateW_on_time_index (α := ℚ) 0 0 (by decide) (by decide) (by decide) .MS nofun
  [⟨1999, 12, 31, 23⟩, ⟨2000, 1, 1, 0⟩, ⟨2000, 1, 1, 5⟩, ⟨2000, 2, 29, 0⟩] [some 1, some 2, some 3, some 4] rfl
  (List.cons_ne_nil _ _) (by decide) (by decide)

end chain

theorem ndaysAt_range (y0 : Int) (m0 j : Nat) : 28 ≤ ndaysAt y0 m0 j ∧ ndaysAt y0 m0 j ≤ 31 :=
  ndaysAt_bounds y0 m0 j

theorem monthAt_zero (y0 : Int) (m0 : Nat) (h1 : 1 ≤ m0) (h12 : m0 ≤ 12) : monthAt y0 m0 0 = (y0, m0) :=
  monthAt_start y0 m0 h1 h12

example : monthAt 1999 12 0 = (1999, 12) := monthAt_zero 1999 12 (by decide) (by decide)

theorem monthAt_succ (y0 : Int) (m0 j : Nat) :
    monthAt y0 m0 (j + 1) =
      if (monthAt y0 m0 j).2 = 12 then ((monthAt y0 m0 j).1 + 1, 1)
      else ((monthAt y0 m0 j).1, (monthAt y0 m0 j).2 + 1) :=
  monthAt_next y0 m0 j

example : monthAt 1999 12 1 = (2000, 1) := by decide

theorem days_in_year (y : Int) :
    ((List.range 12).map fun m => daysInMonth y (m + 1)).sum = if isLeap y then 366 else 365 := by
  have : ∀ b : Bool, ([31, if b then 29 else 28, 31, 30, 31, 30, 31, 31, 30, 31, 30, 31] : List Nat).sum =
      if b then 366 else 365 := by decide
  exact this (isLeap y)

example : isLeap 2000 = true ∧ isLeap 1900 = false ∧ isLeap 2024 = true ∧ isLeap 2023 = false := by decide

theorem isLeap_iff (y : Int) : isLeap y = true ↔ (y % 4 = 0 ∧ (y % 100 ≠ 0 ∨ y % 400 = 0)) := by
  simp [isLeap]

section m2d
set_option linter.unusedSectionVars false
variable {α : Type} [Field α] [LinearOrder α] [IsStrictOrderedRing α]

theorem flatMonth_spec (v : α) (hv : 0 ≤ v) (n : Nat) (hn : 0 < n) :
    flatMonth 0 (some v) n = List.replicate n (some (v / (n : α))) ∧
      (vals (flatMonth 0 (some v) n)).sum = v := by
  have h1 : flatMonth 0 (some v) n = List.replicate n (some (v / (n : α))) := by
    rw [flatMonth, if_neg (not_lt.mpr (div_nonneg hv (Nat.cast_nonneg n)))]
  rw [h1, ← List.map_replicate, vals_map_some]
  exact ⟨rfl, sum_replicate_div n v fun h => absurd h hn.ne'⟩

example : (vals (flatMonth (0 : ℚ) (some 62) 31)).sum = 62 := (flatMonth_spec 62 (by norm_num) 31 (by decide)).2

/-- **monthly2daily, flat**: a complete non-negative month-start series gives, month by month, one value per
calendar day of that month, none missing, adding up to the monthly input -/
theorem m2dFlat_spec (y0 : Int) (m0 : Nat) (h1 : 1 ≤ m0) (h12 : m0 ≤ 12) (ys : List α) (hne : ys ≠ [])
    (hpos : ∀ y ∈ ys, 0 ≤ y) :
    ∃ months, m2dFlat y0 m0 0 (ys.map some) = .ok months ∧ months.length = ys.length ∧
      ∀ (j : Nat) (hj : j < ys.length) (hj' : j < months.length),
        months[j].length = ndaysAt y0 m0 j ∧ (∀ o ∈ months[j], o ≠ none) ∧
        (vals months[j]).sum = ys[j] := by
  have hm : ¬ (m0 < 1 ∨ 12 < m0) := by omega
  have hrun : m2dFlat y0 m0 (0 : α) (ys.map some) =
      .ok (List.zipWith (flatMonth 0) (ys.map some) (monthLengths y0 m0 (ys.map some).length)) := by
    unfold m2dFlat
    rw [if_neg hm, if_neg (by simpa using hne)]
  refine ⟨_, hrun, by simp [monthLengths_length], ?_⟩
  intro j hj hj'
  have hy := hpos ys[j] (List.getElem_mem hj)
  have hn := ndaysAt_pos y0 m0 j
  obtain ⟨e1, e2⟩ := flatMonth_spec ys[j] hy (ndaysAt y0 m0 j) hn
  simp only [List.getElem_zipWith, List.getElem_map, List.length_map, monthLengths_getElem]
  refine ⟨by rw [e1]; simp, ?_, e2⟩
  rw [e1]
  intro o ho
  rw [List.mem_replicate] at ho
  rw [ho.2]; simp

example := m2dFlat_spec (α := ℚ) 2024 2 (by decide) (by decide) [29, 0, 30] (List.cons_ne_nil _ _) (by decide +kernel)

/-- cubic, one month: one value per day, and the daily differences of the cumulative cubic telescope to the
monthly value — for ANY derivative constraints `c1`, `c2` -/
theorem cubicMonth_spec (m : Month α) (hn : 0 < m.n) :
    (cubicMonth m).length = m.n ∧ (cubicMonth m).sum = m.y := by
  refine ⟨by simp [cubicMonth], ?_⟩
  unfold cubicMonth
  rw [sum_range_diff (cum m) m.n, cum_end m hn, cum_zero]
  ring

example : (cubicMonth ({ y := 28, n := 28, c1 := 5, c2 := -7 } : Month ℚ)).sum = 28 :=
  (cubicMonth_spec _ (by decide)).2

/-- **monthly2daily, cubic**: every month-start series (any values) gives, month by month, one value per
calendar day of that month adding up to the monthly input -/
theorem m2dCubic_spec (y0 : Int) (m0 : Nat) (h1 : 1 ≤ m0) (h12 : m0 ≤ 12) (minthr : α) (ys : List α)
    (hne : ys ≠ []) :
    ∃ months, m2dCubic y0 m0 minthr (ys.map some) = .ok months ∧ months.length = ys.length ∧
      ∀ (j : Nat) (hj : j < ys.length) (hj' : j < months.length),
        months[j].length = ndaysAt y0 m0 j ∧ months[j].sum = ys[j] := by
  have hm : ¬ (m0 < 1 ∨ 12 < m0) := by omega
  have hys : (ys.map some).map (fillMissing minthr) = ys := by
    simp [List.map_map, Function.comp_def, fillMissing]
  have hrun : m2dCubic y0 m0 minthr (ys.map some) =
      .ok ((sweep (cubicInit ys (monthLengths y0 m0 ys.length))).map cubicMonth) := by
    unfold m2dCubic
    rw [if_neg hm, if_neg (by simpa using hne)]
    simp only [hys]
  have hyn := (sweep_yn (cubicInit ys (monthLengths y0 m0 ys.length))).trans
    (cubicInit_yn ys _ (monthLengths_length y0 m0 ys.length).symm)
  generalize sweep (cubicInit ys (monthLengths y0 m0 ys.length)) = ms at hrun hyn
  have hl : ms.length = ys.length := by
    have := congrArg List.length hyn
    rwa [List.length_map, List.length_zip, monthLengths_length, Nat.min_self] at this
  refine ⟨_, hrun, by rw [List.length_map, hl], ?_⟩
  intro j hj hj'
  have := List.getElem_of_eq hyn (by rw [List.length_map, hl]; exact hj)
  rw [List.getElem_map, List.getElem_zip, monthLengths_getElem] at this
  obtain ⟨ey, en⟩ := Prod.mk.inj this
  obtain ⟨e1, e2⟩ := cubicMonth_spec _ (en ▸ ndaysAt_pos y0 m0 j)
  rw [List.getElem_map]
  exact ⟨e1.trans en, e2.trans ey⟩

example := m2dCubic_spec 1900 2 (by decide) (by decide) (0 : ℚ) [28, 62] (List.cons_ne_nil _ _)

/-- **monthly2daily through its entry point** (`interpolation = "flat"` or `"cubic"`, default threshold 0):
a complete non-negative month-start series gives, month by month, one non-missing value per calendar day of that
month, adding up to the monthly input; any other interpolation name is rejected -/
theorem m2d_spec (interp : String) (hi : interp = "flat" ∨ interp = "cubic") (y0 : Int) (m0 : Nat)
    (h1 : 1 ≤ m0) (h12 : m0 ≤ 12) (ys : List α) (hne : ys ≠ []) (hpos : ∀ y ∈ ys, 0 ≤ y) :
    ∃ months, m2d interp y0 m0 0 (ys.map some) = .ok months ∧ months.length = ys.length ∧
      ∀ (j : Nat) (hj : j < ys.length) (hj' : j < months.length),
        months[j].length = ndaysAt y0 m0 j ∧ (∀ o ∈ months[j], o ≠ none) ∧
        (vals months[j]).sum = ys[j] := by
  rcases hi with rfl | rfl
  · rw [m2d, if_pos rfl]
    exact m2dFlat_spec y0 m0 h1 h12 ys hne hpos
  · obtain ⟨ms, hrun, hlen, hj⟩ := m2dCubic_spec y0 m0 h1 h12 (0 : α) ys hne
    refine ⟨ms.map fun d => d.map some, by rw [m2d, if_neg (by decide), if_pos rfl, hrun],
      by rw [List.length_map, hlen], ?_⟩
    intro j hj1 hj2
    obtain ⟨e1, e2⟩ := hj j hj1 (by simpa using hj2)
    rw [List.getElem_map]
    exact ⟨by rw [List.length_map, e1], by simp, by rw [vals_map_some, e2]⟩

example := m2d_spec (α := ℚ) "cubic" (Or.inr rfl) 2024 2 (by decide) (by decide) [29, 62] (List.cons_ne_nil _ _)
  (by decide +kernel)

theorem m2d_rejects_other_interpolation (interp : String) (hf : interp ≠ "flat") (hc : interp ≠ "cubic")
    (y0 : Int) (m0 : Nat) (minthr : α) (vs : List (Option α)) :
    m2d interp y0 m0 minthr vs = .error .badInterpolation := by
  simp [m2d, hf, hc]

example : m2d (α := ℚ) "linear" 2024 2 0 [some 1] = .error .badInterpolation :=
  m2d_rejects_other_interpolation "linear" (by decide) (by decide) _ _ _ _

end m2d


section lawfree
set_option linter.unusedSectionVars false
variable {β : Type} [Add β] [Div β] [LT β] [DecidableLT β] [OfNat β 0] [NatCast β]

/-- `aggregate_spec` over ANY carrier whose addition satisfies `x + 0 = x` (no other law: not associativity, not
commutativity, nothing about `/` or `<`): one value per distinct index value, in order, the left-to-right reduction
`red` of the non-missing values of its group under the NaN policy.  Ordered fields, the rounded arithmetic `Fl R`
below and IEEE doubles (where `x + 0 = x` for every non-NaN `x` but `-0`, which a running sum started at `+0` never
holds) are instances; the right-hand side is what the driver evaluates in `Float` (request `aggspec`) -/
theorem aggregate_spec_of_add_zero (h0 : ∀ x : β, x + 0 = x) (op maxnan : Int) (hop0 : 0 ≤ op) (hop3 : op ≤ 3)
    (l : List (Int × Option β)) (hne : l ≠ []) (hs : (l.map Prod.fst).Pairwise (· ≤ ·)) :
    aggregate op maxnan l = .ok (aggregateSpec op maxnan l) :=
  aggregate_eq_map op maxnan _ (flush_accOf op maxnan hop0 hop3 fun _ => h0) l hne hs

example : aggregate 1 1 ℓ₀ = .ok (aggregateSpec 1 1 ℓ₀) :=
  aggregate_spec_of_add_zero (fun x => add_zero x) 1 1 (by decide) (by decide) ℓ₀ (List.cons_ne_nil _ _) (by decide +kernel)

/-- max and tail involve no arithmetic at all: over ANY carrier the kernel returns the specification's `maxOf` /
last non-missing value of each group (so these two operators are exact in floating point) -/
theorem aggregate_spec_max_tail_any_carrier (op maxnan : Int) (hop : op = 2 ∨ op = 3)
    (l : List (Int × Option β)) (hne : l ≠ []) (hs : (l.map Prod.fst).Pairwise (· ≤ ·)) :
    aggregate op maxnan l = .ok (aggregateSpec op maxnan l) :=
  aggregate_eq_map op maxnan _ (flush_accOf op maxnan (by omega) (by omega) fun h => by omega) l hne hs

example : aggregate 2 1 ℓ₀ = .ok (aggregateSpec 2 1 ℓ₀) :=
  aggregate_spec_max_tail_any_carrier 2 1 (Or.inl rfl) ℓ₀ (List.cons_ne_nil _ _) (by decide +kernel)
example : aggregateSpec 2 1 ℓ₀ = [some (-1), some 5] ∧ aggregateSpec 3 1 ℓ₀ = [some (-1), some 5] := by decide +kernel

theorem flathomogen_spec_of_add_zero (h0 : ∀ x : β, x + 0 = x) (maxnan : Int) (l : List (Int × Option β))
    (hne : l ≠ []) (hs : (l.map Prod.fst).Pairwise (· ≤ ·)) :
    flathomogen maxnan l = .ok (flathomogenSpec maxnan l) :=
  flathomogen_eq_spec maxnan (hcells_eq h0 maxnan) l hne hs

example : flathomogen 1 ℓ₀ = .ok (flathomogenSpec 1 ℓ₀) :=
  flathomogen_spec_of_add_zero (fun x => add_zero x) 1 ℓ₀ (List.cons_ne_nil _ _) (by decide +kernel)

theorem maxOf_spec_linear_order {γ : Type} [LinearOrder γ] [OfNat γ 0] (v : List γ) (hv : v ≠ []) :
    maxOf v ∈ v ∧ ∀ x ∈ v, x ≤ maxOf v :=
  maxOf_mem_and_ge v hv

example : maxOf ([-3, -1, -2] : List ℚ) = -1 := by decide +kernel

end lawfree

section rounded
set_option linter.unusedSectionVars false
variable {α : Type} [Field α] [LinearOrder α] [IsStrictOrderedRing α] {R : Rounding α}

/-- rounded arithmetic (`a + b := rnd (a + b)`, `a / b := rnd (a / b)`, `(n) := rnd n` for a monotone idempotent rounding
with `rnd 0 = 0`, e.g. IEEE round-to-nearest without overflow): the kernel is the left-to-right rounded reduction of
each group — every operator 0..3, every `maxnan` -/
theorem aggregate_spec_rounded (op maxnan : Int) (hop0 : 0 ≤ op) (hop3 : op ≤ 3) (l : List (Int × Option (Fl R)))
    (hne : l ≠ []) (hs : (l.map Prod.fst).Pairwise (· ≤ ·)) :
    aggregate op maxnan l = .ok (aggregateSpec op maxnan l) :=
  aggregate_spec_of_add_zero Fl.add_zero op maxnan hop0 hop3 l hne hs

theorem flathomogen_spec_rounded (maxnan : Int) (l : List (Int × Option (Fl R))) (hne : l ≠ [])
    (hs : (l.map Prod.fst).Pairwise (· ≤ ·)) : flathomogen maxnan l = .ok (flathomogenSpec maxnan l) :=
  flathomogen_spec_of_add_zero Fl.add_zero maxnan l hne hs

theorem rounded_sum_nonneg_dominates (v : List (Fl R)) (hv : ∀ x ∈ v, 0 ≤ x.val) :
    0 ≤ (red 0 v).val ∧ ∀ x ∈ v, x.val ≤ (red 0 v).val := by
  show 0 ≤ (sumL v).val ∧ ∀ x ∈ v, x.val ≤ (sumL v).val
  induction v using List.reverseRecOn with
  | nil => simp [sumL]
  | append_singleton v a ih =>
    obtain ⟨h0, hd⟩ := ih (fun x hx => hv x (List.mem_append_left _ hx))
    have ha : 0 ≤ a.val := hv a (by simp)
    rw [sumL_concat, Fl.add_val]
    have hs : (sumL v).val ≤ R.rnd ((sumL v).val + a.val) := le_rnd _ (le_add_of_nonneg_right ha)
    have hA : a.val ≤ R.rnd ((sumL v).val + a.val) := le_rnd _ (le_add_of_nonneg_left h0)
    refine ⟨le_trans h0 hs, ?_⟩
    intro x hx
    rcases List.mem_append.mp hx with hx | hx
    · exact le_trans (hd x hx) hs
    · simp at hx; subst hx; exact hA

/-- non-negative values have a non-negative rounded mean (`red 1` over `Fl R` is the mean `aggregate` operator 1 and
`flathomogen` compute): the rounded sum is non-negative (`rounded_sum_nonneg_dominates`), the rounded count too, and `rnd`
of a non-negative quotient is non-negative -/
theorem rounded_mean_nonneg (v : List (Fl R)) (hv : ∀ x ∈ v, 0 ≤ x.val) : 0 ≤ (red 1 v).val := by
  by_cases he : v = []
  · subst he; simp [red]
  · have h1 : 0 ≤ (sumL v).val := (rounded_sum_nonneg_dominates v hv).1
    have h2 : (0 : α) ≤ R.rnd (v.length : α) := rnd_nonneg (Nat.cast_nonneg _)
    simp only [red, show (1 : Int) ≠ 0 by decide, if_false, if_true, List.isEmpty_iff, he, Fl.div_val,
      Fl.natCast_val]
    exact rnd_nonneg (div_nonneg h1 h2)

theorem rounded_sum_mono (v w : List (Fl R)) (h : List.Forall₂ (fun a b => a.val ≤ b.val) v w) :
    (red 0 v).val ≤ (red 0 w).val :=
  List.rel_foldl (P := fun a b : Fl R => a.val ≤ b.val) (fun _ _ hab _ _ hxy => R.mono _ _ (add_le_add hab hxy)) le_rfl h

/-- the rounded sum is the exact sum whenever every partial sum is representable (integers below 2^53, dyadic
values of one scale, one-value groups …) -/
theorem rounded_sum_exact (v : List (Fl R))
    (hrep : ∀ n ≤ v.length, R.rnd (((v.take n).map Fl.val).sum) = ((v.take n).map Fl.val).sum) :
    (red 0 v).val = (v.map Fl.val).sum := by
  show (sumL v).val = _
  induction v using List.reverseRecOn with
  | nil => simp [sumL]
  | append_singleton v a ih =>
    have ihv := ih (fun n hn => by
      have := hrep n (by simp; omega)
      rwa [List.take_append_of_le_length hn] at this)
    have hlast := hrep (v ++ [a]).length le_rfl
    rw [List.take_length] at hlast
    rw [sumL_concat, Fl.add_val, ihv]
    simpa using hlast

/-- forward error of the rounded sum when `rnd` has relative error `u` (IEEE: `u = 2^-53`, additions never
underflow): `|fl(Σx) − Σx| ≤ ((1+u)^n − 1)·Σ|x|` -/
theorem rounded_sum_error_bound (u : α) (hu : 0 ≤ u) (herr : ∀ a, |R.rnd a - a| ≤ u * |a|) (v : List (Fl R)) :
    |(red 0 v).val - (v.map Fl.val).sum| ≤ ((1 + u) ^ v.length - 1) * (v.map fun x => |x.val|).sum := by
  show |(sumL v).val - _| ≤ _
  rw [sumL, Fl.foldl_add_val]
  exact Round.foldl_rnd_add_err_sum hu herr Fl.val v

/-- … which is within the correspondence budget `n·2u·Σ|x|` (`n·2^-52·Σ|x|` for doubles) as long as `2nu ≤ 1` -/
theorem rounded_sum_error_budget (u : α) (hu : 0 ≤ u) (herr : ∀ a, |R.rnd a - a| ≤ u * |a|) (v : List (Fl R))
    (hn : 2 * (v.length : α) * u ≤ 1) :
    |(red 0 v).val - (v.map Fl.val).sum| ≤ 2 * (v.length : α) * u * (v.map fun x => |x.val|).sum := by
  exact le_trans (rounded_sum_error_bound u hu herr v)
    (mul_le_mul_of_nonneg_right (pow_one_add_sub_one_le u hu v.length hn)
      ((abs_nonneg _).trans (abs_sum_map_le Fl.val v)))

/-- **totals are conserved up to rounding**: the rounded group sums add up (exactly, as the oracle adds them) to the
exact total of the inputs within the sum of the per-group error bounds -/
theorem rounded_totals_conserved_within (u : α) (hu : 0 ≤ u) (herr : ∀ a, |R.rnd a - a| ≤ u * |a|)
    (gs : List (List (Fl R))) :
    |(gs.map fun v => (red 0 v).val).sum - (gs.map fun v => (v.map Fl.val).sum).sum| ≤
      (gs.map fun v => ((1 + u) ^ v.length - 1) * (v.map fun x => |x.val|).sum).sum :=
  abs_sum_map_sub_le _ _ _ gs fun v _ => rounded_sum_error_bound u hu herr v

end rounded

-- rounded mean of 1, 2 (round down): ⌊3/2⌋ = 1, the field mean is 3/2
example : (red 1 [flInt 1, flInt 2]).val = 1 ∧ (red 0 [flInt 1, flInt 2]).val = 3 := by decide +kernel
example : 0 ≤ (red 1 [flInt 1, flInt 2]).val :=
  rounded_mean_nonneg _ (by decide +kernel)
example := rounded_sum_nonneg_dominates [flInt 1, flInt 2] (by decide +kernel)
example := rounded_sum_mono [flInt 1, flInt 2] [flInt 1, flInt 5] (by decide +kernel)
example := rounded_sum_exact [flInt 1, flInt (-4), flInt 2] (by decide +kernel)
example := rounded_sum_error_budget (R := idRounding) (1 / 8) (by norm_num) (idRounding_err (by norm_num))
  [flQ (1 / 3), flQ (-2), flQ 5] (by norm_num)
example := rounded_totals_conserved_within (R := idRounding) (1 / 8) (by norm_num) (idRounding_err (by norm_num))
  [[flQ (1 / 3), flQ (-2)], [flQ 5]]
example := aggregate_spec_rounded (R := floorRounding) 1 0 (by decide) (by decide)
  [(1, some (flInt 1)), (1, some (flInt 2)), (4, some (flInt (-3)))] (List.cons_ne_nil _ _) (by decide)

section buffers
set_option linter.unusedSectionVars false
variable {β : Type} [Add β] [Div β] [LT β] [DecidableLT β] [OfNat β 0] [NatCast β]

/-- **what `c_aggregate` leaves in the caller's arrays** on a non-decreasing index (any carrier, any operator, any
previous content of `outputs` / `iend`): return code 0, one value per distinct index value at the head of `outputs`,
the rest of `outputs` untouched, `iend[0]` = the number of distinct index values -/
theorem cAggregate_on_nondecreasing (op maxnan : Int) (l : List (Int × Option β)) (hne : l ≠ [])
    (hs : (l.map Prod.fst).Pairwise (· ≤ ·)) (buf : List (Option β)) (i0 : Int) :
    cAggregate op maxnan l buf i0 =
      { ierr := none, outputs := aggregatePerGroup op maxnan l ++ buf.drop (keys l).length,
        iend := ((keys l).length : Int) } := by
  have := cAggregate_eq op maxnan l buf i0
  rw [aggregate_per_group_any_carrier op maxnan l hne hs] at this
  simpa [aggregatePerGroup] using this

example : cAggregate 0 1 ℓ₀ [some 9, some 9, some 9, some 9, some 9] 77 =
    { ierr := none, outputs := [some (-4), some 5, some 9, some 9, some 9], iend := 2 } := by decide +kernel

/-- … and on any rejected input: the code of `aggregate`, `iend[0]` untouched, `outputs` untouched beyond the groups
closed before the error -/
theorem cAggregate_on_error (op maxnan : Int) (l : List (Int × Option β)) (buf : List (Option β)) (i0 : Int)
    (e : Err) (h : aggregate op maxnan l = .error e) :
    (cAggregate op maxnan l buf i0).ierr = some e ∧ (cAggregate op maxnan l buf i0).iend = i0 ∧
      ∃ w, (cAggregate op maxnan l buf i0).outputs = w ++ buf.drop w.length := by
  have := cAggregate_eq op maxnan l buf i0
  rwa [h] at this

example : cAggregate (α := ℚ) 0 0 [(1, some 1), (2, some 2), (1, some 3)] [some 9, some 9, some 9] 77 =
    { ierr := some .decreasingIndex, outputs := [some 1, some 9, some 9], iend := 77 } := by decide +kernel

/-- `c_flathomogen` at buffer level: every position of `outputs` is overwritten on success (any carrier) … -/
theorem cFlathomogen_on_nondecreasing (maxnan : Int) (l : List (Int × Option β)) (hne : l ≠ [])
    (hs : (l.map Prod.fst).Pairwise (· ≤ ·)) (buf : List (Option β)) (hb : buf.length = l.length) :
    cFlathomogen maxnan l buf = (none, flathomogenPerGroup maxnan l) := by
  have h := flathomogen_per_group_any_carrier maxnan l hne hs
  have hlen := flathomogen_length maxnan l _ h
  have := cFlathomogen_eq maxnan l buf
  rw [h] at this
  rw [this, List.drop_of_length_le (by omega)]
  simp [flathomogenPerGroup]

/-- … and untouched beyond the groups closed before a decrease -/
theorem cFlathomogen_on_error (maxnan : Int) (l : List (Int × Option β)) (buf : List (Option β))
    (e : Err) (h : flathomogen maxnan l = .error e) :
    (cFlathomogen maxnan l buf).1 = some e ∧ ∃ w, (cFlathomogen maxnan l buf).2 = w ++ buf.drop w.length := by
  have := cFlathomogen_eq maxnan l buf
  rwa [h] at this

example : cFlathomogen (α := ℚ) 0 [(1, some 1), (2, some 2), (2, some 4), (1, some 3)] [some 9, some 9, some 9, some 9] =
    (some .decreasingIndex, [some 1, some 9, some 9, some 9]) := by decide +kernel
example : cFlathomogen 1 ℓ₀ [none, none, none, none, none] = (none, flathomogenPerGroup 1 ℓ₀) :=
  cFlathomogen_on_nondecreasing 1 ℓ₀ (List.cons_ne_nil _ _) (by decide +kernel) _ rfl

/-- the Cython layer rejects buffers of unequal lengths before the kernel can index past their end -/
theorem pyx_rejects_mismatched_buffers (op maxnan : Int) (hop : inInt32 op = true) (hmx : inInt32 maxnan = true)
    (idx : List Int) (vals buf : List (Option β)) (iend : List Int)
    (h : idx.length ≠ vals.length ∨ idx.length ≠ buf.length ∨ iend.length ≠ 1) :
    pyxAggregate op maxnan idx vals buf iend = .error .assertFailed ∧
    (idx.length ≠ vals.length ∨ idx.length ≠ buf.length →
      pyxFlathomogen maxnan idx vals buf = .error .assertFailed) := by
  constructor
  · simp [pyxAggregate, hop, hmx, h]
  · intro h'
    simp [pyxFlathomogen, hmx, h']

example : pyxAggregate (α := ℚ) 0 0 [1, 2] [some 1, some 2] [some 0] [0] = .error .assertFailed := by decide +kernel

variable [Mul β]

/-- **`dutils.aggregate` line by line** (`outputs = 0.*inputs`, `iend = [0]`, the Cython call on these buffers,
`ierr > 0` → ValueError, `outputs[:iend[0]]`) returns exactly what the kernel model `aggregateW` returns — for every
argument, accepted or not: the truncation keeps the results and nothing of the scratch buffer -/
theorem aggregateWB_eq_aggregateW (op maxnan : Int) (idx : List Int) (vals : List (Option β)) :
    aggregateWB op maxnan idx vals = aggregateW op maxnan idx vals := by
  unfold aggregateWB aggregateW
  by_cases hlen : idx.length ≠ vals.length
  · rw [if_pos hlen, if_pos hlen]
  rw [if_neg hlen, if_neg hlen]
  by_cases hov : (!(inInt32 op) || !(inInt32 maxnan)) = true
  · rw [if_pos hov, if_pos hov]
  rw [if_neg hov, if_neg hov]
  have hlen' : idx.length = vals.length := not_not.mp hlen
  have hg : ¬ ((idx.map wrap32).length ≠ vals.length ∨ (idx.map wrap32).length ≠ (vals.map zeroTimes).length ∨
      ([0] : List Int).length ≠ 1) := by simp [hlen']
  simp only [pyxAggregate, if_neg hov, if_neg hg]
  have hc := cAggregate_eq op maxnan ((idx.map wrap32).zip vals) (vals.map zeroTimes) (([0] : List Int).headD 0)
  cases h : aggregate op maxnan ((idx.map wrap32).zip vals) with
  | ok out =>
    rw [h] at hc
    rw [hc]
    simp
  | error e =>
    rw [h] at hc
    simp only [hc.1]

theorem flathomogenWB_eq_flathomogenW (maxnan : Int) (idx : List Int) (vals : List (Option β)) :
    flathomogenWB maxnan idx vals = flathomogenW maxnan idx vals := by
  unfold flathomogenWB flathomogenW
  by_cases hlen : idx.length ≠ vals.length
  · rw [if_pos hlen, if_pos hlen]
  rw [if_neg hlen, if_neg hlen]
  by_cases hov : (!(inInt32 maxnan)) = true
  · rw [if_pos hov, if_pos hov]
  rw [if_neg hov, if_neg hov]
  have hlen' : idx.length = vals.length := not_not.mp hlen
  have hg : ¬ ((idx.map wrap32).length ≠ vals.length ∨ (idx.map wrap32).length ≠ (vals.map zeroTimes).length) := by
    simp [hlen']
  simp only [pyxFlathomogen, if_neg hov, if_neg hg]
  have hc := cFlathomogen_eq maxnan ((idx.map wrap32).zip vals) (vals.map zeroTimes)
  cases h : flathomogen maxnan ((idx.map wrap32).zip vals) with
  | ok out =>
    have hl := flathomogen_length maxnan _ _ h
    rw [h] at hc
    rw [hc, List.drop_of_length_le (by simp [hl, hlen'])]
    simp
  | error e =>
    rw [h] at hc
    obtain ⟨h1, _⟩ := hc
    generalize cFlathomogen maxnan ((idx.map wrap32).zip vals) (vals.map zeroTimes) = k at h1
    obtain ⟨ie, o⟩ := k
    subst h1
    rfl

example : aggregateWB (α := ℚ) 2 1 [3, 3, 4] [some (-3), none, some 7] = .ok [some (-3), some 7] := by decide +kernel
example : flathomogenWB (α := ℚ) 1 [3, 3, 4] [some 1, none, some 7] = .ok [some 1, none, some 7] := by decide +kernel
example : aggregateWB (α := ℚ) 0 0 [3, 2] [some 1, some 7] = .error .decreasingIndex := by decide +kernel

end buffers

section histories
set_option linter.unusedSectionVars false
variable {β : Type} [Add β] [Div β] [LT β] [DecidableLT β] [OfNat β 0] [NatCast β]

/-- the arguments after ANY history are what the caller's own assignments made them: no call, accepted or rejected,
and no edit of a returned array ever writes `aggindex` or `inputs` -/
theorem histRun_arguments (s : Hist β) (ops : List (HOp β)) :
    (histRun s ops).1.idx = ops.foldl (fun a o => match o with | .setIdx i k => a.set i k | _ => a) s.idx ∧
    (histRun s ops).1.vals = ops.foldl (fun a o => match o with | .setVal i v => a.set i v | _ => a) s.vals := by
  induction ops generalizing s with
  | nil => exact ⟨rfl, rfl⟩
  | cons o rest ih =>
    obtain ⟨h1, h2⟩ := histStep_args s o
    obtain ⟨i1, i2⟩ := ih (histStep s o).1
    simp only [histRun, List.foldl_cons]
    rw [i1, i2, h1, h2]
    exact ⟨rfl, rfl⟩

/-- every answer in a history is the wrapper applied to the arrays as they are at the moment of the call — nothing
of the earlier calls, their operators, their results or their failures is remembered -/
theorem histRun_answer (s : Hist β) (pre : List (HOp β)) :
    (∀ op maxnan, (histRun s (pre ++ [.callAgg op maxnan])).2 =
      (histRun s pre).2 ++ [aggregateW op maxnan (histRun s pre).1.idx (histRun s pre).1.vals]) ∧
    (∀ maxnan, (histRun s (pre ++ [.callHomog maxnan])).2 =
      (histRun s pre).2 ++ [flathomogenW maxnan (histRun s pre).1.idx (histRun s pre).1.vals]) := by
  constructor
  · intro op maxnan
    rw [histRun_append]
    simp only [histRun, histStep]
    cases aggregateW op maxnan (histRun s pre).1.idx (histRun s pre).1.vals <;> rfl
  · intro maxnan
    rw [histRun_append]
    simp only [histRun, histStep]
    cases flathomogenW maxnan (histRun s pre).1.idx (histRun s pre).1.vals <;> rfl

/-- a rejected call (decreasing index, length mismatch, scalar overflow) leaves the whole state as it was … -/
theorem histStep_rejected_changes_nothing (s : Hist β) (o : HOp β) (e : Err)
    (h : (histStep s o).2 = some (.error e)) : (histStep s o).1 = s := by
  cases o with
  | callAgg op maxnan =>
    simp only [histStep] at h ⊢
    cases h' : aggregateW op maxnan s.idx s.vals with
    | ok out => rw [h'] at h; simp at h
    | error e' => rfl
  | callHomog maxnan =>
    simp only [histStep] at h ⊢
    cases h' : flathomogenW maxnan s.idx s.vals with
    | ok out => rw [h'] at h; simp at h
    | error e' => rfl
  | _ => simp [histStep] at h

/-- … and no operation but the caller's own overwrite changes an array handed out earlier: an accepted call appends
its fresh result, everything else keeps the list of results -/
theorem histStep_keeps_earlier_results (s : Hist β) (o : HOp β) (ho : ∀ r v, o ≠ .scribble r v) :
    s.outs <+: (histStep s o).1.outs := by
  cases o with
  | setVal i v => exact List.prefix_refl _
  | setIdx i k => exact List.prefix_refl _
  | scribble r v => exact absurd rfl (ho r v)
  | callAgg op maxnan =>
    simp only [histStep]
    cases aggregateW op maxnan s.idx s.vals with
    | ok out => exact List.prefix_append _ _
    | error e => exact List.prefix_refl _
  | callHomog maxnan =>
    simp only [histStep]
    cases flathomogenW maxnan s.idx s.vals with
    | ok out => exact List.prefix_append _ _
    | error e => exact List.prefix_refl _

theorem histRun_call_repeatable (s : Hist β) (pre : List (HOp β)) (op maxnan : Int) :
    ∃ a, (histRun s (pre ++ [.callAgg op maxnan, .callAgg op maxnan])).2 = (histRun s pre).2 ++ [a, a] := by
  rw [histRun_append]
  generalize (histRun s pre).1 = s'
  refine ⟨aggregateW op maxnan s'.idx s'.vals, ?_⟩
  simp only [histRun, histStep]
  cases h : aggregateW op maxnan s'.idx s'.vals <;> simp [h]

-- a history over ℚ: call, overwrite the result, edit an input, make the index decrease (rejected), repair it, call again
example : (histRun (α := ℚ) ⟨[1, 1, 2], [some 1, some 2, some 4], []⟩
    [.callAgg 0 0, .scribble 0 (some (-7)), .setVal 0 (some 10), .callHomog 0, .setIdx 2 0, .callAgg 2 0,
     .setIdx 2 5, .callAgg 2 0]) =
    (⟨[1, 1, 5], [some 10, some 2, some 4], [[some (-7), some (-7)], [some 6, some 6, some 4], [some 10, some 4]]⟩,
     [.ok [some 3, some 4], .ok [some 6, some 6, some 4], .error .decreasingIndex, .ok [some 10, some 4]]) := by
  decide +kernel


end histories

section floatindex
set_option linter.unusedSectionVars false
variable {β : Type} [Add β] [Div β] [LT β] [DecidableLT β] [OfNat β 0] [NatCast β]

theorem castIdx_mono (p q : Rat) (h : p ≤ q) (hp : inInt32 (truncQ p) = true) (hq : inInt32 (truncQ q) = true) :
    castIdx (some p) ≤ castIdx (some q) := by
  simp only [castIdx, hp, hq, if_true]
  exact truncQ_mono p q h

theorem castIdx_intCast (n : Int) (hn : inInt32 n = true) : castIdx (some (n : Rat)) = n := by
  simp [castIdx, truncQ_intCast, hn]

example : castIdx (some (19 / 10)) = 1 ∧ castIdx (some (-1 / 2)) = 0 ∧ castIdx (some (-3 / 2)) = -1 ∧
    castIdx (some 3000000000) = -2147483648 ∧ castIdx none = -2147483648 := by decide +kernel

/-- **a non-decreasing float64 index is never rejected** (values whose integer part fits int32; it is aggregated by
integer part, so that all of (-1, 1) is one group) -/
theorem aggregateWF_accepts_nondecreasing (op maxnan : Int) (hop : inInt32 op = true) (hmx : inInt32 maxnan = true)
    (idx : List Rat) (vals : List (Option β)) (hlen : idx.length = vals.length) (hne : idx ≠ [])
    (hr : ∀ q ∈ idx, inInt32 (truncQ q) = true) (hs : idx.Pairwise (· ≤ ·)) :
    aggregateWF op maxnan (idx.map some) vals =
      .ok (aggregatePerGroup op maxnan ((idx.map truncQ).zip vals)) := by
  have hcast : (idx.map some).map castIdx = idx.map truncQ := by
    rw [List.map_map]
    apply List.map_congr_left
    intro q hq
    simp [castIdx, hr q hq]
  have hlen' : ¬ (idx.map some).length ≠ vals.length := by simpa using hlen
  simp only [aggregateWF, if_neg hlen', hop, hmx, Bool.not_true, Bool.or_self, Bool.false_eq_true, if_false, hcast]
  apply aggregate_per_group_any_carrier _ _ _ (zip_ne_nil (by rwa [List.length_map]) (by rwa [ne_eq, List.map_eq_nil_iff]))
  rw [List.map_fst_zip (by simp [hlen]), List.pairwise_map]
  exact hs.imp fun hab => truncQ_mono _ _ hab

example : aggregateWF (α := ℚ) 0 0 [some (-1 / 2), some (1 / 2), some (19 / 10), some 2] [some 1, some 2, some 4, some 8] =
    .ok [some 3, some 4, some 8] := by decide +kernel

theorem aggregateWF_on_integer_valued_index (op maxnan : Int) (idx : List Int) (vals : List (Option β))
    (hidx : ∀ i ∈ idx, inInt32 i = true) :
    aggregateWF op maxnan (idx.map fun i : Int => some (Int.cast i : Rat)) vals = aggregateW op maxnan idx vals := by
  have h1 : (idx.map fun i : Int => some (Int.cast i : Rat)).map castIdx = idx := by
    rw [List.map_map]
    exact (List.map_congr_left (g := id) fun i hi => castIdx_intCast i (hidx i hi)).trans (List.map_id idx)
  simp [aggregateWF, aggregateW, h1, map_wrap32_of_inInt32 hidx]

example := aggregateWF_on_integer_valued_index (β := ℚ) 2 0 [3, 3, 4] [some 1, some 5, some 2] (by decide)

end floatindex

/-- the month position an accepted `AS-MMM` time step carries is 1..12 (the hypothesis `he` of the `aggIndex_*`
theorems follows from the code's own `assert mth in allowed`) -/
theorem parseStep_ASm_range (s : List Char) (e : Nat) (h : parseStep s = .ok (.ASm e)) : 1 ≤ e ∧ e ≤ 12 := by
  unfold parseStep at h
  split at h <;> try (cases h)
  split at h
  · rename_i i hi
    cases h
    obtain ⟨hlt, _⟩ := List.idxOf?_eq_some_iff.mp hi
    have : monthAbbr.length = 12 := rfl
    omega
  · cases h

example : parseStep "AS-JUL".toList = .ok (.ASm 7) := by decide

theorem chrono_iff_pairwise (ts : List Stamp) : chrono ts = true ↔ ts.Pairwise Stamp.le := by
  have : IsTrans Stamp Stamp.le := ⟨fun _ _ _ => Stamp.le_trans⟩
  rw [← List.isChain_iff_pairwise]
  induction ts with
  | nil => simp [chrono]
  | cons a tl ih =>
    cases tl with
    | nil => simp [chrono]
    | cons b r => simp only [chrono, Bool.and_eq_true, decide_eq_true_eq, ih, List.isChain_cons_cons]

example : chrono [⟨1999, 12, 31, 23⟩, ⟨2000, 1, 1, 0⟩, ⟨2000, 1, 1, 0⟩] = true ∧
    chrono [⟨2000, 1, 1, 0⟩, ⟨1999, 12, 31, 23⟩] = false := by decide

/-- **`compute_aggindex` never produces an index that `aggregate` rejects**: whatever time step it accepts,
chronological valid time stamps of years within ±2147 are mapped to a non-decreasing index (no side condition on the time
step left; beyond 2147 the hourly index wraps: `aggIndex_H_wraps_beyond_2147`) -/
theorem computeAggindex_nondecreasing (timestep : List Char) (ts : List Stamp) (idx : List Int)
    (h : computeAggindex timestep ts = .ok idx) (hv : ∀ t ∈ ts, t.valid ∧ -2147 ≤ t.y ∧ t.y ≤ 2147)
    (hc : chrono ts = true) : idx.Pairwise (· ≤ ·) := by
  obtain ⟨st, hst, rfl⟩ := computeAggindex_ok h
  exact aggIndex_nondecreasing st (fun e he => parseStep_ASm_range timestep e (he ▸ hst)) ts hv
    ((chrono_iff_pairwise ts).mp hc)

example : computeAggindex "AS-JUL".toList [⟨1999, 7, 31, 0⟩, ⟨1999, 8, 1, 0⟩] = .ok [1998, 1999] :=
  computeAggindex_asJul
example := computeAggindex_nondecreasing "AS-JUL".toList [⟨1999, 7, 31, 0⟩, ⟨1999, 8, 1, 0⟩] [1998, 1999]
  computeAggindex_asJul (by decide) (by decide)

section chain2
set_option linter.unusedSectionVars false
variable {α : Type} [Field α] [LinearOrder α] [IsStrictOrderedRing α]

/-- end to end from the time-step STRING: `aggregate(compute_aggindex(time, timestep), inputs, operator, maxnan)` on
chronological stamps of years within ±2147 is the per-period reduction (no hypothesis on the parsed step) -/
theorem aggregateW_on_compute_aggindex (op maxnan : Int) (h0 : 0 ≤ op) (h3 : op ≤ 3) (hmx : inInt32 maxnan = true)
    (timestep : List Char) (ts : List Stamp) (idx : List Int) (h : computeAggindex timestep ts = .ok idx)
    (vals : List (Option α)) (hlen : ts.length = vals.length) (hne : ts ≠ [])
    (hv : ∀ t ∈ ts, t.valid ∧ -2147 ≤ t.y ∧ t.y ≤ 2147) (hc : chrono ts = true) :
    aggregateW op maxnan idx vals = .ok (aggregateSpec op maxnan (idx.zip vals)) := by
  obtain ⟨st, hst, rfl⟩ := computeAggindex_ok h
  exact aggregateW_on_time_index op maxnan h0 h3 hmx st
    (fun e he => parseStep_ASm_range timestep e (he ▸ hst)) ts vals hlen hne hv ((chrono_iff_pairwise ts).mp hc)

example := aggregateW_on_compute_aggindex (α := ℚ) 1 0 (by decide) (by decide) (by decide) "MS".toList
  [⟨1999, 12, 31, 23⟩, ⟨2000, 1, 1, 0⟩, ⟨2000, 1, 1, 5⟩] [199912, 200001, 200001] (by decide)
  [some 1, some 2, some 4] rfl (List.cons_ne_nil _ _) (by decide) (by decide)

end chain2

theorem nextDay_spec (t : Date) (hm1 : 1 ≤ t.m) (hm12 : t.m ≤ 12) :
    (1 ≤ (nextDay t).m ∧ (nextDay t).m ≤ 12 ∧ 1 ≤ (nextDay t).d ∧
      (nextDay t).d ≤ daysInMonth (nextDay t).y (nextDay t).m) ∧
    (if t.d < daysInMonth t.y t.m then nextDay t = { y := t.y, m := t.m, d := t.d + 1 }
     else if t.m < 12 then nextDay t = { y := t.y, m := t.m + 1, d := 1 }
     else nextDay t = { y := t.y + 1, m := 1, d := 1 }) := by
  have h1 : ∀ y m, 1 ≤ m → m ≤ 12 → 1 ≤ daysInMonth y m := fun y m h1 h12 =>
    le_trans (by decide) (daysInMonth_range y m h1 h12).1
  unfold nextDay
  split
  · exact ⟨⟨hm1, hm12, Nat.succ_pos _, by assumption⟩, rfl⟩
  · split
    · rename_i h
      exact ⟨⟨Nat.le_add_left 1 _, h, le_rfl, h1 _ _ (Nat.le_add_left 1 _) h⟩, rfl⟩
    · exact ⟨⟨le_rfl, (by decide : 1 ≤ 12), le_rfl, h1 _ _ le_rfl (by decide : 1 ≤ 12)⟩, rfl⟩

example : nextDay ⟨2024, 2, 28⟩ = ⟨2024, 2, 29⟩ ∧ nextDay ⟨2023, 2, 28⟩ = ⟨2023, 3, 1⟩ ∧
    nextDay ⟨1999, 12, 31⟩ = ⟨2000, 1, 1⟩ := by decide

/-- **consecutive days are the calendar days of consecutive months**: the `date_range` of the total length of `k`
months from the 1st of the starting month is, month after month, day 1 … `daysInMonth` of each month of the series -/
theorem daysFrom_covers_months (y0 : Int) (m0 : Nat) (h1 : 1 ≤ m0) (h12 : m0 ≤ 12) (k : Nat) :
    daysFrom { y := y0, m := m0, d := 1 } (monthLengths y0 m0 k).sum =
      (List.range k).flatMap fun j => monthDays (monthAt y0 m0 j).1 (monthAt y0 m0 j).2 := by
  have := daysFrom_months y0 m0 h1 h12 k 0
  simpa [daysFrom] using this

example : daysFrom ⟨2024, 2, 1⟩ (29 + 31) = monthDays 2024 2 ++ monthDays 2024 3 := by decide +kernel
example : (monthLengths 2024 2 2).sum = 60 := by decide

section series
set_option linter.unusedSectionVars false
variable {α : Type} [Field α] [LinearOrder α] [IsStrictOrderedRing α]

/-- the daily Series `monthly2daily` returns (flat: fictive month, `resample("D").ffill()`, division by the
`days_in_month` of every DAY's own stamp, threshold mask, last day dropped; cubic: 31-column grid, columns beyond the
month blanked, NaN filter, `date_range` of the number of values that are left) is, for EVERY input — missing months and
thresholds included — the per-month lists of `m2d` stamped with the calendar days of their months -/
theorem m2dSeries_eq_stamped (isnan : α → Bool) (hnan : ∀ x, isnan x = false) (interp : String) (y0 : Int)
    (m0 : Nat) (minthr : α) (vs : List (Option α)) :
    m2dSeries isnan interp y0 m0 minthr vs =
      match m2d interp y0 m0 minthr vs with
      | .ok months => .ok (stampMonths y0 m0 months)
      | .error e => .error e := by
  unfold m2dSeries m2d
  split_ifs with hf hc
  · exact m2dFlatSeries_eq y0 m0 minthr vs
  · rw [m2dCubicSeries_eq isnan hnan y0 m0 minthr vs]
    cases m2dCubic y0 m0 minthr vs with
    | error e => rfl
    | ok ms => exact congrArg _ (stampMonths_map some y0 m0 ms).symm
  · rfl

/-- **monthly2daily returns one value per calendar day whose sum over each month is the monthly input**, at the
level of the returned Series: for a complete non-negative month-start series (flat or cubic) the stamps are every
calendar day of the covered months, once, in order; no value is missing; and the values stamped with the days of
month `j` add up to the `j`-th monthly input -/
theorem m2dSeries_spec (isnan : α → Bool) (hnan : ∀ x, isnan x = false) (interp : String)
    (hi : interp = "flat" ∨ interp = "cubic") (y0 : Int) (m0 : Nat) (h1 : 1 ≤ m0) (h12 : m0 ≤ 12) (ys : List α)
    (hne : ys ≠ []) (hpos : ∀ y ∈ ys, 0 ≤ y) :
    ∃ out, m2dSeries isnan interp y0 m0 0 (ys.map some) = .ok out ∧
      out.map Prod.fst = daysFrom { y := y0, m := m0, d := 1 } (monthLengths y0 m0 ys.length).sum ∧
      (∀ p ∈ out, p.2 ≠ none) ∧
      ∀ (j : Nat) (hj : j < ys.length),
        (vals ((out.filter fun p => monthIndex y0 m0 p.1 == (j : Int)).map Prod.snd)).sum = ys[j] := by
  obtain ⟨months, hrun, hlen, hmon⟩ := m2d_spec interp hi y0 m0 h1 h12 ys hne hpos
  have hser := m2dSeries_eq_stamped isnan hnan interp y0 m0 (0 : α) (ys.map some)
  rw [hrun] at hser
  refine ⟨_, hser, ?_, ?_, ?_⟩
  · rw [daysFrom_covers_months y0 m0 h1 h12, ← hlen]
    exact map_fst_stampMonths y0 m0 months fun j hj => (hmon j (hlen ▸ hj) hj).1
  · intro p hp
    obtain ⟨j, hj, hpj⟩ := mem_stampMonths hp
    exact (hmon j (hlen ▸ hj) hj).2.1 p.2 hpj
  · intro j hj
    have hj2 : j < months.length := by omega
    rw [filter_stampMonths y0 m0 h1 months j hj2,
      List.map_snd_zip (by rw [monthDays_length, (hmon j hj hj2).1, ndaysAt])]
    exact (hmon j hj hj2).2.2

example := m2dSeries_spec (α := ℚ) (fun _ => false) (fun _ => rfl) "cubic" (Or.inr rfl) 2024 2 (by decide)
  (by decide) [29, 62] (List.cons_ne_nil _ _) (by decide +kernel)
example : (match m2dSeries (α := ℚ) (fun _ => false) "flat" 2023 2 0 [some 28, some 62] with
    | .ok out => out.map fun p => (p.1.m, p.1.d, p.2)
    | .error _ => []) =
    ((List.range 28).map fun d => (2, d + 1, some 1)) ++ ((List.range 31).map fun d => (3, d + 1, some 2)) := by
  decide +kernel

/-- why the property asks for non-negative values: the flat branch masks a negative month entirely (every day of it
is missing), so the hypothesis `0 ≤ y` of `m2dFlat_spec` / `m2d_spec` / `m2dSeries_spec` cannot be dropped -/
theorem flatMonth_negative_masked (v : α) (hv : v < 0) (n : Nat) (hn : 0 < n) :
    flatMonth 0 (some v) n = List.replicate n none := by
  rw [flatMonth, if_pos (div_neg_of_neg_of_pos hv (Nat.cast_pos.mpr hn))]

example : flatMonth (0 : ℚ) (some (-31)) 31 = List.replicate 31 none :=
  flatMonth_negative_masked (-31) (by norm_num) 31 (by decide)

end series

example : ([(1, some (-3)), (1, none), (1, some (-1)), (2, some 5), (2, none)] : List (Int × Option ℚ)) ≠ [] ∧
    (([(1, some (-3)), (1, none), (1, some (-1)), (2, some 5), (2, none)] : List (Int × Option ℚ)).map
      Prod.fst).Pairwise (· ≤ ·) := by decide +kernel
-- sum, mean, max, tail on it with maxnan = 1; maxnan = 0 turns both groups into NaN
example : aggregate (α := ℚ) 0 1 [(1, some (-3)), (1, none), (1, some (-1)), (2, some 5), (2, none)]
    = .ok [some (-4), some 5] := by decide +kernel
example : aggregate (α := ℚ) 1 1 [(1, some (-3)), (1, none), (1, some (-1)), (2, some 5), (2, none)]
    = .ok [some (-2), some 5] := by decide +kernel
example : aggregate (α := ℚ) 2 1 [(1, some (-3)), (1, none), (1, some (-1)), (2, some 5), (2, none)]
    = .ok [some (-1), some 5] := by decide +kernel
example : aggregate (α := ℚ) 3 1 [(1, some (-3)), (1, none), (1, some (-1)), (2, some 5), (2, none)]
    = .ok [some (-1), some 5] := by decide +kernel
example : aggregate (α := ℚ) 3 0 [(1, some (-3)), (1, none), (1, some (-1)), (2, some 5), (2, none)]
    = .ok [none, none] := by decide +kernel
example : keys ([(1, some (-3)), (1, none), (1, some (-1)), (2, some 5), (2, none)] : List (Int × Option ℚ))
    = [1, 2] := by decide +kernel
example : ¬ (([(2, some 1), (1, some 2)] : List (Int × Option ℚ)).map Prod.fst).Pairwise (· ≤ ·) := by decide +kernel
example : aggregate (α := ℚ) 0 0 [(2, some 1), (1, some 2)] = .error .decreasingIndex := by decide +kernel
example : flathomogen (α := ℚ) 0 [(2, some 1), (1, some 2)] = .error .decreasingIndex := by decide +kernel
-- flathomogen: group means, missing kept, totals 1 and 8 preserved
example : flathomogen (α := ℚ) 1 [(1, some 1), (1, none), (2, some 3), (2, some 5)]
    = .ok [some 1, none, some 4, some 4] := by decide +kernel
-- monthly2daily: February of a leap year then March; each month adds up to its input
example : m2dFlat (α := ℚ) 2024 2 0 [some 29, some 62]
    = .ok [List.replicate 29 (some 1), List.replicate 31 (some 2)] := by decide +kernel
example : (match m2dCubic (α := ℚ) 1900 2 0 [some 28, some 62] with
    | .ok ms => ms.map fun d => (d.length, d.sum)
    | .error _ => []) = [(28, 28), (31, 62)] := by decide +kernel
example : ndaysAt 2100 2 0 = 28 ∧ ndaysAt 2000 2 0 = 29 ∧ ndaysAt 1999 12 1 = 31 ∧
    monthAt 1999 12 1 = (2000, 1) := by decide +kernel

end HydroVerif.C08
