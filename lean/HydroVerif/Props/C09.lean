/-
C09 — property theorems. Model: `HydroVerif/Model/C09.lean` (header, records, whole file, file names), `Model/C09Num.lean`
(number formatting / parsing), `Model/C09Fs.lean` (directory and archive state machines); predicates and lemmas:
`Lemmas/C09Spec.lean` (KeyOk, ValOk, readBack, NameOk, ZipInv …), `Lemmas/C09*.lean`.

Clause of the property                                   | theorems                                                   | outside the theorems
---------------------------------------------------------|------------------------------------------------------------|---------------------
header comments come back unchanged in the dictionary    | write_read_header (whole header as `_csvhead` writes it for a comment DICTIONARY with admissible keys: counts, sort, system pairs; ANY value: returned trimmed, blank dropped; no stray keys; the other kinds of comment argument and the collapsing keys are modelled and driven, not in a theorem), header_roundtrip, readHeader_pairs, h2cLoop_pairs, h2cElem_headLine_any, h2cElem_headLine, h2cElem_rule, isRule_keyLine, commentsOf_dict, systemPairs_ok, readBack_lookup, writerKey_id, readerStrip_headLine; foreign headers: readHeader_lookup, h2cLoop_preserves, lookup_dictSet_self/other; needed hypotheses: reserved_key_needed, key_blank_rewritten, key_colon_removed, long_key_lost | python `re` (modelled as list functions, compared on every generated header); time stamp, login name, versions are parameters (any text)
recorded row and column counts are returned              | write_read_header (lookup nrow/ncol = digits written, natVal (natStr n) = n) | -
header block / column line / body are separated correctly | csv_roundtrip (header + table, end to end on the model), csvheadFull_lines, file_roundtrip, splitFile_written (rows starting with `#` stay rows) | file objects (`readline` modelled as readLines)
same column names                                        | file_roundtrip, colnames_roundtrip (names may begin / end with blanks), writeRow_cols, quoteField_plain | multi-index names with parentheses and names with dots are outside the name alphabet (dots: fixName modelled)
same number of rows, equal non-empty text values         | file_roundtrip (whole text: every record of every row), parseRow_writeRow (any text, any number of fields), field_closed | pandas type inference and NA handling (oracle end-to-end); embedded line breaks are outside the quantifier
numeric values equal to the float-format precision       | fixed_precision, parseDec_fmtFixed (`%0.Nf`: |read − written| ≤ ½·10^-N, exact rationals), exp_precision, parseSci_fmtExp, exp_zero (`%0.Ne`: relative ½·10^-N), parseInt_fmtInt (integers of any magnitude exact), fmtFixed_plain, read_back_enclosed (monotone rounding of the reader) | that `float_format % x` prints the correctly rounded decimal of the exact binary value and that pandas' reader returns a double next to the decimal value: compared cell by cell (`fmtf/fmte/fmti/pnum/pint`)
plain file, any accepted name                            | write_read_plain (any directory contents), plain_roundtrip  | the file system (a python-dict-like association list in the model)
zip-compressed under any accepted file name              | write_read_compress (any directory contents without a preferred older candidate), compress_roundtrip, suffix_stem_zip, writeTarget_zip, readTarget_zip; needed hypotheses: stale_plain_shadows_zip, stale_gz_shadows_zip, plain_under_zip_name_unreadable (candidate list regenerated from csv.py, as is KEY_LENGTH_MAX of the header row) | zipfile
histories in one directory                               | run_inv, writeStep_inv (every zip file holds `<stem>.csv`, along any list of accepted / refused writes and reads), history_member_found, readStep_member_found (no read ever fails for a missing member) | -
member of a caller-supplied archive in a sub-folder      | archive_history (any list of member writes - refused when present - and reads: a member reads as its first write), archive_write_read | zipfile; `PurePosixPath` normalisation of the member name (same call on both sides)
-/
import HydroVerif.Lemmas.C09Spec

namespace HydroVerif.C09


theorem writerKey_id (k : Str) (hk : KeyOk k) : writerKey k = k := by
  unfold writerKey
  rw [List.filter_eq_self.mpr hk.noColon, hk.lowered]

theorem readerStrip_headLine (k v : Str) (hk : KeyOk k) :
    readerStrip (headLine k v ++ ['\n']) = k ++ " : ".toList ++ v := by
  obtain ⟨c, rest, rfl⟩ := List.exists_cons_of_ne_nil hk.nonempty
  have e : headLine (c :: rest) v ++ ['\n'] = '#' :: ' ' :: c :: ((rest ++ " : ".toList ++ v) ++ ['\n']) := by
    rw [headLine, show "# ".toList = ['#', ' '] from String.toList_ofList]
    simp
  rw [e, readerStrip_hash_blank _ _ (hk.ne_of_isSpace (by decide) c List.mem_cons_self)]
  simp

/-- a `key : value` line is never taken for a dashed rule (it holds a blank and a colon), whatever dashes the value holds -/
theorem isRule_keyLine (k v : Str) : isRule (k ++ " : ".toList ++ v) = false :=
  isRule_of_mem (c := ' ') (by simp) (by decide)

/-- **one header line, any value**: the line written for `(key, value)` is parsed back to `(key, value.strip())` - or to
nothing when the value is blank - for values that may contain colons, hashes, commas, quotes, runs of dashes; the
`comment_nn` counter is left alone -/
theorem h2cElem_headLine_any (i : Nat) (k v : Str) (hk : KeyOk k) :
    h2cElem i (readerStrip (headLine k v ++ ['\n'])) = (readBack (k, v), i) := by
  rw [readerStrip_headLine k v hk, h2cElem_keyLine i k v hk]

/-- **one header line round-trips**: the line written for an admissible `(key, value)` is parsed back to exactly
`(key, value)` - runs of dashes in the value included (`isRule_keyLine`) -/
theorem h2cElem_headLine (i : Nat) (k v : Str) (hk : KeyOk k) (hv : ValOk v) :
    h2cElem i (readerStrip (headLine k v ++ ['\n'])) = (some (k, v), i) := by
  rw [h2cElem_headLine_any i k v hk, readBack, strip_of_valOk v hv, if_neg hv.nonempty]

theorem lookup_dictSet_self (d : List (Str × Str)) (k v : Str) : (dictSet d k v).lookup k = some v := by
  rw [dictSet_eq, Assoc.lookup_upsert, if_pos (beq_self_eq_true k)]

theorem lookup_dictSet_other (d : List (Str × Str)) (k k' v : Str) (hne : k' ≠ k) :
    (dictSet d k v).lookup k' = d.lookup k' := by
  rw [dictSet_eq, Assoc.lookup_upsert, if_neg (by simpa using hne)]

theorem h2cLoop_preserves (k : Str) (es : List Str) :
    ∀ (i : Nat) (d : List (Str × Str)), (∀ j, ∀ e ∈ es, notKey k j e) →
      (h2cLoop i d es).lookup k = d.lookup k := by
  induction es with
  | nil => intro i d _; rfl
  | cons e es ih =>
    intro i d h
    rw [h2cLoop_cons, ih _ _ fun j e' he' => h j e' (List.mem_cons_of_mem _ he')]
    have he := h i e List.mem_cons_self
    rcases hr : (h2cElem i e).1 with _ | kv
    · rfl
    · exact lookup_dictSet_other d kv.1 k kv.2 (he kv hr).symm

/-- **header round trip, any surrounding lines**: if the line written for `(k, v)` occurs in a header (of this or any other
writer) and no later line defines key `k`, then the comment dictionary returned by the reader holds `v` under `k` -/
theorem readHeader_lookup (before after : List Str) (k v : Str) (hk : KeyOk k) (hv : ValOk v)
    (hafter : ∀ j, ∀ l ∈ after, notKey k j (readerStrip l)) :
    (readHeader (before ++ [headLine k v ++ ['\n']] ++ after)).lookup k = some v := by
  unfold readHeader header2comment
  simp only [List.map_append, List.map_cons, List.map_nil]
  rw [List.append_assoc, h2cLoop_append, List.singleton_append, h2cLoop_cons, h2cElem_headLine _ k v hk hv,
    h2cLoop_preserves k _ _ _ fun j e he => by
      obtain ⟨l, hl, rfl⟩ := List.mem_map.mp he
      exact hafter j l hl]
  exact lookup_dictSet_self _ _ _

theorem h2cElem_rule (i : Nat) : h2cElem i (readerStrip (rule ++ ['\n'])) = (none, i) := by
  unfold h2cElem
  rw [if_pos isRule_readerStrip_rule]

theorem h2cLoop_pairs (kvs : List (Str × Str)) :
    ∀ (i : Nat) (d : List (Str × Str)), (∀ kv ∈ kvs, KeyOk kv.1) → (d.map (·.1) ++ kvs.map (·.1)).Nodup →
      h2cLoop i d (kvs.map fun kv => readerStrip (headLine kv.1 kv.2 ++ ['\n'])) = d ++ kvs.filterMap readBack := by
  intro i d hk hn
  rw [h2cLoop_map _ readBack kvs fun kv hkv j => h2cElem_headLine_any j kv.1 kv.2 (hk kv hkv)]
  exact foldl_dictSet_fresh _ d (hn.sublist ((filterMap_readBack_keys kvs).append_left _))

theorem readHeader_pairs (kvs : List (Str × Str)) (hk : ∀ kv ∈ kvs, KeyOk kv.1) (hn : (kvs.map (·.1)).Nodup) :
    readHeader ((rule :: kvs.map (fun kv => headLine kv.1 kv.2) ++ [rule]).map (· ++ ['\n'])) = kvs.filterMap readBack := by
  have e : ((rule :: kvs.map (fun kv => headLine kv.1 kv.2) ++ [rule]).map (· ++ ['\n'])).map readerStrip
      = readerStrip (rule ++ ['\n']) :: (kvs.map fun kv => readerStrip (headLine kv.1 kv.2 ++ ['\n']))
        ++ [readerStrip (rule ++ ['\n'])] := by
    simp [Function.comp_def]
  rw [readHeader, header2comment, e, List.cons_append, h2cLoop_cons, h2cElem_rule, h2cLoop_append]
  dsimp only [Option.elim]
  rw [h2cLoop_pairs kvs 1 [] hk (by simpa using hn), h2cLoop_cons, h2cElem_rule]
  rfl

theorem commentsOf_dict (comments : List (Str × Str)) (hk : ∀ kv ∈ comments, KeyOk kv.1)
    (hn : (comments.map (·.1)).Nodup) : commentsOf (.dict comments) = comments := by
  have hmap : comments.map (fun kv => (writerKey kv.1, kv.2)) = comments :=
    (List.map_congr_left fun kv h => by rw [writerKey_id kv.1 (hk kv h)]).trans (List.map_id' _)
  have h := foldl_dictSet_fresh (comments.map fun kv => (writerKey kv.1, kv.2)) [] (by rw [hmap]; simpa using hn)
  rw [List.foldl_map, hmap] at h
  exact h

/-- **the whole header**: for a comment dictionary with admissible keys (pairwise different, as dictionary keys are, and
different from the count keys and the system keys) and ANY values, and system pairs with admissible pairwise different
keys, the dictionary the reader returns for the header `_csvhead` wrote is exactly: nrow, ncol, the caller's comments
in key order, the system pairs - every value trimmed, blank values left out. All lines of the header are
accounted for: there is no hypothesis on other lines -/
theorem header_roundtrip (nrow ncol : Nat) (comments system : List (Str × Str))
    (hk : ∀ kv ∈ comments, KeyOk kv.1) (hn : (comments.map (·.1)).Nodup)
    (hsk : ∀ kv ∈ system, KeyOk kv.1) (hsn : (system.map (·.1)).Nodup)
    (hres : ∀ kv ∈ comments, kv.1 ∉ countKeys ++ system.map (·.1))
    (hsres : ∀ kv ∈ system, kv.1 ∉ countKeys) :
    readHeader ((csvheadFull nrow ncol (.dict comments) system).map (· ++ ['\n']))
      = (headPairs nrow ncol comments system).filterMap readBack := by
  unfold csvheadFull
  rw [commentsOf_dict comments hk hn]
  refine readHeader_pairs _ (fun kv hkv => ?_) (headPairs_keys_nodup nrow ncol comments system hn hsn hres hsres)
  rcases mem_headPairs.mp hkv with (rfl | rfl) | h | h
  · exact keyOk_nrow
  · exact keyOk_ncol
  · exact hk kv h
  · exact hsk kv h

theorem readBack_lookup (l : List (Str × Str)) (hn : (l.map (·.1)).Nodup) (k v : Str) (hm : (k, v) ∈ l) :
    (l.filterMap readBack).lookup k = if strip v = [] then none else some (strip v) := by
  split
  · -- a pair read back under `k` stems from a pair `(k, v0)` of `l`, and pairwise different keys give `v0 = v`
    refine List.lookup_eq_none_iff.mpr fun p hp => bne_iff_ne.mpr fun hk => ?_
    obtain ⟨⟨k0, v0⟩, hkv0, hrb⟩ := List.mem_filterMap.mp hp
    unfold readBack at hrb
    split at hrb
    · cases hrb
    · cases hrb
      obtain rfl : k = k0 := hk
      cases (Assoc.lookup_of_mem_nodup l k v0 hkv0 hn).symm.trans (Assoc.lookup_of_mem_nodup l k v hm hn)
      contradiction
  · exact Assoc.lookup_of_mem_nodup _ _ _ (List.mem_filterMap.mpr ⟨(k, v), hm, by rw [readBack, if_neg ‹_›]⟩)
      ((filterMap_readBack_keys l).nodup hn)

/-- whatever the time stamp, author, paths and version texts are: the hypotheses of `header_roundtrip` on the system
lines follow from the code -/
theorem systemPairs_ok (time author sourcePath sourceName : Str) (sys : Option SysInfo) :
    (∀ kv ∈ systemPairs time author sourcePath sourceName sys, KeyOk kv.1 ∧ kv.1 ∈ systemKeys ∧ kv.1 ∉ countKeys)
    ∧ ((systemPairs time author sourcePath sourceName sys).map (·.1)).Nodup := by
  have hsub := systemPairs_keys_sublist time author sourcePath sourceName sys
  refine ⟨fun kv hkv => ?_, hsub.nodup systemKeys_ok.2⟩
  have hm := hsub.subset (List.mem_map_of_mem hkv)
  exact ⟨(systemKeys_ok.1 _ hm).1, hm, (systemKeys_ok.1 _ hm).2⟩

/-- **header comments and counts, as `write_csv` writes them**: for every comment dictionary with admissible keys that are
not reserved and ANY values (the lines of the model are the lines `readline` returns only for single-line ones), every time stamp, author, source file and system information:
each supplied comment comes back under its key with its value (trimmed; unchanged when it has no outer blanks), the
recorded counts come back and read as the numbers written, and every key of the returned dictionary is a supplied key,
a count key or a system key -/
theorem write_read_header (nrow ncol : Nat) (comments : List (Str × Str)) (time author sourcePath sourceName : Str)
    (sys : Option SysInfo)
    (hk : ∀ kv ∈ comments, KeyOk kv.1) (hn : (comments.map (·.1)).Nodup)
    (hres : ∀ kv ∈ comments, kv.1 ∉ reservedKeys) :
    let d := readHeader ((csvheadFull nrow ncol (.dict comments) (systemPairs time author sourcePath sourceName sys)).map (· ++ ['\n']))
    (∀ kv ∈ comments, d.lookup kv.1 = if strip kv.2 = [] then none else some (strip kv.2))
    ∧ (∀ kv ∈ comments, ValOk kv.2 → d.lookup kv.1 = some kv.2)
    ∧ d.lookup "nrow".toList = some (natStr nrow) ∧ natVal (natStr nrow) = nrow
    ∧ d.lookup "ncol".toList = some (natStr ncol) ∧ natVal (natStr ncol) = ncol
    ∧ (∀ k ∈ d.map (·.1), k ∈ comments.map (·.1) ∨ k ∈ reservedKeys) := by
  intro d
  obtain ⟨hsys, hsysn⟩ := systemPairs_ok time author sourcePath sourceName sys
  set system := systemPairs time author sourcePath sourceName sys
  have hsyskey : ∀ kv ∈ system, kv.1 ∈ reservedKeys := fun kv h => List.mem_append_right _ (hsys kv h).2.1
  have hres' : ∀ kv ∈ comments, kv.1 ∉ countKeys ++ system.map (·.1) := fun kv hkv hmem =>
    hres kv hkv ((List.mem_append.mp hmem).elim (List.mem_append_left _) fun h => by
      obtain ⟨kv', hkv', he⟩ := List.mem_map.mp h
      exact he ▸ hsyskey kv' hkv')
  have hsres : ∀ kv ∈ system, kv.1 ∉ countKeys := fun kv h => (hsys kv h).2.2
  have hd : d = (headPairs nrow ncol comments system).filterMap readBack :=
    header_roundtrip nrow ncol comments system hk hn (fun kv h => (hsys kv h).1) hsysn hres' hsres
  have hlook : ∀ k v, (k, v) ∈ headPairs nrow ncol comments system →
      d.lookup k = if strip v = [] then none else some (strip v) := fun k v hm =>
    hd ▸ readBack_lookup _ (headPairs_keys_nodup nrow ncol comments system hn hsysn hres' hsres) k v hm
  have hcount : ∀ k n, ((k, natStr n) ∈ headPairs nrow ncol comments system) → d.lookup k = some (natStr n) :=
    fun k n hm => by rw [hlook k _ hm, (natStr_plain n).1, if_neg (natStr_ne_nil n)]
  refine ⟨fun kv hkv => hlook _ _ (mem_headPairs.mpr (.inr (.inl hkv))), fun kv hkv hv => ?_,
    hcount _ _ (mem_headPairs.mpr (.inl (.inl rfl))), natVal_natStr nrow,
    hcount _ _ (mem_headPairs.mpr (.inl (.inr rfl))), natVal_natStr ncol, fun k hkmem => ?_⟩
  · rw [hlook _ _ (mem_headPairs.mpr (.inr (.inl hkv))), strip_of_valOk kv.2 hv, if_neg hv.nonempty]
  · rw [hd] at hkmem
    obtain ⟨kv, hkv, rfl⟩ := List.mem_map.mp ((filterMap_readBack_keys _).subset hkmem)
    rcases mem_headPairs.mp hkv with (rfl | rfl) | h | h
    · exact .inr (List.mem_append_left _ List.mem_cons_self)
    · exact .inr (List.mem_append_left _ (List.mem_cons_of_mem _ List.mem_cons_self))
    · exact .inl (List.mem_map_of_mem h)
    · exact .inr (hsyskey kv h)

/-- the reader takes exactly the written header block as header, the next line as column names and
all remaining lines as table rows - also rows whose first character is `#` -/
theorem splitFile_written (header : List Str) (cols : Str) (body : List Str)
    (hh : ∀ l ∈ header, startsWith l ['#'] = true) (hc : startsWith cols ['#'] = false) :
    splitFile (header ++ cols :: body) = (header, some cols, body) := by
  unfold splitFile
  have : (header ++ cols :: body).takeWhile (fun l => startsWith l ['#']) = header :=
    Strip.takeWhile_append_stop _ _ _ _ hh hc
  simp only [this, List.drop_left']


/-- **record round trip**: whatever the text of the fields (commas, quotes, colons, hashes, even line breaks), the
tokeniser recovers exactly the fields that were written, for any number of fields -/
theorem parseRow_writeRow (fs : List Str) (h : fs ≠ []) : parseRow (writeRow fs) = fs := by
  obtain ⟨f, fs, rfl⟩ := List.exists_cons_of_ne_nil h
  obtain ⟨st, hf, h1⟩ := field_read f []
  unfold parseRow
  rw [writeRow_cons, List.foldl_append, hf]
  exact writeRow_rest_fold fs st f [] h1

theorem quoteField_plain (f : Str) (h : ∀ c ∈ f, c ≠ ',' ∧ c ≠ '"' ∧ c ≠ '\n' ∧ c ≠ '\r') : quoteField f = f :=
  quoteField_of_not_needsQuote (needsQuote_eq_false.mpr h)

/-- the quotes of a written field are balanced: after it the tokeniser is in state `qq`, `unq` or `start`, never inside
quotes (the tokeniser has no line-break case: embedded line breaks are outside the quantifier) -/
theorem field_closed (f : Str) (done : List Str) :
    ((quoteField f).foldl pstep ⟨.start, [], done⟩).st ≠ .q := by
  obtain ⟨st, h, h1⟩ := field_read f done
  rw [h]; exact h1

theorem writeRow_cols (names : List Str) (h : ∀ n ∈ names, ColOk n) (hne : names ≠ []) :
    splitOnComma (writeRow names) = names := by
  induction names with
  | nil => exact absurd rfl hne
  | cons n ns ih =>
    have hn : ∀ c ∈ n, c ≠ ',' := fun c hc => (h n List.mem_cons_self c hc).1
    cases ns with
    | nil =>
      simp only [writeRow, quoteField_plain n (h n List.mem_cons_self)]
      exact splitOnComma_plain n hn
    | cons m ms =>
      simp only [writeRow, quoteField_plain n (h n List.mem_cons_self)]
      rw [splitOnComma_append n hn, ih (fun k hk => h k (List.mem_cons_of_mem _ hk)) (List.cons_ne_nil _ _)]

/-- **column names**: the line `to_csv` writes for admissible column names is split back into exactly those names by the
reader's `line.rstrip("\r\n").split(",")` - names may begin or end with blanks -/
theorem colnames_roundtrip (names : List Str) (h : ∀ n ∈ names, ColOk n) (hne : names ≠ []) :
    splitCols (writeRow names ++ ['\n']) = names := by
  -- the record itself does not end with a line terminator: its last character belongs to a name or is a quote or comma
  have hstrip : rstripNL (writeRow names ++ ['\n']) = writeRow names := by
    refine (List.rdropWhile_concat_pos _ _ _ (by decide)).trans (List.rdropWhile_eq_self_iff.mpr fun hl => ?_)
    rcases writeRow_mem names _ (List.getLast_mem hl) with ⟨f, hf, hcf⟩ | hq | hq
    · obtain ⟨-, -, h3, h4⟩ := h f hf _ hcf
      simp [h3, h4]
    · rw [hq]; decide
    · rw [hq]; decide
  rw [splitCols, hstrip]
  exact writeRow_cols names h hne

/-- **the whole file**: the text `write_csv` produces from header lines (each starting with `#`), admissible column names
and records of single-line fields (any text: commas, quotes, colons, hashes; numbers as formatted) is read back by
`read_csv` - `readline` loop, header / column line / body split, name split, tokeniser - as exactly the same names,
the same number of records and the same fields, with the comment dictionary of the header lines -/
theorem file_roundtrip (head : List Str) (t : Table)
    (hh : ∀ l ∈ head, startsWith l ['#'] = true ∧ ∀ c ∈ l, c ≠ '\n')
    (hnames : ∀ n ∈ t.names, NameOk n) (hne : t.names ≠ [])
    (hrows : ∀ r ∈ t.rows, r ≠ [] ∧ ∀ f ∈ r, ∀ c ∈ f, c ≠ '\n') :
    readFile (writeFile head t) = some { comment := readHeader (head.map (· ++ ['\n'])), table := t } := by
  obtain ⟨names, rows⟩ := t
  dsimp only at hnames hne hrows
  have hcol : ∀ m ∈ names, ColOk m := fun m hm => (hnames m hm).colOk
  have hnonl : ∀ d ∈ writeRow names, d ≠ '\n' := writeRow_no_newline _ fun f hf d hd => (hcol f hf d hd).2.2.1
  have hlines : ∀ l ∈ head ++ writeRow names :: rows.map writeRow, ∀ d ∈ l, d ≠ '\n' := by
    simp only [List.mem_append, List.mem_cons, List.mem_map]
    rintro l (h | rfl | ⟨r, hr, rfl⟩)
    exacts [(hh l h).2, hnonl, writeRow_no_newline r (hrows r hr).2]
  -- the column-name record begins with the first character of the first name, which is not a hash
  have hcolline : startsWith (writeRow names ++ ['\n']) ['#'] = false := by
    obtain ⟨n, ns, rfl⟩ := List.exists_cons_of_ne_nil hne
    have hn := hnames n List.mem_cons_self
    obtain ⟨c, n', rfl⟩ := List.exists_cons_of_ne_nil hn.nonempty
    rw [writeRow_cons, quoteField_of_not_needsQuote (needsQuote_eq_false.mpr hn.colOk)]
    obtain ⟨-, -, -, -, hhash, -⟩ := hn.plain c List.mem_cons_self
    simp [startsWith, hhash]
  have hsplit : splitFile ((head ++ writeRow names :: rows.map writeRow).map (· ++ ['\n']))
      = (head.map (· ++ ['\n']), some (writeRow names ++ ['\n']), (rows.map writeRow).map (· ++ ['\n'])) := by
    rw [List.map_append, List.map_cons]
    refine splitFile_written _ _ _ (fun l hl => ?_) hcolline
    obtain ⟨l0, hl0, rfl⟩ := List.mem_map.mp hl
    have := (hh l0 hl0).1
    cases l0 with
    | nil => cases this
    | cons a l0 => simpa [startsWith] using this
  unfold readFile writeFile
  dsimp only
  rw [readLines_joinLines _ hlines, hsplit]
  simp only [colnames_roundtrip names hcol hne, Option.some.injEq]
  congr 2
  · exact (List.map_congr_left fun m hm => fixName_id m (hnames m hm)).trans (List.map_id _)
  · rw [List.map_map, List.map_map]
    refine (List.map_congr_left fun r hr => ?_).trans (List.map_id _)
    simp only [Function.comp, chomp_line]
    exact parseRow_writeRow r (hrows r hr).1

theorem csvheadFull_lines (nrow ncol : Nat) (comments system : List (Str × Str))
    (hc : ∀ kv ∈ comments, KeyOk kv.1) (hn : (comments.map (·.1)).Nodup)
    (hcl : ∀ kv ∈ comments, (∀ c ∈ kv.1, c ≠ '\n') ∧ ∀ c ∈ kv.2, c ≠ '\n')
    (hsl : ∀ kv ∈ system, (∀ c ∈ kv.1, c ≠ '\n') ∧ ∀ c ∈ kv.2, c ≠ '\n') :
    ∀ l ∈ csvheadFull nrow ncol (.dict comments) system, startsWith l ['#'] = true ∧ ∀ c ∈ l, c ≠ '\n' := by
  intro l hl
  unfold csvheadFull at hl
  rw [commentsOf_dict comments hc hn] at hl
  simp only [List.mem_cons, List.mem_append, List.mem_map, List.not_mem_nil, or_false] at hl
  -- `l = rule` is not substituted: that would evaluate the string literal behind `rule`
  rcases hl with (h | ⟨kv, hkv, rfl⟩) | h
  · exact h ▸ rule_line
  · rcases mem_headPairs.mp hkv with (rfl | rfl) | h | h
    · exact headLine_line _ _ (keyOk_nrow.ne_of_isSpace (by decide)) (natStr_plain _).2
    · exact headLine_line _ _ (keyOk_ncol.ne_of_isSpace (by decide)) (natStr_plain _).2
    · exact headLine_line _ _ (hcl kv h).1 (hcl kv h).2
    · exact headLine_line _ _ (hsl kv h).1 (hsl kv h).2
  · exact h ▸ rule_line

/-- **the property on the model, end to end**: for every comment dictionary with admissible, non-reserved keys and single-line
values, every table with admissible column names and at least one field per record (single-line fields of any text; numbers
as formatted), every time stamp / author / source file / system information (single-line): the text `write_csv` produces is
read back by `read_csv` as the same column names, the same records, a dictionary that holds every supplied comment (trimmed;
unchanged for trimmed non-blank values), the counts written, and nothing that is not a supplied, count or system key -/
theorem csv_roundtrip (nrow ncol : Nat) (comments : List (Str × Str)) (time author sourcePath sourceName : Str)
    (sys : Option SysInfo) (t : Table)
    (hk : ∀ kv ∈ comments, KeyOk kv.1) (hn : (comments.map (·.1)).Nodup) (hres : ∀ kv ∈ comments, kv.1 ∉ reservedKeys)
    (hcl : ∀ kv ∈ comments, ∀ c ∈ kv.2, c ≠ '\n')
    (hsl : ∀ kv ∈ systemPairs time author sourcePath sourceName sys, ∀ c ∈ kv.2, c ≠ '\n')
    (hnames : ∀ n ∈ t.names, NameOk n) (hne : t.names ≠ [])
    (hrows : ∀ r ∈ t.rows, r ≠ [] ∧ ∀ f ∈ r, ∀ c ∈ f, c ≠ '\n') :
    ∃ d, readFile (writeFile (csvheadFull nrow ncol (.dict comments) (systemPairs time author sourcePath sourceName sys)) t)
        = some { comment := d, table := t }
      ∧ (∀ kv ∈ comments, d.lookup kv.1 = if strip kv.2 = [] then none else some (strip kv.2))
      ∧ (∀ kv ∈ comments, ValOk kv.2 → d.lookup kv.1 = some kv.2)
      ∧ d.lookup "nrow".toList = some (natStr nrow) ∧ d.lookup "ncol".toList = some (natStr ncol)
      ∧ (∀ k ∈ d.map (·.1), k ∈ comments.map (·.1) ∨ k ∈ reservedKeys) := by
  obtain ⟨hsys, _⟩ := systemPairs_ok time author sourcePath sourceName sys
  have hlines := csvheadFull_lines nrow ncol comments (systemPairs time author sourcePath sourceName sys) hk hn
    (fun kv h => ⟨(hk kv h).ne_of_isSpace (by decide), hcl kv h⟩)
    (fun kv h => ⟨(hsys kv h).1.ne_of_isSpace (by decide), hsl kv h⟩)
  obtain ⟨h1, h2, h3, _, h5, _, h7⟩ := write_read_header nrow ncol comments time author sourcePath sourceName sys hk hn hres
  exact ⟨_, file_roundtrip _ t hlines hnames hne hrows, h1, h2, h3, h5, h7⟩

/-- **integer cells come back exactly**: the decimal text `str` writes for any integer - of any magnitude, no detour through
floating point - is read back as that integer -/
theorem parseInt_fmtInt (z : ℤ) : parseInt (fmtInt z) = some z := by
  unfold fmtInt
  split
  · rw [parseInt_neg_digits _ (natStr_ne_nil _) (natStr_digits _), natVal_natStr]
    congr 1; omega
  · rw [parseInt_digits _ (natStr_ne_nil _) (natStr_digits _), natVal_natStr]
    congr 1; omega

/-- **what the reader gets from a `%0.{d}f` cell**: the decimal text is read back as exactly `± round(mag·10^d) / 10^d` -/
theorem parseDec_fmtFixed (d : ℕ) (neg : Bool) (mag : ℚ) (h : 0 ≤ mag) :
    parseDec (fmtFixed d neg mag)
      = some ((if neg then -1 else 1) * (((roundHalfEven (mag * (10 : ℚ) ^ d) : ℤ) : ℚ) / (10 : ℚ) ^ d)) := by
  rw [fmtFixed_eq, parseDec_decText, cast_toNat_roundHalfEven _ (by positivity)]

/-- **numeric values equal to the precision of the float format**: for every finite double (sign bit `neg`, exact magnitude
`mag`) and every number of decimals `d`, the text `%0.{d}f` writes is a decimal number that differs from the double by at
most half a unit of the last printed decimal -/
theorem fixed_precision (d : ℕ) (neg : Bool) (mag : ℚ) (h : 0 ≤ mag) :
    ∃ y, parseDec (fmtFixed d neg mag) = some y ∧ |y - (if neg then -1 else 1) * mag| ≤ 1 / (2 * (10 : ℚ) ^ d) := by
  refine ⟨_, parseDec_fmtFixed d neg mag h, ?_⟩
  have hb := abs_round_mul_sub_le mag ((10 : ℚ) ^ d)⁻¹ (by positivity)
  rw [div_inv_eq_mul, ← div_eq_mul_inv] at hb
  rw [abs_sign_mul_sub, one_div, mul_inv, ← div_eq_inv_mul]
  exact hb

/-- what the reader gets from a `%0.{d}e` cell: mantissa and exponent are read back as `± n · 10^(e-d)` -/
theorem parseSci_fmtExp (d : ℕ) (neg : Bool) (mag : ℚ) :
    parseSci (fmtExp d neg mag)
      = some ((if neg then -1 else 1) * (((expParts d mag).1 : ℚ) / (10 : ℚ) ^ d) * pow10 (expParts d mag).2) := by
  have htw : ∀ ex, (decText d (expParts d mag).1 neg ++ 'e' :: ex).takeWhile (fun c => c != 'e' && c != 'E')
      = decText d (expParts d mag).1 neg := fun ex =>
    Strip.takeWhile_append_stop _ _ _ _ (fun c hc => by
      rcases decText_chars _ _ _ c hc with h | rfl | rfl
      · simp [digit_ne_char c 'e' h (by decide), digit_ne_char c 'E' h (by decide)]
      · decide
      · decide) (by decide)
  rw [fmtExp_eq]
  unfold parseSci
  simp only [htw, List.drop_left']
  rw [parseDec_decText, parseInt_expPart]

/-- **numeric values equal to the precision of the float format, exponent notation**: for every double of magnitude between
`10^-800` and `10^800` (800 is the fuel `expParts` gives its exponent search: all finite non-zero doubles and far beyond) and every number of decimals `d`, the text `%0.{d}e`
writes is a decimal number that differs from the double by at most half a unit of the `d`-th decimal of its mantissa:
relative error at most `10^-d / 2` -/
theorem exp_precision (d : ℕ) (neg : Bool) (mag : ℚ) (hlo : (10 : ℚ) ^ (-800 : ℤ) ≤ mag) (hhi : mag < (10 : ℚ) ^ (800 : ℤ)) :
    ∃ y, parseSci (fmtExp d neg mag) = some y ∧ |y - (if neg then -1 else 1) * mag| ≤ mag / (2 * (10 : ℚ) ^ d) := by
  refine ⟨_, parseSci_fmtExp d neg mag, ?_⟩
  have hm : 0 < mag := lt_of_lt_of_le (zpow_pos (by norm_num) _) hlo
  rw [mul_assoc, abs_sign_mul_sub, expParts_value d mag hm]
  refine (abs_round_mul_sub_le mag _ (pow10_pos _)).trans ?_
  rw [pow10_sub_natCast, pow10_eq_zpow, div_div, mul_comm]
  exact div_le_div_of_nonneg_right (findExp_range 800 mag hlo hhi).1 (by positivity)

theorem exp_zero (d : ℕ) (neg : Bool) : parseSci (fmtExp d neg 0) = some 0 := by
  rw [parseSci_fmtExp]
  simp [expParts]

/-- the double read back: with a reader that rounds monotonically to representable numbers (any rounding mode), a text value
`y` enclosed by two representable numbers is read as a number between them. Meant to be combined with `fixed_precision`
(take `lo`, `hi` the representable neighbours of `x ∓ ½·10^-d`); that combination is not stated as a theorem, and the
reader `rnd` itself is a parameter, tied to pandas by the cell-by-cell comparison only -/
theorem read_back_enclosed (rnd : ℚ → ℚ) (hmono : ∀ a b, a ≤ b → rnd a ≤ rnd b) (lo hi y : ℚ)
    (hlo : rnd lo = lo) (hhi : rnd hi = hi) (h1 : lo ≤ y) (h2 : y ≤ hi) : lo ≤ rnd y ∧ rnd y ≤ hi :=
  ⟨hlo ▸ hmono lo y h1, hhi ▸ hmono y hi h2⟩

theorem fmtFixed_plain (d : ℕ) (neg : Bool) (mag : ℚ) :
    ∀ c ∈ fmtFixed d neg mag, isDigitChar c ∨ c = '-' ∨ c = '.' := by
  rw [fmtFixed_eq]
  exact decText_chars _ _ _

theorem suffix_stem_zip (name : Str) (h : name ≠ []) :
    suffix (stem name ++ extZip) = extZip :=
  (stem_stem_zip name h).2

/-- **compressed files**: whatever the accepted name (`x.csv`, `x.zip`, `x`, `x.y.csv`, …), when the only
file present is the one `write_csv(compress=True)` created, `read_csv` opens that file as a zip archive
and reads exactly the member the writer stored -/
theorem compress_roundtrip (name : Str) (h : name ≠ []) :
    ∃ full member, writeTarget name true = (full, some member) ∧
      readTarget (fun f => f == full) name = some (.zipMember full member) := by
  refine ⟨_, _, rfl, readTarget_written_zip _ name h (beq_self_eq_true _) ?_ ?_⟩
  · exact (em (suffix name = extZip)).imp_right fun hz => beq_false_of_ne (ne_writeTarget_of_suffix h hz)
  · exact beq_false_of_ne (stem_gz_ne_writeTarget name h)

/-- **plain files**: a file written without compression under a name whose extension is neither `.gz`
nor `.zip` is opened as plain text -/
theorem plain_roundtrip (name : Str) (h1 : suffix name ≠ extGz) (h2 : suffix name ≠ extZip) :
    writeTarget name false = (name, none) ∧ readTarget (fun f => f == name) name = some (.plain name) := by
  refine ⟨rfl, ?_⟩
  rw [readTarget, checkName_eq, if_pos (beq_self_eq_true name)]
  dsimp only
  rw [if_neg h1, if_neg h2]

theorem writeTarget_zip (name : Str) (hn : name ≠ []) :
    ∃ full, writeTarget name true = (full, some (stem name ++ extCsv)) ∧ suffix full = extZip ∧ stem full = stem name :=
  ⟨_, rfl, writeTarget_true_fst name hn⟩

theorem writeStep_inv (d : Dir) (name : Str) (compress src : Bool) (text : Str) (hn : name ≠ []) (h : ZipInv d) :
    ZipInv (writeStep d name compress src text) := by
  unfold writeStep
  cases src with
  | false => exact h
  | true =>
    simp only [Bool.not_true, Bool.false_eq_true, if_false]
    intro f ms hf
    cases compress with
    | true =>
      obtain ⟨full, hw, hsuf, hstem⟩ := writeTarget_zip name hn
      rw [hw, dirGet_dirSet] at hf
      split at hf
      · rename_i hff
        cases hf
        subst hff
        exact ⟨hsuf, text, by rw [hstem]⟩
      · exact h f ms hf
    | false =>
      rw [show writeTarget name false = (name, none) from rfl, dirGet_dirSet] at hf
      split at hf
      · cases hf
      · exact h f ms hf

/-- **the invariant holds along every history** (any list of writes - accepted or refused - and reads) -/
theorem run_inv (ops : List Op) : ∀ d, (∀ op ∈ ops, op.nameOk) → ZipInv d → ZipInv (run d ops).1 := by
  induction ops with
  | nil => intro d _ h; exact h
  | cons op ops ih =>
    intro d hok h
    rw [List.forall_mem_cons] at hok
    unfold run
    cases op with
    | write name compress src text => exact ih _ hok.2 (writeStep_inv d name compress src text hok.1 h)
    | read name => exact ih _ hok.2 h

/-- what `read_csv` resolves to when it opens a zip file: the member `<stem>.csv` of a file with the same stem -/
theorem readTarget_zip (ex : Str → Bool) (name f m : Str) (hn : name ≠ [])
    (h : readTarget ex name = some (.zipMember f m)) :
    m = stem name ++ extCsv ∧ suffix f = extZip ∧ stem f = stem name ∧ ex f = true := by
  unfold readTarget at h
  split at h
  · cases h
  · next full hc =>
    split at h
    · cases h
    · split at h
      · cases h
        exact ⟨rfl, ‹_›, checkName_zip hn hc ‹_›⟩
      · cases h

/-- **no read of any history fails for a missing member**: in a directory where the invariant holds - every directory
reached from an empty one - `read_csv` never opens a zip file without finding `<stem>.csv` in it, whatever name is
asked for and whatever was written before under whatever names and storage modes -/
theorem readStep_member_found (d : Dir) (name : Str) (hn : name ≠ []) (h : ZipInv d) : readStep d name ≠ .noMember := by
  unfold readStep
  split
  · simp -- no file found
  · split <;> simp -- a plain file
  · next f m hr =>
    -- a member `m` of the zip file `f`: `m` is `<stem name>.csv` with `stem f = stem name`, and the invariant says `f` holds
    -- exactly `<stem f>.csv`
    obtain ⟨hm, _, hstem, _⟩ := readTarget_zip _ name f m hn hr
    split
    · next ms hg =>
      obtain ⟨_, t, hms⟩ := h f ms hg
      rw [hms, hm, hstem]
      simp [memberGet]
    · simp
    · simp
  · simp -- gzip

theorem history_member_found (ops : List Op) (name : Str) (hok : ∀ op ∈ ops, op.nameOk) (hn : name ≠ []) :
    readStep (run [] ops).1 name ≠ .noMember :=
  readStep_member_found _ name hn (run_inv ops [] hok (zipInv_of_plain [] fun _ he => nomatch he))

/-- **plain file, any directory**: whatever the directory holds already (any history), a frame written without compression
under a name whose extension is neither `.gz` nor `.zip` is what the next `read_csv` of that name returns -/
theorem write_read_plain (d : Dir) (name text : Str) (h1 : suffix name ≠ extGz) (h2 : suffix name ≠ extZip) :
    readStep (writeStep d name false true text) name = .text text := by
  show readStep (dirSet d name (.plain text)) name = .text text
  have hex : dirHas (dirSet d name (.plain text)) name = true := by rw [dirHas_dirSet, beq_self_eq_true]; rfl
  rw [readStep, readTarget, checkName_eq, if_pos hex]
  dsimp only
  rw [if_neg h1, if_neg h2]
  dsimp only
  rw [dirGet_dirSet, if_pos rfl]

/-- **compressed file, any directory**: whatever the directory holds already, provided it holds no file that `read_csv`
prefers to the zip file - no file called `name` itself (unless `name` is the zip file) and no `<stem>.gz` - the frame
written with `compress=True` is what the next `read_csv` of that name returns; an older zip file of that name is
replaced -/
theorem write_read_compress (d : Dir) (name text : Str) (hn : name ≠ [])
    (hstale : suffix name = extZip ∨ dirHas d name = false) (hgz : dirHas d (stem name ++ extGz) = false) :
    readStep (writeStep d name true true text) name = .text text := by
  show readStep (dirSet d (writeTarget name true).1 (.zip [(stem name ++ extCsv, text)])) name = .text text
  have htarget := readTarget_written_zip (dirHas (dirSet d (writeTarget name true).1 (.zip [(stem name ++ extCsv, text)])))
    name hn (by rw [dirHas_dirSet, beq_self_eq_true]; rfl)
    ((em (suffix name = extZip)).imp_right fun hz => by
      rw [dirHas_dirSet, hstale.resolve_left hz, beq_false_of_ne (ne_writeTarget_of_suffix hn hz)]; rfl)
    (by rw [dirHas_dirSet, hgz, beq_false_of_ne (stem_gz_ne_writeTarget name hn)]; rfl)
  rw [readStep, htarget]
  dsimp only
  rw [dirGet_dirSet, if_pos rfl]
  simp [memberGet]

/-- the hypothesis of `write_read_compress` is needed: with an older plain file `d.csv` in the directory,
`write_csv(…, "d.csv", compress=True)` creates `d.zip` and `read_csv("d.csv")` still returns the OLD plain file -/
theorem stale_plain_shadows_zip :
    ∃ d name old new, old ≠ new ∧ ZipInv d ∧ readStep (writeStep d name true true new) name = .text old :=
  ⟨[("d.csv".toList, .plain "old".toList)], "d.csv".toList, "old".toList, "new".toList, by decide +kernel,
    zipInv_of_plain _ fun _ he => by rw [List.mem_singleton.mp he]; exact ⟨_, rfl⟩, by decide +kernel⟩

/-- **archive histories**: after ANY list of member writes - accepted or refused because the member exists - and reads,
every member reads as the text of the FIRST write of that name in the history (or as what the archive held before);
refused writes and reads change nothing -/
theorem archive_history (ops : List AOp) : ∀ (a : Archive) (m : Str),
    arcRead (arun a ops).1 m = match arcRead a m with | some t => some t | none => firstWrite ops m := by
  intro a m
  rw [arcRead_arun]
  cases arcRead a m <;> rfl

theorem archive_write_read (before after : List AOp) (m t : Str)
    (hb : firstWrite before m = none) : arcRead (arun [] (before ++ .write m t :: after)).1 m = some t := by
  rw [arcRead_arun, firstWrite_append, hb, firstWrite_cons_write, beq_self_eq_true, if_pos rfl]
  rfl

/-! ### hypotheses that the property text does not state: each is needed (counterexamples on the model, the real code is
probed at the same points by the correspondence stream `hdr/…/wild` and the directory histories) -/

/-- a caller's key that the header uses itself competes with the recorded count: the count is NOT returned -/
theorem reserved_key_needed :
    ∃ comments : List (Str × Str), (∀ kv ∈ comments, KeyOk kv.1 ∧ ValOk kv.2) ∧ (comments.map (·.1)).Nodup ∧
      (readHeader ((csvheadFull 3 2 (.dict comments) []).map (· ++ ['\n']))).lookup "nrow".toList ≠ some (natStr 3) :=
  -- evaluated with the rule spelled out (`rule_eq`): decoding its string literal would cost more than all the rest
  ⟨[("nrow".toList, "7".toList)], by rw [csvheadFull, rule_eq]; decide +kernel⟩

/-- a key with a blank inside comes back under another key (the reader writes an underscore for runs of blanks) -/
theorem key_blank_rewritten :
    ∃ k v : Str, lower k = k ∧ k.length ≤ 25 ∧ (∀ c ∈ k, (c != ':') = true) ∧ ValOk v ∧
      (readHeader ((csvheadFull 3 2 (.dict [(k, v)]) []).map (· ++ ['\n']))).lookup k = none ∧
      (readHeader ((csvheadFull 3 2 (.dict [(k, v)]) []).map (· ++ ['\n']))).lookup (subSpaces k) = some v :=
  ⟨"my key".toList, "x".toList, by rw [csvheadFull, rule_eq]; decide +kernel⟩

/-- a key of more than `KEY_LENGTH_MAX - 2` characters is not recognised as a key at all (the code files the whole line under
`comment_01`); stated: nothing comes back under the key (the property's bound of 25 characters is inside the window of 30) -/
theorem long_key_lost :
    ∃ k v : Str, k.length = 30 ∧ ValOk v ∧
      (readHeader ((csvheadFull 3 2 (.dict [(k, v)]) []).map (· ++ ['\n']))).lookup k = none :=
  ⟨List.replicate 30 'k', "x".toList, by rw [csvheadFull, rule_eq]; decide +kernel⟩

/-- a colon in a key is removed by the writer: the comment comes back under the key without it -/
theorem key_colon_removed :
    ∃ k v : Str, lower k = k ∧ k.length ≤ 25 ∧ (∀ c ∈ k, isSpace c = false) ∧ ValOk v ∧
      (readHeader ((csvheadFull 3 2 (.dict [(k, v)]) []).map (· ++ ['\n']))).lookup k = none ∧
      (readHeader ((csvheadFull 3 2 (.dict [(k, v)]) []).map (· ++ ['\n']))).lookup (writerKey k) = some v :=
  ⟨"a:b".toList, "x".toList, by rw [csvheadFull, rule_eq]; decide +kernel⟩

/-- the other half of the hypothesis of `write_read_compress`: an older `<stem>.gz` is preferred to the zip file just written -/
theorem stale_gz_shadows_zip :
    ∃ d name new, ZipInv d ∧ readStep (writeStep d name true true new) name ≠ .text new :=
  ⟨[("d.gz".toList, .plain "old".toList)], "d.csv".toList, "new".toList,
    zipInv_of_plain _ fun _ he => by rw [List.mem_singleton.mp he]; exact ⟨_, rfl⟩, by decide +kernel⟩

/-- the hypotheses of `write_read_plain` are needed: a plain file written under a `.zip` name is opened as an archive -/
theorem plain_under_zip_name_unreadable :
    ∃ name text, readStep (writeStep [] name false true text) name = .wrongKind :=
  ⟨"d.zip".toList, "x".toList, by decide +kernel⟩

/-! In the evaluations below, where it pays, string literals are first read as the list of their characters (`String.toList_ofList`): the kernel accepts
that without decoding UTF-8, which otherwise costs more than the evaluation itself. -/

example : KeyOk "station_id".toList := by rw [String.toList_ofList]; decide +kernel
example : ValOk "flow: 3.5 m3/s, #1 \"gauge\" ---------- x".toList := by rw [String.toList_ofList]; decide +kernel
example : readHeader (csvhead 3 2 [("site".toList, "a: b, #c".toList)] ["# author : me".toList]) =
    [("nrow".toList, "3".toList), ("ncol".toList, "2".toList), ("site".toList, "a: b, #c".toList),
     ("author".toList, "me".toList)] := by rw [csvhead, rule_eq]; decide +kernel
-- the whole header with system pairs, a value holding a dashed line, an untrimmed and a blank value
example : readHeader ((csvheadFull 12 2 (.dict [("site".toList, "----------".toList), ("b".toList, " x ".toList), ("c".toList, " ".toList)])
      (systemPairs "2026-01-01 00:00:00".toList "me".toList "/a/s.py".toList "s.py".toList none)).map (· ++ ['\n'])) =
    [("nrow".toList, "12".toList), ("ncol".toList, "2".toList), ("b".toList, "x".toList), ("site".toList, "----------".toList),
     ("time_generated".toList, "2026-01-01 00:00:00".toList), ("author".toList, "me".toList), ("source_file".toList, "s.py".toList)] := by rw [csvheadFull, rule_eq]; decide +kernel
example : (∀ kv ∈ [("site".toList, "x".toList), ("b".toList, "y".toList)], kv.1 ∉ reservedKeys) ∧
    ([("site".toList, "x".toList), ("b".toList, "y".toList)].map (·.1)).Nodup := by
  unfold reservedKeys systemKeys countKeys
  repeat rw [String.toList_ofList]
  decide +kernel
example : commentsOf (.list ["one".toList, "two".toList]) = [("comment00".toList, "one".toList), ("comment01".toList, "two".toList)] := by decide +kernel
example : commentsOf (.dict [("A:b".toList, "1".toList), ("ab".toList, "2".toList)]) = [("ab".toList, "2".toList)] := by decide +kernel
example : natStr 120 = "120".toList ∧ natVal "0042".toList = 42 ∧ idx2 7 = "07".toList := by decide +kernel
example : stem "a.b.csv".toList = "a.b".toList ∧ suffix "a.b.csv".toList = ".csv".toList
    ∧ stem ".hidden".toList = ".hidden".toList ∧ suffix "x.".toList = [] := by decide +kernel
example : writeTarget "data".toList true = ("data.zip".toList, some "data.csv".toList) := by decide +kernel
example : writeRow ["a,b".toList, "say \"hi\"".toList, "#1: x".toList] = "\"a,b\",\"say \"\"hi\"\"\",#1: x".toList := by decide +kernel
example : parseRow "\"a,b\",\"say \"\"hi\"\"\",#1: x,,3.5".toList = ["a,b".toList, "say \"hi\"".toList, "#1: x".toList, [], "3.5".toList] := by repeat rw [String.toList_ofList]; decide +kernel
example : splitCols " flow rate,site-id,q_1 \r\n".toList = [" flow rate".toList, "site-id".toList, "q_1 ".toList] := by repeat rw [String.toList_ofList]; decide +kernel
example : (∀ n ∈ ["flow rate".toList, "q_1".toList], ColOk n) := by unfold ColOk; repeat rw [String.toList_ofList]; decide +kernel
example : NameOk " flow rate ".toList := by rw [String.toList_ofList]; exact ⟨by decide, by decide +kernel⟩
-- a whole file: header lines, names, a record starting with `#`, quoted fields
example : readFile (writeFile ["# ----------".toList, "# k : v".toList] ⟨["a b".toList, "c".toList], [["#1, x".toList, "2.50".toList], ["say \"hi\"".toList, "-1".toList]]⟩)
    = some ⟨[("k".toList, "v".toList)], ⟨["a b".toList, "c".toList], [["#1, x".toList, "2.50".toList], ["say \"hi\"".toList, "-1".toList]]⟩⟩ := by decide +kernel
example : parseInt (fmtInt (-9007199254740993)) = some (-9007199254740993) := parseInt_fmtInt _
example : ∃ y, parseDec (fmtFixed 5 true (1 / 10)) = some y ∧ |y - (-1) * (1 / 10)| ≤ 1 / (2 * (10 : ℚ) ^ 5) :=
  fixed_precision 5 true (1 / 10) (by norm_num)
example : (10 : ℚ) ^ (-800 : ℤ) ≤ 1 / 10 ∧ (1 / 10 : ℚ) < (10 : ℚ) ^ (800 : ℤ) := by
  constructor
  · rw [show (1 / 10 : ℚ) = (10 : ℚ) ^ (-1 : ℤ) by norm_num]
    exact (zpow_le_zpow_iff_right₀ (by norm_num)).mpr (by norm_num)
  · calc (1 / 10 : ℚ) < (10 : ℚ) ^ (0 : ℤ) := by norm_num
      _ ≤ (10 : ℚ) ^ (800 : ℤ) := (zpow_le_zpow_iff_right₀ (by norm_num)).mpr (by norm_num)
example : natVal (fracDigits 3 1042) = 42 ∧ fracDigits 3 7 = "007".toList := by decide +kernel
example : (run [] [.write "d.csv".toList true true "A".toList, .read "d.csv".toList, .write "d.csv".toList false true "B".toList,
      .read "d.csv".toList, .write "d.csv".toList true true "C".toList, .read "d.csv".toList, .write "e".toList true false "D".toList,
      .read "e".toList]).2 = [.text "A".toList, .text "B".toList, .text "B".toList, .notFound] := by decide +kernel
example : ∀ op ∈ [Op.write "d.csv".toList true true "A".toList, Op.read "d".toList], op.nameOk := by
  simp [Op.nameOk]
example : (arun [] [.write "x/a.csv".toList "A".toList, .write "x/a.csv".toList "B".toList, .read "a.csv".toList, .read "x/a.csv".toList]).2
    = [some "A".toList, none, none, some "A".toList] := by decide +kernel
example : firstWrite [.read "m".toList, .write "n".toList "1".toList] "m".toList = none := by decide +kernel

end HydroVerif.C09
