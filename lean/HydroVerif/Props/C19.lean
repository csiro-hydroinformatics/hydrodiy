/-
C19 — property theorems (only) and the `example`s that show their hypotheses are met. Model: `HydroVerif/Model/C19.lean`
(mirrors `hydrodiy/io/hyruns.py` branch for branch); helper lemmas: `HydroVerif/Lemmas/C19.lean`.

Clause of the property                                   | theorems                                                                  | outside the theorems
---------------------------------------------------------|---------------------------------------------------------------------------|---------------------
batches contiguous and ordered                           | batch_contiguous, batches_consecutive, sectionSizes_eq_bsize, divPoints_eq_bstart, arraySplit_range | numpy's slicing primitive and `arange` (the arithmetic of `array_split` — divmod, section sizes, cumsum, slices — is in the model and compared row by row)
pairwise disjoint, cover every element exactly once      | batches_partition, batches_disjoint, mem_batch_lt, arraySplit_concat (ANY array), getBatch_partition | -
sizes differ by at most one; none empty for k <= n        | bsize_diff_le_one, bsize_pos, getBatch_partition, arraySplit_concat        | -
accepted / rejected calls (three guards, in code order)  | getBatch_ok, getBatch_rejects (which guard speaks), getBatch_ok_iff, getBatch_never_numpy | exception classes and messages (the correspondence compares accepted / rejected)
SiteBatch: constructor guard, sb[i], search              | SiteBatch.mk?_iff, SiteBatch.getItem_ok, SiteBatch.getItem_rejects, SiteBatch.items_partition, SiteBatch.search_eq_position, SiteBatch.search_correct, SiteBatch.search_absent, SiteBatch.search_rejects, SiteBatch.search_no_batch, search_correct, search_none | np.array / np.unique / tolist conversions of the ids (integer or string ids in the correspondence)
every combination of option values exactly once          | product_length, mem_product, product_nodup, product_repeats_counterexample, product_mem_length, product_cons_getElem?, cartesian_accepts, fromCartesianArgs_eq, fromCartesianArgs_eq_of_nodup, fromCartesian_task_keys, fromCartesian_task_values, fromCartesian_tasks_nodup, fromCartesian_ntasks, fromCartesianArgs_ntasks | itertools.product (the model's `product` is its recursion; compared by result)
scalars given bare, containers, non-iterable options     | fromCartesianArgs_bare, cartesian_accepted_iff, cartesian_rejects          | the isinstance / hasattr classification of python objects (the harness encodes it: `!v`, `-`, `?`)
get_task / task[key]                                     | getTask_isSome_iff, getTask_eq, getTask_cartesian, task_get_option, task_get_context, toDict_tasks | -
equal in both directions after dictionary/JSON round trip| taskFromDict_taskToDict, toDict_tasks, fromDict_toDict_okEq, fromDict_toDict, mEq_refl, roundtrip_eq_both, roundtrip_cartesian, roundtrip_fails_on_collision | json.dumps/loads and the file system (identity on documents in the model; oracle on the real code); a field of the wrong kind counts as a failed import
find returns exactly the tasks whose option equals value | mem_find, find_unknown_key, find_no_task, valMatch_quant, valMatch_counterexamples, find_cartesian, find_cartesian_exact | python `re` beyond anchored literals with `.` (patterns of `search` other than `^v$`)
histories on one manager / key names / dictionary / files| run_outputs, run_name_context, step_accessor, step_rejected, step_cartesian_rejected, step_setKey, history_mgr, history_answers, history_unique_keys, history_roundtrip, history_save_load, history_files_sound | aliasing between an exported dictionary and the manager (the model has value semantics; the correspondence drives the real objects through the same operation lists)

Hypotheses that the property text does not state, and where they come from:
* `0 < k`, `i < k`, `k ≤ n` of the batch theorems — the guards of `get_batch` (`getBatch_ok_iff`); `getBatch_partition` needs `1 ≤ k ≤ n` only.
* `ids.Nodup` of the search theorems — the assertion of the `SiteBatch` constructor (`SiteBatch.mk?_iff`).
* unique dictionary keys (`mEq_refl`, `roundtrip_eq_both`) — discharged for every manager the code can build
  (`roundtrip_cartesian`, `history_unique_keys`: `dictOf` never repeats a key).
* option value lists without repeats (`product_nodup`) — needed (`product_repeats_counterexample`); the harness probes repeated values.
* key names that do not collide at the top level (`KeyNames.okEq` / `ok`) — needed (`roundtrip_fails_on_collision`); probed. Task-level
  collisions are harmless (`taskFromDict_taskToDict` has no hypothesis).
* values of the quantifier's alphabet in `find_cartesian_exact` (`Val.quant`) — needed (`valMatch_counterexamples`); probed.
-/
import HydroVerif.Lemmas.C19

namespace HydroVerif.C19

/-- batches are contiguous and ordered: batch `i` is the interval `[bstart, bstart + bsize)` -/
theorem batch_contiguous (n k i : Nat) : batch n k i = List.range' (bstart n k i) (bsize n k i) :=
  batch_eq_range' n k i

theorem batches_consecutive (n k : Nat) :
    bstart n k 0 = 0 ∧ (∀ i, bstart n k (i+1) = bstart n k i + bsize n k i) ∧ (0 < k → bstart n k k = n) :=
  ⟨bstart_zero n k, bstart_succ n k, bstart_last n k⟩

/-- one equation for cover + pairwise disjoint + ordered: the batches, concatenated in order, are `0..n-1`; for every
`n` and every `k ≥ 1`, `k > n` included (the empty batches contribute nothing) -/
theorem batches_partition (n k : Nat) (hk : 0 < k) :
    (List.range k).flatMap (batch n k) = List.range n := by
  -- batch `i` is the slice of `range n` that starts at `bstart` and has `bsize` elements: `arraySplitAt (range n) k i` read once
  -- as the closed form (`arraySplitAt_range`) and once as that slice (`arraySplitAt_eq`); the slices of any list concatenate to it
  have slice_eq : ∀ i ∈ List.range k, batch n k i = _ := fun i hi =>
    Option.some.inj ((arraySplitAt_range n k i hk (List.mem_range.mp hi)).symm.trans
      (arraySplitAt_eq _ k i hk (List.mem_range.mp hi)))
  rw [List.flatMap_def, List.map_congr_left slice_eq, flatten_slices, bstart_last _ _ hk, List.take_length]

/-- pairwise disjoint, stated directly -/
theorem batches_disjoint (n k i j : Nat) (hij : i < j) (x : Nat)
    (hi : x ∈ batch n k i) (hj : x ∈ batch n k j) : False := by
  rw [batch_eq_range'] at hi hj
  simp only [List.mem_range'_1] at hi hj
  have := bstart_mono n k (show i + 1 ≤ j by omega)
  rw [bstart_succ] at this
  omega

theorem bsize_diff_le_one (n k i j : Nat) : bsize n k i ≤ bsize n k j + 1 := by
  have extra : (if i < n % k then 1 else 0) ≤ 1 := by split <;> decide
  unfold bsize
  rw [Nat.add_assoc]
  exact Nat.add_le_add_left (extra.trans (Nat.le_add_left 1 _)) _

theorem bsize_pos (n k i : Nat) (hk : 0 < k) (hkn : k ≤ n) : 0 < bsize n k i := by
  unfold bsize
  have : 0 < n / k := Nat.div_pos hkn hk
  omega

theorem mem_batch_lt (n k i x : Nat) (hk : 0 < k) (hi : i < k) (hx : x ∈ batch n k i) : x < n := by
  have h : x ∈ (List.range k).flatMap (batch n k) :=
    List.mem_flatMap.mpr ⟨i, List.mem_range.mpr hi, hx⟩
  rw [batches_partition n k hk] at h
  exact List.mem_range.mp h

/-- numpy's own arithmetic (`divmod`, section sizes, `cumsum`, slices) yields the closed form: the section sizes
are the batch sizes and the division points are the batch starts -/
theorem sectionSizes_eq_bsize (n k : Nat) (hk : 0 < k) : sectionSizes n k = (List.range k).map (bsize n k) :=
  sectionSizes_eq_map n k hk

theorem divPoints_eq_bstart (n k : Nat) (hk : 0 < k) : divPoints n k = (List.range (k + 1)).map (bstart n k) :=
  divPoints_eq_map n k hk

/-- `array_split(arange(n), k)` is the list of the `k` batches -/
theorem arraySplit_range (n k : Nat) (hk : 0 < k) :
    arraySplit (List.range n) k = (List.range k).map fun i => some (batch n k i) := by
  unfold arraySplit
  exact List.map_congr_left fun i hi => arraySplitAt_range n k i hk (List.mem_range.mp hi)

/-- for ANY array: the sub-arrays of `array_split(l, k)`, concatenated, give `l` back (nothing lost, duplicated, reordered) -/
theorem arraySplit_concat {α : Type} (l : List α) (k : Nat) (hk : 0 < k) :
    ∃ parts, allSome (arraySplit l k) = some parts ∧ parts.flatten = l ∧ parts.length = k ∧
      ∀ i j (hi : i < parts.length) (hj : j < parts.length), parts[i].length ≤ parts[j].length + 1 := by
  refine ⟨(List.range k).map fun i => (l.drop (bstart l.length k i)).take (bsize l.length k i), ?_, ?_, by simp, ?_⟩
  · exact allSome_map _ _ _ fun i hi => arraySplitAt_eq l k i hk (List.mem_range.mp hi)
  · rw [flatten_slices, bstart_last _ _ hk, List.take_length]
  · intro i j hi hj
    rw [List.length_map, List.length_range] at hi hj
    rw [List.getElem_map, List.getElem_map, List.getElem_range, List.getElem_range, length_slice l k i hk hi,
      length_slice l k j hk hj]
    exact bsize_diff_le_one ..

/-- accepted calls return the batch (guards passed, numpy's split evaluated) -/
theorem getBatch_ok (n k i : Int) (h1 : 1 ≤ n) (h2 : k ≤ n) (h3 : 0 ≤ i) (h4 : i < k) :
    getBatch n k i = .ok (batch n.toNat k.toNat i.toNat) := by
  obtain ⟨n, rfl⟩ := Int.eq_ofNat_of_zero_le (Int.le_trans Int.one_nonneg h1)
  obtain ⟨k, rfl⟩ := Int.eq_ofNat_of_zero_le (Int.le_of_lt (Int.lt_of_le_of_lt h3 h4))
  obtain ⟨i, rfl⟩ := Int.eq_ofNat_of_zero_le h3
  exact getBatch_natCast n k i (Int.ofNat_lt.mp h4) (Int.ofNat_le.mp h2)

/-- the guard that speaks is the first in code order -/
theorem getBatch_rejects (n k i : Int) (h : n < 1 ∨ n < k ∨ i < 0 ∨ k ≤ i) :
    getBatch n k i = .error (if n < 1 then .nelemLt1 else if n < k then .nelemLtNbatch else .ibatchRange) := by
  by_cases h1 : n < 1
  · rw [getBatch, if_pos h1, if_pos h1]
  · by_cases h2 : n < k
    · rw [getBatch, if_neg h1, if_pos h2, if_neg h1, if_pos h2]
    · have h3 : i < 0 ∨ i ≥ k := (h.resolve_left h1).resolve_left h2
      rw [getBatch, if_neg h1, if_neg h2, if_pos h3, if_neg h1, if_neg h2]

/-- a call is accepted exactly when `1 ≤ nbatch ≤ nelements` and `0 ≤ ibatch < nbatch`: the hypotheses of the
partition theorems are what the guards of the code enforce (that a rejected call never answers with numpy's own
error is `getBatch_never_numpy`) -/
theorem getBatch_ok_iff (n k i : Int) :
    (∃ l, getBatch n k i = .ok l) ↔ (1 ≤ k ∧ k ≤ n ∧ 0 ≤ i ∧ i < k) := by
  rw [getBatch_guards]
  by_cases h : n < 1 ∨ n < k ∨ i < 0 ∨ k ≤ i
  · rw [getBatch_rejects n k i h]
    exact ⟨fun ⟨_, hl⟩ => (nomatch hl), fun h' => absurd h h'⟩
  · obtain ⟨h1, h2, h3, h4⟩ := (getBatch_guards n k i).mpr h
    exact ⟨fun _ => h, fun _ => ⟨_, getBatch_ok n k i (Int.le_trans h1 h2) h2 h3 h4⟩⟩

/-- behind the guards numpy's own `ValueError` (0 sections) is never reached. The `indexError` half is immediate (no
branch of `getBatch` produces it); it is raised by `SiteBatch.getItem` only -/
theorem getBatch_never_numpy (n k i : Int) : getBatch n k i ≠ .error .numpy ∧ getBatch n k i ≠ .error .indexError := by
  by_cases h : n < 1 ∨ n < k ∨ i < 0 ∨ k ≤ i
  · rw [getBatch_rejects n k i h]
    split
    · exact ⟨nofun, nofun⟩
    · split <;> exact ⟨nofun, nofun⟩
  · obtain ⟨h1, h2, h3, h4⟩ := (getBatch_guards n k i).mpr h
    rw [getBatch_ok n k i (Int.le_trans h1 h2) h2 h3 h4]
    exact ⟨nofun, nofun⟩

/-- the property at the entry point: for `1 ≤ nbatch ≤ nelements` every index `0..nbatch-1` is accepted, and the
batches returned, in order, are contiguous, ordered, disjoint, cover `0..nelements-1` once and are balanced and non-empty -/
theorem getBatch_partition (n k : Nat) (hk : 1 ≤ k) (hkn : k ≤ n) :
    ∃ bs : List (List Nat), (List.range k).map (fun (i : Nat) => getBatch (n : Int) (k : Int) (i : Int)) = bs.map .ok ∧
      bs.flatten = List.range n ∧ bs.length = k ∧
      (∀ b ∈ bs, b ≠ []) ∧
      ∀ i j (hi : i < bs.length) (hj : j < bs.length), bs[i].length ≤ bs[j].length + 1 := by
  refine ⟨(List.range k).map (batch n k), ?_, ?_, by simp, ?_, ?_⟩
  · rw [List.map_map]
    exact List.map_congr_left fun i hi => getBatch_natCast n k i (List.mem_range.mp hi) hkn
  · rw [← List.flatMap_def, batches_partition n k hk]
  · intro b hb hc
    obtain ⟨i, _, rfl⟩ := List.mem_map.mp hb
    have := bsize_pos n k i hk hkn
    rw [← length_batch, hc] at this
    exact Nat.lt_irrefl 0 this
  · intro i j hi hj
    rw [List.getElem_map, List.getElem_map, length_batch, length_batch]
    exact bsize_diff_le_one ..

/-- `search` by position returns the (unique) batch that contains the site -/
theorem search_correct (n k s : Nat) (hk : 0 < k) (hs : s < n) :
    ∃ i, search n k s = some i ∧ i < k ∧ s ∈ batch n k i ∧
      ∀ j, j < k → s ∈ batch n k j → j = i := by
  obtain ⟨i0, hi0, hsi0⟩ := List.mem_flatMap.mp (batches_partition n k hk ▸ List.mem_range.mpr hs)
  obtain ⟨i, hf⟩ := Option.isSome_iff_exists.mp
    (List.find?_isSome.mpr ⟨i0, hi0, List.contains_iff_mem.mpr hsi0⟩ : (search n k s).isSome)
  have hp := List.find?_some hf
  have hsi : s ∈ batch n k i := List.contains_iff_mem.mp hp
  refine ⟨i, hf, List.mem_range.mp (List.mem_of_find?_eq_some hf), hsi, fun j _ hsj => ?_⟩
  by_contra hne
  rcases Nat.lt_or_gt_of_ne hne with h | h
  · exact batches_disjoint n k j i h s hsj hsi
  · exact batches_disjoint n k i j h s hsi hsj

theorem search_none (n k s : Nat) (hk : 0 < k) (hs : n ≤ s) : search n k s = none := by
  unfold search
  rw [List.find?_eq_none]
  intro i hi hc
  have := mem_batch_lt n k i s hk (List.mem_range.mp hi) (by simpa using hc)
  omega

/-- the constructor accepts exactly the lists without repeated ids: uniqueness of the site ids is the code's own guard -/
theorem SiteBatch.mk?_iff {α : Type} [DecidableEq α] (ids : List α) (k : Int) (sb : SiteBatch α) :
    SiteBatch.mk? ids k = some sb ↔ ids.Nodup ∧ sb = ⟨ids, k⟩ := by
  unfold SiteBatch.mk?
  rw [← nunique_eq_length_iff]
  split <;> rename_i h
  · simp [h, eq_comm]
  · simp [h]

/-- `sb[i]` is the `i`-th contiguous slice of the site list as given — the `i`-th sub-array of `array_split(ids, k)` -/
theorem SiteBatch.getItem_ok {α : Type} (ids : List α) (k i : Nat) (hk : 1 ≤ k) (hkn : k ≤ ids.length) (hi : i < k) :
    (⟨ids, k⟩ : SiteBatch α).getItem i = .ok ((ids.drop (bstart ids.length k i)).take (bsize ids.length k i)) ∧
      arraySplitAt ids k i = some ((ids.drop (bstart ids.length k i)).take (bsize ids.length k i)) := by
  refine ⟨?_, arraySplitAt_eq ids k i hk hi⟩
  unfold SiteBatch.getItem
  simp only
  rw [getBatch_natCast _ _ _ hi hkn]
  simp only [gather_batch ids k i hk hi]

theorem SiteBatch.getItem_rejects {α : Type} (ids : List α) (k i : Int)
    (h : (ids.length : Int) < 1 ∨ (ids.length : Int) < k ∨ i < 0 ∨ k ≤ i) :
    ∃ e, (⟨ids, k⟩ : SiteBatch α).getItem i = .error e := by
  unfold SiteBatch.getItem
  simp only
  rw [getBatch_rejects _ _ _ h]
  exact ⟨_, rfl⟩

/-- the batches of a SiteBatch, concatenated, are the site list: every site in exactly one batch, in the order given -/
theorem SiteBatch.items_partition {α : Type} (ids : List α) (k : Nat) (hk : 1 ≤ k) (hkn : k ≤ ids.length) :
    ∃ items : List (List α), (List.range k).map (fun i => (⟨ids, k⟩ : SiteBatch α).getItem (i : Nat)) = items.map .ok ∧
      items.flatten = ids := by
  refine ⟨(List.range k).map fun i => (ids.drop (bstart ids.length k i)).take (bsize ids.length k i), ?_, ?_⟩
  · rw [List.map_map]
    exact List.map_congr_left fun i hi => (SiteBatch.getItem_ok ids k i hk hkn (List.mem_range.mp hi)).1
  · rw [flatten_slices, bstart_last _ _ hk, List.take_length]

/-- `sb.search(id)` on the ids refines the search by position: for a list without repeats (the constructor's guard)
and `1 ≤ nbatch ≤ nsites`, the site at position `s` is found in the batch of its position -/
theorem SiteBatch.search_eq_position {α : Type} [DecidableEq α] (ids : List α) (k s : Nat) (hn : ids.Nodup)
    (hk : 1 ≤ k) (hkn : k ≤ ids.length) (hs : s < ids.length) :
    (⟨ids, k⟩ : SiteBatch α).search ids[s] = .ok (C19.search ids.length k s) := by
  refine SiteBatch.searchLoop_eq_find _ _ _ _ fun i hi =>
    ⟨_, (SiteBatch.getItem_ok ids k i hk hkn (List.mem_range.mp hi)).1, ?_⟩
  rw [Bool.eq_iff_iff, List.contains_iff_mem, List.contains_iff_mem]
  exact getElem_mem_gather ids hn _ _ (gather_batch ids k i hk (List.mem_range.mp hi)) s hs

/-- ... so it returns the one batch that holds the site -/
theorem SiteBatch.search_correct {α : Type} [DecidableEq α] (ids : List α) (k s : Nat) (hn : ids.Nodup)
    (hk : 1 ≤ k) (hkn : k ≤ ids.length) (hs : s < ids.length) :
    ∃ i items, (⟨ids, k⟩ : SiteBatch α).search ids[s] = .ok (some i) ∧ i < k ∧
      (⟨ids, k⟩ : SiteBatch α).getItem (i : Nat) = .ok items ∧ ids[s] ∈ items ∧
      ∀ j items', j < k → (⟨ids, k⟩ : SiteBatch α).getItem (j : Nat) = .ok items' → ids[s] ∈ items' → j = i := by
  obtain ⟨i, hi, hik, hmem, huniq⟩ := C19.search_correct ids.length k s (by omega) hs
  have key := fun j hj => getElem_mem_gather ids hn _ _ (gather_batch ids k j hk hj) s hs
  refine ⟨i, _, ?_, hik, (SiteBatch.getItem_ok ids k i hk hkn hik).1, (key i hik).mpr hmem, ?_⟩
  · rw [SiteBatch.search_eq_position ids k s hn hk hkn hs, hi]
  · intro j items' hj hitem hin
    rw [(SiteBatch.getItem_ok ids k j hk hkn hj).1] at hitem
    cases hitem
    exact huniq j hj ((key j hj).mp hin)

theorem SiteBatch.search_absent {α : Type} [DecidableEq α] (ids : List α) (k : Nat) (id : α) (hid : id ∉ ids)
    (hk : 1 ≤ k) (hkn : k ≤ ids.length) :
    (⟨ids, k⟩ : SiteBatch α).search id = .ok none := by
  refine (SiteBatch.searchLoop_eq_find _ _ (fun _ => false) _ fun i hi =>
    ⟨_, (SiteBatch.getItem_ok ids k i hk hkn (List.mem_range.mp hi)).1, ?_⟩).trans ?_
  · rw [List.contains_eq_mem, decide_eq_false_iff_not]
    exact fun hc => hid (List.mem_of_mem_drop (List.mem_of_mem_take hc))
  · rw [List.find?_eq_none.mpr fun _ _ => Bool.false_ne_true]

/-- more batches than sites: the scan raises at its first item, `sb[0]` -/
theorem SiteBatch.search_rejects {α : Type} [BEq α] (ids : List α) (k : Int) (id : α) (h : (ids.length : Int) < k) :
    ∃ e, (⟨ids, k⟩ : SiteBatch α).search id = .error e := by
  unfold SiteBatch.search
  simp only
  have hk : 0 < k := Int.lt_of_le_of_lt (Int.natCast_nonneg _) h
  obtain ⟨m, hm⟩ := Nat.exists_eq_add_one_of_ne_zero (Nat.ne_of_gt (Int.pos_iff_toNat_pos.mp hk))
  rw [hm, List.range_succ_eq_map]
  simp only [SiteBatch.searchLoop]
  obtain ⟨e, he⟩ := SiteBatch.getItem_rejects ids k ((0 : Nat) : Int) (.inr (.inl h))
  rw [he]
  exact ⟨e, rfl⟩

/-- `nbatch ≤ 0` (the constructor does not validate it): `range(nbatch)` is empty, nothing is scanned, nothing raises -/
theorem SiteBatch.search_no_batch {α : Type} [BEq α] (ids : List α) (k : Int) (id : α) (h : k ≤ 0) :
    (⟨ids, k⟩ : SiteBatch α).search id = .ok none := by
  unfold SiteBatch.search
  simp only
  rw [show k.toNat = 0 by omega]
  rfl

theorem product_length (ls : List (List Val)) :
    (product ls).length = (ls.map List.length).prod := by
  induction ls with
  | nil => simp [product]
  | cons vs rest ih =>
    rw [product, List.length_flatMap, List.map_cons, List.prod_cons, ← ih]
    simp only [List.length_map, List.map_const', List.sum_replicate_nat]

theorem mem_product (ls : List (List Val)) (t : List Val) :
    t ∈ product ls ↔ List.Forall₂ (fun v l => v ∈ l) t ls := by
  induction ls generalizing t with
  | nil => cases t <;> simp [product]
  | cons vs rest ih =>
    simp only [product, List.mem_flatMap, List.mem_map]
    constructor
    · rintro ⟨v, hv, t', ht', rfl⟩
      exact List.Forall₂.cons hv ((ih t').mp ht')
    · intro h
      cases h with
      | cons hv ht => exact ⟨_, hv, _, (ih _).mpr ht, rfl⟩

/-- every combination is enumerated exactly once when the value lists have no repeats -/
theorem product_nodup (ls : List (List Val)) (h : ∀ l ∈ ls, l.Nodup) : (product ls).Nodup := by
  induction ls with
  | nil => simp [product]
  | cons vs rest ih =>
    rw [product, List.nodup_flatMap]
    refine ⟨fun v _ => (ih fun l hl => h l (List.mem_cons_of_mem _ hl)).map fun a b hab => (List.cons.inj hab).2,
      (h vs List.mem_cons_self).imp fun hab x h1 h2 => ?_⟩
    obtain ⟨t1, _, rfl⟩ := List.mem_map.mp h1
    obtain ⟨t2, _, e⟩ := List.mem_map.mp h2
    exact hab (List.cons.inj e).1.symm

/-- ... and that hypothesis is needed: a value given twice makes every combination with it appear twice -/
theorem product_repeats_counterexample :
    ¬ (product [[.int 1, .int 1], [.str "a"]]).Nodup ∧ (product [[.int 1, .int 1], [.str "a"]]).length = 2 := by
  decide +kernel

theorem product_mem_length (ls : List (List Val)) (t : List Val) (h : t ∈ product ls) : t.length = ls.length :=
  product_length_of_mem ls t h

/-- position `a * |product rest| + b` of the product holds the `a`-th value of the first list followed by the
`b`-th combination of the others: the last option varies fastest -/
theorem product_cons_getElem? (vs : List Val) (rest : List (List Val)) (a b : Nat) (hb : b < (product rest).length) :
    (product (vs :: rest))[a * (product rest).length + b]? =
      (vs[a]?).bind fun v => ((product rest)[b]?).map (v :: ·) := by
  rw [product, getElem?_flatMap_of_length _ _ (fun _ => List.length_map _) vs a b hb]
  simp only [List.getElem?_map]

/-- an accepted call (every option a scalar or an iterable): the options become the dictionary of the value lists
(keys unique, insertion order) and the tasks are rebuilt from them; name and context are untouched -/
theorem cartesian_accepts (m : Manager) (args : List (String × OptArg)) (lists : List (List Val))
    (h : args.map (·.2.toList?) = lists.map some) :
    m.cartesian args = ({ m with options := dictOf ((args.map (·.1)).zip lists),
                                 tasks := tasksOf (dictOf ((args.map (·.1)).zip lists)) }, true) := by
  have := fillOptions_append args [] lists [] h
  rw [List.append_nil] at this
  rw [Manager.cartesian, this]
  rfl

/-- a rejected call (an option that is neither a scalar nor iterable): the options hold what was read before the bad
one, and the tasks, the name and the context are the OLD ones -/
theorem cartesian_rejects (m : Manager) (pre post : List (String × OptArg)) (k : String) (lists : List (List Val))
    (h : pre.map (·.2.toList?) = lists.map some) :
    m.cartesian (pre ++ (k, .notIterable) :: post)
      = ({ m with options := dictOf ((pre.map (·.1)).zip lists) }, false) := by
  rw [Manager.cartesian, fillOptions_append pre _ lists [] h]
  rfl

theorem cartesian_accepted_iff (m : Manager) (args : List (String × OptArg)) :
    (m.cartesian args).2 = true ↔ ∀ kv ∈ args, kv.2 ≠ .notIterable := by
  rw [cartesian_snd, fillOptions_snd, List.all_eq_true]
  refine forall₂_congr fun kv _ => ?_
  cases kv.2 <;> simp [OptArg.toList?]

/-- `fromCartesianArgs` is the cartesian-product manager of the dictionary of value lists; with distinct option names
(python keyword arguments) that dictionary is the list of options as given -/
theorem fromCartesianArgs_eq (name : String) (ctx : Dict) (args : List (String × OptArg)) (lists : List (List Val))
    (h : args.map (·.2.toList?) = lists.map some) :
    fromCartesianArgs name ctx args = fromCartesian name (dictOf ctx) (dictOf ((args.map (·.1)).zip lists)) := by
  unfold fromCartesianArgs
  rw [cartesian_accepts _ args lists h]
  rfl

theorem fromCartesianArgs_eq_of_nodup (name : String) (ctx : Dict) (args : List (String × OptArg)) (lists : List (List Val))
    (h : args.map (·.2.toList?) = lists.map some) (hk : (args.map (·.1)).Nodup) :
    fromCartesianArgs name ctx args = fromCartesian name (dictOf ctx) ((args.map (·.1)).zip lists) := by
  rw [fromCartesianArgs_eq name ctx args lists h, dictOf_eq_self ((args.map (·.1)).zip lists)]
  have hl : lists.length = args.length := by
    have := congrArg List.length h; simpa using this.symm
  rw [List.map_fst_zip (by simp [hl])]
  exact hk

theorem fromCartesian_ntasks (name : String) (ctx : Dict) (opts : List (String × List Val)) :
    (fromCartesian name ctx opts).tasks.length = ((opts.map (·.2)).map List.length).prod := by
  simp [fromCartesian, tasksOf, product_length]

theorem fromCartesian_task_keys (name : String) (ctx : Dict) (opts : List (String × List Val)) (t : Dict)
    (h : t ∈ (fromCartesian name ctx opts).tasks) : t.map (·.1) = opts.map (·.1) :=
  tasksOf_keys opts t h

theorem fromCartesian_task_values (name : String) (ctx : Dict) (opts : List (String × List Val)) (t : Dict) :
    t ∈ (fromCartesian name ctx opts).tasks ↔
      t.map (·.1) = opts.map (·.1) ∧ List.Forall₂ (fun v l => v ∈ l) (t.map (·.2)) (opts.map (·.2)) := by
  constructor
  · intro h
    refine ⟨tasksOf_keys opts t h, ?_⟩
    obtain ⟨c, hc, rfl⟩ := List.mem_map.mp h
    rw [zip_product_snd opts c hc]
    exact (mem_product _ _).mp hc
  · rintro ⟨hk, hv⟩
    exact List.mem_map.mpr ⟨t.map (·.2), (mem_product _ _).mpr hv, hk ▸ (List.zip_of_prod rfl rfl).symm⟩

/-- every combination of option values is a task exactly once (option value lists without repeats) -/
theorem fromCartesian_tasks_nodup (name : String) (ctx : Dict) (opts : List (String × List Val))
    (h : ∀ kv ∈ opts, kv.2.Nodup) : (fromCartesian name ctx opts).tasks.Nodup := by
  refine (product_nodup _ fun l hl => ?_).map_on fun a ha b hb hab => ?_
  · obtain ⟨kv, hkv, rfl⟩ := List.mem_map.mp hl
    exact h kv hkv
  · rw [← zip_product_snd opts a ha, ← zip_product_snd opts b hb, hab]

/-- a scalar given bare is the one-value list -/
theorem fromCartesianArgs_bare (name : String) (ctx : Dict) (pre post : List (String × OptArg)) (k : String) (v : Val) :
    fromCartesianArgs name ctx (pre ++ (k, .bare v) :: post) = fromCartesianArgs name ctx (pre ++ (k, .many [v]) :: post) := by
  have key : ∀ acc, fillOptions (pre ++ (k, .bare v) :: post) acc = fillOptions (pre ++ (k, .many [v]) :: post) acc := by
    induction pre with
    | nil => intro acc; simp [fillOptions, OptArg.toList?]
    | cons kv rest ih =>
      intro acc
      rcases kv with ⟨k', a⟩
      simp only [List.cons_append, fillOptions]
      cases a.toList? with
      | none => rfl
      | some l => exact ih _
  simp only [fromCartesianArgs, Manager.cartesian, key]

theorem fromCartesianArgs_ntasks (name : String) (ctx : Dict) (args : List (String × OptArg)) (lists : List (List Val))
    (h : args.map (·.2.toList?) = lists.map some) (hk : (args.map (·.1)).Nodup) :
    (fromCartesianArgs name ctx args).tasks.length = (lists.map List.length).prod := by
  rw [fromCartesianArgs_eq_of_nodup name ctx args lists h hk, fromCartesian_ntasks]
  have hl : lists.length = args.length := by
    have := congrArg List.length h; simpa using this.symm
  rw [List.map_snd_zip (by simp [hl])]

/-- `find(**crit)` on a manager whose tasks all carry the requested options: the increasing list of the numbers of
the tasks on which every criterion matches (through `str`, brackets removed, `.` matching any character) -/
theorem mem_find (m : Manager) (crit : List (String × Val))
    (ho : ∀ kv ∈ crit, (m.options.lookup kv.1).isSome) (ht : ∀ t ∈ m.tasks, ∀ kv ∈ crit, (t.lookup kv.1).isSome) :
    ∃ l, find m crit = .ok l ∧ l.Pairwise (· < ·) ∧
      ∀ i, i ∈ l ↔ ∃ t, m.tasks[i]? = some t ∧ ∀ kv ∈ crit, ∃ tv, t.lookup kv.1 = some tv ∧ valMatch kv.2 tv = true := by
  refine ⟨_, findLoop_of_ok m.options crit (critHolds crit) m.tasks 0 fun t h => critMatch_ok _ t crit ho (ht t h),
    ?_, fun i => ?_⟩
  · refine List.Pairwise.sublist (List.filter_sublist.map _) ?_
    rw [List.zipIdx_map_snd]
    exact List.pairwise_lt_range'
  · simp only [List.mem_map, List.mem_filter, Prod.exists, List.mk_mem_zipIdx_iff_getElem?, critHolds_iff,
      exists_eq_right]

/-- a key that is not an option is rejected as soon as there is a task to look at ... -/
theorem find_unknown_key (m : Manager) (crit : List (String × Val)) (hne : m.tasks ≠ [])
    (hk : ∃ kv ∈ crit, m.options.lookup kv.1 = none) : ∃ e, find m crit = .error e := by
  unfold find
  cases hts : m.tasks with
  | nil => exact absurd hts hne
  | cons t rest =>
    obtain ⟨e, he⟩ := critMatch_unknown m.options t crit hk
    simp only [findLoop, he]
    exact ⟨e, rfl⟩

/-- ... and not at all when there is none: the assertion sits inside the loop over the tasks -/
theorem find_no_task (m : Manager) (crit : List (String × Val)) (h : m.tasks = []) : find m crit = .ok [] := by
  simp [find, h, findLoop]

/-- on values of the property's quantifier (integers, identifier-like strings) a criterion matches exactly the equal value -/
theorem valMatch_quant (v tv : Val) (hv : v.quant = true) (ht : tv.quant = true) : valMatch v tv = true ↔ v = tv := by
  rw [valMatch_plain v tv (quant_plain v hv) (quant_plain tv ht)]
  refine ⟨fun h => ?_, fun h => h ▸ rfl⟩
  rcases quant_cases v hv with ⟨i, rfl⟩ | ⟨s, rfl, hs, _⟩ <;> rcases quant_cases tv ht with ⟨j, rfl⟩ | ⟨s', rfl, hs', _⟩
  · rw [Int.repr_inj.mp h]
  · exact absurd h (toStr_inj_int_str i s' hs')
  · exact absurd h.symm (toStr_inj_int_str j s hs)
  · exact congrArg Val.str h

/-- the hypothesis is needed: outside the quantifier's alphabet `find` over-matches. A `.` in the requested value
matches any character, a string that reads as an integer is that integer, brackets are dropped. -/
theorem valMatch_counterexamples :
    valMatch (.flt "1.5") (.int 105) = true ∧ valMatch (.int 1) (.str "1") = true ∧ valMatch (.str "a1") (.str "a[1]") = true := by
  decide +kernel

/-- `find(key = val)` on a cartesian-product manager returns exactly the numbers of the combinations whose
component for `key` matches `val` (position `j` of `key` among the option names) -/
theorem find_cartesian (name : String) (ctx : Dict) (opts : List (String × List Val))
    (ho : (opts.map (·.1)).Nodup) (j : Nat) (hj : j < opts.length) (val : Val) :
    ∃ l, find (fromCartesian name ctx opts) [((opts[j]).1, val)] = .ok l ∧ l.Pairwise (· < ·) ∧
      ∀ i, i ∈ l ↔ ∃ c tv, (product (opts.map (·.2)))[i]? = some c ∧ c[j]? = some tv ∧ valMatch val tv = true := by
  have key : ∀ c : List Val, ((opts.map (·.1)).zip c).lookup (opts[j]).1 = c[j]? := fun c => by
    have := lookup_zip_nodup _ c ho j (by rwa [List.length_map])
    rwa [List.getElem_map] at this
  obtain ⟨l, hl, hsorted, hmem⟩ := mem_find (fromCartesian name ctx opts) [((opts[j]).1, val)]
    (List.forall_mem_singleton.mpr (List.lookup_isSome_iff.mpr ⟨opts[j], List.getElem_mem hj, beq_self_eq_true _⟩))
    fun t ht => List.forall_mem_singleton.mpr (by
      obtain ⟨c, hc, rfl⟩ := List.mem_map.mp ht
      rw [key c, List.getElem?_eq_getElem (by rw [product_mem_length _ _ hc, List.length_map]; exact hj)]
      rfl)
  refine ⟨l, hl, hsorted, fun i => (hmem i).trans ?_⟩
  simp only [fromCartesian, tasksOf, List.getElem?_map, Option.map_eq_some_iff, List.mem_singleton, forall_eq,
    exists_exists_and_eq_and, key, exists_and_left]

/-- ... and for option values and a requested value of the quantifier: exactly the combinations whose component EQUALS it -/
theorem find_cartesian_exact (name : String) (ctx : Dict) (opts : List (String × List Val))
    (ho : (opts.map (·.1)).Nodup) (j : Nat) (hj : j < opts.length) (val : Val)
    (hq : val.quant = true) (hqs : ∀ v ∈ (opts[j]).2, v.quant = true) :
    ∃ l, find (fromCartesian name ctx opts) [((opts[j]).1, val)] = .ok l ∧
      ∀ i, i ∈ l ↔ ∃ c, (product (opts.map (·.2)))[i]? = some c ∧ c[j]? = some val := by
  obtain ⟨l, hl, _, hmem⟩ := find_cartesian name ctx opts ho j hj val
  refine ⟨l, hl, fun i => (hmem i).trans ?_⟩
  constructor
  · rintro ⟨c, tv, hc, hcj, hv⟩
    obtain ⟨hjc, rfl⟩ := List.getElem?_eq_some_iff.mp hcj
    have htv : c[j] ∈ (opts[j]).2 := by
      simpa using ((mem_product _ c).mp (List.mem_of_getElem? hc)).get hjc (by simpa using hj)
    rw [(valMatch_quant val _ hq (hqs _ htv)).mp hv]
    exact ⟨c, hc, hcj⟩
  · rintro ⟨c, hc, hcj⟩
    exact ⟨c, val, hc, hcj, matchLit_refl _⟩

theorem getTask_isSome_iff (m : Manager) (id : Int) : (getTask m id).isSome ↔ 0 ≤ id ∧ id < m.tasks.length := by
  unfold getTask
  split
  · rename_i h
    rw [List.getElem?_eq_getElem ((Int.toNat_lt h.1).mpr h.2)]
    exact ⟨fun _ => h, fun _ => rfl⟩
  · rename_i h
    exact ⟨nofun, fun h' => absurd h' h⟩

theorem getTask_eq (m : Manager) (i : Nat) (o : Dict) (h : m.tasks[i]? = some o) :
    getTask m i = some ⟨i, m.context, o⟩ := by
  rw [getTask_natCast, h]
  rfl

/-- task `i` of a cartesian-product manager is the `i`-th combination of `itertools.product` -/
theorem getTask_cartesian (name : String) (ctx : Dict) (opts : List (String × List Val)) (i : Nat) (c : List Val)
    (h : (product (opts.map (·.2)))[i]? = some c) :
    getTask (fromCartesian name ctx opts) i = some ⟨i, ctx, (opts.map (·.1)).zip c⟩ := by
  apply getTask_eq
  simp [fromCartesian, tasksOf, h]

/-- `task[key]` for an option name is the component of the combination; option values come before context values -/
theorem task_get_option (i : Nat) (ctx : Dict) (keys : List String) (c : List Val) (hn : keys.Nodup)
    (hl : c.length = keys.length) (j : Nat) (hj : j < keys.length) :
    (⟨i, ctx, keys.zip c⟩ : Task).get keys[j] = c[j]? := by
  unfold Task.get
  simp only
  rw [lookup_zip_nodup keys c hn j hj, List.getElem?_eq_getElem (hl ▸ hj)]

theorem task_get_context (t : Task) (key : String) (h : t.options.lookup key = none) :
    t.get key = t.context.lookup key := by
  simp [Task.get, h]

/-- a task dictionary gives its options back whatever the key names (the options entry is written last, and
`from_dict` keeps nothing else) -/
theorem taskFromDict_taskToDict (kn : KeyNames) (id : Nat) (ctx opts : Dict) :
    taskFromDict kn (pyDict (taskToDict kn id ctx opts)) = some opts := by
  unfold taskFromDict jlookup pyDict
  simp only [lookup_dictOf, taskToDict, List.reverse_cons, List.reverse_nil, List.nil_append, List.cons_append,
    List.lookup, beq_self_eq_true]
  cases ("taskid" == kn.taskOptions) <;> cases ("taskid" == kn.context) <;> cases (kn.context == kn.taskOptions) <;> rfl

/-- the exported tasks are `get_task(i).to_dict()` for `i = 0 .. ntasks-1` -/
theorem toDict_tasks (kn : KeyNames) (m : Manager) :
    ∃ ts, (toDict kn m).lookup "tasks" = some (.tasks ts) ∧ ts.length = m.tasks.length ∧
      ∀ i : Nat, ts[i]? = (getTask m (i : Int)).map (Task.toDict kn) := by
  refine ⟨m.tasks.mapIdx fun i o => pyDict (taskToDict kn i m.context o), ?_, List.length_mapIdx, fun i => ?_⟩
  · unfold toDict pyDict
    simp [lookup_dictOf]
  · rw [List.getElem?_mapIdx, getTask_natCast]
    cases m.tasks[i]? <;> rfl

/-- `from_dict (to_dict m)` is `m`, up to the name when a top-level key name is `"name"` -/
theorem fromDict_toDict_okEq (kn : KeyNames) (hk : kn.okEq) (m : Manager) :
    ∃ nm, fromDict kn (toDict kn m) = some { m with name := nm } ∧ (kn.ok → nm = m.name) := by
  obtain ⟨h1, h2, h3⟩ := hk
  have htasks := allSome_mapIdx m.tasks _ _ fun i o => taskFromDict_taskToDict kn i m.context o
  simp only [pyDict] at htasks
  have e3 : (kn.context == kn.managerOptions) = false := beq_eq_false_iff_ne.mpr h1
  have e5 : (kn.context == "tasks") = false := beq_eq_false_iff_ne.mpr h2
  have e6 : (kn.managerOptions == "tasks") = false := beq_eq_false_iff_ne.mpr h3
  -- the exported dictionary is a literal, read as a lookup in the REVERSED literal (`lookup_dictOf`); the three disequalities
  -- decide the lookups of context, manager options and tasks; the name is whatever the lookup of `"name"` leaves: the
  -- manager's name when no key name is `"name"` (second part), else the default of the reader
  unfold fromDict toDict jlookup pyDict
  simp only [lookup_dictOf, List.reverse_cons, List.reverse_nil, List.nil_append, List.cons_append, List.lookup,
    e3, e5, e6, beq_self_eq_true, htasks]
  refine ⟨_, rfl, ?_⟩
  rintro ⟨_, _, _, h4, h5⟩
  have e7 : ("name" == kn.context) = false := beq_eq_false_iff_ne.mpr (Ne.symm h4)
  have e8 : ("name" == kn.managerOptions) = false := beq_eq_false_iff_ne.mpr (Ne.symm h5)
  simp only [e7, e8]
  rfl

/-- `from_dict (to_dict m) = m` for key names that do not collide at the top level -/
theorem fromDict_toDict (kn : KeyNames) (hk : kn.ok) (m : Manager) :
    fromDict kn (toDict kn m) = some m := by
  obtain ⟨nm, h, hn⟩ := fromDict_toDict_okEq kn ⟨hk.1, hk.2.1, hk.2.2.1⟩ m
  rw [h, hn hk]

theorem mEq_refl (m : Manager)
    (hc : (m.context.map (·.1)).Nodup) (ho : (m.options.map (·.1)).Nodup)
    (ht : ∀ t ∈ m.tasks, (t.map (·.1)).Nodup) : mEq m m = true := by
  simp only [mEq, Bool.and_eq_true, beq_self_eq_true, and_true, List.zip_eq_zipWith, List.zipWith_self, List.all_map]
  refine ⟨⟨lookup_all_refl _ hc, lookup_all_refl _ ho⟩, List.all_eq_true.mpr fun t h => ?_⟩
  rw [Function.comp_apply, dictEq, beq_self_eq_true, Bool.true_and]
  exact lookup_all_refl _ (ht t h)

/-- a manager rebuilt from its dictionary compares equal to the original in both directions
(dictionaries have unique keys, as python dictionaries do) -/
theorem roundtrip_eq_both (kn : KeyNames) (hk : kn.okEq) (m : Manager)
    (hc : (m.context.map (·.1)).Nodup) (ho : (m.options.map (·.1)).Nodup)
    (ht : ∀ t ∈ m.tasks, (t.map (·.1)).Nodup) :
    ∃ m', fromDict kn (toDict kn m) = some m' ∧ mEq m m' = true ∧ mEq m' m = true ∧ (kn.ok → m' = m) := by
  obtain ⟨nm, h, hn⟩ := fromDict_toDict_okEq kn hk m
  refine ⟨_, h, mEq_refl m hc ho ht, mEq_refl m hc ho ht, fun hok => ?_⟩
  rw [hn hok]

/-- the hypotheses on the key names are needed: with the context under the key of the manager options, or either
of them under `"tasks"`, the dictionary cannot be read back; under `"name"` only the name is lost, which `==` ignores -/
theorem roundtrip_fails_on_collision :
    fromDict ⟨"x", "options", "x"⟩ (toDict ⟨"x", "options", "x"⟩
      { name := "m", context := [("a", .int 1)], options := [("k", [.int 1])], tasks := [[("k", .int 1)]] }) = none ∧
    fromDict ⟨"tasks", "options", "mo"⟩ (toDict ⟨"tasks", "options", "mo"⟩
      { name := "m", context := [("a", .int 1)], options := [("k", [.int 1])], tasks := [[("k", .int 1)]] }) = none ∧
    fromDict ⟨"context", "options", "tasks"⟩ (toDict ⟨"context", "options", "tasks"⟩
      { name := "m", context := [("a", .int 1)], options := [("k", [.int 1])], tasks := [[("k", .int 1)]] }) = none ∧
    fromDict ⟨"name", "options", "mo"⟩ (toDict ⟨"name", "options", "mo"⟩
      { name := "m", context := [("a", .int 1)], options := [("k", [.int 1])], tasks := [[("k", .int 1)]] })
      = some { name := "Task Manager", context := [("a", .int 1)], options := [("k", [.int 1])], tasks := [[("k", .int 1)]] } := by
  decide +kernel

/-- the round trip for a cartesian-product manager as the caller builds it (`OptionManager(name, **ctx)` then
`from_cartesian_product(**args)`): no hypothesis beyond an accepted call and top-level key names that do not
collide — unique keys come from the dictionaries the code itself builds -/
theorem roundtrip_cartesian (kn : KeyNames) (hk : kn.okEq) (name : String) (ctx : Dict)
    (args : List (String × OptArg)) (lists : List (List Val)) (h : args.map (·.2.toList?) = lists.map some) :
    ∃ m', fromDict kn (toDict kn (fromCartesianArgs name ctx args)) = some m' ∧
      mEq (fromCartesianArgs name ctx args) m' = true ∧ mEq m' (fromCartesianArgs name ctx args) = true ∧
      (kn.ok → m' = fromCartesianArgs name ctx args) := by
  rw [fromCartesianArgs_eq name ctx args lists h]
  refine roundtrip_eq_both kn hk _ (dictOf_nodup ctx) (dictOf_nodup _) ?_
  intro t ht
  rw [fromCartesian_task_keys name (dictOf ctx) _ t ht]
  exact dictOf_nodup _

theorem run_outputs (w : World) (a b : List Op) :
    (run w a).2.length = a.length ∧
    run w (a ++ b) = ((run (run w a).1 b).1, (run w a).2 ++ (run (run w a).1 b).2) :=
  ⟨trace.outs_length w a, run_append w a b⟩

theorem run_name_context (w : World) (ops : List Op) :
    (run w ops).1.mgr.name = w.mgr.name ∧ (run w ops).1.mgr.context = w.mgr.context := by
  refine trace.preserves (fun w' => w'.mgr.name = w.mgr.name ∧ w'.mgr.context = w.mgr.context) (ops := ops)
    (fun w' op _ hp => ?_) ⟨rfl, rfl⟩
  rcases step_mgr_cases w' op with h1 | ⟨args, _, h1⟩
  · rwa [h1]
  · rw [h1]
    unfold Manager.cartesian
    split <;> exact hp

theorem step_accessor (w : World) (crit : List (String × Val)) (id : Int) (path : String) :
    (step w (.find crit)).1 = w ∧ (step w (.getTask id)).1 = w ∧ (step w .imp).1 = w ∧
    (step w .jsn).1 = w ∧ (step w (.load path)).1 = w :=
  ⟨rfl, rfl, rfl, rfl, rfl⟩

/-- a rejected operation leaves the world as it is — except a rejected `from_cartesian_product`, see `step_cartesian_rejected` -/
theorem step_rejected (w : World) (op : Op) (h : (step w op).2 = .err) (hc : ∀ a, op ≠ .cartesian a) :
    (step w op).1 = w := by
  cases op with
  | setKey key name =>
    cases hs : w.kn.set key name with
    | none => rw [step, hs]
    | some kn => rw [step, hs] at h; cases h
  | cartesian args => exact absurd rfl (hc args)
  | resetKeys => cases h
  | exp => cases h
  | save path ow => rw [step] at h; split at h <;> cases h
  | _ => rfl

/-- a rejected `from_cartesian_product` (an option that is neither a scalar nor iterable): the options hold what was
read before the bad one; the tasks, the name, the context, the key names, the exported dictionary and the files
are untouched -/
theorem step_cartesian_rejected (w : World) (pre post : List (String × OptArg)) (k : String) (lists : List (List Val))
    (h : pre.map (·.2.toList?) = lists.map some) :
    step w (.cartesian (pre ++ (k, .notIterable) :: post))
      = ({ w with mgr := { w.mgr with options := dictOf ((pre.map (·.1)).zip lists) } }, .err) := by
  simp only [step, cartesian_rejects w.mgr pre post k lists h]

theorem step_setKey (w : World) (key name : String) :
    (step w (.setKey key name)).2 = .ok ↔ key = "context_name" ∨ key = "task_options_name" ∨ key = "manager_options_name" := by
  rw [← KeyNames.set_isSome_iff w.kn key name, step]
  cases w.kn.set key name with
  | none => exact ⟨nofun, nofun⟩
  | some kn => exact ⟨fun _ => rfl, fun _ => rfl⟩

/-- after ANY history whose last `from_cartesian_product` is accepted, the manager is the cartesian-product manager of
that grid: regenerating the grid leaves nothing of the earlier ones, and nothing that happens afterwards (find,
get_task, exports, imports, files, key names, rejected calls of those) touches it. A later REJECTED
`from_cartesian_product` is excluded by `hrest`: it does touch the options (`step_cartesian_rejected`). -/
theorem history_mgr (name : String) (ctx : Dict) (ops rest : List Op) (args : List (String × OptArg))
    (lists : List (List Val)) (h : args.map (·.2.toList?) = lists.map some)
    (hrest : ∀ op ∈ rest, ∀ a, op ≠ .cartesian a) :
    (run (World.init name ctx) (ops ++ .cartesian args :: rest)).1.mgr = fromCartesianArgs name ctx args := by
  obtain ⟨hn, hc⟩ := run_name_context (World.init name ctx) ops
  rw [(run_outputs _ ops _).2, fromCartesianArgs_eq name ctx args lists h]
  simp only [run]
  rw [run_mgr_of_no_cartesian _ rest hrest, step, cartesian_accepts _ args lists h]
  exact congrArg₂ (Manager.mk · · _ _) hn hc

/-- ... so `find` and `get_task`, at any later point, answer about that grid -/
theorem history_answers (name : String) (ctx : Dict) (ops rest : List Op) (args : List (String × OptArg))
    (lists : List (List Val)) (h : args.map (·.2.toList?) = lists.map some)
    (hrest : ∀ op ∈ rest, ∀ a, op ≠ .cartesian a) (crit : List (String × Val)) (id : Int) :
    (run (World.init name ctx) (ops ++ .cartesian args :: rest ++ [.find crit])).2.getLast?
      = some (match find (fromCartesianArgs name ctx args) crit with | .ok l => .ids l | .error _ => .err) ∧
    (run (World.init name ctx) (ops ++ .cartesian args :: rest ++ [.getTask id])).2.getLast?
      = some (match getTask (fromCartesianArgs name ctx args) id with | some t => .task t | none => .err) := by
  have hm := history_mgr name ctx ops rest args lists h hrest
  constructor
  · rw [trace.outs_concat_getLast?, ← hm]
    rfl
  · rw [trace.outs_concat_getLast?, ← hm]
    rfl

/-- after ANY history, every dictionary of the manager has unique keys, whatever was accepted or rejected on the way -/
theorem history_unique_keys (name : String) (ctx : Dict) (ops : List Op) :
    let m := (run (World.init name ctx) ops).1.mgr
    (m.context.map (·.1)).Nodup ∧ (m.options.map (·.1)).Nodup ∧ ∀ t ∈ m.tasks, (t.map (·.1)).Nodup :=
  run_inv _ ops ⟨dictOf_nodup ctx, List.nodup_nil, nofun⟩

/-- at ANY point of ANY history: export the manager, then do anything that does not regenerate the grid, rename keys or
export again — find, get_task, json, files, and reading the exported dictionary any number of times: EVERY reading
gives a manager equal to the original in both directions (the manager itself when no top-level key name is `"name"`),
for key names in force that do not collide at the top level (`KeyNames.okEq`) -/
theorem history_roundtrip (name : String) (ctx : Dict) (ops reads : List Op)
    (hk : (run (World.init name ctx) ops).1.kn.okEq)
    (hreads : ∀ op ∈ reads, (∀ a, op ≠ .cartesian a) ∧ (∀ k n, op ≠ .setKey k n) ∧ op ≠ .resetKeys ∧ op ≠ .exp) :
    ∃ m', mEq (run (World.init name ctx) ops).1.mgr m' = true ∧ mEq m' (run (World.init name ctx) ops).1.mgr = true ∧
      ((run (World.init name ctx) ops).1.kn.ok → m' = (run (World.init name ctx) ops).1.mgr) ∧
      ∀ p ∈ reads.zip (run (step (run (World.init name ctx) ops).1 .exp).1 reads).2, p.1 = .imp → p.2 = .mgr m' := by
  have hinv := history_unique_keys name ctx ops
  generalize (run (World.init name ctx) ops).1 = w at *
  obtain ⟨m', hm', e1, e2, e3⟩ := roundtrip_eq_both w.kn hk w.mgr hinv.1 hinv.2.1 hinv.2.2
  refine ⟨m', e1, e2, e3, ?_⟩
  have hread : readDoc (step w .exp).1.kn (step w .exp).1.reg = .mgr m' := by
    rw [step, readDoc, hm']
  intro p hp himp
  rw [← hread]
  exact run_imp_outputs reads (fun op h => (hreads op h).2) _ p hp himp

/-- `save` then `from_file`: a fresh path or `overwrite=True` stores the manager and it comes back equal in both
directions; an existing file is kept as it is without `overwrite` -/
theorem history_save_load (name : String) (ctx : Dict) (ops : List Op) (path : String) (ow : Bool)
    (hk : (run (World.init name ctx) ops).1.kn.okEq) :
    ((run (World.init name ctx) ops).1.files.lookup path = none ∨ ow = true →
      ∃ m', (run (run (World.init name ctx) ops).1 [.save path ow, .load path]).2 = [.ok, .mgr m'] ∧
        mEq (run (World.init name ctx) ops).1.mgr m' = true ∧ mEq m' (run (World.init name ctx) ops).1.mgr = true) ∧
    (((run (World.init name ctx) ops).1.files.lookup path).isSome → ow = false →
      step (run (World.init name ctx) ops).1 (.save path ow) = ((run (World.init name ctx) ops).1, .ok)) := by
  have hinv := history_unique_keys name ctx ops
  generalize (run (World.init name ctx) ops).1 = w at *
  constructor
  · intro hfresh
    obtain ⟨m', hm', e1, e2, _⟩ := roundtrip_eq_both w.kn hk w.mgr hinv.1 hinv.2.1 hinv.2.2
    refine ⟨m', ?_, e1, e2⟩
    have hcond : ((w.files.lookup path).isSome && !ow) = false := by
      rcases hfresh with h | h <;> simp [h]
    simp only [run, step, hcond, Bool.false_eq_true, if_false, readDoc, lookup_dictSet, if_true, hm']
  · intro hex how
    rw [step, hex, how]
    rfl

/-- every file ever written holds the export of a manager state the history went through (under the key names in
force at that moment): nothing else is ever stored. By induction on the history from the end, with `step_frame`
(only `save` touches the files) -/
theorem history_files_sound (name : String) (ctx : Dict) (ops : List Op) (p : String) (d : Doc)
    (h : (run (World.init name ctx) ops).1.files.lookup p = some d) :
    ∃ pre, pre <+: ops ∧ d = toDict (run (World.init name ctx) pre).1.kn (run (World.init name ctx) pre).1.mgr := by
  induction ops using List.reverseRecOn generalizing d with
  | nil => simp [run, World.init] at h
  | append_singleton init op ih =>
    rw [(run_outputs _ init [op]).2] at h
    simp only [run] at h
    rcases (step_frame (run (World.init name ctx) init).1 op).2.1 with hf | ⟨path, ow, rfl, hf⟩
    · rw [hf] at h
      obtain ⟨pre, hpre, hd⟩ := ih d h
      exact ⟨pre, hpre.trans (List.prefix_append _ _), hd⟩
    · rw [hf, lookup_dictSet] at h
      split at h
      · cases h
        exact ⟨init, List.prefix_append _ _, rfl⟩
      · obtain ⟨pre, hpre, hd⟩ := ih d h
        exact ⟨pre, hpre.trans (List.prefix_append _ _), hd⟩

example : batch 20 5 1 = [4, 5, 6, 7] := by decide +kernel
example : batch 10 3 0 = [0, 1, 2, 3] ∧ batch 10 3 2 = [7, 8, 9] := by decide +kernel
example : sectionSizes 10 3 = [4, 3, 3] ∧ divPoints 10 3 = [0, 4, 7, 10] := by decide +kernel
example : arraySplit (List.range 10) 3 = [some [0, 1, 2, 3], some [4, 5, 6], some [7, 8, 9]] := by decide +kernel
example : arraySplit ["a", "b", "c", "d", "e"] 2 = [some ["a", "b", "c"], some ["d", "e"]] := by decide +kernel
example : getBatch 20 5 1 = .ok [4, 5, 6, 7] ∧ getBatch 3 5 0 = .error .nelemLtNbatch
    ∧ getBatch 0 0 0 = .error .nelemLt1 ∧ getBatch 5 0 0 = .error .ibatchRange ∧ getBatch 5 2 2 = .error .ibatchRange := by decide +kernel
example : (1 : Int) ≤ 5 ∧ (5 : Int) ≤ 20 ∧ (0 : Int) ≤ 1 ∧ (1 : Int) < 5 := by decide +kernel   -- getBatch_ok, getBatch_ok_iff
example : (1 : Nat) ≤ 3 ∧ 3 ≤ 10 ∧ 0 < 3 := by decide +kernel                                      -- getBatch_partition, batches_partition
example : 7 ∈ batch 10 3 2 ∧ (1 : Nat) < 2 ∧ 4 ∈ batch 10 3 1 := by decide +kernel                -- batches_disjoint, mem_batch_lt
example : search 10 3 7 = some 2 ∧ search 10 3 12 = none := by decide +kernel
example : SiteBatch.mk? ["a", "b", "c", "d", "e"] 2 = some (⟨["a", "b", "c", "d", "e"], 2⟩ : SiteBatch String)
    ∧ SiteBatch.mk? ["a", "b", "a"] 2 = none := by decide +kernel
example : ["a", "b", "c", "d", "e"].Nodup ∧ 1 ≤ 2 ∧ 2 ≤ ["a", "b", "c", "d", "e"].length ∧ 3 < ["a", "b", "c", "d", "e"].length := by decide +kernel
example : (⟨["a", "b", "c", "d", "e"], 2⟩ : SiteBatch String).getItem 1 = .ok ["d", "e"]
    ∧ (⟨["a", "b", "c", "d", "e"], 2⟩ : SiteBatch String).search "d" = .ok (some 1)
    ∧ (⟨["a", "b", "c", "d", "e"], 2⟩ : SiteBatch String).search "zz" = .ok none
    ∧ (⟨["a", "b", "c"], 5⟩ : SiteBatch String).search "a" = .error .nelemLtNbatch
    ∧ (⟨["a", "b", "c"], 0⟩ : SiteBatch String).search "a" = .ok none
    ∧ (⟨["a", "b", "c"], 2⟩ : SiteBatch String).getItem 2 = .error .ibatchRange := by decide +kernel
example : "zz" ∉ ["a", "b", "c", "d", "e"] ∧ ((["a", "b", "c"].length : Int) < 5) := by decide +kernel  -- search_absent, search_rejects
example : (product [[.int 1, .int 2], [.str "a", .str "b", .str "c"]]).length = 6 := by decide +kernel
example : ∀ l ∈ [[Val.int 1, .int 2], [.str "a", .str "b"]], l.Nodup := by decide +kernel         -- product_nodup
example : (product [[.int 1, .int 2], [.str "a", .str "b", .str "c"]])[1 * 3 + 2]? = some [.int 2, .str "c"] := by decide +kernel
example : exArgs.map (·.2.toList?) = exLists.map some ∧ (exArgs.map (·.1)).Nodup := by decide +kernel
example : (fromCartesianArgs "m" [("c", .other "None")] exArgs).tasks.length = 6
    ∧ (fromCartesianArgs "m" [] exArgs).tasks[3]? = some [("month", .int 10), ("model", .str "gr4j"), ("k", .int 2)] := by decide +kernel
example : ((Manager.new "m" []).cartesian exArgs).2 = true
    ∧ ((fromCartesianArgs "m" [] exArgs).cartesian [("a", .many [.int 3]), ("b", .notIterable), ("c", .bare (.int 1))])
      = ({ fromCartesianArgs "m" [] exArgs with options := [("a", [.int 3])] }, false) := by decide +kernel
example : ∀ kv ∈ (fromCartesianArgs "m" [] exArgs).options, kv.2.Nodup := by decide +kernel       -- fromCartesian_tasks_nodup
example : find (fromCartesianArgs "m" [] exArgs) [("month", .int 1)] = .ok [0, 1]
    ∧ find (fromCartesianArgs "m" [] exArgs) [("month", .int 1), ("k", .int 2)] = .ok [1]
    ∧ find (fromCartesianArgs "m" [] exArgs) [] = .ok [0, 1, 2, 3, 4, 5]
    ∧ find (fromCartesianArgs "m" [] exArgs) [("nokey", .int 1)] = .error .unknownKey
    ∧ find (Manager.new "m" []) [("nokey", .int 1)] = .ok [] := by decide +kernel
example : (∀ kv ∈ [("month", Val.int 1), ("k", Val.int 2)], ((fromCartesianArgs "m" [] exArgs).options.lookup kv.1).isSome)
    ∧ (∀ t ∈ (fromCartesianArgs "m" [] exArgs).tasks, ∀ kv ∈ [("month", Val.int 1), ("k", Val.int 2)], (t.lookup kv.1).isSome) := by decide +kernel
example : (Val.int 10).quant = true ∧ (Val.str "x1").quant = true ∧ (Val.str "10").quant = false ∧ (Val.flt "0.5").quant = false
    ∧ (∀ v ∈ exLists[0]!, v.quant = true) := by decide +kernel
example : valMatch (.int 1) (.int 10) = false ∧ valMatch (.int 10) (.int 10) = true ∧ valMatch (.str "x") (.str "x1") = false := by decide +kernel
example : getTask (fromCartesianArgs "m" [("c", .int 7)] exArgs) 4 = some ⟨4, [("c", .int 7)], [("month", .str "all"), ("model", .str "gr4j"), ("k", .int 1)]⟩
    ∧ getTask (fromCartesianArgs "m" [] exArgs) 6 = none ∧ getTask (fromCartesianArgs "m" [] exArgs) (-1) = none := by decide +kernel
example : (⟨4, [("c", .int 7)], [("month", .str "all"), ("k", .int 1)]⟩ : Task).get "k" = some (.int 1)
    ∧ (⟨4, [("c", .int 7)], [("month", .str "all"), ("k", .int 1)]⟩ : Task).get "c" = some (.int 7)
    ∧ (⟨4, [("c", .int 7)], [("month", .str "all"), ("k", .int 1)]⟩ : Task).get "zz" = none := by decide +kernel
example : KeyNames.default.ok ∧ (⟨"ctx", "opts", "mopts"⟩ : KeyNames).ok ∧ (⟨"c", "c", "o"⟩ : KeyNames).ok
    ∧ (⟨"taskid", "taskid", "mo"⟩ : KeyNames).ok := by decide +kernel
example : (⟨"name", "o", "mo"⟩ : KeyNames).okEq ∧ ¬ (⟨"name", "o", "mo"⟩ : KeyNames).ok ∧ ¬ (⟨"x", "o", "x"⟩ : KeyNames).okEq := by decide +kernel
example : fromDict ⟨"ctx", "opt", "mopt"⟩ (toDict ⟨"ctx", "opt", "mopt"⟩ (fromCartesianArgs "m" [("c", .int 7)] exArgs))
    = some (fromCartesianArgs "m" [("c", .int 7)] exArgs) := by decide +kernel
example : (run (World.init "m" [("c", .int 7)]) exOps).2 =
    [.ok, .ids [0, 1], .ok, .mgr (fromCartesianArgs "m" [("c", .int 7)] exArgs), .ok, .mgr (fromCartesianArgs "m" [("c", .int 7)] exArgs),
     .ok, .mgr (fromCartesianArgs "m" [("c", .int 7)] exArgs), .task ⟨1, [("c", .int 7)], [("a", .int 4)]⟩, .ok, .err,
     .ok, .err, .ok, .mgr (fromCartesianArgs "m" [("c", .int 7)] [("a", .many [.int 3, .int 4])]), .err,
     .ids [], .err] := by decide +kernel
example : (run (World.init "m" []) exOps).1.kn.okEq ∧ (run (World.init "m" []) exOps).1.kn.ok
    ∧ ((run (World.init "m" []) exOps).1.files.lookup "f1").isSome = true
    ∧ ((run (World.init "m" []) exOps).1.files.lookup "f2").isNone = true := by decide +kernel
example : ∀ op ∈ [Op.find [("a", Val.int 3)], .exp, .imp, .save "f" true, .setKey "context_name" "c"], ∀ a, op ≠ .cartesian a := by
  intro op hop a h
  subst h
  simp at hop
example : ∀ op ∈ [Op.imp, .jsn, .find [("a", Val.int 3)], .imp, .save "f" true, .imp],
    (∀ a, op ≠ .cartesian a) ∧ (∀ k n, op ≠ .setKey k n) ∧ op ≠ .resetKeys ∧ op ≠ .exp := by
  intro op hop
  simp only [List.mem_cons, List.mem_nil_iff, or_false] at hop
  rcases hop with rfl | rfl | rfl | rfl | rfl | rfl <;> simp

end HydroVerif.C19
