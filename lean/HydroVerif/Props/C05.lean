/-
C05 — property theorems: the footprint model of every kernel runs without fault (`Safe`: no access outside a
buffer, no zero integer divisor, no integer overflow / unconvertible double, no exhausted fuel) under the
kernel's precondition, for ALL lengths, contents and oracles; the preconditions are what the Cython asserts and
the Python allocations establish (wrapper obligations over the GENERATED `PyxSpec`).

Clause → theorems → what stays outside (the same table is in harness/registry.d/C05.json, key "clauses"):

1. "every Python entry point that reaches a compiled kernel" (quantifier)
     `wrappers_covered` (the generated list of wrappers that call a kernel is the list of 37 names written out there;
     a wrapper added to a .pyx breaks it) + the harness' completeness check (for each of the 37 names: builder,
     `K_safe`, `_wrapper`, tightness cases; nothing in Lean ties the list to the existence of the theorems).  Outside: functions of the extension modules are
     found by parsing the .pyx (translator trusted; it refuses what it cannot parse).
2. "read or write outside the buffers they were given", all lengths incl. 0 and 1, all contents, all options
     `aggregate_safe … delineateArea_safe` (37 `K_safe`, one per kernel: `Fault.oob` unreachable under the kernel's precondition, which is
     the list of hypotheses of `K_safe`) and the 37 `_wrapper` theorems (asserts ∧ PyAlloc ⇒ those hypotheses for the actual call; for the kernels with a flow direction grid
     the wrapper theorem goes to the form with `GridOK`, `Lemmas/C05.lean`, of which `K_safe` is the instance with the five hypotheses written out).  Outside: that the compiled
     C text performs the model's accesses (run time: sanitizer outcome + exact-extent tightness probes); index
     products of the `int` kernels below 2^31 and `NumpySize` are hypotheses.
3. "divide an integer by zero"
     `Fault.div0` unreachable: `accumulate_safe`, `slope_safe` (any `nprint`, 0 included), every kernel using
     `getnxy` (`% ncols`, reached only with a cell of the grid, hence `ncols ≠ 0`), `voronoi_safe` (any grid size:
     refused before), `inside_safe` (`nvertices ≥ 1` from the wrapper's column reduction), `combi_safe`,
     `isleapyear_safe`.
4. "overflow a signed integer" (and conversions of doubles)
     `Fault.ovf` unreachable: `var2h_safe` (64-bit period start), `coord2cell_safe` / `slice_safe` /
     `intersect_safe` (NaN, inf, huge coordinates never converted), `getdate_safe` + `getdate_rejects`,
     `add1month_safe`, `add1day_safe` (year 2147483647), `combi_safe`, the i32 index products (hypotheses, see 2).
5. "or otherwise bring the interpreter down"
     `Fault.fuel` unreachable: `delineateArea_safe` (the unbounded `while` ends within `nval+1` layers),
     `var2h_safe` (inner walk bounded by `nvalvar`); bounded loops are structural.  Outside: stalls / aborts of
     anything else are only observed (worker time limits, abnormal exits).
6. "input the kernels cannot handle is answered with a Python exception or the documented sentinel value"
     the error return comes before ANY access (equalities valid for every extents function):
     `aggregate_rejects_empty`, `flathomogen_rejects_empty`, `eckhardt_empty`, `eckhardt_rejects_badparam`,
     `islin_empty`, `armodelSim_rejects_order`, `armodelResidual_rejects_order`, `ensrank_rejects_size`,
     `voronoi_rejects`, `accumulate_rejects`, `delineateArea_rejects_nval`, `delineateBoundary_rejects_nval`,
     `excludeZeroArea_rejects`, `neighbours_rejects_cell`, `combi_sentinel`, `var2h_rejects_options`; and, not of
     that form: `delineateBoundary_rejects_negative_cell` (code 1 after the sort has touched `idxcells_area`, which has
     to hold the `nval` cells: a `wp` statement), `getdate_rejects` (out-of-range input runs without fault: a `Safe`
     statement that names no code).  Outside: that the Python wrapper turns the
     code into `ValueError` and validates lengths / options itself is compared at run time (return code class of
     every recorded kernel call vs the model; an error code must surface as an exception), not modelled in Lean.
7. "the code that exists" (tie of the models to the source): for the integer kernels of `data/c_dateutils.c`
   (`isleapyear, daysinmonth, dayofyear, comparedates, add1month, add1day`), `c_combi`, and `clipi, getnxy,
   c_cell2rowcol, c_neighbours, c_upstream, c_downstream` of `gis/c_grid.c` the model is GENERATED from the C text
   on every run (`Generated/CKernels.lean`, namespace `CGen`, by `harness/c2lean.py`) with values and faults:
     `cgen_*_value` (results for all arguments of the stated region: Gregorian rule, month lengths, lexicographic
     order, next day / next month, `Nat.choose`, `C07.colOf/rowOf/neighbour`), `cgen_*_safe` (no fault under the
     kernel's precondition, all lengths and contents, any garbage in uninitialised local arrays),
     `cgen_*_refines` (the hand-written footprint model is the image of the generated function: equality for the scalar
     kernels, same return code under the kernel's precondition for add1month, add1day, comparedates, upstream, downstream),
     `cgen_*_wrapper` (Cython asserts ⇒ precondition of the GENERATED kernel).
   Outside: clang's parser, the translator, the primitives of `Model/CSem.lean` — validated at run time by calling
   the compiled kernels through ctypes on boundary and random inputs and comparing values and buffers exactly.
Every `K_safe` theorem with hypotheses has a concrete instance of them in the last section; so have `aggregate.asserts`,
`PyAlloc_intersect` and some of the `cgen_*` theorems (the other `asserts` / `PyAlloc` and the hypotheses of the `_rejects`
theorems have none).
-/
import HydroVerif.Lemmas.C05
import HydroVerif.Lemmas.C05Wrap
import HydroVerif.Lemmas.CGenDate
import HydroVerif.Lemmas.CGenGrid
import Mathlib.Tactic.NormNum.Ineq

namespace HydroVerif.C05

/-- `c_aggregate`: any `nval` (also `≤ 0`, after the fix), any index content -/
theorem aggregate_safe (e : Ext) (nval : Int) (idx : Nat → Int)
    (h1 : nval ≤ e .aggindex) (h2 : nval ≤ e .inputs) (h3 : nval ≤ e .outputs) (h4 : 1 ≤ e .iend) :
    Safe (aggregate e nval idx) := by
  apply safe_iff_wp.2
  unfold aggregate
  simp only [vc]
  refine fun _ => ⟨by omega, ?_⟩
  -- `count` stays below `nval`: the kernel returns before it would reach it
  refine wp_loopZ (fun _ s => 0 ≤ s.2 ∧ s.2 < nval) (fun _ => True) ⟨le_refl 0, by omega⟩
    (fun j s hj0 hj1 hI => ?_) (fun s hs => ?_) (fun _ _ => ?_)
  · unfold aggBody
    simp only [vc]
    omega
  · simp only [vc]
    omega
  · simp only [vc]

theorem flathomogen_safe (e : Ext) (nval : Int) (idx : Nat → Int)
    (h1 : nval ≤ e .aggindex) (h2 : nval ≤ e .inputs) (h3 : nval ≤ e .outputs) :
    Safe (flathomogen e nval idx) := by
  apply safe_iff_wp.2
  unfold flathomogen
  simp only [vc]
  refine fun _ => ⟨by omega, ?_⟩
  -- `start`, the first index of the current group, trails the counter
  refine wp_loopZ (fun i s => 0 ≤ s.2 ∧ s.2 ≤ i) (fun _ => True) ⟨le_refl 0, le_refl 0⟩
    (fun j s hj0 hj1 hI => ?_) (fun s hs => ?_) (fun _ _ => ?_)
  · unfold homBody
    simp only [vc]
    exact ⟨by omega, fun _ => ⟨fun _ => wp_homFlush h2 h3 hI.1 (by omega) (by omega), fun _ => by omega⟩⟩
  · simp only [vc]
    exact wp_homFlush h2 h3 hs.1 (le_refl _) trivial
  · simp only [vc]

/-- `c_islin`: any `nval` (0 and 1 included, after the fix), any `npoints`, any outcome of the float tests -/
theorem islin_safe (e : Ext) (nval npoints : Int) (lin : Nat → Bool)
    (h1 : nval ≤ e .data) (h2 : nval ≤ e .islin) : Safe (islin e nval npoints lin) := by
  apply safe_iff_wp.2
  unfold islin
  simp only [vc, ← and_assoc]
  refine ⟨fun _ _ => by omega, fun _ => ⟨by omega, ?_⟩⟩
  -- `start`, where the current linear stretch began, trails the counter
  refine wp_loopZ (fun i s => 0 ≤ s.2 ∧ s.2 ≤ i) (fun _ => True) ⟨le_refl 0, by omega⟩
    (fun j s hj0 hj1 hI => ?_) (fun _ _ => ?_) (fun _ _ => ?_)
  · unfold islinBody
    simp only [vc]
    refine ⟨by omega, by omega, fun _ => ?_, fun _ => ⟨fun _ k hk0 hk1 => by omega, hI.1, by omega⟩⟩
    split <;> omega
  · simp only [vc]
  · simp only [vc]

theorem eckhardt_safe (e : Ext) (nval : Int) (bad : Bool)
    (h1 : nval ≤ e .inputs) (h2 : nval ≤ e .outputs) : Safe (eckhardt e nval bad) := by
  apply safe_iff_wp.2
  unfold eckhardt
  simp only [vc]
  exact fun _ _ => ⟨by omega, by omega, fun i hi0 hi1 => by omega⟩

/-- `c_dateutils_isleapyear`: remainders by the constants 4, 100, 400 -/
theorem isleapyear_safe (year : Int) : Safe (isleapyear year) := by
  apply safe_iff_wp.2
  unfold isleapyear
  simp only [vc]
  omega

/-- `c_dateutils_daysinmonth`, `c_dateutils_dayofyear`: the 13-entry tables are indexed behind the guards -/
theorem daysinmonth_safe (month : Int) : Safe (daysinmonth month) :=
  safe_of_wp (wp_daysinmonth month)

theorem dayofyear_safe (month day : Int) : Safe (dayofyear month day) := by
  apply safe_iff_wp.2
  unfold dayofyear
  simp only [vc, constExt_apply]
  exact fun _ _ => by omega

theorem comparedates_safe (e : Ext) (a b : Nat → Int) (h1 : 3 ≤ e .date1) (h2 : 3 ≤ e .date2) :
    Safe (comparedates e a b) :=
  safe_of_wp (comparedates_code e a b h1 h2)

theorem add1month_safe (e : Ext) (d : Nat → Int) (h : 3 ≤ e .date)
    (hd : ∀ k, I32 (d k)) : Safe (add1month e d) :=
  safe_of_wp (add1month_code e d h hd)

/-- `c_dateutils_getdate` on a day inside the `int` range (`h0`: what `inrange = true` means; the model takes the test and
the integer parts as separate arguments, so `h0` is asked for both values of `inrange`). Then `d4 = ⌊day·1e-4⌋` is within
`±214748`, and `214748 · 10000 ≤ 2³¹ - 1` keeps `year * 10000` an `int`; `h42`, `h40`: the integer parts nest,
`|d2 - 100·d4| ≤ 100`, `|d0 - 10000·d4| ≤ 10000`, plus one for the rounding of the products `day*1e-2`, `day*1e-4`. -/
theorem getdate_safe (e : Ext) (d4 d2 d0 : Int) (h : 3 ≤ e .date)
    (h0 : -2147483648 < d0 ∧ d0 < 2147483648) (h4 : -214748 ≤ d4 ∧ d4 ≤ 214748)
    (h42 : -101 ≤ d2 - d4 * 100 ∧ d2 - d4 * 100 ≤ 101)
    (h40 : -10001 ≤ d0 - d4 * 10000 ∧ d0 - d4 * 10000 ≤ 10001) (inrange : Bool) :
    Safe (getdate e inrange (some d4) (some d2) (some d0)) := by
  apply safe_iff_wp.2
  unfold getdate
  -- three conversions and six `int` expressions: year, month and day are differences of the three integer parts
  simp only [vc]
  exact fun _ => by omega

theorem getdate_rejects (e : Ext) (d4 d2 d0 : XInt) : Safe (getdate e false d4 d2 d0) := by
  apply safe_iff_wp.2
  unfold getdate
  exact wp_pure trivial

theorem add1day_safe (e : Ext) (d : Nat → Int) (h : 3 ≤ e .date)
    (hd : ∀ k, I32 (d k)) : Safe (add1day e d) :=
  safe_of_wp (add1day_code e d h hd)

/-- `c_var2h` (with the bounded start scan and the 64-bit period start): the pointer `varindex` stays in
`0 .. nvalvar-2` because the stamp it points at always precedes the end of the current period — for any stamps,
sorted or not (a decrease is answered with the error return). `hs`: `|hstart| ≤ 2⁶²` leaves room for the period end
`hstart + i*nbsec + nbsec` in 64 bits, where `i*nbsec ≤ 2³¹ · 3600` by `hh`. -/
theorem var2h_safe (e : Ext) (nvalvar nvalh nbsec rainfall hstart : Int) (sec : Nat → Int)
    (h1 : nvalvar ≤ e .varsec) (h2 : nvalvar ≤ e .varvalues) (h3 : nvalh ≤ e .hvalues)
    (hh : nvalh ≤ 2147483647) (hs : -4611686018427387904 ≤ hstart ∧ hstart ≤ 4611686018427387904) :
    Safe (var2h e nvalvar nvalh nbsec rainfall hstart sec) := by
  apply safe_iff_wp.2
  unfold var2h
  simp only [vc]
  intro _ hnb
  have hnb : nbsec = 1800 ∨ nbsec = 3600 := by omega
  refine wp_mono (wp_var2hScan h1) (fun v0 hv0 hv => ?_)
  have hv0' := hv0.2 (by omega)
  refine wp_loop
    (fun i v => 0 ≤ v ∧ v + 1 < nvalvar ∧ sec v.toNat < hstart + i * nbsec + nbsec) (fun _ => True) _ _ _
    ⟨by omega, by omega, by rcases hnb with h | h <;> subst h <;> omega⟩
    (fun i v hi0 hi1 hI => ?_) (fun x _ => by cases x <;> exact wp_pure trivial)
  obtain ⟨hv0, hv1, hsv⟩ := hI
  unfold var2hBody
  -- `7730941132800 = 2³¹ · 3600`
  have hp : 0 ≤ i * nbsec ∧ i * nbsec ≤ 7730941132800 := by
    rcases hnb with h | h <;> subst h <;> omega
  simp only [vc]
  refine ⟨by omega, by omega, by omega, by omega, by omega, wp_var2hInnerLoop h1 h2 hv0 hv1 hsv (fun r hr => ?_)⟩
  cases r with
  | inl c => exact wp_pure trivial
  | inr v' =>
    obtain ⟨a, b, c⟩ : 0 ≤ v' - 1 ∧ v' < nvalvar ∧ _ := hr
    have e1 : hstart + (i + 1) * nbsec + nbsec = hstart + i * nbsec + nbsec + nbsec := by ring
    simp only [vc]
    rw [e1]
    exact ⟨by omega, a, by omega, by omega⟩

/-- `c_combi` (after the fix): no `int`/`long long` overflow, no zero divisor — on the accepted arguments
`0 ≤ k ≤ 30`, `0 ≤ n-k ≤ 30` the loop multiplies up the binomial coefficient by exact quotients and the largest product it
forms is `C(60, 30) * 30` (`combi_eq`, from `combi_round`); every other argument is answered with the sentinel
(`combi_sentinel'`) -/
theorem combi_safe (n k : Int) (hn : I32 n) : Safe (combi n k) := by
  by_cases h : n < 0 ∨ k < 0 ∨ k > 30 ∨ n - k > 30
  · exact ⟨_, combi_sentinel' n k hn h⟩
  · exact ⟨_, combi_eq h⟩

theorem armodelSim_safe (e : Ext) (nval nparams : Int) (pnan : Nat → Bool) (bad : Bool)
    (h1 : nparams ≤ e .params) (h2 : nval ≤ e .innov) (h3 : nval ≤ e .outputs) :
    Safe (armodelSim e nval nparams pnan bad) := by
  apply safe_iff_wp.2
  unfold armodelSim
  simp only [vc]
  refine wp_mono (wp_arChecks e nparams pnan bad h1) (fun c hc => ?_)
  cases c with
  | none => simp only [vc]
  | some u =>
    have := hc rfl
    simp only [vc]
    exact fun i hi0 hi1 => ⟨by omega, wp_arShift h1 (by simp only [constExt_apply]; omega) (by omega)⟩

theorem armodelResidual_safe (e : Ext) (nval nparams : Int) (pnan : Nat → Bool) (bad : Bool) (xnan : Nat → Bool)
    (h1 : nparams ≤ e .params) (h2 : nval ≤ e .inputs) (h3 : nval ≤ e .residuals) :
    Safe (armodelResidual e nval nparams pnan bad xnan) := by
  apply safe_iff_wp.2
  unfold armodelResidual
  simp only [vc]
  refine wp_mono (wp_arChecks e nparams pnan bad h1) (fun c hc => ?_)
  cases c with
  | none => simp only [vc]
  | some u =>
    have := hc rfl
    have hle : nparams ≤ (constExt 10 .prev : Int) := by simp only [constExt_apply]; omega
    simp only [vc]
    exact fun i hi0 hi1 => ⟨by omega, fun _ k hk0 hk1 => by omega, wp_arShift h1 hle (by omega)⟩

theorem adTest_safe (e : Ext) (nval : Int) (bad : Nat → Bool) (h1 : nval ≤ e .unifdata) (h2 : 2 ≤ e .outputs) :
    Safe (adTest e nval bad) := by
  apply safe_iff_wp.2
  unfold adTest
  simp only [vc]
  refine ⟨fun i hi0 hi1 => by omega, by omega, by omega,
    wp_forLoop_safe (fun i _ hi0 hi1 => ?_) (fun _ => ?_) (fun _ => by simp only [vc])⟩
  · simp only [vc]
    exact ⟨by omega, fun _ => by omega⟩
  · simp only [vc]
    omega

theorem olsleverage_safe (e : Ext) (nval npreds : Int) (hp : 0 ≤ npreds)
    (h1 : npreds * nval ≤ e .predictors) (h2 : npreds * npreds ≤ e .tXXinv) (h3 : nval ≤ e .leverages)
    (h32 : npreds * nval ≤ 2147483647) (h33 : npreds * npreds ≤ 2147483647) :
    Safe (olsleverage e nval npreds) := by
  apply safe_iff_wp.2
  unfold olsleverage
  simp only [vc]
  -- `predictors` is `nval × npreds`, `tXXinv` is `npreds × npreds`, both by rows (an empty matrix has no cell: `hp` is not needed)
  have _ := hp
  intro i hi0 hi1 j hj0 hj1
  exact ⟨mat_idx32 hi0 hi1 hj0 hj1 h32, mat_idx hi0 hi1 hj0 hj1 h1,
    fun k hk0 hk1 => ⟨mat_idx32 hj0 hj1 hk0 hk1 h33, mat_idx hj0 hj1 hk0 hk1 h2,
      mat_idx32 hi0 hi1 hk0 hk1 h32, mat_idx hi0 hi1 hk0 hk1 h1⟩,
    hi0, lt_of_lt_of_le hi1 h3⟩

theorem paretofront_safe (e : Ext) (nval ncol : Int) (dom : Nat → Nat → Bool) (hc : 0 ≤ ncol)
    (h1 : ncol * nval ≤ e .data) (h2 : nval ≤ e .isdominated) (h32 : ncol * nval ≤ 2147483647) :
    Safe (paretofront e nval ncol dom) := by
  apply safe_iff_wp.2
  unfold paretofront
  simp only [vc]
  have _ := hc
  intro i hi0 hi1
  refine ⟨by omega, wp_forLoop_safe (fun j _ hj0 hj1 => ?_) (fun _ => by simp only [vc]) (fun _ => by simp only [vc])⟩
  rw [Int.zero_add] at hj1
  simp only [vc]
  -- rows `j` and `i` of `data`, an `nval × ncol` matrix by rows
  exact fun _ => ⟨fun k hk0 hk1 => ⟨mat_idx32 hj0 hj1 hk0 hk1 h32, mat_idx hj0 hj1 hk0 hk1 h1,
    mat_idx32 hi0 hi1 hk0 hk1 h32, mat_idx hi0 hi1 hk0 hk1 h1⟩, fun _ => by omega⟩

theorem crps_safe (e : Ext) (nval ncol useW : Int) (unsorted : Nat → Nat → Bool)
    (hc : 1 ≤ ncol) (h1 : nval ≤ e .obs) (h2 : ncol * nval ≤ e .sim)
    (h3 : useW = 1 → nval ≤ e .weights) (h4 : (ncol + 1) * 7 ≤ e .table) (h5 : 5 ≤ e .decompos)
    (h32 : ncol * nval ≤ 2147483647) (h33 : (ncol + 1) * 7 ≤ 2147483647) :
    Safe (crps e nval ncol useW unsorted) := by
  apply safe_iff_wp.2
  unfold crps
  simp only [vc, constExt_apply]
  have hn : ((ncol + 1).toNat : Int) = ncol + 1 := by omega
  -- the work arrays have `ncol + 1` elements
  refine ⟨by omega, fun j hj0 hj1 => by omega, wp_forLoop_safe (fun i _ hi0 hi1 =>
    wp_crpsRow hc hi0 (by omega) h1 h2 h3 h32 (by simp only [constExt_apply]; omega) (by simp only [constExt_apply]; omega))
    (fun _ => ?_) (fun _ => by simp only [vc])⟩
  simp only [vc, constExt_apply]
  exact ⟨fun j hj0 hj1 => ⟨by omega, fun c hc0 hc1 => by omega, by omega, by omega⟩, by omega, by omega, by omega⟩

theorem ensrank_safe (e : Ext) (nval ncol : Int) (badeps : Bool)
    (h1 : ncol * nval ≤ e .sim) (h2 : nval * nval ≤ e .fmat) (h3 : nval ≤ e .ranks)
    (h32 : ncol * nval ≤ 2147483647) (h33 : nval * nval ≤ 2147483647) (h34 : 2 * ncol ≤ 2147483647) :
    Safe (ensrank e nval ncol badeps) := by
  apply safe_iff_wp.2
  unfold ensrank
  simp only [vc]
  intro _ hn
  have hle : 2 * ncol ≤ (constExt (2 * ncol).toNat .ensemb : Int) := by simp only [constExt_apply]; omega
  generalize constExt (2 * ncol).toNat = le at hle
  exact ⟨by omega, fun j hj0 hj1 => ⟨fun hj => ⟨hj0, by omega⟩, fun hj => ⟨hj0, by omega⟩⟩,
    fun i1 hi10 hi11 i2 hi20 hi21 => wp_ensrankPair (by omega) h1 h2 h3 h32 h33 hle hi10 (by omega) (by omega)⟩

open HydroVerif.C07

theorem coord2cell_safe (e : Ext) (nrows ncols nval : Int) (fx fy : Nat → XInt)
    (hN : nrows * ncols ≤ 9223372036854775807)
    (h1 : 2 * nval ≤ e .xycoords) (h2 : nval ≤ e .idxcell) :
    Safe (coord2cell e nrows ncols nval fx fy) := by
  apply safe_iff_wp.2
  unfold coord2cell
  simp only [vc]
  exact fun i hi0 hi1 => ⟨by omega, by omega, wp_coord2cell1 hN fun _ _ => by omega⟩

theorem cell2rowcol_safe (e : Ext) (nrows ncols nval : Int) (cells : Nat → Int)
    (hr : 0 ≤ nrows) (hc : 0 ≤ ncols) (hN : nrows * ncols ≤ 9223372036854775807)
    (h1 : nval ≤ e .idxcell) (h2 : 2 * nval ≤ e .rowcols) :
    Safe (cell2rowcol e nrows ncols nval cells) := by
  apply safe_iff_wp.2
  unfold cell2rowcol
  have h0 : 0 ≤ nrows * ncols := Int.mul_nonneg hr hc
  simp only [vc]
  intro i hi0 hi1
  -- `getnxy` divides by `ncols` only for a cell of the grid
  exact ⟨by omega, by omega, fun _ => by omega,
    fun hg => ⟨ncols_ne_zero_of_inGrid (nrows := nrows) (c := cells i.toNat) ⟨by omega, by omega⟩, by omega⟩⟩

theorem cell2coord_safe (e : Ext) (nrows ncols nval : Int) (cells : Nat → Int)
    (hr : 0 ≤ nrows) (hc : 0 ≤ ncols) (hN : nrows * ncols ≤ 9223372036854775807)
    (h1 : nval ≤ e .idxcell) (h2 : 2 * nval ≤ e .xycoords) :
    Safe (cell2coord e nrows ncols nval cells) := by
  apply safe_iff_wp.2
  unfold cell2coord
  have h0 : 0 ≤ nrows * ncols := Int.mul_nonneg hr hc
  simp only [vc]
  intro i hi0 hi1
  exact ⟨by omega, by omega, fun _ => by omega,
    fun hg => ⟨ncols_ne_zero_of_inGrid (nrows := nrows) (c := cells i.toNat) ⟨by omega, by omega⟩, by omega⟩⟩

theorem neighbours_safe (e : Ext) (nrows ncols idx : Int)
    (hr : 0 ≤ nrows) (hc : 0 ≤ ncols) (hN : nrows * ncols ≤ 9223372036854775807)
    (h1 : 9 ≤ e .neighbours) : Safe (neighbours e nrows ncols idx) := by
  apply safe_iff_wp.2
  unfold neighbours
  refine wp_bind (wp_mono (wp_neighboursInto h1 hr hc hN) (fun r _ => ?_))
  cases r <;> exact wp_pure trivial

theorem upstream_safe (e : Ext) (nrows ncols nval : Int) (code fdir cells : Nat → Int)
    (hr : 0 ≤ nrows) (hc : 0 ≤ ncols) (hN : nrows * ncols ≤ 9223372036854775807)
    (hfd : nrows * ncols ≤ e .flowdir) (hcode : 9 ≤ e .flowdircode)
    (h1 : nval ≤ e .idxdown) (h2 : 9 * nval ≤ e .idxup) :
    Safe (upstream e nrows ncols nval code fdir cells) :=
  safe_of_wp (upstream_code e nrows ncols nval code fdir cells ⟨hr, hc, hN, hfd, hcode⟩ h1 h2)

theorem downstream_safe (e : Ext) (nrows ncols nval : Int) (code fdir cells : Nat → Int)
    (hr : 0 ≤ nrows) (hc : 0 ≤ ncols) (hN : nrows * ncols ≤ 9223372036854775807)
    (hfd : nrows * ncols ≤ e .flowdir) (hcode : 9 ≤ e .flowdircode)
    (h1 : nval ≤ e .idxup) (h2 : nval ≤ e .idxdown) :
    Safe (downstream e nrows ncols nval code fdir cells) :=
  safe_of_wp (downstream_code e nrows ncols nval code fdir cells ⟨hr, hc, hN, hfd, hcode⟩ h1 h2)

theorem accumulate_safe (e : Ext) (nrows ncols nprint maxcells : Int) (code fdir : Nat → Int)
    (hc : 0 ≤ ncols) (hN : nrows * ncols ≤ 9223372036854775807)
    (hfd : nrows * ncols ≤ e .flowdir) (hcode : 9 ≤ e .flowdircode)
    (h1 : nrows * ncols ≤ e .toacc) (h2 : nrows * ncols ≤ e .accumulation) :
    Safe (accumulate e nrows ncols nprint maxcells code fdir) := by
  apply safe_iff_wp.2
  unfold accumulate
  simp only [vc]
  intro _ hr
  have hr : 0 ≤ nrows := by omega
  have h0 : 0 ≤ nrows * ncols := Int.mul_nonneg hr hc
  refine ⟨by omega, wp_forLoop_safe (fun i _ hi0 hi1 => ?_) (fun _ => by simp only [vc]) (fun _ => by simp only [vc])⟩
  have hi : InGrid nrows ncols i := ⟨hi0, by omega⟩
  simp only [vc]
  -- the walk from a cell of the grid stays in the grid
  exact ⟨fun hp => by omega, wp_loopZ (fun _ cur => InGrid nrows ncols cur) (fun _ => True) hi
    (fun j cur _ _ hcur => wp_accWalk ⟨hr, hc, hN, hfd, hcode⟩ h1 h2 hi hcur)
    (fun _ _ => by simp only [vc]) (fun r _ => by cases r <;> simp only [vc])⟩

theorem slope_safe (e : Ext) (nrows ncols nprint : Int) (code fdir : Nat → Int)
    (hc : 0 ≤ ncols) (hN : nrows * ncols ≤ 9223372036854775807)
    (hfd : nrows * ncols ≤ e .flowdir) (hcode : 9 ≤ e .flowdircode)
    (h1 : nrows * ncols ≤ e .altitude) (h2 : nrows * ncols ≤ e .slopeval) :
    Safe (slope e nrows ncols nprint code fdir) := by
  apply safe_iff_wp.2
  unfold slope
  simp only [vc]
  intro hr
  have hr : 0 ≤ nrows := by omega
  have h0 : 0 ≤ nrows * ncols := Int.mul_nonneg hr hc
  refine ⟨by omega, wp_forLoop_safe (fun i _ hi0 hi1 => ?_) (fun _ => by simp only [vc]) (fun _ => by simp only [vc])⟩
  simp only [vc]
  refine ⟨fun hp => by omega, wp_downstreamLocal ⟨hr, hc, hN, hfd, hcode⟩ (fun d hd => ?_)⟩
  cases d with
  | none => simp only [vc]
  | some dn =>
    simp only [vc]
    intro hdn
    have hg := hd dn rfl hdn
    unfold InGrid at hg
    omega

theorem slice_safe (e : Ext) (nrows ncols nval : Int) (f1 f2 f3 : Nat → XInt × XInt)
    (hN : nrows * ncols ≤ 9223372036854775807)
    (h1 : nrows * ncols ≤ e .data) (h2 : 2 * nval ≤ e .xyslice) (h3 : nval ≤ e .zslice) :
    Safe (slice e nrows ncols nval f1 f2 f3) := by
  apply safe_iff_wp.2
  unfold slice
  simp only [vc, ← and_assoc]
  intro i hi0 hi1
  -- each of the three cells is `-1` or a cell of the grid, and `data` is indexed only behind `c ≥ 0`
  refine ⟨by omega, wp_coord2cell1 hN fun c1 hc1 hp1 => ?_⟩
  have g1 : InGrid nrows ncols c1 := hc1.resolve_left (by omega)
  have hnz := ncols_ne_zero_of_inGrid g1
  unfold InGrid at g1
  refine ⟨by omega, wp_coord2cell1 hN fun c2 hc2 hp2 => wp_coord2cell1 hN fun c3 hc3 hp3 => ?_⟩
  unfold InGrid at hc2 hc3
  omega

theorem voronoi_safe (e : Ext) (nrows ncols ncells npoints : Int) (cells : Nat → Int) (closer : Nat → Nat → Bool)
    (h1 : ncells ≤ e .idxcellsArea) (h2 : 2 * npoints ≤ e .xypoints) (h3 : npoints ≤ e .weights) :
    Safe (voronoi e nrows ncols ncells npoints cells closer) := by
  apply safe_iff_wp.2
  unfold voronoi
  simp only [vc]
  intro _ _
  refine ⟨fun j hj0 hj1 => by omega, fun i hi0 hi1 => ⟨by omega, by omega, ?_⟩, fun j hj0 hj1 => by omega⟩
  -- `jmin` is `0` or the counter of an earlier round
  refine wp_loopZ (fun _ jmin => 0 ≤ jmin ∧ jmin < npoints) (fun _ => True) ⟨le_refl 0, by omega⟩
    (fun j jmin hj0 hj1 hI => ?_) (fun jmin hx => ?_) (fun x _ => nomatch x)
  · simp only [vc]
    refine ⟨by omega, by omega, ?_⟩
    split <;> omega
  · simp only [vc]
    omega

theorem inside_safe (e : Ext) (nprint npoints nvertices : Int) (outbox : Nat → Bool)
    (hv : 1 ≤ nvertices) (hv32 : 2 * nvertices ≤ 2147483647)
    (h1 : 2 * npoints ≤ e .points) (h2 : 2 * nvertices ≤ e .polygon) (h3 : npoints ≤ e .inside)
    (h4 : 2 ≤ e .xlim) (h5 : 2 ≤ e .ylim) (h32 : 2 * npoints ≤ 2147483647) :
    Safe (inside e nprint npoints nvertices outbox) := by
  apply safe_iff_wp.2
  unfold inside
  simp only [vc, ← and_assoc]
  intro i hi0 hi1
  refine ⟨by omega, fun _ => ⟨by omega, fun j hj0 hj1 => ?_⟩⟩
  -- the vertex `j % nvertices` is one of the polygon
  have h0 := Int.tmod_nonneg nvertices (show 0 ≤ j by omega)
  have h1 := Int.tmod_lt_of_pos j (show 0 < nvertices by omega)
  omega

theorem excludeZeroArea_safe (e : Ext) (nval : Int) (h1 : 2 * nval ≤ e .xycoords) (h2 : nval ≤ e .idxok) :
    Safe (excludeZeroArea e nval) := (excludeZeroArea_safe_iff e nval).2 (Or.inr ⟨h1, h2⟩)

theorem delineateRiver_safe (e : Ext) (nrows ncols nval idxupstream : Int) (code fdir : Nat → Int)
    (hr : 0 ≤ nrows) (hc : 0 ≤ ncols) (hN : nrows * ncols ≤ 9223372036854775807)
    (hfd : nrows * ncols ≤ e .flowdir) (hcode : 9 ≤ e .flowdircode)
    (h1 : 1 ≤ e .npoints) (h2 : nval ≤ e .idxcells) (h3 : 5 * nval ≤ e .rivdata) :
    Safe (delineateRiver e nrows ncols nval idxupstream code fdir) :=
  delineateRiver_safe_of_grid ⟨hr, hc, hN, hfd, hcode⟩ h1 h2 h3

theorem flowpathlengths_safe (e : Ext) (nrows ncols nval outlet : Int) (code fdir cells : Nat → Int)
    (hr : 0 ≤ nrows) (hc : 0 ≤ ncols) (hN : nrows * ncols ≤ 9223372036854775807)
    (hfd : nrows * ncols ≤ e .flowdir) (hcode : 9 ≤ e .flowdircode)
    (h1 : nval ≤ e .idxcellsArea) (h2 : 3 * nval ≤ e .flowpaths) :
    Safe (flowpathlengths e nrows ncols nval outlet code fdir cells) :=
  flowpathlengths_safe_of_grid ⟨hr, hc, hN, hfd, hcode⟩ h1 h2

/-- `c_intersect`: the cells stored so far are distinct cells of the target grid, so there are at most
`nrows*ncols` of them — the extent `Catchment.intersect` allocates — whatever the number of points -/
theorem intersect_safe (e : Ext) (nrows ncols nval : Int) (f : Nat → XInt × XInt)
    (hr : 0 ≤ nrows) (hc : 0 ≤ ncols) (hN : nrows * ncols ≤ 9223372036854775807)
    (h1 : 2 * nval ≤ e .xyarea) (h2 : nrows * ncols ≤ e .idxcells) (h3 : nrows * ncols ≤ e .weights)
    (h4 : 1 ≤ e .npoints) :
    Safe (intersect e nrows ncols nval f) := by
  apply safe_iff_wp.2
  unfold intersect
  have h0 : 0 ≤ nrows * ncols := Int.mul_nonneg hr hc
  simp only [vc]
  refine wp_loopZ (fun _ stored => stored.Nodup ∧ ∀ x ∈ stored, 0 ≤ x ∧ x < nrows * ncols) (fun _ => True)
    ⟨List.nodup_nil, by simp⟩ (fun i stored hi0 hi1 hI => ?_) (fun _ _ => ?_) (fun x _ => nomatch x)
  · have hlen := length_le_of_nodup_inGrid h0 hI.1 hI.2
    simp only [vc]
    refine ⟨by omega, by omega, wp_coord2cell1 hN fun c hc => ⟨fun _ => hI, fun hp => ?_⟩⟩
    have hg : 0 ≤ c ∧ c < nrows * ncols := hc.resolve_left (by omega)
    refine wp_mono (wp_intersectFind (by omega) (by omega)) (fun found hf => ⟨fun _ => hI, fun hnf => ?_⟩)
    have hnot : c ∉ stored := fun hm => by simp [hf.2 hm] at hnf
    have hnd : (stored ++ [c]).Nodup := List.nodup_append_comm.1 (List.nodup_cons.2 ⟨hnot, hI.1⟩)
    have hrange := forall_mem_snoc hI.2 hg
    -- a new cell: the list was not full
    have hlen2 := length_le_of_nodup_inGrid h0 hnd hrange
    simp at hlen2
    exact ⟨by omega, by omega, hnd, hrange⟩
  · simp only [vc]
    omega

/-- `c_delineate_boundary` (after the fixes): for any area cells (sorted by `qsort`), any mask content, any grid
with sides below 2·10⁹ — cells outside the grid are refused before they index the mask, the boundary buffer is
written at `knext` only when a cell was found -/
theorem delineateBoundary_safe (e : Ext) (nrows ncols nval : Int) (cells mask : Nat → Int)
    (hr : 0 ≤ nrows ∧ nrows ≤ 2000000000) (hc : 0 ≤ ncols ∧ ncols ≤ 2000000000)
    (hsorted : ∀ i j : Nat, i ≤ j → (j : Int) < nval → cells i ≤ cells j)
    (h1 : nval ≤ e .idxcellsArea) (h2 : nval ≤ e .buffer) (h3 : nrows * ncols ≤ e .mask)
    (h4 : nval ≤ e .idxboundary) :
    Safe (delineateBoundary e nrows ncols nval cells mask) :=
  delineateBoundary_safe_of_ends e nrows ncols nval cells mask hr hc
    (fun i hi => ⟨hsorted 0 i (Nat.zero_le _) hi, hsorted i (nval - 1).toNat (by omega) (by omega)⟩) h1 h2 h3 h4

/-- `c_delineate_area`: for any flow directions (cycles included), any outlet, inlets and buffer size `nval` —
the three work buffers of `nval` cells are never overrun, and the unbounded `while` loop ends within `nval+1`
layers -/
theorem delineateArea_safe (e : Ext) (nrows ncols nval ninlets idxoutlet : Int) (code fdir inlets : Nat → Int)
    (hr : 0 ≤ nrows) (hc : 0 ≤ ncols) (hN : nrows * ncols ≤ 9223372036854775807)
    (hfd : nrows * ncols ≤ e .flowdir) (hcode : 9 ≤ e .flowdircode) (hin : ninlets ≤ e .idxinlets)
    (ha : nval ≤ e .idxcellsArea) (hb1 : nval ≤ e .buffer1) (hb2 : nval ≤ e .buffer2) :
    Safe (delineateArea e nrows ncols nval ninlets idxoutlet code fdir inlets) :=
  delineateArea_safe_of_grid ⟨hr, hc, hN, hfd, hcode⟩ hin ha hb1 hb2

/-! ## rejected input: the error return / sentinel comes BEFORE any access

"Input the kernels cannot handle is answered with a Python exception or the documented sentinel value": for the
inputs below the model returns its error code (turned into `ValueError` by the Python wrapper — compared with the
real code on every recorded call) or the documented sentinel, whatever the extents of the buffers: nothing is
touched (equalities hold for every `e`, also `e = fun _ => 0`). -/

theorem aggregate_rejects_empty (e : Ext) (nval : Int) (idx : Nat → Int) (h : nval < 1) :
    aggregate e nval idx = .ok 1 := by
  unfold aggregate; simp [h]; rfl

theorem flathomogen_rejects_empty (e : Ext) (nval : Int) (idx : Nat → Int) (h : nval < 1) :
    flathomogen e nval idx = .ok 1 := by
  unfold flathomogen; simp [h]; rfl

theorem eckhardt_empty (e : Ext) (nval : Int) (h : nval < 1) : eckhardt e nval false = .ok 0 := by
  unfold eckhardt; simp [h]; rfl

theorem eckhardt_rejects_badparam (e : Ext) (nval : Int) : eckhardt e nval true = .ok 1 := by
  unfold eckhardt; simp; rfl

theorem islin_empty (e : Ext) (nval npoints : Int) (lin : Nat → Bool) (h : nval < 1) :
    islin e nval npoints lin = .ok 0 := by
  unfold islin
  have h2 : nval < 2 := by omega
  have h1 : ¬ nval = 1 := by omega
  simp [h2, h1]; rfl

theorem armodelSim_rejects_order (e : Ext) (nval nparams : Int) (pnan : Nat → Bool) (bad : Bool)
    (h : nparams ≤ 0 ∨ nparams > 10) : armodelSim e nval nparams pnan bad = .ok 1 := by
  unfold armodelSim arChecks
  have : nparams > arMax ∨ nparams ≤ 0 := by unfold arMax; omega
  simp [this]; rfl

theorem armodelResidual_rejects_order (e : Ext) (nval nparams : Int) (pnan : Nat → Bool) (bad : Bool)
    (xnan : Nat → Bool) (h : nparams ≤ 0 ∨ nparams > 10) :
    armodelResidual e nval nparams pnan bad xnan = .ok 1 := by
  unfold armodelResidual arChecks
  have : nparams > arMax ∨ nparams ≤ 0 := by unfold arMax; omega
  simp [this]; rfl

theorem ensrank_rejects_size (e : Ext) (nval ncol : Int) (h : ncol ≤ 0 ∨ nval ≤ 0) :
    ensrank e nval ncol false = .ok 1 := by
  unfold ensrank; simp [h]; rfl

theorem voronoi_rejects (e : Ext) (nrows ncols ncells npoints : Int) (cells : Nat → Int)
    (closer : Nat → Nat → Bool) (h : npoints < 1 ∨ nrows < 1 ∨ ncols < 1) :
    voronoi e nrows ncols ncells npoints cells closer = .ok 1 := by
  unfold voronoi
  by_cases h1 : npoints < 1
  · simp [h1]; rfl
  · have h2 : nrows < 1 ∨ ncols < 1 := by omega
    simp [h1, h2]; rfl

theorem accumulate_rejects (e : Ext) (nrows ncols nprint maxcells : Int) (code fdir : Nat → Int)
    (h : maxcells < 1 ∨ nrows < 1) : accumulate e nrows ncols nprint maxcells code fdir = .ok 1 := by
  unfold accumulate
  by_cases h1 : maxcells < 1
  · simp [h1]; rfl
  · have h2 : nrows < 1 := by omega
    simp [h1, h2]; rfl

theorem delineateArea_rejects_nval (e : Ext) (nrows ncols nval ninlets idxoutlet : Int)
    (code fdir inlets : Nat → Int) (h : nval < 1) :
    delineateArea e nrows ncols nval ninlets idxoutlet code fdir inlets = .ok 1 := by
  unfold delineateArea; simp [h]; rfl

theorem delineateBoundary_rejects_nval (e : Ext) (nrows ncols nval : Int) (cells mask : Nat → Int)
    (h : nval < 1) : delineateBoundary e nrows ncols nval cells mask = .ok 1 := by
  unfold delineateBoundary; simp [h]; rfl

theorem excludeZeroArea_rejects (e : Ext) (nval : Int) (h : nval ≤ 2) : excludeZeroArea e nval = .ok 1 := by
  unfold excludeZeroArea; simp [h]; rfl

theorem combi_sentinel (n k : Int) (h : n < 0 ∨ k < 0 ∨ k > 30) : combi n k = .ok (-1) := by
  unfold combi; simp [h]; rfl

theorem var2h_rejects_options (e : Ext) (nvalvar nvalh nbsec rainfall hstart : Int) (sec : Nat → Int)
    (h : rainfall < 0 ∨ rainfall > 1 ∨ (nbsec ≠ 1800 ∧ nbsec ≠ 3600)) :
    var2h e nvalvar nvalh nbsec rainfall hstart sec = .ok 1 := by
  unfold var2h
  by_cases h1 : rainfall < 0 ∨ rainfall > 1
  · simp [h1]; rfl
  · have h2 : nbsec ≠ 1800 ∧ nbsec ≠ 3600 := by omega
    simp [h1, h2]; rfl

theorem neighbours_rejects_cell (e : Ext) (nrows ncols idx : Int)
    (hN : -9223372036854775808 ≤ nrows * ncols ∧ nrows * ncols ≤ 9223372036854775807)
    (h : idx < 0 ∨ idx ≥ nrows * ncols) : neighbours e nrows ncols idx = .ok 1 := by
  -- the kernel forms the `long long` product `nrows * ncols` before it tests the cell: hence `hN`
  unfold neighbours neighboursInto
  rw [i64_ok hN, ok_bind, if_pos h]
  rfl

/-- area cells outside the grid (below 0 after the sort): error return, only `idxcells_area` was touched -/
theorem delineateBoundary_rejects_negative_cell (e : Ext) (nrows ncols nval : Int) (cells mask : Nat → Int)
    (hv : 1 ≤ nval) (h1 : nval ≤ e .idxcellsArea)
    (hN : -9223372036854775808 ≤ nrows * ncols ∧ nrows * ncols ≤ 9223372036854775807)
    (hneg : cells 0 < 0) :
    wp (delineateBoundary e nrows ncols nval cells mask) (fun c => c = 1) := by
  unfold delineateBoundary
  simp only [vc, Int.toNat_zero]
  exact fun _ => ⟨hN, fun i _ _ => by omega, by omega, fun h => absurd hneg h⟩

/-! ## wrapper obligations

For every Cython wrapper `f` the generated `PyxSpec.f` gives the shapes, the integer scalars, the `assert`
lines and the actual arguments of the kernel call. Each theorem below derives the kernel's precondition from
the asserts (plus, where the asserts do not suffice, the hand-written `PyAlloc_f` of `Lemmas/C05Wrap.lean` —
what the Python wrapper establishes — and the explicit size assumptions `intFit` / `NumpySize` / the 32-bit
products of the `int` kernels), and concludes that the footprint model, run with the extents of the buffers
actually handed over, is safe for all contents. A weakened or deleted assert in the `.pyx` makes the
corresponding `asserts` weaker and the proof fail. -/
section wrappers
open HydroVerif.Generated PyxSpec

theorem aggregate_wrapper (s : aggregate.Shapes) (v : aggregate.Scalars) (ha : aggregate.asserts s v)
    (idx : Nat → Int) :
    Safe (C05.aggregate (ext_aggregate (aggregate.call s v)) (aggregate.call s v).nval idx) := by
  unfold aggregate.asserts at ha
  apply aggregate_safe <;> simp only [ext_aggregate, aggregate.call] <;> omega

theorem flathomogen_wrapper (s : flathomogen.Shapes) (v : flathomogen.Scalars) (ha : flathomogen.asserts s v)
    (idx : Nat → Int) :
    Safe (C05.flathomogen (ext_flathomogen (flathomogen.call s v)) (flathomogen.call s v).nval idx) := by
  unfold flathomogen.asserts at ha
  apply flathomogen_safe <;> simp only [ext_flathomogen, flathomogen.call] <;> omega

theorem islin_wrapper (s : islin.Shapes) (v : islin.Scalars) (ha : islin.asserts s v) (lin : Nat → Bool) :
    Safe (C05.islin (ext_islin (islin.call s v)) (islin.call s v).nval (islin.call s v).npoints lin) := by
  unfold islin.asserts at ha
  apply islin_safe <;> simp only [ext_islin, islin.call]
  all_goals omega

theorem eckhardt_wrapper (s : eckhardt.Shapes) (v : eckhardt.Scalars) (ha : eckhardt.asserts s v) (bad : Bool) :
    Safe (C05.eckhardt (ext_eckhardt (eckhardt.call s v)) (eckhardt.call s v).nval bad) := by
  unfold eckhardt.asserts at ha
  apply eckhardt_safe <;> simp only [ext_eckhardt, eckhardt.call]
  all_goals omega

theorem var2h_wrapper (s : var2h.Shapes) (v : var2h.Scalars) (ha : var2h.asserts s v)
    (hf : var2h.intFit s v) (hp : PyAlloc_var2h v) (sec : Nat → Int) :
    Safe (C05.var2h (ext_var2h (var2h.call s v)) (var2h.call s v).nvalvar (var2h.call s v).nvalh
      (var2h.call s v).nbsec_per_period (var2h.call s v).rainfall (var2h.call s v).hstartsec sec) := by
  unfold var2h.asserts at ha
  unfold var2h.intFit at hf
  unfold PyAlloc_var2h at hp
  apply var2h_safe <;> simp only [ext_var2h, var2h.call] <;> omega

theorem add1month_wrapper (s : add1month.Shapes) (v : add1month.Scalars) (ha : add1month.asserts s v)
    (d : Nat → Int) (hd : ∀ k, I32 (d k)) :
    Safe (C05.add1month (ext_add1month (add1month.call s v)) d) := by
  unfold add1month.asserts at ha
  apply add1month_safe _ _ _ hd; simp only [ext_add1month, add1month.call]; omega

theorem add1day_wrapper (s : add1day.Shapes) (v : add1day.Scalars) (ha : add1day.asserts s v)
    (d : Nat → Int) (hd : ∀ k, I32 (d k)) :
    Safe (C05.add1day (ext_add1day (add1day.call s v)) d) := by
  unfold add1day.asserts at ha
  apply add1day_safe _ _ _ hd; simp only [ext_add1day, add1day.call]; omega

theorem comparedates_wrapper (s : comparedates.Shapes) (v : comparedates.Scalars)
    (ha : comparedates.asserts s v) (a b : Nat → Int) :
    Safe (C05.comparedates (ext_comparedates (comparedates.call s v)) a b) := by
  unfold comparedates.asserts at ha
  apply comparedates_safe <;> simp only [ext_comparedates, comparedates.call] <;> omega

theorem getdate_wrapper (s : getdate.Shapes) (v : getdate.Scalars) (ha : getdate.asserts s v)
    (d4 d2 d0 : Int) (h0 : -2147483648 < d0 ∧ d0 < 2147483648) (h4 : -214748 ≤ d4 ∧ d4 ≤ 214748)
    (h42 : -101 ≤ d2 - d4 * 100 ∧ d2 - d4 * 100 ≤ 101)
    (h40 : -10001 ≤ d0 - d4 * 10000 ∧ d0 - d4 * 10000 ≤ 10001) (inrange : Bool) :
    Safe (C05.getdate (ext_getdate (getdate.call s v)) inrange (some d4) (some d2) (some d0)) := by
  unfold getdate.asserts at ha
  apply getdate_safe _ _ _ _ _ h0 h4 h42 h40; simp only [ext_getdate, getdate.call]; omega

theorem combi_wrapper (s : combi.Shapes) (v : combi.Scalars) (hr : combi.scalarRange v) :
    Safe (C05.combi (combi.call s v).n (combi.call s v).k) := by
  unfold combi.scalarRange FitsI32 at hr
  exact combi_safe _ _ hr.1

theorem armodel_sim_wrapper (s : armodel_sim.Shapes) (v : armodel_sim.Scalars) (ha : armodel_sim.asserts s v)
    (pnan : Nat → Bool) (bad : Bool) :
    Safe (armodelSim (ext_armodel_sim (armodel_sim.call s v)) (armodel_sim.call s v).nval
      (armodel_sim.call s v).nparams pnan bad) := by
  unfold armodel_sim.asserts at ha
  apply armodelSim_safe <;> simp only [ext_armodel_sim, armodel_sim.call]
  all_goals omega

theorem armodel_residual_wrapper (s : armodel_residual.Shapes) (v : armodel_residual.Scalars)
    (ha : armodel_residual.asserts s v) (pnan : Nat → Bool) (bad : Bool) (xnan : Nat → Bool) :
    Safe (armodelResidual (ext_armodel_residual (armodel_residual.call s v)) (armodel_residual.call s v).nval
      (armodel_residual.call s v).nparams pnan bad xnan) := by
  unfold armodel_residual.asserts at ha
  apply armodelResidual_safe <;> simp only [ext_armodel_residual, armodel_residual.call]
  all_goals omega

theorem crps_wrapper (s : crps.Shapes) (v : crps.Scalars) (ha : crps.asserts s v) (hp : PyAlloc_crps s v)
    (h32 : (s.sim_1 : Int) * s.sim_0 ≤ 2147483647) (h33 : ((s.sim_1 : Int) + 1) * 7 ≤ 2147483647)
    (unsorted : Nat → Nat → Bool) :
    Safe (C05.crps (ext_crps (crps.call s v)) (crps.call s v).nval (crps.call s v).ncol
      (crps.call s v).use_weights unsorted) := by
  unfold crps.asserts at ha
  unfold PyAlloc_crps at hp
  obtain ⟨a1, a2, a3, a4⟩ := ha
  have := Int.mul_comm (s.sim_1 : Int) s.sim_0
  apply crps_safe <;> simp only [ext_crps, crps.call, Nat.cast_mul, a3, a4] <;> omega

theorem ensrank_wrapper (s : ensrank.Shapes) (v : ensrank.Scalars) (ha : ensrank.asserts s v)
    (h32 : (s.sim_1 : Int) * s.sim_0 ≤ 2147483647) (h33 : (s.sim_0 : Int) * s.sim_0 ≤ 2147483647)
    (h34 : 2 * (s.sim_1 : Int) ≤ 2147483647) (badeps : Bool) :
    Safe (C05.ensrank (ext_ensrank (ensrank.call s v)) (ensrank.call s v).nval (ensrank.call s v).ncol badeps) := by
  unfold ensrank.asserts at ha
  obtain ⟨a1, a2, a3⟩ := ha
  have := Int.mul_comm (s.sim_1 : Int) s.sim_0
  apply ensrank_safe <;> simp only [ext_ensrank, ensrank.call, Nat.cast_mul, ← a2, ← a3] <;> omega

theorem ad_test_wrapper (s : ad_test.Shapes) (v : ad_test.Scalars) (ha : ad_test.asserts s v) (bad : Nat → Bool) :
    Safe (adTest (ext_ad_test (ad_test.call s v)) (ad_test.call s v).nval bad) := by
  unfold ad_test.asserts at ha
  apply adTest_safe <;> simp only [ext_ad_test, ad_test.call]
  all_goals omega

theorem pareto_front_wrapper (s : pareto_front.Shapes) (v : pareto_front.Scalars) (ha : pareto_front.asserts s v)
    (h32 : (s.data_1 : Int) * s.data_0 ≤ 2147483647) (dom : Nat → Nat → Bool) :
    Safe (paretofront (ext_paretofront (pareto_front.call s v)) (pareto_front.call s v).nval
      (pareto_front.call s v).ncol dom) := by
  unfold pareto_front.asserts at ha
  have := Int.mul_comm (s.data_1 : Int) s.data_0
  apply paretofront_safe <;> simp only [ext_paretofront, pareto_front.call, Nat.cast_mul] <;> omega

theorem olsleverage_wrapper (s : olsleverage.Shapes) (v : olsleverage.Scalars) (ha : olsleverage.asserts s v)
    (h32 : (s.predictors_1 : Int) * s.predictors_0 ≤ 2147483647)
    (h33 : (s.predictors_1 : Int) * s.predictors_1 ≤ 2147483647) :
    Safe (C05.olsleverage (ext_olsleverage (olsleverage.call s v)) (olsleverage.call s v).nval
      (olsleverage.call s v).npreds) := by
  unfold olsleverage.asserts at ha
  obtain ⟨a1, a2, a3⟩ := ha
  have := Int.mul_comm (s.predictors_1 : Int) s.predictors_0
  apply olsleverage_safe <;> simp only [ext_olsleverage, olsleverage.call, Nat.cast_mul, a3, ← a2] <;> omega

theorem coord2cell_wrapper (s : coord2cell.Shapes) (v : coord2cell.Scalars) (ha : coord2cell.asserts s v)
    (hp : PyAlloc_coord2cell s v) (fx fy : Nat → XInt) :
    Safe (C05.coord2cell (ext_coord2cell (coord2cell.call s v)) (coord2cell.call s v).nrows
      (coord2cell.call s v).ncols (coord2cell.call s v).nval fx fy) := by
  unfold coord2cell.asserts at ha
  obtain ⟨p1, p2, p3, p4⟩ := hp
  apply coord2cell_safe <;> simp only [ext_coord2cell, coord2cell.call, Nat.cast_mul, p1] <;> omega

theorem cell2coord_wrapper (s : cell2coord.Shapes) (v : cell2coord.Scalars) (ha : cell2coord.asserts s v)
    (hp : PyAlloc_grid v.nrows v.ncols) (cells : Nat → Int) :
    Safe (C05.cell2coord (ext_cell2coord (cell2coord.call s v)) (cell2coord.call s v).nrows
      (cell2coord.call s v).ncols (cell2coord.call s v).nval cells) := by
  unfold cell2coord.asserts at ha
  unfold PyAlloc_grid at hp
  obtain ⟨a1, a2⟩ := ha
  apply cell2coord_safe <;> simp only [ext_cell2coord, cell2coord.call, Nat.cast_mul, a2] <;> omega

theorem cell2rowcol_wrapper (s : cell2rowcol.Shapes) (v : cell2rowcol.Scalars) (ha : cell2rowcol.asserts s v)
    (hp : PyAlloc_grid v.nrows v.ncols) (cells : Nat → Int) :
    Safe (C05.cell2rowcol (ext_cell2rowcol (cell2rowcol.call s v)) (cell2rowcol.call s v).nrows
      (cell2rowcol.call s v).ncols (cell2rowcol.call s v).nval cells) := by
  unfold cell2rowcol.asserts at ha
  unfold PyAlloc_grid at hp
  obtain ⟨a1, a2⟩ := ha
  apply cell2rowcol_safe <;> simp only [ext_cell2rowcol, cell2rowcol.call, Nat.cast_mul, a2] <;> omega

theorem neighbours_wrapper (s : neighbours.Shapes) (v : neighbours.Scalars) (ha : neighbours.asserts s v)
    (hp : PyAlloc_grid v.nrows v.ncols) :
    Safe (C05.neighbours (ext_neighbours (neighbours.call s v)) (neighbours.call s v).nrows
      (neighbours.call s v).ncols (neighbours.call s v).idxcell) := by
  unfold neighbours.asserts at ha
  unfold PyAlloc_grid at hp
  apply neighbours_safe <;> simp only [ext_neighbours, neighbours.call] <;> omega

theorem slice_wrapper (s : slice'.Shapes) (v : slice'.Scalars) (ha : slice'.asserts s v)
    (hp : PyAlloc_slice s) (f1 f2 f3 : Nat → XInt × XInt) :
    Safe (C05.slice (ext_slice (slice'.call s v)) (slice'.call s v).nrows (slice'.call s v).ncols
      (slice'.call s v).nval f1 f2 f3) := by
  unfold slice'.asserts at ha
  obtain ⟨p1, p2⟩ := hp
  unfold NumpySize at p2
  apply slice_safe <;> simp only [ext_slice, slice'.call, Nat.cast_mul, ha] <;> omega

theorem upstream_wrapper (s : upstream.Shapes) (v : upstream.Scalars) (ha : upstream.asserts s v)
    (hn : NumpySize s.flowdir_0 s.flowdir_1) (code fdir cells : Nat → Int) :
    Safe (C05.upstream (ext_upstream (upstream.call s v)) (upstream.call s v).nrows (upstream.call s v).ncols
      (upstream.call s v).nval code fdir cells) := by
  obtain ⟨a1, a2, a3, a4⟩ := ha
  refine safe_of_wp (upstream_code _ _ _ _ _ _ _ (grid_of_shapes a3 a4 hn rfl rfl) ?_ ?_) <;>
    simp only [ext_upstream, upstream.call, Nat.cast_mul, a2] <;> omega

theorem downstream_wrapper (s : downstream.Shapes) (v : downstream.Scalars) (ha : downstream.asserts s v)
    (hn : NumpySize s.flowdir_0 s.flowdir_1) (code fdir cells : Nat → Int) :
    Safe (C05.downstream (ext_downstream (downstream.call s v)) (downstream.call s v).nrows
      (downstream.call s v).ncols (downstream.call s v).nval code fdir cells) := by
  obtain ⟨a1, a2, a3⟩ := ha
  refine safe_of_wp (downstream_code _ _ _ _ _ _ _ (grid_of_shapes a2 a3 hn rfl rfl) ?_ ?_) <;>
    simp only [ext_downstream, downstream.call] <;> omega

theorem accumulate_wrapper (s : accumulate.Shapes) (v : accumulate.Scalars) (ha : accumulate.asserts s v)
    (hn : NumpySize s.flowdir_0 s.flowdir_1) (code fdir : Nat → Int) :
    Safe (C05.accumulate (ext_accumulate (accumulate.call s v)) (accumulate.call s v).nrows
      (accumulate.call s v).ncols (accumulate.call s v).nprint (accumulate.call s v).max_accumulated_cells
      code fdir) := by
  obtain ⟨a1, a2, a3, a4, a5, a6⟩ := ha
  obtain ⟨_, hc, hN, hfd, hcode⟩ : GridOK (ext_accumulate (accumulate.call s v)) _ _ := grid_of_shapes a1 a2 hn rfl rfl
  apply accumulate_safe _ _ _ _ _ _ _ hc hN hfd hcode <;>
    simp only [ext_accumulate, accumulate.call, Nat.cast_mul, a3, a4, a5, a6] <;> omega

theorem slope_wrapper (s : slope.Shapes) (v : slope.Scalars) (ha : slope.asserts s v)
    (hn : NumpySize s.flowdir_0 s.flowdir_1) (code fdir : Nat → Int) :
    Safe (C05.slope (ext_slope (slope.call s v)) (slope.call s v).nrows (slope.call s v).ncols
      (slope.call s v).nprint code fdir) := by
  obtain ⟨a1, a2, a3, a4, a5, a6⟩ := ha
  obtain ⟨_, hc, hN, hfd, hcode⟩ : GridOK (ext_slope (slope.call s v)) _ _ := grid_of_shapes a1 a2 hn rfl rfl
  apply slope_safe _ _ _ _ _ _ hc hN hfd hcode <;>
    simp only [ext_slope, slope.call, Nat.cast_mul, a3, a4, a5, a6] <;> omega

theorem intersect_wrapper (s : intersect.Shapes) (v : intersect.Scalars) (ha : intersect.asserts s v)
    (hp : PyAlloc_intersect s v) (f : Nat → XInt × XInt) :
    Safe (C05.intersect (ext_intersect (intersect.call s v)) (intersect.call s v).nrows
      (intersect.call s v).ncols (intersect.call s v).nval f) := by
  unfold intersect.asserts at ha
  unfold PyAlloc_intersect at hp
  obtain ⟨a1, a2, a3⟩ := ha
  apply intersect_safe <;> simp only [ext_intersect, intersect.call, Nat.cast_mul, a1] <;> omega

theorem voronoi_wrapper (s : voronoi.Shapes) (v : voronoi.Scalars) (ha : voronoi.asserts s v)
    (cells : Nat → Int) (closer : Nat → Nat → Bool) :
    Safe (C05.voronoi (ext_voronoi (voronoi.call s v)) (voronoi.call s v).nrows (voronoi.call s v).ncols
      (voronoi.call s v).ncells (voronoi.call s v).npoints cells closer) := by
  unfold voronoi.asserts at ha
  obtain ⟨a1, a2⟩ := ha
  apply voronoi_safe <;> simp only [ext_voronoi, voronoi.call, Nat.cast_mul, a1] <;> omega

theorem points_inside_polygon_wrapper (s : points_inside_polygon.Shapes) (v : points_inside_polygon.Scalars)
    (ha : points_inside_polygon.asserts s v) (hr : points_inside_polygon.reductions s)
    (h32 : 2 * (s.points_0 : Int) ≤ 2147483647) (h33 : 2 * (s.polygon_0 : Int) ≤ 2147483647)
    (outbox : Nat → Bool) :
    Safe (C05.inside (ext_inside (points_inside_polygon.call s v)) (points_inside_polygon.call s v).nprint
      (points_inside_polygon.call s v).npoints (points_inside_polygon.call s v).nvertices outbox) := by
  unfold points_inside_polygon.asserts at ha
  unfold points_inside_polygon.reductions at hr
  obtain ⟨a1, a2, a3⟩ := ha
  apply inside_safe <;> simp only [ext_inside, points_inside_polygon.call, Nat.cast_mul, a2, a3] <;> omega

theorem exclude_zero_area_boundary_wrapper (s : exclude_zero_area_boundary.Shapes)
    (v : exclude_zero_area_boundary.Scalars) (ha : exclude_zero_area_boundary.asserts s v)
    (hp : PyAlloc_exclude_zero s) :
    Safe (excludeZeroArea (ext_exclude_zero (exclude_zero_area_boundary.call s v))
      (exclude_zero_area_boundary.call s v).nval) := by
  unfold exclude_zero_area_boundary.asserts at ha
  unfold PyAlloc_exclude_zero at hp
  apply excludeZeroArea_safe <;> simp only [ext_exclude_zero, exclude_zero_area_boundary.call, Nat.cast_mul, hp] <;> omega

theorem delineate_river_wrapper (s : delineate_river.Shapes) (v : delineate_river.Scalars)
    (ha : delineate_river.asserts s v) (hn : NumpySize s.flowdir_0 s.flowdir_1) (code fdir : Nat → Int) :
    Safe (delineateRiver (ext_delineate_river (delineate_river.call s v)) (delineate_river.call s v).nrows
      (delineate_river.call s v).ncols (delineate_river.call s v).nval (delineate_river.call s v).idxupstream
      code fdir) := by
  obtain ⟨a1, a2, a3, a4, a5⟩ := ha
  apply delineateRiver_safe_of_grid (grid_of_shapes a1 a2 hn rfl rfl) <;>
    simp only [ext_delineate_river, delineate_river.call, Nat.cast_mul, a4] <;> omega

theorem delineate_flowpathlengths_in_catchment_wrapper (s : delineate_flowpathlengths_in_catchment.Shapes)
    (v : delineate_flowpathlengths_in_catchment.Scalars)
    (ha : delineate_flowpathlengths_in_catchment.asserts s v)
    (hn : NumpySize s.flowdir_0 s.flowdir_1) (code fdir cells : Nat → Int) :
    Safe (flowpathlengths (ext_flowpathlengths (delineate_flowpathlengths_in_catchment.call s v))
      (delineate_flowpathlengths_in_catchment.call s v).nrows
      (delineate_flowpathlengths_in_catchment.call s v).ncols
      (delineate_flowpathlengths_in_catchment.call s v).nval
      (delineate_flowpathlengths_in_catchment.call s v).idxcell_outlet code fdir cells) := by
  obtain ⟨a1, a2, a3, a4⟩ := ha
  apply flowpathlengths_safe_of_grid (grid_of_shapes a1 a2 hn rfl rfl) <;>
    simp only [ext_flowpathlengths, delineate_flowpathlengths_in_catchment.call, Nat.cast_mul, a4] <;> omega

theorem delineate_boundary_wrapper (s : delineate_boundary.Shapes) (v : delineate_boundary.Scalars)
    (ha : delineate_boundary.asserts s v) (hp : PyAlloc_boundary v) (cells mask : Nat → Int)
    (hsorted : ∀ i j : Nat, i ≤ j → (j : Int) < (s.idxcells_area_0 : Int) → cells i ≤ cells j) :
    Safe (delineateBoundary (ext_delineate_boundary (delineate_boundary.call s v))
      (delineate_boundary.call s v).nrows (delineate_boundary.call s v).ncols
      (delineate_boundary.call s v).nval cells mask) := by
  unfold delineate_boundary.asserts at ha
  unfold PyAlloc_boundary at hp
  apply delineateBoundary_safe <;> simp only [ext_delineate_boundary, delineate_boundary.call] <;> omega

theorem delineate_area_wrapper (s : delineate_area.Shapes) (v : delineate_area.Scalars)
    (ha : delineate_area.asserts s v) (hn : NumpySize s.flowdir_0 s.flowdir_1) (code fdir inlets : Nat → Int) :
    Safe (delineateArea (ext_delineate_area (delineate_area.call s v)) (delineate_area.call s v).nrows
      (delineate_area.call s v).ncols (delineate_area.call s v).nval (delineate_area.call s v).ninlets
      (delineate_area.call s v).idxoutlet code fdir inlets) := by
  obtain ⟨a1, a2, a3, a4⟩ := ha
  apply delineateArea_safe_of_grid (grid_of_shapes a3 a4 hn rfl rfl) <;>
    simp only [ext_delineate_area, delineate_area.call] <;> omega

theorem isleapyear_wrapper (s : isleapyear.Shapes) (v : isleapyear.Scalars) :
    Safe (C05.isleapyear (isleapyear.call s v).year) :=
  isleapyear_safe _

theorem daysinmonth_wrapper (s : daysinmonth.Shapes) (v : daysinmonth.Scalars) :
    Safe (C05.daysinmonth (daysinmonth.call s v).month) := daysinmonth_safe _

theorem dayofyear_wrapper (s : dayofyear.Shapes) (v : dayofyear.Scalars) :
    Safe (C05.dayofyear (dayofyear.call s v).month (dayofyear.call s v).day) := dayofyear_safe _ _

/-- every wrapper of the three `.pyx` files that reaches a kernel, in file order; a wrapper added to (or removed from)
a `.pyx` changes the generated list and breaks this. That each name has its `_wrapper` theorem above is checked by
the harness, not here. -/
theorem wrappers_covered : PyxSpec.wrappers.map (·.1) =
    ["combi", "isleapyear", "daysinmonth", "dayofyear", "add1month", "add1day", "comparedates", "getdate",
     "aggregate", "flathomogen", "islin", "var2h", "eckhardt",
     "olsleverage", "armodel_sim", "armodel_residual", "crps", "ensrank", "ad_test", "pareto_front",
     "coord2cell", "cell2coord", "cell2rowcol", "slice", "neighbours", "upstream", "downstream",
     "delineate_area", "delineate_boundary", "exclude_zero_area_boundary", "delineate_river", "accumulate",
     "intersect", "voronoi", "slope", "points_inside_polygon", "delineate_flowpathlengths_in_catchment"] :=
  rfl
end wrappers

/-! ## the definitions GENERATED from the C text (`Generated/CKernels.lean`, rewritten by `harness/c2lean.py` from
`data/c_dateutils.c`, `data/c_dutils.c`, `gis/c_grid.c` on every run)

Every statement below is about `CGen.f`, the translation of the C function `f` with its full integer semantics
(values, out-of-bounds accesses, zero divisors, `int` / `long long` overflow): a change of the C text changes
`CGen.f` and the statement is re-proved against the new text. A value theorem `cgen_f_value` gives the result for
ALL arguments in the stated region — in particular the run ends with `.ok` (no fault). -/
section generated
open HydroVerif.CSem

/-- `c_dateutils_isleapyear` is the Gregorian rule, for every `year` (negative years included) -/
theorem cgen_isleapyear_gregorian (y : Int) : CGen.c_dateutils_isleapyear y =
    .ok (if 4 ∣ y ∧ (¬ 100 ∣ y ∨ 400 ∣ y) then 1 else 0) := by
  rw [cgen_isleapyear_eq']
  simp only [Int.dvd_iff_tmod_eq_zero, ne_eq]

theorem cgen_isleapyear_refines (y : Int) : CGen.c_dateutils_isleapyear y = isleapyear y := by
  rw [cgen_isleapyear_eq']
  unfold isleapyear
  -- the three divisors are constants
  rw [cmod_ok (by decide), cmod_ok (by decide), cmod_ok (by decide)]
  rfl

/-- `c_dateutils_daysinmonth`: the length of the month for months 1..12, `-1` otherwise; never a fault (the table
`days_in_month[13]` is indexed behind the guard, `n+1` cannot overflow) -/
theorem cgen_daysinmonth_value (y m : Int) : CGen.c_dateutils_daysinmonth y m =
    .ok (if 1 ≤ m ∧ m ≤ 12 then nbdayOf y m else -1) := cgen_daysinmonth_eq' y m

/-- the footprint model `C05.daysinmonth` (code class `-1` / `0`) is the image of the generated function -/
theorem cgen_daysinmonth_refines (y m : Int) :
    (CGen.c_dateutils_daysinmonth y m).map (fun v => if v < 0 then -1 else 0) = daysinmonth m := by
  rw [cgen_daysinmonth_eq', daysinmonth_eq]
  -- both sides are `.ok` of a code; a month length is not negative
  have h := nbdayOf_range y m
  refine congrArg Except.ok ?_
  beta_reduce
  omega

/-- `c_dateutils_dayofyear`: days before the month (non-leap year) plus the day, `-1` outside month 1..12 / day 1..31 -/
theorem cgen_dayofyear_value (m d : Int) : CGen.c_dateutils_dayofyear m d =
    .ok (if 1 ≤ m ∧ m ≤ 12 ∧ 1 ≤ d ∧ d ≤ 31 then daysBefore m + d else -1) := cgen_dayofyear_eq' m d

theorem cgen_dayofyear_refines (m d : Int) :
    (CGen.c_dateutils_dayofyear m d).map (fun v => if v < 0 then -1 else 0) = dayofyear m d := by
  rw [cgen_dayofyear_eq']
  symm
  apply eq_ok_of_wp
  unfold dayofyear
  refine wp_ite (fun h => wp_pure ?_) (fun h => wp_ite (fun h2 => wp_pure ?_) (fun h2 => ?_))
  · rw [if_neg (by omega)]; rfl
  · rw [if_neg (by omega)]; rfl
  · have hb := (day_of_year_table m ⟨by omega, by omega⟩).2.1
    refine wp_bind (wp_acc_iff.2 ⟨⟨by omega, by simp only [constExt_apply]; omega⟩, wp_pure ?_⟩)
    rw [if_pos (by omega)]
    exact (if_neg (by omega)).symm

/-- `c_dateutils_comparedates` is the lexicographic order on (year, month, day): `1` earlier, `0` same, `-1` later -/
theorem cgen_comparedates_value (y1 m1 d1 y2 m2 d2 : Int) (r1 r2 : List Int) :
    CGen.c_dateutils_comparedates (y1 :: m1 :: d1 :: r1) (y2 :: m2 :: d2 :: r2) = .ok (cmp3 y1 m1 d1 y2 m2 d2) :=
  cgen_comparedates_eq' y1 m1 d1 y2 m2 d2 r1 r2

/-- no access outside two dates of (at least) three fields, whatever they hold -/
theorem cgen_comparedates_safe (a b : List Int) (ha : 3 ≤ a.length) (hb : 3 ≤ b.length) :
    Safe (CGen.c_dateutils_comparedates a b) := by
  obtain ⟨y1, m1, d1, r1, rfl⟩ := three_of_length ha
  obtain ⟨y2, m2, d2, r2, rfl⟩ := three_of_length hb
  exact ⟨_, cgen_comparedates_eq' y1 m1 d1 y2 m2 d2 r1 r2⟩

/-- `c_dateutils_add1month` on a date with a month 1..12: the same day of the next month, clipped to its length;
after December comes January of the next year -/
theorem cgen_add1month_value (y m d : Int) (r : List Int) (hy : I32 y) (hm : 1 ≤ m ∧ m ≤ 12)
    (hlast : ¬ (m = 12 ∧ y = 2147483647)) :
    CGen.c_dateutils_add1month (y :: m :: d :: r) = .ok (0,
      (if m < 12 then y else y + 1) :: (if m < 12 then m + 1 else 1) ::
        (if d > nbdayOf (if m < 12 then y else y + 1) (if m < 12 then m + 1 else 1)
          then nbdayOf (if m < 12 then y else y + 1) (if m < 12 then m + 1 else 1) else d) :: r) := by
  rw [cgen_add1month_eq' y m d r hy (by unfold I32; omega)]
  have h31 : nbdayOf (y + 1) 1 = 31 := by simp [nbdayOf]
  by_cases h : m < 12
  · have : ¬ m + 1 < 1 := by omega
    simp [h, this]
  · have h2 : ¬ y = 2147483647 := by omega
    simp [h, h2, h31]

/-- December of the last `int` year has no next month: error return, the date is left as it was (no overflow) -/
theorem cgen_add1month_last (d : Int) (r : List Int) :
    CGen.c_dateutils_add1month (2147483647 :: 12 :: d :: r) = .ok (1, 2147483647 :: 12 :: d :: r) := by
  rw [cgen_add1month_eq' _ _ d r (by unfold I32; omega) (by unfold I32; omega)]
  simp

/-- no fault on ANY date of (at least) three `int` fields -/
theorem cgen_add1month_safe (date : List Int) (h : 3 ≤ date.length) (hI : ∀ x ∈ date, I32 x) :
    Safe (CGen.c_dateutils_add1month date) := by
  obtain ⟨y, m, d, r, rfl⟩ := three_of_length h
  exact ⟨_, cgen_add1month_eq' y m d r (hI y (by simp)) (hI m (by simp))⟩

/-- `c_dateutils_add1day` on a valid date: the next day of the Gregorian calendar -/
theorem cgen_add1day_value (y m d : Int) (r : List Int) (hy : I32 y) (hm : 1 ≤ m ∧ m ≤ 12)
    (hd : 1 ≤ d ∧ d ≤ nbdayOf y m) (hlast : ¬ (m = 12 ∧ d = 31 ∧ y = 2147483647)) :
    CGen.c_dateutils_add1day (y :: m :: d :: r) = .ok (0,
      if d < nbdayOf y m then y :: m :: (d + 1) :: r
      else if m < 12 then y :: (m + 1) :: 1 :: r else (y + 1) :: 1 :: 1 :: r) := by
  have hr := nbdayOf_range y m
  rw [cgen_add1day_eq' y m d r hy (by unfold I32; omega) (by unfold I32; omega)]
  have h1 : ¬ (m < 1 ∨ m > 12) := by omega
  have h12 : nbdayOf y 12 = 31 := by simp [nbdayOf]
  by_cases h : d < nbdayOf y m
  · simp [h1, h]
  · have e : d = nbdayOf y m := by omega
    have h2 : ¬ (m = 12 ∧ y = 2147483647) := by
      rintro ⟨rfl, rfl⟩
      omega
    simp only [h1, e, h2, if_false, if_true]
    by_cases hm12 : m < 12 <;> simp [hm12]

/-- the last day of the last `int` year has no next day: error return, the date is left as it was -/
theorem cgen_add1day_last (r : List Int) :
    CGen.c_dateutils_add1day (2147483647 :: 12 :: 31 :: r) = .ok (1, 2147483647 :: 12 :: 31 :: r) := by
  rw [cgen_add1day_eq' _ _ _ r (by unfold I32; omega) (by unfold I32; omega) (by unfold I32; omega)]
  simp [nbdayOf]

/-- no fault on ANY date of (at least) three `int` fields (invalid months and days are answered with the error code) -/
theorem cgen_add1day_safe (date : List Int) (h : 3 ≤ date.length) (hI : ∀ x ∈ date, I32 x) :
    Safe (CGen.c_dateutils_add1day date) := by
  obtain ⟨y, m, d, r, rfl⟩ := three_of_length h
  exact ⟨_, cgen_add1day_eq' y m d r (hI y (by simp)) (hI m (by simp)) (hI d (by simp))⟩

/-- `c_combi(n, k)` is the binomial coefficient on the whole region where it does not return the sentinel and
`k ≤ n` (for `k > n` the C code returns 1) -/
theorem cgen_combi_choose (n k : Int) (hk : 0 ≤ k) (hkn : k ≤ n) (hk30 : k ≤ 30) (hd : n - k ≤ 30) :
    CGen.c_combi n k = .ok (Nat.choose n.toNat k.toNat) := cgen_combi_choose' n k hk hkn hk30 hd

/-- the sentinel `-1` comes before any product is formed (and `n-k` is formed only for non-negative arguments) -/
theorem cgen_combi_sentinel (n k : Int) (hn : I32 n) (hk : I32 k) (h : n < 0 ∨ k < 0 ∨ k > 30 ∨ n - k > 30) :
    CGen.c_combi n k = .ok (-1) := cgen_combi_sentinel' n k hn hk h

/-- no `int` / `long long` overflow, no zero divisor, for ALL `int` arguments -/
theorem cgen_combi_safe (n k : Int) (hn : I32 n) (hk : I32 k) : Safe (CGen.c_combi n k) := cgen_combi_safe' n k hn hk

theorem cgen_clipi_value (x a b : Int) : CGen.clipi x a b = .ok (if x < a then a else if x > b then b else x) :=
  cgen_clipi_eq' x a b

/-- `getnxy` writes the column and the row of `C07` for a cell number `≥ 0` of a grid with columns -/
theorem cgen_getnxy_value (ncols idx : Int) (nxy : List Int) (h2 : 2 ≤ nxy.length) (hc : 0 < ncols) (h0 : 0 ≤ idx)
    (hI : idx ≤ 9223372036854775807) :
    CGen.getnxy ncols idx nxy = .ok (0, (nxy.set 0 (colOf ncols idx)).set 1 (rowOf ncols idx)) :=
  cgen_getnxy_eq' nxy h2 hc h0 hI

/-- `c_cell2rowcol` under the kernel's precondition: no fault, and entry `i` of the output is the (row, column)
of `C07.cell2rowcol` — `(-1, -1)` for a cell number outside the grid — for all lengths and contents -/
theorem cgen_cell2rowcol_value (junk : Nat → Int) (nrows ncols nval : Int) (idxcell rowcols : List Int)
    (hr : 0 ≤ nrows) (hc : 0 ≤ ncols) (hN : nrows * ncols ≤ 9223372036854775807)
    (h1 : nval ≤ idxcell.length) (h2 : 2 * nval ≤ rowcols.length)
    (hL : (rowcols.length : Int) ≤ 9223372036854775807) :
    ∃ out, CGen.c_cell2rowcol junk nrows ncols nval idxcell rowcols = .ok (0, out) ∧
      out.length = rowcols.length ∧
      ∀ i : Nat, (i : Int) < nval →
        out.getD (2 * i) 0 = (C07.cell2rowcol nrows ncols (idxcell.getD i 0)).1 ∧
        out.getD (2 * i + 1) 0 = (C07.cell2rowcol nrows ncols (idxcell.getD i 0)).2 := by
  obtain ⟨⟨c, out⟩, hx, h0, hl, hv⟩ := cgen_cell2rowcol_spec' junk nrows ncols nval idxcell rowcols hr hc hN h1 h2 hL
  simp only [] at h0
  subst h0
  exact ⟨out, hx, hl, hv⟩

theorem cgen_cell2rowcol_safe (junk : Nat → Int) (nrows ncols nval : Int) (idxcell rowcols : List Int)
    (hr : 0 ≤ nrows) (hc : 0 ≤ ncols) (hN : nrows * ncols ≤ 9223372036854775807)
    (h1 : nval ≤ idxcell.length) (h2 : 2 * nval ≤ rowcols.length)
    (hL : (rowcols.length : Int) ≤ 9223372036854775807) :
    Safe (CGen.c_cell2rowcol junk nrows ncols nval idxcell rowcols) :=
  safe_of_wp (cgen_cell2rowcol_spec' junk nrows ncols nval idxcell rowcols hr hc hN h1 h2 hL)

/-- `c_neighbours` for a cell of the grid: no fault, entry `k` is `C07.neighbour … k` (the rest of the buffer is
left alone), whatever the local `nxy[2]` held -/
theorem cgen_neighbours_value (junk : Nat → Int) (nrows ncols idx : Int) (nb : List Int)
    (hr : 0 ≤ nrows) (hc : 0 ≤ ncols) (hN : nrows * ncols ≤ 9223372036854775807)
    (hg : 0 ≤ idx ∧ idx < nrows * ncols) (h9 : 9 ≤ nb.length) :
    ∃ out, CGen.c_neighbours junk nrows ncols idx nb = .ok (0, out) ∧ out.length = nb.length ∧
      (∀ k : Nat, k < 9 → out.getD k 0 = neighbour nrows ncols idx k) ∧
      ∀ p : Nat, 9 ≤ p → out.getD p 0 = nb.getD p 0 := by
  obtain ⟨⟨c, out⟩, hx, h0, hl, hv, hrest⟩ := cgen_neighbours_spec' junk nrows ncols idx nb hr hc hN hg h9
  simp only [] at h0
  subst h0
  exact ⟨out, hx, hl, hv, hrest⟩

/-- a cell number outside the grid is refused before anything is touched (any buffer, also an empty one) -/
theorem cgen_neighbours_rejects (junk : Nat → Int) (nrows ncols idx : Int) (nb : List Int)
    (hN : -9223372036854775808 ≤ nrows * ncols ∧ nrows * ncols ≤ 9223372036854775807)
    (h : idx < 0 ∨ idx ≥ nrows * ncols) : CGen.c_neighbours junk nrows ncols idx nb = .ok (1, nb) :=
  cgen_neighbours_invalid' junk nrows ncols idx nb hN h

theorem cgen_neighbours_safe (junk : Nat → Int) (nrows ncols idx : Int) (nb : List Int)
    (hr : 0 ≤ nrows) (hc : 0 ≤ ncols) (hN : nrows * ncols ≤ 9223372036854775807) (h9 : 9 ≤ nb.length) :
    Safe (CGen.c_neighbours junk nrows ncols idx nb) := by
  have h0 : 0 ≤ nrows * ncols := Int.mul_nonneg hr hc
  by_cases hg : 0 ≤ idx ∧ idx < nrows * ncols
  · exact safe_of_wp (cgen_neighbours_spec' junk nrows ncols idx nb hr hc hN hg h9)
  · exact ⟨_, cgen_neighbours_invalid' junk nrows ncols idx nb ⟨by omega, hN⟩ (by omega)⟩

/-- `c_upstream` under the kernel's precondition (the one of `upstream_safe`): no access outside a buffer — the
neighbours read from the local array are `-1` or cells of the grid, `k` stays below 9 — no overflow, no zero
divisor, for all lengths, flow directions, codes and cell numbers, whatever the local array held -/
theorem cgen_upstream_safe (junk : Nat → Int) (nrows ncols nval : Int) (code fdir cells out : List Int)
    (hr : 0 ≤ nrows) (hc : 0 ≤ ncols) (hN : nrows * ncols ≤ 9223372036854775807)
    (hfd : nrows * ncols ≤ fdir.length) (hcode : 9 ≤ code.length)
    (h1 : nval ≤ cells.length) (h2 : 9 * nval ≤ out.length) (hL : (out.length : Int) ≤ 9223372036854775807) :
    Safe (CGen.c_upstream junk nrows ncols code fdir nval cells out) :=
  safe_of_wp (cgen_upstream_safe' junk nrows ncols nval code fdir cells out hr hc hN hfd hcode h1 h2 hL)

theorem cgen_downstream_safe (junk : Nat → Int) (nrows ncols nval : Int) (code fdir cells out : List Int)
    (hr : 0 ≤ nrows) (hc : 0 ≤ ncols) (hN : nrows * ncols ≤ 9223372036854775807)
    (hfd : nrows * ncols ≤ fdir.length) (hcode : 9 ≤ code.length)
    (h1 : nval ≤ cells.length) (h2 : nval ≤ out.length) :
    Safe (CGen.c_downstream junk nrows ncols code fdir nval cells out) :=
  safe_of_wp (cgen_downstream_safe' junk nrows ncols nval code fdir cells out hr hc hN hfd hcode h1 h2)

theorem cgen_add1month_refines (date : List Int) (e : Ext) (h : 3 ≤ date.length) (he : e .date = date.length)
    (hI : ∀ x ∈ date, I32 x) :
    ∃ x c, CGen.c_dateutils_add1month date = .ok x ∧ add1month e (fun k => date.getD k 0) = .ok c ∧ c = x.1 := by
  obtain ⟨c, hc, hcv⟩ := add1month_code e (fun k => date.getD k 0) (by omega) (getD_I32 date hI)
  obtain ⟨y, m, d, r, rfl⟩ := three_of_length h
  refine ⟨_, c, cgen_add1month_eq' y m d r (hI y (by simp)) (hI m (by simp)), hc, ?_⟩
  rw [hcv]
  simp only [List.getD_cons_zero, List.getD_cons_succ, apply_ite Prod.fst]

theorem cgen_add1day_refines (date : List Int) (e : Ext) (h : 3 ≤ date.length) (he : e .date = date.length)
    (hI : ∀ x ∈ date, I32 x) :
    ∃ x c, CGen.c_dateutils_add1day date = .ok x ∧ add1day e (fun k => date.getD k 0) = .ok c ∧ c = x.1 := by
  obtain ⟨c, hc, hcv⟩ := add1day_code e (fun k => date.getD k 0) (by omega) (getD_I32 date hI)
  obtain ⟨y, m, d, r, rfl⟩ := three_of_length h
  refine ⟨_, c, cgen_add1day_eq' y m d r (hI y (by simp)) (hI m (by simp)) (hI d (by simp)), hc, ?_⟩
  rw [hcv]
  simp only [List.getD_cons_zero, List.getD_cons_succ, apply_ite Prod.fst, ite_self]

theorem cgen_comparedates_refines (a b : List Int) (e : Ext) (ha : 3 ≤ a.length) (hb : 3 ≤ b.length)
    (he1 : e .date1 = a.length) (he2 : e .date2 = b.length) :
    ∃ c, CGen.c_dateutils_comparedates a b = .ok c ∧
      comparedates e (fun k => a.getD k 0) (fun k => b.getD k 0) = .ok c := by
  obtain ⟨c, hc, hcv⟩ := comparedates_code e (fun k => a.getD k 0) (fun k => b.getD k 0) (by omega) (by omega)
  obtain ⟨y1, m1, d1, r1, rfl⟩ := three_of_length ha
  obtain ⟨y2, m2, d2, r2, rfl⟩ := three_of_length hb
  refine ⟨_, cgen_comparedates_eq' y1 m1 d1 y2 m2 d2 r1 r2, ?_⟩
  rw [hc, hcv]
  simp only [List.getD_cons_zero, List.getD_cons_succ]

theorem cgen_combi_refines (n k : Int) (hn : I32 n) (hk : I32 k) : CGen.c_combi n k = combi n k :=
  cgen_combi_eq_combi n k hn hk

/-- `c_downstream`: under the kernel's precondition the generated function and the hand-written footprint model both
end without fault and return the same code (`0`: every cell number is a cell of the grid, `1` otherwise) -/
theorem cgen_downstream_refines (junk : Nat → Int) (nrows ncols nval : Int) (code fdir cells out : List Int) (e : Ext)
    (hr : 0 ≤ nrows) (hc : 0 ≤ ncols) (hN : nrows * ncols ≤ 9223372036854775807)
    (hfd : nrows * ncols ≤ fdir.length) (hcode : 9 ≤ code.length)
    (h1 : nval ≤ cells.length) (h2 : nval ≤ out.length)
    (he1 : e .flowdir = fdir.length) (he2 : e .flowdircode = code.length) (he3 : e .idxup = cells.length)
    (he4 : e .idxdown = out.length) :
    ∃ x c, CGen.c_downstream junk nrows ncols code fdir nval cells out = .ok x ∧
      downstream e nrows ncols nval (fun k => code.getD k 0) (fun k => fdir.getD k 0) (fun k => cells.getD k 0) = .ok c ∧
      c = x.1 :=
  cgen_downstream_refines' junk nrows ncols nval code fdir cells out e hr hc hN hfd hcode h1 h2 he1 he2 he3 he4

theorem cgen_upstream_refines (junk : Nat → Int) (nrows ncols nval : Int) (code fdir cells out : List Int) (e : Ext)
    (hr : 0 ≤ nrows) (hc : 0 ≤ ncols) (hN : nrows * ncols ≤ 9223372036854775807)
    (hfd : nrows * ncols ≤ fdir.length) (hcode : 9 ≤ code.length)
    (h1 : nval ≤ cells.length) (h2 : 9 * nval ≤ out.length) (hL : (out.length : Int) ≤ 9223372036854775807)
    (he1 : e .flowdir = fdir.length) (he2 : e .flowdircode = code.length) (he3 : e .idxdown = cells.length)
    (he4 : e .idxup = out.length) :
    ∃ x c, CGen.c_upstream junk nrows ncols code fdir nval cells out = .ok x ∧
      upstream e nrows ncols nval (fun k => code.getD k 0) (fun k => fdir.getD k 0) (fun k => cells.getD k 0) = .ok c ∧
      c = x.1 := by
  obtain ⟨x, hx, _, hxc⟩ := cgen_upstream_code' junk nrows ncols nval code fdir cells out hr hc hN hfd hcode h1 h2 hL
  obtain ⟨c, hc', hcc⟩ := upstream_code e nrows ncols nval (fun k => code.getD k 0) (fun k => fdir.getD k 0)
    (fun k => cells.getD k 0) ⟨hr, hc, hN, by omega, by omega⟩ (by omega) (by omega)
  exact ⟨x, c, hx, hc', code_class_eq hxc hcc⟩

/-! In the `cgen_*_wrapper` theorems buffers are lists whose lengths are the extents of the generated `call` (`PyxSpec.f.call`). -/
open HydroVerif.Generated PyxSpec

theorem cgen_add1month_wrapper (s : add1month.Shapes) (v : add1month.Scalars) (ha : add1month.asserts s v)
    (date : List Int) (hl : date.length = (add1month.call s v).date) (hI : ∀ x ∈ date, I32 x) :
    Safe (CGen.c_dateutils_add1month date) := by
  unfold add1month.asserts at ha
  exact cgen_add1month_safe date (by simp only [add1month.call] at hl; omega) hI

theorem cgen_add1day_wrapper (s : add1day.Shapes) (v : add1day.Scalars) (ha : add1day.asserts s v)
    (date : List Int) (hl : date.length = (add1day.call s v).date) (hI : ∀ x ∈ date, I32 x) :
    Safe (CGen.c_dateutils_add1day date) := by
  unfold add1day.asserts at ha
  exact cgen_add1day_safe date (by simp only [add1day.call] at hl; omega) hI

theorem cgen_comparedates_wrapper (s : comparedates.Shapes) (v : comparedates.Scalars)
    (ha : comparedates.asserts s v) (a b : List Int) (hl1 : a.length = (comparedates.call s v).date1)
    (hl2 : b.length = (comparedates.call s v).date2) : Safe (CGen.c_dateutils_comparedates a b) := by
  unfold comparedates.asserts at ha
  simp only [comparedates.call] at hl1 hl2
  exact cgen_comparedates_safe a b (by omega) (by omega)

theorem cgen_combi_wrapper (s : combi.Shapes) (v : combi.Scalars) (hr : combi.scalarRange v) :
    Safe (CGen.c_combi (combi.call s v).n (combi.call s v).k) := by
  unfold combi.scalarRange FitsI32 at hr
  exact cgen_combi_safe _ _ hr.1 hr.2

theorem cgen_cell2rowcol_wrapper (s : cell2rowcol.Shapes) (v : cell2rowcol.Scalars) (ha : cell2rowcol.asserts s v)
    (hp : PyAlloc_grid v.nrows v.ncols) (junk : Nat → Int) (idxcell rowcols : List Int)
    (hl1 : idxcell.length = (cell2rowcol.call s v).idxcell) (hl2 : rowcols.length = (cell2rowcol.call s v).rowcols)
    (hL : (rowcols.length : Int) ≤ 9223372036854775807) :
    Safe (CGen.c_cell2rowcol junk (cell2rowcol.call s v).nrows (cell2rowcol.call s v).ncols
      (cell2rowcol.call s v).nval idxcell rowcols) := by
  unfold cell2rowcol.asserts at ha
  obtain ⟨p1, p2, p3⟩ := hp
  obtain ⟨a1, a2⟩ := ha
  simp only [cell2rowcol.call] at hl1 hl2 ⊢
  apply cgen_cell2rowcol_safe _ _ _ _ _ _ p1 p2 p3
  · omega
  · rw [hl2]; push_cast; rw [a2]; omega
  · exact hL

theorem cgen_neighbours_wrapper (s : neighbours.Shapes) (v : neighbours.Scalars) (ha : neighbours.asserts s v)
    (hp : PyAlloc_grid v.nrows v.ncols) (junk : Nat → Int) (nb : List Int)
    (hl : nb.length = (neighbours.call s v).neighbours) :
    Safe (CGen.c_neighbours junk (neighbours.call s v).nrows (neighbours.call s v).ncols
      (neighbours.call s v).idxcell nb) := by
  unfold neighbours.asserts at ha
  obtain ⟨p1, p2, p3⟩ := hp
  simp only [neighbours.call] at hl ⊢
  exact cgen_neighbours_safe _ _ _ _ _ p1 p2 p3 (by omega)

theorem cgen_upstream_wrapper (s : upstream.Shapes) (v : upstream.Scalars) (ha : upstream.asserts s v)
    (hn : NumpySize s.flowdir_0 s.flowdir_1) (junk : Nat → Int) (code fdir cells out : List Int)
    (hl1 : code.length = (upstream.call s v).flowdircode) (hl2 : fdir.length = (upstream.call s v).flowdir)
    (hl3 : cells.length = (upstream.call s v).idxdown) (hl4 : out.length = (upstream.call s v).idxup)
    (hL : (out.length : Int) ≤ 9223372036854775807) :
    Safe (CGen.c_upstream junk (upstream.call s v).nrows (upstream.call s v).ncols code fdir
      (upstream.call s v).nval cells out) := by
  obtain ⟨a1, a2, a3, a4⟩ := ha
  obtain ⟨hr, hc, hN, hfd, hcode⟩ := grid_of_shapes a3 a4 hn hl2 hl1
  simp only [upstream.call] at hl3 hl4
  apply cgen_upstream_safe _ _ _ _ _ _ _ _ hr hc hN hfd hcode (hL := hL) <;>
    simp only [upstream.call, hl4, Nat.cast_mul, a2] <;> omega

theorem cgen_downstream_wrapper (s : downstream.Shapes) (v : downstream.Scalars) (ha : downstream.asserts s v)
    (hn : NumpySize s.flowdir_0 s.flowdir_1) (junk : Nat → Int) (code fdir cells out : List Int)
    (hl1 : code.length = (downstream.call s v).flowdircode) (hl2 : fdir.length = (downstream.call s v).flowdir)
    (hl3 : cells.length = (downstream.call s v).idxup) (hl4 : out.length = (downstream.call s v).idxdown) :
    Safe (CGen.c_downstream junk (downstream.call s v).nrows (downstream.call s v).ncols code fdir
      (downstream.call s v).nval cells out) := by
  obtain ⟨a1, a2, a3⟩ := ha
  obtain ⟨hr, hc, hN, hfd, hcode⟩ := grid_of_shapes a2 a3 hn hl2 hl1
  simp only [downstream.call] at hl3 hl4
  apply cgen_downstream_safe _ _ _ _ _ _ _ _ hr hc hN hfd hcode <;> simp only [downstream.call] <;> omega

end generated

macro "ex_arith" : tactic => `(tactic| (intros; first | omega | (simp only [constExt_apply]; omega)))

/-! one concrete, non-trivial instance of the hypotheses of every kernel theorem (extents `constExt n`: every
buffer has `n` elements). `exCode`: the ESRI flow direction codes of the 3 × 3 neighbourhood (NW, N, NE, W, –, E, SW, S, SE); `exFdir`: flow
directions on a 3 × 3 grid whose last row are sinks; `exCodeL`, `exFdirL`: the same as lists, for the generated kernels. -/
def exCode : Nat → Int := fun j => [32, 64, 128, 16, 0, 1, 8, 4, 2].getD j 0

def exFdir : Nat → Int := fun i => [4, 4, 4, 1, 16, 4, 0, 0, 0].getD i 0

def exCodeL : List Int := [32, 64, 128, 16, 0, 1, 8, 4, 2]

def exFdirL : List Int := [4, 4, 4, 1, 16, 4, 0, 0, 0]

example : Safe (aggregate (constExt 4) 4 (fun i => (i / 2 : Nat))) := by
  apply aggregate_safe <;> ex_arith
example : Safe (flathomogen (constExt 4) 4 (fun i => (i / 2 : Nat))) := by
  apply flathomogen_safe <;> ex_arith
example : Safe (islin (constExt 6) 6 3 (fun i => decide (2 ≤ i))) := by
  apply islin_safe <;> ex_arith
example : Safe (eckhardt (constExt 5) 5 false) := by
  apply eckhardt_safe <;> ex_arith
example : Safe (comparedates (constExt 3) (fun _ => 2000) (fun i => 2000 + i)) := by
  apply comparedates_safe <;> ex_arith
example : Safe (add1month (constExt 3) (fun i => if i = 0 then 2147483647 else if i = 1 then 12 else 31)) :=
  add1month_safe _ _ (by ex_arith) (by intro k; unfold I32; split <;> [skip; split] <;> omega)
example : Safe (add1day (constExt 3) (fun i => if i = 0 then 2024 else if i = 1 then 2 else 29)) :=
  add1day_safe _ _ (by ex_arith) (by intro k; unfold I32; split <;> [skip; split] <;> omega)
example : Safe (getdate (constExt 3) true (some 2024) (some 202401) (some 20240131)) := by
  apply getdate_safe <;> ex_arith
example : Safe (var2h (constExt 5) 5 4 3600 0 3600 (fun i => [0, 1000, 5000, 9000, 20000].getD i 0)) := by
  apply var2h_safe <;> ex_arith
example : Safe (combi 60 30) := combi_safe _ _ (by unfold I32; norm_num)
example : Safe (armodelSim (constExt 10) 7 10 (fun _ => false) false) := by
  apply armodelSim_safe <;> ex_arith
example : Safe (armodelResidual (constExt 10) 7 10 (fun _ => false) false (fun i => decide (i = 3))) := by
  apply armodelResidual_safe <;> ex_arith
example : Safe (adTest (constExt 6) 6 (fun _ => false)) := by
  apply adTest_safe <;> ex_arith
example : Safe (olsleverage (constExt 12) 4 3) := by
  apply olsleverage_safe <;> ex_arith
example : Safe (paretofront (constExt 12) 4 3 (fun i j => decide (i < j))) := by
  apply paretofront_safe <;> ex_arith
example : Safe (crps (constExt 28) 5 3 0 (fun _ _ => false)) := by
  apply crps_safe <;> ex_arith
example : Safe (ensrank (constExt 16) 4 3 false) := by
  apply ensrank_safe <;> ex_arith
example : Safe (coord2cell (constExt 10) 3 3 5 (fun i => if i = 0 then none else some (i : Int)) (fun _ => some 1)) := by
  apply coord2cell_safe <;> ex_arith
example : Safe (cell2rowcol (constExt 10) 3 3 5 (fun i => (i : Int) * 3 - 1)) := by
  apply cell2rowcol_safe <;> ex_arith
example : Safe (cell2coord (constExt 10) 3 3 5 (fun i => (i : Int) * 3 - 1)) := by
  apply cell2coord_safe <;> ex_arith
example : Safe (neighbours (constExt 9) 3 3 4) := by
  apply neighbours_safe <;> ex_arith
example : Safe (upstream (constExt 27) 3 3 3 exCode exFdir (fun i => (i : Int) * 4)) := by
  apply upstream_safe <;> ex_arith
example : Safe (downstream (constExt 9) 3 3 3 exCode exFdir (fun i => (i : Int) * 4)) := by
  apply downstream_safe <;> ex_arith
example : Safe (accumulate (constExt 9) 3 3 0 9 exCode exFdir) := by
  apply accumulate_safe <;> ex_arith
example : Safe (slope (constExt 9) 3 3 0 exCode exFdir) := by
  apply slope_safe <;> ex_arith
example : Safe (slice (constExt 9) 3 3 4 (fun _ => (some 1, some 1)) (fun _ => (some 2, some 1)) (fun _ => (none, some 0))) := by
  apply slice_safe <;> ex_arith
example : Safe (voronoi (constExt 6) 3 3 5 3 (fun i => i) (fun i j => decide (i = j))) := by
  apply voronoi_safe <;> ex_arith
example : Safe (inside (constExt 8) 0 4 3 (fun i => decide (i = 1))) := by
  apply inside_safe <;> ex_arith
example : Safe (excludeZeroArea (constExt 10) 5) := by
  apply excludeZeroArea_safe <;> ex_arith
example : Safe (delineateRiver (constExt 20) 3 3 4 0 exCode exFdir) := by
  apply delineateRiver_safe <;> ex_arith
example : Safe (flowpathlengths (constExt 12) 3 3 4 7 exCode exFdir (fun i => i)) := by
  apply flowpathlengths_safe <;> ex_arith
example : Safe (intersect (constExt 12) 3 4 6 (fun i => (some (i % 4 : Nat), some 1))) := by
  apply intersect_safe <;> ex_arith
example : Safe (delineateBoundary (constExt 9) 3 3 3 (fun k => if k = 2 then 5 else 2) (fun _ => 1)) :=
  delineateBoundary_safe _ _ _ _ _ _ (by norm_num) (by norm_num)
    (by intro i j hij hj; split <;> split <;> omega) (by ex_arith) (by ex_arith) (by ex_arith) (by ex_arith)
example : Safe (delineateArea (constExt 9) 3 3 9 1 7 exCode exFdir (fun _ => 0)) := by
  apply delineateArea_safe <;> ex_arith

/-- a concrete run: 4 values in 2 groups touch `outputs[0..1]`, `iend[0]` -/
example : aggregate (fun b => match b with | .aggindex => 4 | .inputs => 4 | .outputs => 2 | .iend => 1 | _ => 0)
    4 (fun i => if i < 2 then 1 else 2) = .ok 0 := by decide

/-- one element less for `outputs` and the same run faults at `outputs[1]`: the footprint is tight -/
example : aggregate (fun b => match b with | .aggindex => 4 | .inputs => 4 | .outputs => 1 | .iend => 1 | _ => 0)
    4 (fun i => if i < 2 then 1 else 2) = .error (.oob .outputs 1) := by decide

/-- `nprint = 0` is harmless only because of the `nprint > 0` guard: a bare `i % nprint` is `div0` -/
example : cmod 5 0 = .error .div0 := by decide

/-- `(long long) NaN` is a fault of the model: the fixed `c_coord2cell` never converts it -/
example : castI64 none = .error .ovf := rfl
example : coord2cell1 3 3 none (some 1) = .ok (-1) := by decide +kernel

/-- the asserts of the `aggregate` wrapper hold for the shapes `dutils.aggregate` allocates (n = 5) -/
example : HydroVerif.Generated.PyxSpec.aggregate.asserts { aggindex_0 := 5, inputs_0 := 5, outputs_0 := 5, iend_0 := 1 }
    { oper := 0, maxnan := 0 } := by
  simp [HydroVerif.Generated.PyxSpec.aggregate.asserts]

example : PyAlloc_intersect { xy_area_0 := 7, xy_area_1 := 2, npoints_0 := 1, idxcells_0 := 12, weights_0 := 12 }
    { nrows := 3, ncols := 4 } := by
  simp [PyAlloc_intersect]

example : ∀ i j : Nat, i ≤ j → (j : Int) < 3 →
    (fun k => if k = 2 then (5 : Int) else 2) i ≤ (fun k => if k = 2 then (5 : Int) else 2) j := by
  intro i j hij hj
  simp only []
  split <;> split <;> omega

/-- a one-cell area (the defect repaired in `c_delineate_boundary`) runs clean in the model -/
example : isOk (delineateBoundary
    (fun b => match b with | .idxcellsArea => 1 | .buffer => 1 | .mask => 9 | .idxboundary => 1 | _ => 0)
    3 3 1 (fun _ => 4) (fun i => if i = 4 then 1 else 0)) = true := by decide +kernel

/-! concrete runs of the GENERATED definitions (kernel evaluation): the hypotheses of the `cgen_*` theorems are
satisfiable, and the generated functions do fault outside them -/
section generated_examples
open HydroVerif.CSem
example : CGen.c_dateutils_add1day [2024, 2, 28] = .ok (0, [2024, 2, 29]) := by decide +kernel
example : CGen.c_dateutils_add1day [2023, 2, 28, 7] = .ok (0, [2023, 3, 1, 7]) := by decide +kernel
example : CGen.c_dateutils_add1month [2024, 1, 31] = .ok (0, [2024, 2, 29]) := by decide +kernel
example : CGen.c_dateutils_add1day [2024, 2] = .error (.oob (.arg 0) 2) := by decide +kernel
example : CGen.c_dateutils_isleapyear 1900 = .ok 0 := by decide +kernel
example : CGen.c_combi 40 20 = .ok 137846528820 := by decide +kernel
example : CGen.c_combi (-2147483648) 1 = .ok (-1) := by decide +kernel
example : CGen.getnxy 0 5 [0, 0] = .error .div0 := by decide +kernel
example : CGen.c_cell2rowcol driverJunk 3 4 3 [0, 5, 12] [9, 9, 9, 9, 9, 9] = .ok (0, [0, 0, 1, 1, -1, -1]) := by decide +kernel
example : CGen.c_neighbours driverJunk 3 3 4 [0, 0, 0, 0, 0, 0, 0, 0, 0] = .ok (0, [0, 1, 2, 3, -1, 5, 6, 7, 8]) := by
  decide +kernel
example : CGen.c_neighbours driverJunk 3 3 0 [0, 0, 0, 0, 0, 0, 0, 0] = .error (.oob (.arg 3) 8) := by decide +kernel

/-- hypotheses of `cgen_add1day_value`, `cgen_add1month_value`: 28 February 2024 -/
example : I32 2024 ∧ (1 ≤ (2 : Int) ∧ (2 : Int) ≤ 12) ∧ (1 ≤ (28 : Int) ∧ (28 : Int) ≤ nbdayOf 2024 2) := by
  refine ⟨by unfold I32; omega, by omega, by omega, by decide⟩

/-- hypotheses of `cgen_combi_choose`: `C(40, 20)` -/
example : (0 : Int) ≤ 20 ∧ (20 : Int) ≤ 40 ∧ (20 : Int) ≤ 30 ∧ (40 : Int) - 20 ≤ 30 := by omega

/-- hypotheses of `cgen_cell2rowcol_value` / `cgen_upstream_safe` / `cgen_downstream_safe`: a 3 x 3 grid, two cells -/
example : (0 : Int) ≤ 3 ∧ (3 : Int) * 3 ≤ 9223372036854775807 ∧ (3 : Int) * 3 ≤ (exFdirL.length : Int) ∧
    9 ≤ exCodeL.length ∧ (2 : Int) ≤ ([4, 7] : List Int).length ∧ 9 * (2 : Int) ≤ (List.replicate 18 (0 : Int)).length := by
  decide
example : Safe (CGen.c_upstream driverJunk 3 3 exCodeL exFdirL 2 [4, 7] (List.replicate 18 0)) :=
  cgen_upstream_safe _ _ _ _ _ _ _ _ (by omega) (by omega) (by omega) (by decide) (by decide) (by decide) (by decide)
    (by decide)
example : CGen.c_upstream driverJunk 3 3 exCodeL exFdirL 2 [4, 7] (List.replicate 18 0) =
    .ok (0, [1, 3, -1, -1, -1, -1, -1, -1, -1, -1, -1, -1, -1, -1, -1, -1, -1, -1]) := by decide +kernel
example : CGen.c_downstream driverJunk 3 3 exCodeL exFdirL 3 [0, 4, 8] [9, 9, 9] = .ok (0, [3, 3, -2]) := by
  decide +kernel

/-- the same call with a flow direction grid one element short faults in the generated model -/
example : CGen.c_downstream driverJunk 3 3 exCodeL (exFdirL.take 8) 3 [0, 4, 8] [9, 9, 9] =
    .error (.oob (.arg 3) 8) := by decide +kernel
end generated_examples

end HydroVerif.C05
