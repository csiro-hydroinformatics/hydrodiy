/-
C06 — property theorems (only). Model: `HydroVerif/Model/C06.lean` (+ the integer grid core of
`Model/C07.lean`); the direction-code table is `HydroVerif.Generated.FlowDir.codes`, regenerated from
`FLOWDIRCODE` in grid.py on every run: every theorem below is about that table, and those that need a fact about it
(no code twice, 0 in the centre, the ESRI layout) take it from `tableOK` / `codes_esri` (`Lemmas/C06Table.lean`, closed by
`decide` on the table as it is now); the others hold for any table.
Helper lemmas: `Lemmas/C06.lean` (the upstream / downstream pair, the area, chains and rivers), `Lemmas/C06Bfs.lean`
(breadth-first layers), `Lemmas/C06Path.lean` (the flow-path walk), `Lemmas/C06Fill.lean` (hole filling), `Lemmas/C06Hist.lean`
(histories on one object), `Lemmas/C06Round.lean` (what survives rounding), `Lemmas/C06Real.lean`, `Lemmas/C07Grid.lean`, `Lemmas/Chain.lean` (iterates of the downstream cell on a finite grid:
period, pigeonhole; shared with C11). The right-hand sides of the theorems (`Reaches`, `chainCell`, `chainSteps`, `chainCells`, `GoesOn`,
`reachArea`, `countBy`; the ESRI layout `esriDx` / `esriDy` / `esriPos` of `Lemmas/C06Table.lean`) are executable definitions, run by the driver (`chain`, `reach`,
`count`, `esri` requests) and compared with the real code like every other model function.

All theorems hold for every grid size (`0 < ncols`; a valid cell forces `0 < nrows`), every content of the
flow-direction grid (any integer in any cell: the eight codes, 0, invalid codes), every outlet, every list of
inlets (repeated entries, the outlet itself allowed), every buffer size, every start cell, every history of
calls on one object. Every model function named below is executed by `Drivers/C06.lean` and compared with the
real code on every run.

CLAUSE -> THEOREMS -> WHAT REMAINS OUTSIDE
* the direction-code table shared by both relations is the ESRI one (grid.py FLOWDIRCODE, regenerated every run)
    -> flowdir_table_is_esri, downstream_cases_complete
    outside: nothing (decide on the generated table; the translator harness/gen_flowdir.py is trusted)
* on every grid, upstream and downstream are inverse relations: u is reported upstream of d exactly when d is reported as the downstream cell of u
    -> mem_upstream_iff, upstream_valid_nodup, upstreamRow_length, upstream_downstream_guard
    outside: nothing; hypothesis ncols > 0 (quantifier: r, c >= 1). Row order of idxup is not part of the property (compared as a multiset)
* sinks and off-grid exits (and invalid codes) are flagged by the documented negative codes -2 / -1
    -> downstream_sink, downstream_esri, downstream_invalid_code, downstream_range, downstream_cases_complete
    outside: nothing
* the delineated area is exactly the outlet plus every cell whose downstream chain reaches the outlet without passing through an inlet; empty when nothing drains to the outlet; each cell listed once
    -> delineate_ok_iff, delineate_perm_reachArea, reaches_unfold, delineate_cells_valid, wrapper_area_eq, wrapper_buffer_layout
    outside: listing order of idxcells_area (not fixed by the property; not compared)
* ...for every outlet x every set of inlets, and the call does return the area (total correctness, buffer size)
    -> delineate_ok_iff_no_cycle, delineate_default_total, delineate_ok_of_room, delineate_ok_iff_room, delineate_fits_buffer, delineate_outcomes
    outside: nothing; the buffer must hold exactly len(area)+1 entries (delineate_ok_iff_room; one more than the docstring says — not a clause of the property); the default call (inlets None, nval 10^6) is total on grids of fewer than 10^6 cells
* grids containing flow cycles end in an error or a bounded result, never a hang
    -> delineate_cycle_error, delineate_outcomes, walks_bounded, cycleThroughOutlet_iff, chainCyclic_iff, flowPathCapped_iff, delineate_length_le
    outside: termination of the compiled code itself is observed (worker subprocess with time limits). WHICH of the two outcomes (error / bounded result) and its values are left open by the property: where the model's own predicates say so — cycleThroughOutlet (proved = a cycle through the outlet, cycleThroughOutlet_iff), chainCyclic (the river chain has not ended after ncells+1 cells; proved = it never ends, chainCyclic_iff), flowPathCapped (the walk used all its iterations; proved = no iteration stops, flowPathCapped_iff) — the correspondence and the oracle only require an error or a result within the bound; everything else is compared exactly
* the hole-filled area contains the area
    -> filled_contains_area, filled_wellformed, filled_empty
    outside: scipy.ndimage.binary_fill_holes is a parameter of the model with the hypothesis 'keeps the mask' (external; filled_wellformed — each cell once, on the grid — needs no hypothesis on it); which extra cells it adds is only compared (scipy's answer fed back through the model's cell numbering)
* river traces follow the same downstream chain, advancing 1 per orthogonal and sqrt(2) per diagonal step
    -> river_trace, river_cells_are_chain, river_displacements, chain_step_euclidean, length_eq_orth_plus_sqrt2_diag, length_real, real_sqrt_hyps, river_guard, walks_bounded, river_dist_monotone, length_rounded, length_orthogonal_exact, float_like_models
    outside: x, y columns are C07's cell centres (compared bit for bit, proved in C07); the exact VALUE of the rounded running sum (Float instance executed and compared within max(4, #steps) ulp) — its order / sign / bounds and the exact lengths of chains without diagonal steps are theorems over any rounded arithmetic (FloatLike: monotone addition, x + 0 = x, sqrt 1 = 1, 1 <= sqrt 2 <= 2)
* flow-path lengths follow the same downstream chain with the same step lengths
    -> flowpath_length, flowpath_on_area, flowpath_exit, flowpath_cases, flowpath_capped, flowpath_last_step_dropped, flowpath_invalid_start, chain_step_euclidean, length_eq_orth_plus_sqrt2_diag, length_real, length_rounded, length_orthogonal_exact, pinned_step_misclassified, pinned_wrong_only_on_two_columns
    outside: nothing about the kernel's rows is left uncharacterised (flowpath_cases: exit / outlet with room / outlet at the last iteration, last step dropped / cut after nval steps); for the last two cases the property itself asks a bounded result only, so the correspondence and the oracle compare 'bounded' there; the exact value of the rounded sum (as for rivers)
* histories: every answer of one Catchment object is about its current grid and the arguments of the call (re-delineation with another outlet / inlets incl. equal-size areas, flowdir edited in place or re-assigned, a failed delineation in between)
    -> history_delineate, history_flowpaths, history_no_stale_area, history_queries_pure, history_query_answer, history_area_wellformed, history_accessors, wrapper_area_eq
    outside: the state machine (Model: CatchState / histStep / callRun, read-only calls upstream / downstream / delineate_river / idxcells_area / isin interleaved) is tied to the real object by the history stream of the correspondence; clone / pickle / edits of the grid handed to the constructor are compared with the model but never flagged (the property does not say which grid a clone holds — C13)
-/
import HydroVerif.Lemmas.C06
import HydroVerif.Lemmas.C06Real
import HydroVerif.Lemmas.C06Hist
import HydroVerif.Lemmas.C06Path
import HydroVerif.Lemmas.C06Fill
import HydroVerif.Lemmas.C06Round

set_option linter.unusedSectionVars false

namespace HydroVerif.C06
open HydroVerif.C07 HydroVerif.Generated.FlowDir

variable {g : FlowGrid}

/-- **the generated table** (`FLOWDIRCODE.ravel()` as it is in grid.py now): nine codes, no code twice, the
sink code 0 in the centre, direction `m` clockwise from east coded `2^m` at the neighbour position of its
offset, and position `8 - k` holding the opposite direction — what `c_downstream` (lookup) and `c_upstream`
(mirrored lookup) rely on. Closed by `decide` on the table: a swapped, duplicated or missing entry in
grid.py fails here (and in every theorem below that uses one of these facts). -/
theorem flowdir_table_is_esri :
    codes.length = 9 ∧ codes.Nodup ∧ codes[4]? = some 0 ∧
    (∀ m, m < 8 → codes[esriPos m]? = some ((2 : Int) ^ m)) ∧
    (∀ m, m < 8 → codes[8 - esriPos m]? = some ((2 : Int) ^ ((m + 4) % 8))) ∧
    (∀ m, m < 8 → nbDx (esriPos m) = esriDx m ∧ nbDy (esriPos m) = esriDy m) :=
  ⟨codes_length, codes_nodup, codes_centre, codes_esri, codes_mirror,
    fun m hm => ⟨esri_nbDx m hm, esri_nbDy m hm⟩⟩

/-- **inverse relations**: whenever `upstream d` answers (`d` a cell of the grid), any `u` is listed upstream of
`d` exactly when `d` is reported as the downstream cell of `u` -/
theorem mem_upstream_iff (hc : 0 < g.ncols) {u d : Int} {us : List Int}
    (hup : upstream codes g d = .ok us) :
    u ∈ us ↔ downstream codes g u = .ok d := by
  obtain ⟨hd, rfl⟩ := upstream_eq_ok.1 hup
  rw [mem_upstreamCells_iff tableOK hc hd, downstream_eq_ok]

theorem upstream_valid_nodup {d : Int} {us : List Int} (hup : upstream codes g d = .ok us) :
    us.Nodup ∧ ∀ u ∈ us, validCell g.nrows g.ncols u = true := by
  obtain ⟨-, rfl⟩ := upstream_eq_ok.1 hup
  exact ⟨upstreamCells_nodup d, fun u hu => upstreamCells_valid hu⟩

/-- the row written to `idxup` has 9 entries: the cells found, then `-1` -/
theorem upstreamRow_length {d : Int} {us : List Int} (hup : upstream codes g d = .ok us) :
    (upstreamRow us).length = 9 ∧ ∀ x ∈ upstreamRow us, x ∈ us ∨ x = -1 := by
  obtain ⟨-, rfl⟩ := upstream_eq_ok.1 hup
  have hle : (upstreamCells codes g d).length ≤ 9 := (List.length_filterMap_le _ _).trans (by simp)
  constructor
  · unfold upstreamRow; rw [List.length_append, List.length_replicate]; omega
  · intro x hx
    unfold upstreamRow at hx
    rcases List.mem_append.1 hx with h | h
    · exact Or.inl h
    · exact Or.inr (List.eq_of_mem_replicate h)

/-- cells off the grid are rejected by both routines, valid ones never are -/
theorem upstream_downstream_guard (u : Int) :
    (validCell g.nrows g.ncols u = false →
      upstream codes g u = .error .badCell ∧ downstream codes g u = .error .badCell) ∧
    (validCell g.nrows g.ncols u = true →
      upstream codes g u = .ok (upstreamCells codes g u) ∧
      downstream codes g u = .ok (downstreamCell codes g u)) :=
  ⟨fun h => ⟨if_neg (h ▸ Bool.false_ne_true), if_neg (h ▸ Bool.false_ne_true)⟩, fun h => ⟨if_pos h, if_pos h⟩⟩

/-- **sinks** (`fd = 0`) are flagged `-2` -/
theorem downstream_sink {u : Int} (hu : validCell g.nrows g.ncols u = true) (hf : g.fd u = 0) :
    downstream codes g u = .ok (-2) := by
  rw [downstream_of_valid hu, downstreamCell_sink hf]

/-- **ESRI directions, off-grid exits**: a cell holding the code `2^m` of direction `m` (0 = east, counted
clockwise) drains to the cell one step in that direction, or is flagged `-1` when that step leaves the grid -/
theorem downstream_esri {u : Int} {m : Nat} (hm : m < 8)
    (hu : validCell g.nrows g.ncols u = true) (hf : g.fd u = 2 ^ m) :
    downstream codes g u = .ok
      (if 0 ≤ rowOf g.ncols u + esriDy m ∧ rowOf g.ncols u + esriDy m < g.nrows ∧
          0 ≤ colOf g.ncols u + esriDx m ∧ colOf g.ncols u + esriDx m < g.ncols
       then (rowOf g.ncols u + esriDy m) * g.ncols + (colOf g.ncols u + esriDx m) else -1) := by
  have hne : g.fd u ≠ 0 := by rw [hf]; positivity
  have hpos : esriPos m < 9 := esriPos_lt m hm
  have hcode : codes[esriPos m]? = some (g.fd u) := by rw [hf]; exact codes_esri m hm
  rw [downstream_of_valid hu, downstreamCell_of_code tableOK hpos hne hcode, neighbour_eq]
  have hdx := esri_nbDx m hm
  have hdy := esri_nbDy m hm
  have hcen := esri_not_centre m hm
  rw [hdx, hdy, if_neg hcen]
  unfold cellOf
  exact congrArg _ (if_congr ⟨fun h => ⟨h.2.2.1, h.2.2.2, h.1, h.2.1⟩, fun h => ⟨h.2.2.1, h.2.2.2, h.1, h.2.1⟩⟩ rfl rfl)

/-- **invalid codes**: a cell whose code is not in the table is flagged `-1` -/
theorem downstream_invalid_code {u : Int} (hu : validCell g.nrows g.ncols u = true)
    (hf : g.fd u ∉ codes) : downstream codes g u = .ok (-1) := by
  have hne : g.fd u ≠ 0 := by
    intro h; apply hf; rw [h]; decide
  rw [downstream_of_valid hu, downstreamCell_of_no_code hne]
  intro j _ hcj
  exact hf (List.mem_of_getElem? hcj)

/-- **the three cases are all there is**: whatever integer a cell holds, it is the sink code, one of the
eight ESRI codes, or not in the table — so `downstream_sink`, `downstream_esri`, `downstream_invalid_code`
together give the downstream cell of every valid cell of every grid -/
theorem downstream_cases_complete (u : Int) :
    g.fd u = 0 ∨ (∃ m, m < 8 ∧ g.fd u = (2 : Int) ^ m) ∨ g.fd u ∉ codes := by
  by_cases h : g.fd u ∈ codes
  · rcases codes_are_esri_or_zero _ h with h0 | hm
    · exact Or.inl h0
    · exact Or.inr (Or.inl hm)
  · exact Or.inr (Or.inr h)

/-- the reply is always `-2`, `-1` or a valid cell; `-2` only for a sink -/
theorem downstream_range {u d : Int} (h : downstream codes g u = .ok d) :
    (d = -2 ∧ g.fd u = 0) ∨ (d = -1 ∧ g.fd u ≠ 0) ∨ (validCell g.nrows g.ncols d = true ∧ g.fd u ≠ 0) := by
  obtain ⟨-, rfl⟩ := downstream_eq_ok.1 h
  rcases downstreamCell_cases (codes := codes) (g := g) u with ⟨h0, h1⟩ | ⟨h0, _, h1⟩ | ⟨h0, j, _, _, h1⟩
  · exact Or.inl ⟨h1, h0⟩
  · exact Or.inr (Or.inl ⟨h1, h0⟩)
  · by_cases hd : neighbour g.nrows g.ncols u j = -1
    · exact Or.inr (Or.inl ⟨h1.trans hd, h0⟩)
    · exact Or.inr (Or.inr ⟨h1 ▸ neighbour_valid rfl hd, h0⟩)

/-! `Reaches codes g inlets k c o` (`Model/C06.lean`): `c` reaches `o` in exactly `k` downstream steps, none
of the `k` cells it leaves being an inlet — unfolded one step at a time by `reaches_unfold` below. -/

theorem reaches_unfold {inlets : List Int} {k : Nat} {c o : Int} :
    (Reaches codes g inlets 0 c o ↔ c = o) ∧
    (Reaches codes g inlets (k + 1) c o ↔
      validCell g.nrows g.ncols c = true ∧ c ∉ inlets ∧ 0 ≤ downstreamCell codes g c ∧
        Reaches codes g inlets k (downstreamCell codes g c) o) :=
  ⟨reaches_zero_iff, reaches_succ_iff⟩

/-- **area = reachability, each cell once**: when `c_delineate_area` returns, its cells are exactly the
outlet (provided something drains into it) plus every cell whose downstream chain reaches the outlet in
`k ≥ 1` steps without passing through an inlet; no cell is listed twice; and the area is empty when no
non-inlet cell drains into the outlet. -/
theorem delineate_ok_iff (hc : 0 < g.ncols) {o nval : Int} {inlets A : List Int}
    (h : delineateArea codes g o inlets nval = .ok A) :
    A.Nodup ∧
    (∀ c, c ∈ A ↔ (c = o ∧ ∃ u, Reaches codes g inlets 1 u o) ∨ ∃ k, 1 ≤ k ∧ Reaches codes g inlets k c o) ∧
    ((∀ u, ¬ Reaches codes g inlets 1 u o) → A = []) := by
  obtain ⟨-, -, -, n, hstop, hne, hperm, -⟩ := delineateArea_ok h
  have inv := upStep_downStep_inv (g := g) tableOK hc inlets
  exact ⟨hperm.nodup_iff.2 (Bfs.found_nodup _ _ inv o hstop fun d => upStep_nodup inlets d),
    fun c => hperm.mem_iff.trans (Bfs.mem_found _ _ inv o hstop hne c),
    fun hnone => (Bfs.found_eq_nil _ _ inv o hstop hne hnone ▸ hperm).eq_nil⟩

theorem delineate_cells_valid (hc : 0 < g.ncols) {o nval : Int} {inlets A : List Int}
    (h : delineateArea codes g o inlets nval = .ok A) : ∀ c ∈ A, validCell g.nrows g.ncols c = true := by
  intro c hcA
  rcases ((delineate_ok_iff hc h).2.1 c).1 hcA with ⟨rfl, _⟩ | ⟨k, hk, hr⟩
  · exact (delineateArea_ok h).2.1
  · exact ((reaches_iff.1 hr).1 0 hk).1

/-- **a flow cycle through the outlet ends in a buffer-exhaustion error** (never in a result, never in
non-termination: the model is total and this is the exit it takes), whatever the buffer size -/
theorem delineate_cycle_error (hc : 0 < g.ncols) {o nval : Int} {inlets : List Int} {p : Nat}
    (hnval : 1 ≤ nval) (ho : validCell g.nrows g.ncols o = true)
    (hin : ∀ m ∈ inlets, validCell g.nrows g.ncols m = true)
    (hp : 1 ≤ p) (hcyc : Reaches codes g inlets p o o) :
    ∃ e, delineateArea codes g o inlets nval = .error e ∧
      (e = .areaFull ∨ e = .bufferFull ∨ e = .outletFull) := by
  have inv := upStep_downStep_inv (g := g) tableOK hc inlets
  rcases delineateArea_of_valid (codes := codes) hnval ho hin with ⟨A', n, _, hstop, _⟩ | ⟨e', e, he, _⟩
  · exact absurd hstop (Bfs.layer_ne_nil_of_cycle _ _ inv o (by omega) hcyc (n + 1))
  · exact ⟨e', e, he.elim Or.inl fun h => Or.inr (Or.inr h)⟩

/-- **buffer-exhaustion errors are about room only**: if the area is returned for some buffer size, it is
returned (the same cells) for every buffer size with one slot more than the area has cells -/
theorem delineate_ok_of_room {o nval₀ nval : Int} {inlets A : List Int}
    (h : delineateArea codes g o inlets nval₀ = .ok A) (hroom : (A.length : Int) + 1 ≤ nval) :
    ∃ A', delineateArea codes g o inlets nval = .ok A' ∧ A'.Perm A := by
  obtain ⟨-, ho, hin, n, hstop, -, hperm, -⟩ := delineateArea_ok h
  obtain ⟨A', hA'⟩ := delineateArea_ok_of_room (nval := nval) n ho hin hstop (by rw [← hperm.length_eq]; omega)
  exact ⟨A', hA', delineateArea_ok_perm hA' h⟩

/-- **total correctness**: with a valid outlet and valid inlets, the area is returned for some buffer size
exactly when no flow cycle passes through the outlet (in the graph with the inlets removed); and then it
is returned for every buffer size with one slot more than it has cells (`delineate_ok_of_room`) -/
theorem delineate_ok_iff_no_cycle (hc : 0 < g.ncols) {o : Int} {inlets : List Int}
    (ho : validCell g.nrows g.ncols o = true)
    (hin : ∀ m ∈ inlets, validCell g.nrows g.ncols m = true) :
    (∃ nval A, delineateArea codes g o inlets nval = .ok A) ↔
      ¬ ∃ p, 1 ≤ p ∧ Reaches codes g inlets p o o := by
  constructor
  · rintro ⟨nval, A, h⟩ ⟨p, hp, hcyc⟩
    obtain ⟨e, he, _⟩ := delineate_cycle_error hc (delineateArea_ok h).1 ho hin hp hcyc
    rw [he] at h; cases h
  · intro hno
    obtain ⟨n, hstop⟩ := exists_stop_of_no_cycle (g := g) tableOK hc hno
    obtain ⟨A, hA⟩ := delineateArea_ok_of_room (codes := codes) n ho hin hstop (Int.add_sub_cancel _ 1).ge
    exact ⟨_, A, hA⟩

theorem delineate_length_le (hc : 0 < g.ncols) {o nval : Int} {inlets A : List Int}
    (h : delineateArea codes g o inlets nval = .ok A) : A.length ≤ (g.nrows * g.ncols).toNat :=
  C07.length_le_of_nodup_validCell (delineate_ok_iff hc h).1 (delineate_cells_valid hc h)

/-- **where the correspondence compares "error or bounded result" only**: the model's predicate
`cycleThroughOutlet` (the search run with room for every cell of the grid still exhausts its buffers) holds
exactly when a flow cycle passes through the outlet in the graph with the inlets removed -/
theorem cycleThroughOutlet_iff (hc : 0 < g.ncols) {o : Int} {inlets : List Int}
    (ho : validCell g.nrows g.ncols o = true)
    (hin : ∀ m ∈ inlets, validCell g.nrows g.ncols m = true) :
    cycleThroughOutlet codes g o inlets = true ↔ ∃ p, 1 ≤ p ∧ Reaches codes g inlets p o o := by
  have hN : 1 ≤ g.nrows * g.ncols + 2 := by have := validCell_iff.1 ho; omega
  constructor
  · intro hcyc
    by_contra hno
    obtain ⟨nval₀, A, hA⟩ := (delineate_ok_iff_no_cycle hc ho hin).2 hno
    have hlen := delineate_length_le hc hA
    have hpos := (validCell_iff.1 ho)
    obtain ⟨A', hA', _⟩ := delineate_ok_of_room (nval := g.nrows * g.ncols + 2) hA (by omega)
    unfold cycleThroughOutlet at hcyc
    rw [hA'] at hcyc
    simp at hcyc
  · rintro ⟨p, hp, hcyc⟩
    obtain ⟨e, he, hk⟩ := delineate_cycle_error hc hN ho hin hp hcyc
    unfold cycleThroughOutlet
    rw [he]
    rcases hk with rfl | rfl | rfl <;> rfl

/-- **guards and error kinds**: `nval < 1`, an outlet off the grid, an inlet off the grid are rejected in
that order; the model's own recursion bound is never what stops the call, and the call never answers `badCell`
(what a call that passes the guards does answer, an area or `areaFull` / `outletFull`, is `delineateArea_of_valid` in
`Lemmas/C06.lean`) -/
theorem delineate_outcomes (o : Int) (inlets : List Int) (nval : Int) :
    (nval < 1 → delineateArea codes g o inlets nval = .error .badNval) ∧
    (1 ≤ nval → validCell g.nrows g.ncols o = false →
      delineateArea codes g o inlets nval = .error .badOutlet) ∧
    (1 ≤ nval → validCell g.nrows g.ncols o = true → (∃ m ∈ inlets, validCell g.nrows g.ncols m = false) →
      delineateArea codes g o inlets nval = .error .badInlet) ∧
    delineateArea codes g o inlets nval ≠ .error .fuel ∧
    delineateArea codes g o inlets nval ≠ .error .badCell := by
  have hrest : validCell g.nrows g.ncols o = true → (∀ m ∈ inlets, validCell g.nrows g.ncols m = true) → 1 ≤ nval →
      delineateArea codes g o inlets nval ≠ .error .fuel ∧ delineateArea codes g o inlets nval ≠ .error .badCell := by
    intro h2 h3 h1
    rcases delineateArea_of_valid (codes := codes) h1 h2 h3 with ⟨A', n, e, _⟩ | ⟨e', e, he, _⟩
    · rw [e]; exact ⟨nofun, nofun⟩
    · rw [e]; rcases he with rfl | rfl <;> exact ⟨nofun, nofun⟩
  rcases delineateArea_guards (codes := codes) (g := g) o inlets nval with
    ⟨h1, e⟩ | ⟨h1, h2, e⟩ | ⟨h1, h2, ⟨m, hm, hmv⟩, e⟩ | ⟨h1, h2, h3, _⟩
  · exact ⟨fun _ => e, fun h => (by omega), fun h => (by omega), e ▸ nofun, e ▸ nofun⟩
  · exact ⟨fun h => (by omega), fun _ _ => e, fun _ h => (by rw [h2] at h; cases h), e ▸ nofun, e ▸ nofun⟩
  · exact ⟨fun h => (by omega), fun _ h => (by rw [h2] at h; cases h), fun _ _ _ => e, e ▸ nofun, e ▸ nofun⟩
  · refine ⟨fun h => (by omega), fun _ h => (by rw [h2] at h; cases h), ?_, hrest h2 h3 h1⟩
    rintro _ _ ⟨m, hm, hmv⟩; rw [h3 m hm] at hmv; cases hmv

/-- **the Python wrapper returns the kernel's area**: keeping the entries `>= 0` of the work array
(initialised with `-1`) gives back exactly the cells the kernel stored, and a kernel error is passed on -/
theorem wrapper_area_eq (hc : 0 < g.ncols) (o : Int) (inlets : List Int) (nval : Int) :
    wrapperArea codes g o inlets nval = delineateArea codes g o inlets nval := by
  unfold wrapperArea
  cases h : delineateArea codes g o inlets nval with
  | error e => rfl
  | ok A =>
    simp only []
    rw [keepCells_areaBuffer]
    intro c hcA
    exact (validCell_iff.1 (delineate_cells_valid hc h c hcA)).1

/-- **the call with its defaults is total on every grid of fewer than 10^6 cells** (`nrows*ncols ≤ 999999`):
`delineate_area(outlet)` / `delineate_area(outlet, inlets)` with the default buffer returns the area exactly when
no flow cycle passes through the outlet — the buffer-exhaustion errors can then only mean a cycle -/
theorem delineate_default_total (hc : 0 < g.ncols) {o : Int} (inlets : Option (List Int))
    (ho : validCell g.nrows g.ncols o = true)
    (hin : ∀ m ∈ inlets.getD [], validCell g.nrows g.ncols m = true)
    (hsmall : g.nrows * g.ncols + 1 ≤ 1000000) :
    (∃ A, delineateAreaPy codes g o inlets none = .ok A) ↔
      ¬ ∃ p, 1 ≤ p ∧ Reaches codes g (inlets.getD []) p o o := by
  unfold delineateAreaPy
  rw [wrapper_area_eq hc, ← delineate_ok_iff_no_cycle hc ho hin]
  constructor
  · rintro ⟨A, h⟩; exact ⟨_, A, h⟩
  · rintro ⟨nval, A, h⟩
    have hlen := delineate_length_le hc h
    have hpos := validCell_iff.1 ho
    obtain ⟨A', hA', _⟩ := delineate_ok_of_room (nval := (none : Option Int).getD 1000000) h
      (by simp only [Option.getD_none]; omega)
    exact ⟨A', hA'⟩

/-- **the buffer a returned area needs**: `len(area) + 1 ≤ nval` — one slot of the work array always stays free -/
theorem delineate_fits_buffer {o nval : Int} {inlets A : List Int}
    (h : delineateArea codes g o inlets nval = .ok A) : (A.length : Int) + 1 ≤ nval := by
  obtain ⟨-, -, -, -, -, -, -, hfit⟩ := delineateArea_ok h
  exact hfit

/-- **… and that is exactly the room it needs**: once the area is returned for some buffer size, it is returned
for `nval` if and only if `len(area) + 1 ≤ nval` (the hypothesis of `delineate_ok_of_room` cannot be weakened:
with `nval ≤ len(area)` the call ends in a buffer-exhaustion error, which the harness probes with `nval = len`) -/
theorem delineate_ok_iff_room {o nval₀ nval : Int} {inlets A : List Int}
    (h : delineateArea codes g o inlets nval₀ = .ok A) :
    (∃ A', delineateArea codes g o inlets nval = .ok A') ↔ (A.length : Int) + 1 ≤ nval := by
  constructor
  · rintro ⟨A', h'⟩
    rw [(delineateArea_ok_perm h h').length_eq]
    exact delineate_fits_buffer h'
  · intro hroom
    obtain ⟨A', hA', _⟩ := delineate_ok_of_room (nval := nval) h hroom
    exact ⟨A', hA'⟩

/-- **the work array as the Python wrapper sees it**: `nval` entries, the cells of the area first, then `-1` to
the end — at least one (`delineate_fits_buffer`), so the entries `>= 0` are a prefix ending before a `-1` -/
theorem wrapper_buffer_layout (hc : 0 < g.ncols) {o nval : Int} {inlets A : List Int}
    (h : delineateArea codes g o inlets nval = .ok A) :
    (areaBuffer nval A).length = nval.toNat ∧ (areaBuffer nval A).take A.length = A ∧
    (∀ i, A.length ≤ i → i < nval.toNat → (areaBuffer nval A)[i]? = some (-1)) ∧
    (areaBuffer nval A)[A.length]? = some (-1) ∧ ∀ c ∈ A, 0 ≤ c := by
  have hfit := delineate_fits_buffer h
  have hlen : (areaBuffer nval A).length = nval.toNat := by
    unfold areaBuffer; rw [List.length_append, List.length_replicate]; omega
  have hget : ∀ i, A.length ≤ i → i < nval.toNat → (areaBuffer nval A)[i]? = some (-1) := by
    intro i hi1 hi2
    unfold areaBuffer
    rw [List.getElem?_append_right hi1, List.getElem?_replicate]
    rw [if_pos (by omega)]
  refine ⟨hlen, ?_, hget, hget _ (le_refl _) (by omega), ?_⟩
  · unfold areaBuffer; simp
  · intro c hcA
    exact (validCell_iff.1 (delineate_cells_valid hc h c hcA)).1

/-- **the area is the brute-force reachability set**: whenever `c_delineate_area` returns, its cells are, up to
order, `reachArea` — every cell of the grid tested directly against the downstream chain (the property's own
wording, run by the driver next to the kernel's search and compared with `idxcells_area`) -/
theorem delineate_perm_reachArea (hc : 0 < g.ncols) {o nval : Int} {inlets A : List Int}
    (h : delineateArea codes g o inlets nval = .ok A) : A.Perm (reachArea codes g o inlets) := by
  obtain ⟨hnd, hmem, _⟩ := delineate_ok_iff hc h
  obtain ⟨hnval, ho, hin, -⟩ := delineateArea_ok h
  rw [List.perm_ext_iff_of_nodup hnd (reachArea_nodup o inlets)]
  intro c
  rw [hmem c, mem_reachArea]
  constructor
  · rintro (⟨rfl, u, hu⟩ | ⟨k, hk, hr⟩)
    · exact ⟨ho, Or.inl ⟨rfl, u, hu⟩⟩
    · refine ⟨((reaches_iff.1 hr).1 0 hk).1, Or.inr ⟨k, hk, ?_, hr⟩⟩
      -- a longer walk would close a cycle through the outlet, and the call would not have returned
      by_contra hlong
      have hx := reaches_suffix hr (Nat.sub_le k ((g.nrows * g.ncols).toNat + 1))
      rw [Nat.sub_sub_self (by omega)] at hx
      obtain ⟨p, hp, hcyc⟩ := cycle_of_long_walk hx
      obtain ⟨e, he, _⟩ := delineate_cycle_error hc hnval ho hin hp hcyc
      rw [he] at h; cases h
  · rintro ⟨_, ⟨rfl, u, hu⟩ | ⟨k, hk, _, hr⟩⟩
    · exact Or.inl ⟨rfl, u, hu⟩
    · exact Or.inr ⟨k, hk, hr⟩

/-! `histRun codes s ops` (`Model/C06.lean`) runs a list of calls — `delineate_area`, `compute_flowpathlengths`,
in-place edits / re-assignment of `catchment.flowdir.data` — on one object; `gridAfter g ops` is the
constructor's grid with the edits applied. The correspondence runs such histories on the real object. -/

/-- **a delineation after any history** answers for the grid as it is now and for the arguments of this call:
nothing of earlier outlets, inlets, areas or tables enters (so `delineate_ok_iff` etc. apply to it with
`gridAfter s.grid ops` as the grid) -/
theorem history_delineate (hc : 0 < g.ncols) (ops : List HistOp) (outlet₀ : Option Int)
    (area₀ : Option (List Int)) (o : Int) (inlets : List Int) (nval : Int) :
    (histStep codes (histRun codes { grid := g, outlet := outlet₀, area := area₀ } ops).1
        (.delineate o inlets nval)).2 =
      .area (delineateArea codes (gridAfter g ops) o inlets nval) := by
  have hg := histRun_grid (codes := codes) ops { grid := g, outlet := outlet₀, area := area₀ }
  have hc' : 0 < (gridAfter g ops).ncols := by rw [(gridAfter_shape ops g).2]; exact hc
  have hw := wrapper_area_eq (g := gridAfter g ops) hc' o inlets nval
  simp only [histStep, hg]
  rw [hw]
  cases delineateArea codes (gridAfter g ops) o inlets nval <;> rfl

/-- **flow paths after any history**: computed right after a successful delineation they are the table of
that area, that outlet and the current grid (one row per cell of the area, in its order) — never a table
left over from an earlier delineation, whatever its size -/
theorem history_flowpaths (hc : 0 < g.ncols) (ops : List HistOp) (outlet₀ : Option Int)
    (area₀ : Option (List Int)) {o : Int} {inlets A : List Int} {nval : Int}
    (h : delineateArea codes (gridAfter g ops) o inlets nval = .ok A) :
    (histRun codes { grid := g, outlet := outlet₀, area := area₀ }
        (ops ++ [.delineate o inlets nval, .flowpaths])).2.getLast? =
      some (.table (.ok (A.map fun c => (c, flowPath codes (gridAfter g ops) o A.length c)))) := by
  have hc' : 0 < (gridAfter g ops).ncols := by rw [(gridAfter_shape ops g).2]; exact hc
  have hw := wrapper_area_eq (g := gridAfter g ops) hc' o inlets nval
  rw [h] at hw
  rw [histTrace.run_append, List.getLast?_append]
  simp only [histRun, histStep, histRun_grid, hw, List.getLast?_cons_cons, List.getLast?_singleton, Option.some_or]

/-- after a delineation that failed (cycle, buffer too small, bad argument) the object holds no area:
`compute_flowpathlengths` raises instead of answering from an earlier one -/
theorem history_no_stale_area (s : CatchState) {o : Int} {inlets : List Int} {nval : Int} {e : Err}
    (h : wrapperArea codes s.grid o inlets nval = .error e) :
    (histStep codes (histStep codes s (.delineate o inlets nval)).1 .flowpaths).2 = .table (.error .noArea) := by
  simp only [histStep, h]

/-! `callRun codes s calls` (`Model/C06.lean`) runs any list of calls on one object, the read-only ones (`upstream`,
`downstream`, `delineate_river`, the accessors `idxcells_area`, `isin`) between the others; `opsOf calls` are the
state-changing ones among them. -/

section Queries
variable {α : Type} [Add α] [Mul α] [OfNat α 0] [OfNat α 1] [IntCast α] [Transc α]

/-- **read-only calls never change what the object holds**, whatever they return (an error for a cell off the
grid, `noArea` while nothing is stored): the state after any interleaved history is the state after its
state-changing calls alone; there is one reply per call -/
theorem history_queries_pure (s : CatchState) (calls : List HistCall) :
    (callRun (α := α) codes s calls).1 = (histRun codes s (opsOf calls)).1 ∧
    (callRun (α := α) codes s calls).2.length = calls.length :=
  ⟨callRun_state calls s, callTrace.outs_length s calls⟩

/-- **a read-only call after any history answers for the grid as it is now**: `upstream` / `downstream` /
`delineate_river` give what the kernels give on the constructor's grid with the edits made so far applied —
so the theorems about the two relations and about rivers apply to them with `gridAfter g (opsOf calls)` as the grid -/
theorem history_query_answer (calls : List HistCall) (outlet₀ : Option Int) (area₀ : Option (List Int))
    (cells : List Int) (start nval : Int) :
    let s₀ : CatchState := { grid := g, outlet := outlet₀, area := area₀ }
    let g' := gridAfter g (opsOf calls)
    (callRun (α := α) codes s₀ (calls ++ [.query (.downstream cells)])).2.getLast? =
        some (.query (.cells (mapCells (downstream codes g') cells))) ∧
    (callRun (α := α) codes s₀ (calls ++ [.query (.upstream cells)])).2.getLast? =
        some (.query (match mapCells (upstream codes g') cells with
          | .error e => .rows (.error e)
          | .ok l => .rows (.ok (l.map upstreamRow)))) ∧
    (callRun (α := α) codes s₀ (calls ++ [.query (.river start nval)])).2.getLast? =
        some (.query (.river (delineateRiver codes g' start nval))) := by
  intro s₀ g'
  have hst : (callRun (α := α) codes s₀ calls).1.grid = g' := by
    rw [callRun_state, histRun_grid]
  -- the last reply is the query answered in the state after `calls`, and these three read only its grid
  have key : ∀ q : HistQuery, (callRun (α := α) codes s₀ (calls ++ [.query q])).2.getLast? =
      some (.query (histQuery codes (callRun (α := α) codes s₀ calls).1 q)) := fun q => by
    exact callTrace.outs_concat_getLast? s₀ calls _
  refine ⟨?_, ?_, ?_⟩
  · rw [key, histQuery, hst]
  · rw [key, histQuery, hst]; rfl
  · rw [key, histQuery, hst]

/-- **what an object holds is always well formed**, after any list of calls — delineations that failed, edits,
tables, in any order: a stored area comes with its outlet, lists no cell twice and only cells of the grid. So
`compute_flowpathlengths` never hands the kernel a start cell off the grid, and never lacks the outlet. -/
theorem history_area_wellformed (hc : 0 < g.ncols) (ops : List HistOp) {A : List Int}
    (h : (histRun codes (CatchState.init g) ops).1.area = some A) :
    (∃ o, (histRun codes (CatchState.init g) ops).1.outlet = some o) ∧ A.Nodup ∧
      ∀ c ∈ A, validCell g.nrows g.ncols c = true := by
  refine ((histTrace (codes := codes)).preserves (fun s => s.grid.nrows = g.nrows ∧ s.grid.ncols = g.ncols ∧
    ∀ A, s.area = some A → (∃ o, s.outlet = some o) ∧ A.Nodup ∧ ∀ c ∈ A, validCell g.nrows g.ncols c = true)
    (ops := ops) ?_ (s := CatchState.init g) ⟨rfl, rfl, fun A hA => by cases hA⟩).2.2 A h
  rintro s op - ⟨hr, hcs, hs⟩
  obtain ⟨hr', hcs'⟩ := histStep_shape (codes := codes) s op
  refine ⟨hr'.trans hr, hcs'.trans hcs, fun B hB => ?_⟩
  cases op with
  | delineate o inl nval =>
    rw [histStep_delineate_state] at hB ⊢
    have hc' : 0 < s.grid.ncols := by rw [hcs]; exact hc
    have hw := wrapper_area_eq (g := s.grid) hc' o inl nval
    cases hwa : wrapperArea codes s.grid o inl nval with
    | error e => rw [hwa] at hB; cases hB
    | ok a =>
      rw [hwa] at hB hw
      cases hB
      refine ⟨⟨o, rfl⟩, (delineate_ok_iff hc' hw.symm).1, fun c hcm => ?_⟩
      have := delineate_cells_valid hc' hw.symm c hcm
      rwa [hr, hcs] at this
  | flowpaths => rw [histStep_flowpaths_state] at hB ⊢; exact hs B hB
  | setCell c v => exact hs B hB
  | setGrid fd => exact hs B hB

/-- **the accessors after a delineation**: `idxcells_area` is the area just returned and `isin(c)` says whether
`c` is one of its cells — i.e. (`delineate_ok_iff`) whether `c` drains to the outlet without passing an inlet;
after a delineation that failed both raise -/
theorem history_accessors (hc : 0 < g.ncols) (ops : List HistOp) (outlet₀ : Option Int)
    (area₀ : Option (List Int)) (o : Int) (inlets : List Int) (nval c : Int) :
    let s := (histStep codes (histRun codes { grid := g, outlet := outlet₀, area := area₀ } ops).1
      (.delineate o inlets nval)).1
    (histQuery (α := α) codes s .area =
      .cells (match delineateArea codes (gridAfter g ops) o inlets nval with
        | .ok A => .ok A
        | .error _ => .error .noArea)) ∧
    (histQuery (α := α) codes s (.isin c) =
      .flag (match delineateArea codes (gridAfter g ops) o inlets nval with
        | .ok A => .ok (decide (c ∈ A))
        | .error _ => .error .noArea)) := by
  intro s
  have hg := histRun_grid (codes := codes) ops { grid := g, outlet := outlet₀, area := area₀ }
  have hc' : 0 < (gridAfter g ops).ncols := by rw [(gridAfter_shape ops g).2]; exact hc
  have hw := wrapper_area_eq (g := gridAfter g ops) hc' o inlets nval
  constructor <;>
  · simp only [s, histQuery, histStep, hg, hw]
    cases delineateArea codes (gridAfter g ops) o inlets nval <;> rfl

end Queries

/-- **filled ⊇ area** for any hole-filling routine that keeps the cells of the mask it is given (the only
property of `scipy.ndimage.binary_fill_holes` used), on every delineated area -/
theorem filled_contains_area (hc : 0 < g.ncols)
    (fill : Nat → Nat → (Nat → Nat → Bool) → (Nat → Nat → Bool))
    (hfill : ∀ nr nc (m : Nat → Nat → Bool) r c, m r c = true → fill nr nc m r c = true)
    {o nval : Int} {inlets A : List Int} (h : delineateArea codes g o inlets nval = .ok A) :
    ∀ a ∈ A, a ∈ areaFilled g fill A :=
  mem_areaFilled hc fill hfill A (delineate_cells_valid hc h)

/-- **the filled list is well formed whatever the fill routine returns** (no hypothesis on `fill` at all): no cell
twice, only cells of the grid — the rectangle handed to `binary_fill_holes` lies inside the grid and its cells are
numbered back in strictly increasing order -/
theorem filled_wellformed (hc : 0 < g.ncols)
    (fill : Nat → Nat → (Nat → Nat → Bool) → (Nat → Nat → Bool))
    {o nval : Int} {inlets A : List Int} (h : delineateArea codes g o inlets nval = .ok A) :
    (areaFilled g fill A).Nodup ∧ ∀ x ∈ areaFilled g fill A, validCell g.nrows g.ncols x = true :=
  areaFilled_wellformed fill A

/-- nothing drains to the outlet: the filled area is empty too -/
theorem filled_empty (fill : Nat → Nat → (Nat → Nat → Bool) → (Nat → Nat → Bool)) :
    areaFilled g fill [] = [] := rfl

/-! Lengths are stated over any commutative ring `α` with a function `sqrt` such that `sqrt 1 = 1` (and
`sqrt 0 = 0` for the first river row) — `ℝ` with `Real.sqrt`, and what IEEE `sqrt` does on 0 and 1;
`sqrt (1+1)` is `√2`. `chainCell i c` is the cell `i` steps down the chain from `c`, `chainSteps … i c` the
classification (diagonal or not) of its first `i` steps (`Model/C06.lean`). -/

section Lengths
variable {α : Type} [CommRing α] [Transc α]

/-- **a step of the chain is Euclidean**: between two cells of the grid it changes row and column by at
most one, and its squared length is 2 exactly when it is classified diagonal, else 1 -/
theorem chain_step_euclidean {c : Int} (h0 : 0 ≤ downstreamCell codes g c) :
    (colOf g.ncols c - colOf g.ncols (downstreamCell codes g c)) ^ 2 +
      (rowOf g.ncols c - rowOf g.ncols (downstreamCell codes g c)) ^ 2 =
    if isDiag g.ncols c (downstreamCell codes g c) then 2 else 1 :=
  step_sqdist h0

/-- **length = #orthogonal steps + √2 · #diagonal steps**, whatever the order of the steps -/
theorem length_eq_orth_plus_sqrt2_diag (hs1 : Transc.sqrt (1 : α) = 1) (steps : List Bool) :
    (pathLength steps : α) =
      ((steps.count false : Nat) : α) + ((steps.count true : Nat) : α) * Transc.sqrt (1 + 1) := by
  induction steps using List.reverseRecOn with
  | nil => simp [pathLength_nil]
  | append_singleton l d ih =>
    rw [pathLength_append, ih, List.count_append, List.count_append]
    cases d
    · rw [show (stepLen false : α) = 1 from hs1]
      simp only [List.count_cons_self, List.count_nil, List.count_cons_of_ne (by decide : false ≠ true)]
      push_cast; ring
    · rw [show (stepLen true : α) = Transc.sqrt (1 + 1) from rfl]
      simp only [List.count_cons_self, List.count_nil, List.count_cons_of_ne (by decide : true ≠ false)]
      push_cast; ring

/-- **flow-path length**: for a start cell whose downstream chain first meets the outlet after `k+1` steps,
`k+1` smaller than the number of cells handed to the kernel, the reported end cell is the outlet, the steps
added up are exactly the `k+1` steps of the chain, and the length is `#orth + √2·#diag` of those steps -/
theorem flowpath_length (hs1 : Transc.sqrt (1 : α) = 1) {start outlet : Int} {k nval : Nat}
    (hw : Reaches codes g [] (k + 1) start outlet)
    (hfirst : ∀ j, 1 ≤ j → j ≤ k → ¬ Reaches codes g [] j start outlet)
    (hk : k + 1 < nval) :
    (flowPath codes g outlet nval start).1 = outlet ∧
    (flowPath codes g outlet nval start).2 = chainSteps codes g (isDiag g.ncols) (k + 1) start ∧
    chainCell codes g (k + 1) start = outlet ∧
    (pathLength (flowPath codes g outlet nval start).2 : α) =
      (((chainSteps codes g (isDiag g.ncols) (k + 1) start).count false : Nat) : α) +
      (((chainSteps codes g (isDiag g.ncols) (k + 1) start).count true : Nat) : α) * Transc.sqrt (1 + 1) := by
  have h : flowPath codes g outlet nval start = _ :=
    flowPathWith_first_hit (isDiag g.ncols) hw hfirst (Nat.lt_of_succ_lt hk)
  rw [h, if_pos hk]
  exact ⟨rfl, rfl, (reaches_iff.1 hw).2, length_eq_orth_plus_sqrt2_diag hs1 _⟩

/-- **flow paths of a delineated area**: every cell `c` of the area other than the outlet first meets the
outlet after some `k+1` steps, `k+1` smaller than the number of cells of the area — so the kernel, run on
the area as `Catchment.compute_flowpathlengths` does, reports the outlet as its end cell and the
`#orth + √2·#diag` length of its chain -/
theorem flowpath_on_area (hs1 : Transc.sqrt (1 : α) = 1) (hc : 0 < g.ncols) {o nval : Int}
    {inlets A : List Int} (h : delineateArea codes g o inlets nval = .ok A) {c : Int}
    (hcA : c ∈ A) (hco : c ≠ o) :
    ∃ k, Reaches codes g [] (k + 1) c o ∧ (∀ j, 1 ≤ j → j ≤ k → ¬ Reaches codes g [] j c o) ∧
      flowPath codes g o A.length c = (o, chainSteps codes g (isDiag g.ncols) (k + 1) c) ∧
      (pathLength (flowPath codes g o A.length c).2 : α) =
        (((chainSteps codes g (isDiag g.ncols) (k + 1) c).count false : Nat) : α) +
        (((chainSteps codes g (isDiag g.ncols) (k + 1) c).count true : Nat) : α) * Transc.sqrt (1 + 1) := by
  obtain ⟨k, hw, hfirst, hk⟩ := first_hit_of_mem_area tableOK hc h hcA hco
  obtain ⟨e1, e2, _, e4⟩ := flowpath_length (α := α) hs1 hw hfirst hk
  exact ⟨k, hw, hfirst, Prod.ext e1 e2, e4⟩

/-- **flow path that never meets the outlet**: a chain that, after `j` steps none of which enters the outlet,
stands on a cell draining nowhere (sink, exit, invalid code) is reported with that exit code (`-2` / `-1`) as
end cell and length 0 — provided the kernel was handed more than `j` cells -/
theorem flowpath_exit {start outlet x : Int} {j nval : Nat}
    (hr : Reaches codes g [] j start x) (hv : validCell g.nrows g.ncols x = true)
    (hno : ∀ i, 1 ≤ i → i ≤ j → chainCell codes g i start ≠ outlet)
    (hneg : downstreamCell codes g x < 0) (hj : j + 1 ≤ nval) :
    flowPath codes g outlet nval start = (downstreamCell codes g x, []) ∧
    (pathLength (flowPath codes g outlet nval start).2 : α) = 0 := by
  have h : flowPath codes g outlet nval start = _ := flowPathWith_exit (isDiag g.ncols) hr hv hno hneg hj
  rw [h]
  exact ⟨rfl, rfl⟩

/-- **a walk that nothing stops is cut after `nval` steps** (a flow cycle that avoids the outlet, a list of cells
shorter than the chain): when each of the first `nval` iterations goes on — the cell is on the grid, drains to a
cell, and that cell is not the outlet — the row reports the cell `nval` steps down the chain and the `nval` steps
made; this is the case the model flags with `flowPathCapped` -/
theorem flowpath_capped {start outlet : Int} {nval : Nat} (h1 : 1 ≤ nval)
    (hgo : ∀ i, i < nval → GoesOn codes g outlet start i) :
    flowPath codes g outlet nval start =
      (chainCell codes g nval start, chainSteps codes g (isDiag g.ncols) nval start) ∧
    flowPathCapped codes g outlet nval start = true :=
  ⟨flowPathWith_capped (isDiag g.ncols) h1 hgo, (flowPathCapped_iff_goesOn h1 (hgo 0 h1).1).2 hgo⟩

/-- **`flowPathCapped` (where the correspondence compares "bounded" only) is exactly "no iteration stops"** -/
theorem flowPathCapped_iff {start outlet : Int} {nval : Nat} (h1 : 1 ≤ nval)
    (hv : validCell g.nrows g.ncols start = true) :
    flowPathCapped codes g outlet nval start = true ↔ ∀ i, i < nval → GoesOn codes g outlet start i :=
  flowPathCapped_iff_goesOn h1 hv

/-- **the hypothesis `k + 1 < nval` of `flowpath_length` is needed**: a chain that first meets the outlet after
exactly as many steps as cells were handed to the kernel is reported with the outlet as end cell but WITHOUT its
last step (one step short). By `flowpath_on_area` this never happens on a delineated area; the harness probes the
kernel at this point with cell lists of exactly that length. -/
theorem flowpath_last_step_dropped {start outlet : Int} {k : Nat}
    (hw : Reaches codes g [] (k + 1) start outlet)
    (hfirst : ∀ j, 1 ≤ j → j ≤ k → ¬ Reaches codes g [] j start outlet) :
    flowPath codes g outlet (k + 1) start = (outlet, chainSteps codes g (isDiag g.ncols) k start) ∧
    (flowPath codes g outlet (k + 1) start).2.length + 1 =
      (chainSteps codes g (isDiag g.ncols) (k + 1) start).length := by
  have h : flowPath codes g outlet (k + 1) start = _ :=
    flowPathWith_first_hit (isDiag g.ncols) hw hfirst (Nat.lt_succ_self k)
  rw [h, if_neg (Nat.lt_irrefl _), chainSteps_succ_last, List.length_append]
  exact ⟨rfl, rfl⟩

/-- a start cell off the grid (`c_downstream` refuses it: `ierr_down > 0`) gives the row `(-1, 0)` -/
theorem flowpath_invalid_start (outlet start : Int) (nval : Nat)
    (hv : validCell g.nrows g.ncols start = false) :
    flowPath codes g outlet nval start = (-1, []) :=
  flowPathWith_invalid (isDiag g.ncols) start nval hv

/-- **every row of the flow-path table is one of four cases, each with its result** — for any start cell of the
grid, any outlet, any number `nval ≥ 1` of cells handed to the kernel: the chain drains nowhere first (exit code,
length 0); it first meets the outlet with room (`flowpath_length`); it first meets the outlet at the very last
iteration (last step dropped); or nothing stops the walk (cut after `nval` steps). Nothing about the kernel's
result is left uncharacterised. -/
theorem flowpath_cases (outlet start : Int) {nval : Nat} (h1 : 1 ≤ nval)
    (hv : validCell g.nrows g.ncols start = true) :
    (∃ j x, j + 1 ≤ nval ∧ Reaches codes g [] j start x ∧ downstreamCell codes g x < 0 ∧
        (∀ i, 1 ≤ i → i ≤ j → chainCell codes g i start ≠ outlet) ∧
        flowPath codes g outlet nval start = (downstreamCell codes g x, [])) ∨
    (∃ k, k + 1 < nval ∧ Reaches codes g [] (k + 1) start outlet ∧
        (∀ j, 1 ≤ j → j ≤ k → ¬ Reaches codes g [] j start outlet) ∧
        flowPath codes g outlet nval start = (outlet, chainSteps codes g (isDiag g.ncols) (k + 1) start)) ∨
    (∃ k, k + 1 = nval ∧ Reaches codes g [] (k + 1) start outlet ∧
        (∀ j, 1 ≤ j → j ≤ k → ¬ Reaches codes g [] j start outlet) ∧
        flowPath codes g outlet nval start = (outlet, chainSteps codes g (isDiag g.ncols) k start)) ∨
    ((∀ i, i < nval → GoesOn codes g outlet start i) ∧
        flowPath codes g outlet nval start =
          (chainCell codes g nval start, chainSteps codes g (isDiag g.ncols) nval start)) := by
  rcases goesOn_or_first_stop (outlet := outlet) hv nval with hgo | ⟨j, hj, hgo, hvj, hno⟩
  · exact Or.inr (Or.inr (Or.inr ⟨hgo, flowPathWith_capped (isDiag g.ncols) h1 hgo⟩))
  · have hr := reaches_of_goesOn hgo
    have hne : ∀ i, 1 ≤ i → i ≤ j → chainCell codes g i start ≠ outlet := fun i hi1 hij =>
      Nat.sub_add_cancel hi1 ▸ (hgo (i - 1) (by omega)).2.2
    by_cases hneg : downstreamCell codes g (chainCell codes g j start) < 0
    · exact Or.inl ⟨j, _, hj, hr, hneg, hne, flowPathWith_exit (isDiag g.ncols) hr hvj hne hneg hj⟩
    · -- the cell drains to a cell, so the iteration stops because that cell is the outlet
      have h0 : 0 ≤ chainCell codes g (j + 1) start := chainCell_succ j start ▸ not_lt.1 hneg
      have he : chainCell codes g (j + 1) start = outlet := by_contra fun h => hno ⟨hvj, h0, h⟩
      have hw : Reaches codes g [] (j + 1) start outlet := reaches_iff.2
        ⟨fun i hi => (Nat.lt_succ_iff_lt_or_eq.1 hi).elim (fun h => (reaches_iff.1 hr).1 i h)
          fun e => e ▸ ⟨hvj, List.not_mem_nil, h0⟩, he⟩
      have hfirst : ∀ i, 1 ≤ i → i ≤ j → ¬ Reaches codes g [] i start outlet := fun i hi1 hij h =>
        hne i hi1 hij (reaches_iff.1 h).2
      have h := flowPathWith_first_hit (isDiag g.ncols) hw hfirst hj
      by_cases hlt : j + 1 < nval
      · exact Or.inr (Or.inl ⟨j, hlt, hw, hfirst, h.trans (by rw [if_pos hlt])⟩)
      · exact Or.inr (Or.inr (Or.inl ⟨j, by omega, hw, hfirst, h.trans (by rw [if_neg hlt])⟩))

/-- **river trace**: the cells are the downstream chain from the start cell and the distance in row `i` is
the length of the first `i` steps of that chain -/
theorem river_trace (hs0 : Transc.sqrt (0 : α) = 0) {start nval : Int} {rows : List (RiverRow α)}
    (h : delineateRiver codes g start nval = .ok rows) :
    rows.map (·.cell) = chainCells codes g nval.toNat start ∧
    rows.map (·.dist) = (List.range rows.length).map
      (fun i => pathLength (chainSteps codes g (isDiag g.ncols) i start)) := by
  obtain ⟨-, rfl⟩ := delineateRiver_eq_ok.1 h
  refine ⟨river_cells _ _ _ _ _, ?_⟩
  have := river_dists (α := α) (codes := codes) (g := g) nval.toNat start [] 0 0 0
    (by unfold hypot; simp [hs0, pathLength_nil])
  simpa using this

/-- the river cells: entry `i` is the cell `i` steps down the chain; there are at most `nval` of them; every
cell but the last drains to a cell of the grid; the trace stops before `nval` only at a sink / exit -/
theorem river_cells_are_chain (n : Nat) (c : Int) :
    (chainCells codes g n c).length ≤ n ∧
    (∀ i, i < (chainCells codes g n c).length →
      (chainCells codes g n c)[i]? = some (chainCell codes g i c) ∧
      (i + 1 < (chainCells codes g n c).length → 0 ≤ downstreamCell codes g (chainCell codes g i c))) ∧
    ((chainCells codes g n c).length < n →
      downstreamCell codes g (chainCell codes g ((chainCells codes g n c).length - 1) c) < 0) := by
  induction n generalizing c with
  | zero => exact ⟨Nat.le_refl 0, fun i hi => absurd hi (Nat.not_lt_zero i), fun h => absurd h (Nat.lt_irrefl 0)⟩
  | succ n ih =>
    obtain ⟨h1, h2, h3⟩ := ih (downstreamCell codes g c)
    rw [chainCells]
    by_cases hneg : downstreamCell codes g c < 0
    · rw [if_pos hneg]
      refine ⟨Nat.succ_le_succ (Nat.zero_le n), fun i hi => ?_, fun _ => hneg⟩
      obtain rfl : i = 0 := Nat.lt_one_iff.1 hi
      exact ⟨rfl, fun h => absurd h (Nat.lt_irrefl 1)⟩
    · rw [if_neg hneg, List.length_cons]
      refine ⟨Nat.succ_le_succ h1, fun i hi => ?_, fun hlt => ?_⟩
      · cases i with
        | zero => exact ⟨rfl, fun _ => not_lt.1 hneg⟩
        | succ i =>
          obtain ⟨a, b⟩ := h2 i (Nat.lt_of_succ_lt_succ hi)
          exact ⟨a, fun h => b (Nat.lt_of_succ_lt_succ h)⟩
      · -- the rest of the chain is cut short too, and is not empty: it holds at least its first cell
        have hlt' := Nat.lt_of_succ_lt_succ hlt
        obtain ⟨m, rfl⟩ : ∃ m, n = m + 1 := ⟨n - 1, by omega⟩
        obtain ⟨l, hl⟩ : ∃ l, (chainCells codes g (m + 1) (downstreamCell codes g c)).length = l + 1 :=
          ⟨_, List.length_cons⟩
        have := h3 hlt'
        rw [hl] at this ⊢
        exact this

/-- the displacement columns of the river table: `(0, 0)` in the first row (for the call made by
`delineate_river`), then the column / row change of the step between consecutive river cells -/
theorem river_displacements {start nval : Int} {rows : List (RiverRow α)}
    (h : delineateRiver codes g start nval = .ok rows) (hn : rows ≠ []) :
    rows.map (fun r => (r.dx, r.dy)) =
      (0, 0) :: List.zipWith (fun a b => (colOf g.ncols a - colOf g.ncols b, rowOf g.ncols a - rowOf g.ncols b))
        (rows.map (·.cell)) (rows.map (·.cell)).tail := by
  obtain ⟨-, rfl⟩ := delineateRiver_eq_ok.1 h
  have := river_disp (α := α) (codes := codes) (g := g) nval.toNat start 0 0 0
  by_cases h0 : nval.toNat = 0
  · rw [h0] at hn; exact absurd rfl hn
  · rw [if_neg h0] at this; exact this

/-- **bounded results, cycles or not**: a river has at most `nval` rows and a flow path adds up at most
`nval` steps, on every grid — with totality of the model this is the "never a hang" clause for the two
walks (`delineate_cycle_error` is the one for the area) -/
theorem walks_bounded (outlet : Int) (n : Nat) (start nval : Int) {rows : List (RiverRow α)}
    (h : delineateRiver codes g start nval = .ok rows) :
    rows.length ≤ nval.toNat ∧ (flowPath codes g outlet n start).2.length ≤ n := by
  obtain ⟨-, rfl⟩ := delineateRiver_eq_ok.1 h
  rw [← List.length_map (f := (·.cell)), river_cells]
  exact ⟨(river_cells_are_chain _ _).1, flowPathWith_bound _ _ _⟩

/-- **`chainCyclic` (where the correspondence compares "error or bounded result" only, for rivers) is exactly "the
chain from the start cell never ends"**: it never stands on a sink, an exit or an invalid code — on a finite grid,
it runs into a flow cycle (pigeonhole: two of its first `ncells + 1` cells coincide, and it repeats from there) -/
theorem chainCyclic_iff {start : Int} (hv : validCell g.nrows g.ncols start = true) :
    chainCyclic codes g start = true ↔ ∀ k, 0 ≤ chainCell codes g (k + 1) start :=
  chainCyclic_iff_never_ends hv

theorem river_guard (start nval : Int) (hv : validCell g.nrows g.ncols start = false) :
    (delineateRiver codes g start nval : Except Err (List (RiverRow α))) = .error .badCell := by
  unfold delineateRiver; simp [hv]

end Lengths

/-- **over the reals**: with `Real.sqrt`, the length of any step sequence is
`#orthogonal + √2 · #diagonal` -/
theorem length_real (steps : List Bool) :
    letI := realTransc
    (pathLength steps : ℝ) = (steps.count false : ℝ) + Real.sqrt 2 * (steps.count true : ℝ) := by
  let _ : Transc ℝ := realTransc
  have h := length_eq_orth_plus_sqrt2_diag (α := ℝ) Real.sqrt_one steps
  rw [h, realTransc_sqrt_two, mul_comm]

/-- over the reals the hypotheses `sqrt 0 = 0`, `sqrt 1 = 1` of the theorems of this section hold -/
theorem real_sqrt_hyps : realTransc.sqrt (0 : ℝ) = 0 ∧ realTransc.sqrt (1 : ℝ) = 1 :=
  ⟨Real.sqrt_zero, Real.sqrt_one⟩

/-! The theorems above are exact (commutative ring). `FloatLike F` (`Lemmas/C06Round.lean`) lists facts true of a
rounded arithmetic — monotone addition, `x + 0 = x`, `sqrt 1 = 1`, `1 ≤ sqrt 2 ≤ 2`, `sqrt` of a non-negative
number non-negative — and the statements below need nothing else; `countBy 1 n` is `0 + 1 + … + 1` in the same
arithmetic (the double `n` itself, `n < 2^53`). -/

section Rounded
variable {F : Type} [Add F] [Mul F] [OfNat F 0] [OfNat F 1] [IntCast F] [Transc F] [LinearOrder F]

/-- **lengths under rounding**: non-negative; between `n` and `2n` (counted in the same arithmetic) after `n`
steps; never smaller after one more step -/
theorem length_rounded (h : FloatLike F) (steps : List Bool) :
    (0 : F) ≤ pathLength steps ∧
    (countBy (1 : F) steps.length ≤ pathLength steps ∧ (pathLength steps : F) ≤ countBy (1 + 1) steps.length) ∧
    ∀ d : Bool, (pathLength steps : F) ≤ pathLength (steps ++ [d]) :=
  pathLength_rounded h steps

/-- **a chain without diagonal steps has exactly the counted length**, rounding or not: the kernel's sum is the
count itself — in IEEE double the integer number of steps, bit for bit -/
theorem length_orthogonal_exact (hs1 : Transc.sqrt (1 : F) = 1) (steps : List Bool)
    (horth : ∀ d ∈ steps, d = false) : (pathLength steps : F) = countBy 1 steps.length := by
  induction steps using List.reverseRecOn with
  | nil => rfl
  | append_singleton l d ih =>
    have hd : d = false := horth d (by simp)
    rw [pathLength_append, List.length_append, List.length_singleton, ih (fun x hx => horth x (by simp [hx])), hd]
    show countBy 1 l.length + Transc.sqrt (1 : F) = _
    rw [hs1]; rfl

/-- **the distance column of a river never decreases and is never negative**, under rounding -/
theorem river_dist_monotone (h : FloatLike F) {start nval : Int} {rows : List (RiverRow F)}
    (hr : delineateRiver codes g start nval = .ok rows) :
    (rows.map (·.dist)).Pairwise (· ≤ ·) ∧ ∀ r ∈ rows, (0 : F) ≤ r.dist := by
  obtain ⟨-, rfl⟩ := delineateRiver_eq_ok.1 hr
  exact (riverLoop_dist_mono h codes g nval.toNat start 0 0 0).symm

end Rounded

/-- the rounded-arithmetic hypotheses are met by the reals (exact arithmetic) and by a toy arithmetic that really
rounds (`0 .. 8`, saturating: not a ring, `length_eq_orth_plus_sqrt2_diag` fails in it) -/
theorem float_like_models : (letI := realTransc; FloatLike ℝ) ∧ FloatLike Sat :=
  ⟨floatLike_real, floatLike_sat⟩

/-- **the defect of the pinned kernel, as a theorem**: on a 2-column grid the step from column 1 of a row to
column 0 of the next row (south-west) is diagonal, but the pinned classification `|Δidx| == 1 || == ncols`
calls it orthogonal (length 1 instead of √2) -/
theorem pinned_step_misclassified (r : Int) (hr : 0 ≤ r) :
    isDiag 2 (r * 2 + 1) ((r + 1) * 2 + 0) = true ∧ isDiagPinned 2 (r * 2 + 1) ((r + 1) * 2 + 0) = false := by
  have c := colOf_cellOf (ncols := 2) (row := r) (col := 1) hr (by omega) (by omega)
  have c' := colOf_cellOf (ncols := 2) (row := r + 1) (col := 0) (by omega) (by omega) (by omega)
  have r1 := rowOf_cellOf (ncols := 2) (row := r) (col := 1) hr (by omega) (by omega)
  have r2 := rowOf_cellOf (ncols := 2) (row := r + 1) (col := 0) (by omega) (by omega) (by omega)
  unfold cellOf at c c' r1 r2
  unfold isDiag isDiagPinned
  rw [c, c', r1, r2, show (r + 1) * 2 + 0 - (r * 2 + 1) = 1 by omega]
  simp

/-- … and only there: on every grid that does not have exactly 2 columns the pinned classification of the
steps of a chain agrees with the row/column test, so flow-path lengths were already right -/
theorem pinned_wrong_only_on_two_columns (hc : 0 < g.ncols) (h2 : g.ncols ≠ 2) {c : Int}
    (hv : validCell g.nrows g.ncols c = true) (h0 : 0 ≤ downstreamCell codes g c) :
    isDiagPinned g.ncols c (downstreamCell codes g c) = isDiag g.ncols c (downstreamCell codes g c) :=
  isDiagPinned_eq_isDiag hc h2 hv h0

/-- the 2x2 grid of the finding: cell 1 flows south-west to cell 2, everything else is a sink -/
def exGrid : FlowGrid := { nrows := 2, ncols := 2, fd := fun i => if i = 1 then 8 else 0 }
/-- a 1x2 grid whose two cells drain into each other -/
def exCycle : FlowGrid := { nrows := 1, ncols := 2, fd := fun i => if i = 0 then 1 else 16 }

example : upstream codes exGrid 2 = .ok [1] ∧ downstream codes exGrid 1 = .ok 2 ∧
    downstream codes exGrid 0 = .ok (-2) ∧ downstream codes exGrid 4 = .error .badCell := by decide +kernel
example : delineateArea codes exGrid 2 [] 10 = .ok [1, 2] := by decide +kernel
example : delineateArea codes exGrid 2 [1] 10 = .ok [] := by decide +kernel
example : Reaches codes exGrid [] 1 1 2 := by decide +kernel
example : flowPath codes exGrid 2 2 1 = (2, [true]) := by decide +kernel
example : flowPathWith codes exGrid 2 (isDiagPinned 2) 2 1 = (2, [false]) := by decide +kernel
example : Reaches codes exCycle [] 2 0 0 := by decide +kernel
example : delineateArea codes exCycle 0 [] 7 = .error .areaFull := by decide +kernel
example : cycleThroughOutlet codes exCycle 0 [] = true ∧ cycleThroughOutlet codes exGrid 2 [] = false ∧
    chainCyclic codes exCycle 1 = true ∧ chainCyclic codes exGrid 1 = false ∧
    flowPathCapped codes exCycle 5 2 0 = true ∧ flowPathCapped codes exGrid 2 2 1 = false := by decide +kernel
example : chainCells codes exGrid 5 1 = [1, 2] ∧ chainSteps codes exGrid (isDiag 2) 1 1 = [true] := by decide +kernel

-- the area as a reachability set; the room a delineation needs (3 slots for 2 cells, error with 2)
example : delineateAreaPy codes exGrid 2 none (some 10) = .ok [1, 2] ∧
    delineateAreaPy codes exGrid 2 (some [1]) (some 10) = .ok [] := by decide +kernel
example : reachArea codes exGrid 2 [] = [1, 2] ∧ reachArea codes exGrid 2 [1] = [] ∧
    delineateArea codes exGrid 2 [] 3 = .ok [1, 2] ∧ delineateArea codes exGrid 2 [] 2 = .error .outletFull ∧
    areaBuffer 4 [1, 2] = [1, 2, -1, -1] := by decide +kernel
-- a walk nothing stops (the 2-cycle of exCycle, outlet elsewhere): cut after nval = 3 steps, flagged capped
example : (∀ i, i < 3 → GoesOn codes exCycle 7 0 i) ∧
    flowPath codes exCycle 7 3 0 = (1, [false, false, false]) ∧ flowPathCapped codes exCycle 7 3 0 = true ∧
    goesOnCount codes exCycle 7 0 3 = 3 ∧ goesOnCount codes exGrid 2 1 3 = 0 := by decide +kernel
-- the boundary case: cell 1 of exGrid meets the outlet 2 after k + 1 = 1 = nval steps: the step is dropped
example : Reaches codes exGrid [] 1 1 2 ∧ flowPath codes exGrid 2 1 1 = (2, []) ∧
    flowPath codes exGrid 2 2 1 = (2, [true]) ∧ flowPath codes exGrid 2 2 9 = (-1, []) := by
  refine ⟨by decide +kernel, by decide +kernel, by decide +kernel, by decide +kernel⟩
-- an interleaved history: queries between a delineation, an edit and a second delineation
example : ((callRun (α := Sat) codes (CatchState.init exGrid)
      [.query .area, .op (.delineate 2 [] 10), .query (.isin 1), .query (.downstream [1]), .op (.setCell 1 0),
       .query (.downstream [1]), .query (.isin 1), .op (.delineate 2 [] 10), .query (.isin 1), .query .area]).2.map fun
        | .query (.flag (.ok b)) => some (if b then 1 else 0)
        | .query (.cells (.ok l)) => l.head?
        | .query (.cells (.error _)) => some (-9)
        | _ => none) =
      [some (-9), none, some 1, some 2, none, some (-2), some 1, none, some 0, none] := by decide +kernel
-- counting in a rounded arithmetic; an orthogonal chain has the counted length there
example : (countBy (1 : Sat) 12) = Sat.mk 8 ∧ (pathLength [false, false, false] : Sat) = countBy 1 3 := by decide +kernel

/-- a history with two delineations of equal size on one object, an edit in between -/
example : ((histRun codes (CatchState.init exGrid)
      [.delineate 2 [] 10, .flowpaths, .setCell 0 2, .delineate 3 [] 10, .flowpaths]).2.map fun
        | .area (.ok a) => a
        | .table (.ok t) => t.map (·.1)
        | _ => []) = [[1, 2], [1, 2], [], [0, 3], [0, 3]] := by decide +kernel
example : wrapperArea codes exGrid 2 [] 10 = .ok [1, 2] ∧ wrapperArea codes exCycle 0 [] 7 = .error .areaFull := by
  decide +kernel
/-- 255 is not a code of the table: the hypothesis of `downstream_invalid_code` can be met -/
example : g.fd = (fun _ => 255) → g.fd 0 ∉ codes := by intro h; rw [h]; decide

end HydroVerif.C06
