/-
C11 — property theorems (only). Model: `HydroVerif/Model/C11.lean` (kernel after the `fix:` commit: the walk from
cell `i` adds `to_accumulate[i]`); helper lemmas: `Lemmas/C11.lean` (generic `[Add α]`), `Lemmas/C11Sum.lean` (sums over
the upstream closure), `Lemmas/C11Round.lean` (rounded arithmetic), `Lemmas/C11Sess.lean` (histories), `Lemmas/Chain.lean`
(iterates of the downstream cell on a finite grid: `iterDn` is one, acyclic chains end; shared with C06); the grid and the
session the `example`s are stated on: `Lemmas/C11Ex.lean`.

Vocabulary. `g : FlowGrid` is what the kernel receives (dimensions, the 9 flow-direction codes, the data).
`WF g`: `ncols > 0` (the property's quantifier; the code does not test it) and the data has `nrows*ncols` entries (what
the wrapper guarantees). `dn g c` is the downstream
cell of `c` (negative: `c` drains nowhere — sink, off-grid exit, code not in the table), `iterDn g k c` is `k` downstream
steps. `Rep n a A`: the buffer `a` has `n` entries holding the values `A 0 .. A (n-1)`. `drainsThrough g c`: the cells
whose downstream chain passes through `c`, `c` included (upstream closure); `directUp g c`: the cells whose
downstream cell is `c`. `NoCycle g`: no cell comes back to itself after `m ≥ 1` downstream steps.
`AllTerminate g fuel`: every walk reaches a cell that drains nowhere within `fuel` iterations (`fuel = cap + 1`).

All statements hold for every grid size, every code table, every flow-direction content, every field, every
no-data value; value types: any type with `+` (the fold statements, valid verbatim for IEEE doubles) or any
commutative monoid (the sum statements: exact arithmetic); `Rounded α rnd` (section "the kernel in rounded arithmetic") is a type with `+` whose addition rounds.

Clause -> theorems -> what stays outside

| clause of the property | theorems | outside the theorems |
|---|---|---|
| quantifier: "any flow-direction grid without cycles", default cell limit | `noCycle_iff_allTerminate`, `allTerminate_default`, `allTerminate_of_noCycle_cap`: the hypothesis `AllTerminate` of the value theorems IS acyclicity for every limit >= nrows*ncols-1 | the harness's own cycle search is compared with `allTerminateB`/`endsAt` (`spec` request) |
| quantifier: "grids of r x c cells" (`1 ≤ nrows`, `0 < ncols` in the theorems) | needed: `accumulate_default_rejects_empty` (no cells: the default limit is 0 and is rejected), `cAccumulate_rejects_rows`, `cAccumulate_zero_cols` (rows but no columns and an explicit limit: empty answer — the guard tests `nrows` twice) | the real code is run at those points through the wrapper (what it answers is recorded, not compared: the property does not say whether a grid without cells is rejected) |
| a draining cell holds the sum of the field over that cell and every cell draining through it | exact arithmetic: `accumulate_eq_sum`, `accumulate_acyclic_default`; order-exact for a bare `+`: `accumulate_eq_fold`, `onPath_iff_drains`; `mem_upClosure_iff` (the closure the driver computes = `drainsThrough`); ROUNDED arithmetic (`Rounded α rnd`, every addition followed by `rnd`): `accumulate_rounded_error` (relative error `u` per addition: within `((1+u)^(k-1) - 1) Σ|f|` of the exact sum; the correspondence budget `4 n 2^-52 Σ|f|` lies above it while `n u` is small, which is not a theorem here), `accumulate_rounded_exact` (integer-valued fields: exact), `accumulate_rounded_ge` (monotone rounding, non-negative field: at least every contribution); with NO hypothesis on the rounding, for `rndBits p` (round to `p` significant bits, nearest-even — binary64 is `p = 53`): `accumulate_binary_error`, `accumulate_binary_exact` | that the `+` of core `Float` (opaque) IS `rndBits 53` of the exact sum, away from overflow and subnormal numbers: observed — the driver runs the kernel at `Rounded Rat (rndBits 53)` next to the Float instance (`accr` request, bit-for-bit equal) and at `Int` next to it (`acci`) on the case stream |
| ... the number of such cells for the default unit field | `accumulateUnit_eq_card`, `gridAccumulate_none`; rounded arithmetic: `accumulateUnit_rounded_eq_card`, `accumulateUnit_binary64_eq_card` (exact for grids of up to `2^53` cells) | - |
| ... equals its own contribution plus the accumulated values of its direct upstream neighbours | `accumulate_recurrence`, `directUp_neighbour`, `mem_directUpList_iff` | `Catchment.upstream` (the library's own list of direct upstream cells) is C06's: upstream/downstream are inverse there |
| cells that drain nowhere (sinks, off-grid exits, invalid codes) carry the no-data value | `accumulate_terminal`; which cells those are, exactly: `dn_neg_iff` (`dn_sink`, `dn_unknown_code`, `dn_of_code`, `dn_cases`) | - |
| the input grids' cell values are not altered | memory model of the two float buffers: `cAccumulateS_unaliased`, `cAccumulateS_field_unchanged`, `gridAccumulate_inputs_unchanged` (the clone is a distinct buffer; with one array passed twice the field IS altered — `example`); on grid OBJECTS over any history: `call_frame` (a call leaves the flow-direction grid, the field reference and every existing object as they were), `call_keeps_field`, `edit_result_keeps_field` (the result is a new object) | the flow-direction buffer is not in the store (the kernel has no store through that pointer): by construction; numpy `astype` of the caller's grids (dtype changes, values kept) and `deepcopy` are external; both observed on the real code by the oracle, call after call |
| grids with cycles or a reduced limit terminate without error | `accumulate_total`, `accumulateUnit_total`, `cAccumulate_total` (any flow directions, any limit >= 1 or default); after any history, with `WF` / field size discharged from the object invariant: `history_call_total` | - |
| glue of the wrapper: default limit, unit default field, accumulation = copy of the field, shapes, result no-data value, limit < 1, `nprint` | `gridAccumulate_some`, `gridAccumulate_none`, `gridAccumulate_shape`, `accumulate_rejects_limit`, `cAccumulate_eq_fold` (what the initial buffer contributes); `cAccumulateP_result`, `cAccumulateP_lines` (`nprint`, any integer, decides only the number of progress lines) | dtype conversion of the grids (numpy); the text printed |
| (histories) any sequence of calls and edits of the grid objects through `Grid`'s interface | `run_invariant` (objects stay well-formed: the hypotheses `WF`, "field of the same size" follow from `Grid`'s guards), `step_rejected_unchanged` (an operation that raises changes nothing), `history_call_acyclic` (headline at the state any history reaches), `history_call_total`, `history_call_rejected`, `call_twice_same` (no hidden state), `gridAccumulate_input`, `input_size` | numpy's cast of the values written (the harness sends the values the object holds afterwards) |
| (finding) the pinned kernel was right only for uniform fields | `cAccumulatePinned_eq_of_uniform`, `example` | - |
-/
import HydroVerif.Lemmas.C11Ex
import Mathlib.Algebra.Order.Field.Rat
import Mathlib.Tactic.NormNum

set_option linter.unusedSectionVars false

namespace HydroVerif.C11
open HydroVerif.C07

/-! ### totality: every call answers, with one value per cell -/

/-- `grid.accumulate` never fails and returns one value per cell, whatever the flow directions and the limit
(default `-1`, or any limit `≥ 1`): grids with cycles or a reduced `max_accumulated_cells` terminate without error.
(Termination itself is the totality of the model: the `while` loop is structural recursion on the iterations left.) -/
theorem accumulate_total {α : Type} [Add α] {g : FlowGrid} (hg : WF g) (hr : 1 ≤ g.nrows) {m : Int}
    (hm : m = -1 ∨ 1 ≤ m) (nodata : α) {field : Array α} (hf : field.size = g.ntot.toNat) :
    ∃ acc, accumulate g m nodata field = .ok acc ∧ acc.size = g.ntot.toNat := by
  have hF := hf ▸ rep_self field nodata
  obtain ⟨acc, h1, h2⟩ := cAccumulate_spec hg.size_eq (capOf_pos hg hr hm) hr hF hF
  exact ⟨acc, h1, h2.1⟩

/-- same for the default unit field (`to_accumulate=None`) -/
theorem accumulateUnit_total {α : Type} [Add α] [OfNat α 1] {g : FlowGrid} (hg : WF g) (hr : 1 ≤ g.nrows) {m : Int}
    (hm : m = -1 ∨ 1 ≤ m) (nodata : α) :
    ∃ acc, accumulateUnit g m nodata = .ok acc ∧ acc.size = g.ntot.toNat := by
  unfold accumulateUnit
  exact accumulate_total hg hr hm nodata (by rw [Array.size_replicate, hg.size_eq])

/-- a limit below one (other than the `-1` that selects the default) is rejected -/
theorem accumulate_rejects_limit {α : Type} [Add α] (g : FlowGrid) {m : Int} (h1 : m < 1) (h2 : m ≠ -1)
    (nodata : α) (field : Array α) : accumulate g m nodata field = .error .badMaxCells := by
  unfold accumulate cAccumulate capOf
  rw [if_neg h2, if_pos h1]

/-- the kernel on arbitrary well-shaped buffers (accumulation buffer not necessarily a copy of the field):
no error once `max_accumulated_cells ≥ 1` and `nrows ≥ 1` -/
theorem cAccumulate_total {α : Type} [Add α] {g : FlowGrid} (hg : WF g) (hr : 1 ≤ g.nrows) {m : Int} (hm : 1 ≤ m)
    (nodata : α) {field acc0 : Array α} (hf : field.size = g.ntot.toNat) (ha : acc0.size = g.ntot.toNat) :
    ∃ acc, cAccumulate g m nodata field acc0 = .ok acc ∧ acc.size = g.ntot.toNat := by
  obtain ⟨acc, h1, h2⟩ := cAccumulate_spec hg.size_eq hm hr (nodata := nodata)
    (hf ▸ rep_self field nodata) (ha ▸ rep_self acc0 nodata)
  exact ⟨acc, h1, h2.1⟩

/-! ### without cycles every walk ends: `AllTerminate` is acyclicity -/

/-- on a grid without cycles every walk reaches a terminal cell within the iterations the limit allows, as
soon as `limit + 1 ≥ nrows*ncols` — in particular for the default limit `nrows*ncols` -/
theorem allTerminate_of_noCycle_cap {g : FlowGrid} (hg : WF g) (hnc : NoCycle g) {m : Int}
    (hm : g.ntot ≤ capOf g m + 1) : AllTerminate g (fuelOf (capOf g m)) :=
  allTerminate_of_noCycle hg hnc (by unfold fuelOf; omega)

theorem allTerminate_default {g : FlowGrid} (hg : WF g) (hnc : NoCycle g) :
    AllTerminate g (fuelOf (capOf g (-1))) :=
  allTerminate_of_noCycle_cap hg hnc (by unfold capOf FlowGrid.ntot; simp)

/-- conversely, if every walk ends then there is no cycle: the hypothesis `AllTerminate` of the theorems
below is exactly "acyclic" once the limit is at least `nrows*ncols - 1` -/
theorem noCycle_iff_allTerminate {g : FlowGrid} (hg : WF g) {fuel : Nat} (hfuel : g.ntot.toNat ≤ fuel) :
    NoCycle g ↔ AllTerminate g fuel :=
  ⟨fun h => allTerminate_of_noCycle hg h hfuel, noCycle_of_allTerminate⟩

/-! ### terminal cells hold the no-data value; what `dn` is, code by code -/

/-- sinks (`-2`), off-grid exits and codes not in the table (`-1`) end with the no-data value -/
theorem accumulate_terminal {α : Type} [Add α] {g : FlowGrid} (hg : WF g) (hr : 1 ≤ g.nrows) {m : Int}
    (hm : 1 ≤ capOf g m) (hT : AllTerminate g (fuelOf (capOf g m))) (nodata : α) {field : Array α} {F : Nat → α}
    (hF : Rep g.ntot.toNat field F) {acc : Array α} (hacc : accumulate g m nodata field = .ok acc)
    {c : Int} (hv : validCell g.nrows g.ncols c = true) (hd : dn g c < 0) :
    acc[c.toNat]? = some nodata := by
  rw [cAccumulate_value hg.size_eq hT hF hF hacc hv, if_pos hd]

/-- flow direction 0 is a sink: the cell drains nowhere (`-2`) -/
theorem dn_sink {g : FlowGrid} {c : Int} (hv : validCell g.nrows g.ncols c = true)
    (hfd : g.flowdir[c.toNat]? = some 0) : dn g c = -2 := by
  rw [dn_eq hv hfd, if_pos rfl]

/-- a non-zero value that is not one of the codes drains nowhere (`-1`) -/
theorem dn_unknown_code {g : FlowGrid} {c : Int} (hv : validCell g.nrows g.ncols c = true)
    {fd : Int} (hfd : g.flowdir[c.toNat]? = some fd) (h0 : fd ≠ 0) (hmem : fd ∉ g.codes) : dn g c = -1 := by
  rw [dn_eq hv hfd, if_neg h0]
  exact downScan_not_mem hmem

/-- a code of the table sends the cell to the neighbour at the position of that code in the 3x3 table
(its last position, should the table repeat a code): a cell of the grid, or `-1` when that neighbour is off the grid -/
theorem dn_of_code {g : FlowGrid} {c : Int} (hv : validCell g.nrows g.ncols c = true)
    {fd : Int} (hfd : g.flowdir[c.toNat]? = some fd) (h0 : fd ≠ 0) {k : Nat} (hk : g.codes[k]? = some fd)
    (hlast : ∀ k', k < k' → g.codes[k']? ≠ some fd) : dn g c = neighbour g.nrows g.ncols c k := by
  rw [dn_eq hv hfd, if_neg h0, downScan_last hk hlast, Nat.zero_add]

/-- a terminal cell is a sink, or its code is not in the table / points off the grid; every other cell drains
into a cell of the grid, one of its eight neighbours -/
theorem dn_cases {g : FlowGrid} (hg : WF g) (hcodes : g.codes.length = 9) {c : Int}
    (hv : validCell g.nrows g.ncols c = true) :
    dn g c = -2 ∨ dn g c = -1 ∨
      (validCell g.nrows g.ncols (dn g c) = true ∧ ∃ k, k < 9 ∧ k ≠ 4 ∧ neighbour g.nrows g.ncols c k = dn g c) := by
  rw [← hcodes]
  exact dn_neg_or_neighbour hg.size_eq hv

/-! ### the value of a draining cell: fold, sum, count, recurrence -/

/-- any value type with an addition (IEEE doubles included): the result is the left-to-right fold, in
increasing source-cell order, that adds `F u` for every cell `u` strictly upstream of `c` -/
theorem accumulate_eq_fold {α : Type} [Add α] {g : FlowGrid} (hg : WF g) (hr : 1 ≤ g.nrows) {m : Int}
    (hm : 1 ≤ capOf g m) (hT : AllTerminate g (fuelOf (capOf g m))) (nodata : α) {field : Array α} {F : Nat → α}
    (hF : Rep g.ntot.toNat field F) {acc : Array α} (hacc : accumulate g m nodata field = .ok acc)
    {c : Int} (hv : validCell g.nrows g.ncols c = true) (hd : 0 ≤ dn g c) :
    acc[c.toNat]? = some ((List.range g.ntot.toNat).foldl
      (fun s (u : Nat) => if onPath g (fuelOf (capOf g m)) (u : Int) c then s + F u else s) (F c.toNat)) := by
  rw [cAccumulate_value hg.size_eq hT hF hF hacc hv, if_neg (Int.not_lt.2 hd)]

/-- the kernel itself, on an arbitrary accumulation buffer `acc0` (values `A0`): terminal cells are overwritten with
the no-data value, every other cell keeps its initial value and receives `F u` for every cell `u` strictly upstream —
so the wrapper's initialisation "accumulation = copy of the field" is what makes each cell count itself -/
theorem cAccumulate_eq_fold {α : Type} [Add α] {g : FlowGrid} (hg : WF g) (hr : 1 ≤ g.nrows) {m : Int}
    (hm : 1 ≤ m) (hT : AllTerminate g (fuelOf m)) (nodata : α) {field acc0 : Array α} {F A0 : Nat → α}
    (hF : Rep g.ntot.toNat field F) (hA : Rep g.ntot.toNat acc0 A0)
    {acc : Array α} (hacc : cAccumulate g m nodata field acc0 = .ok acc)
    {c : Int} (hv : validCell g.nrows g.ncols c = true) :
    acc[c.toNat]? = some (if dn g c < 0 then nodata else (List.range g.ntot.toNat).foldl
      (fun s (u : Nat) => if onPath g (fuelOf m) (u : Int) c then s + F u else s) (A0 c.toNat)) :=
  cAccumulate_value hg.size_eq hT hF hA hacc hv

/-- `onPath` in the fold above means "some positive number of downstream steps leads from `u` to `c`" -/
theorem onPath_iff_drains {g : FlowGrid} {fuel : Nat} (hT : AllTerminate g fuel) {u c : Int}
    (hu : validCell g.nrows g.ncols u = true) (hc : 0 ≤ c) :
    onPath g fuel u c = true ↔ ∃ k, 1 ≤ k ∧ iterDn g k u = c :=
  onPath_iff_exists (validCell_iff.1 hu).1 hc (hT u hu)

/-- commutative monoid (exact arithmetic): the accumulated value of a draining cell is the sum of the field over
the cell and every cell draining through it -/
theorem accumulate_eq_sum {α : Type} [AddCommMonoid α] {g : FlowGrid} (hg : WF g) (hr : 1 ≤ g.nrows) {m : Int}
    (hm : 1 ≤ capOf g m) (hT : AllTerminate g (fuelOf (capOf g m))) (nodata : α) {field : Array α} {F : Nat → α}
    (hF : Rep g.ntot.toNat field F) {acc : Array α} (hacc : accumulate g m nodata field = .ok acc)
    {c : Int} (hv : validCell g.nrows g.ncols c = true) (hd : 0 ≤ dn g c) :
    acc[c.toNat]? = some (∑ u ∈ drainsThrough g c, F u) := by
  rw [accumulate_eq_fold hg hr hm hT nodata hF hacc hv hd, ← List.foldl_filter, foldl_onPath_eq_sum hT hv]

/-- default unit field: the accumulated value of a draining cell is the number of cells draining through it -/
theorem accumulateUnit_eq_card {α : Type} [AddCommMonoidWithOne α] {g : FlowGrid} (hg : WF g) (hr : 1 ≤ g.nrows)
    {m : Int} (hm : 1 ≤ capOf g m) (hT : AllTerminate g (fuelOf (capOf g m))) (nodata : α)
    {acc : Array α} (hacc : accumulateUnit g m nodata = .ok acc)
    {c : Int} (hv : validCell g.nrows g.ncols c = true) (hd : 0 ≤ dn g c) :
    acc[c.toNat]? = some (((drainsThrough g c).card : Nat) : α) := by
  have hF : Rep g.ntot.toNat (Array.replicate g.flowdir.size (1 : α)) (fun _ => 1) := by
    rw [← hg.size_eq]
    exact rep_replicate _ _
  rw [accumulate_eq_sum hg hr hm hT nodata hF hacc hv hd, Finset.sum_const, nsmul_one]

/-- local recurrence: own contribution plus the accumulated values of the direct upstream cells -/
theorem accumulate_recurrence {α : Type} [AddCommMonoid α] {g : FlowGrid} (hg : WF g) (hr : 1 ≤ g.nrows) {m : Int}
    (hm : 1 ≤ capOf g m) (hT : AllTerminate g (fuelOf (capOf g m))) (nodata : α) {field : Array α} {F : Nat → α}
    (hF : Rep g.ntot.toNat field F) {acc : Array α} (hacc : accumulate g m nodata field = .ok acc)
    {A : Nat → α} (hA : Rep g.ntot.toNat acc A)
    {c : Int} (hv : validCell g.nrows g.ncols c = true) (hd : 0 ≤ dn g c) :
    A c.toNat = F c.toNat + ∑ u ∈ directUp g c, A u := by
  have hval : ∀ c' : Int, validCell g.nrows g.ncols c' = true → 0 ≤ dn g c' →
      A c'.toNat = ∑ x ∈ drainsThrough g c', F x := fun c' hv' hd' =>
    Option.some.inj ((hA.2 _ (lt_of_valid hv').1).symm.trans (accumulate_eq_sum hg hr hm hT nodata hF hacc hv' hd'))
  rw [hval c hv hd, sum_drainsThrough_eq (noCycle_of_allTerminate hT) hv]
  congr 1
  refine Finset.sum_congr rfl fun u hu => ?_
  obtain ⟨hu, hdu⟩ := mem_directUp.1 hu
  exact (hval u (valid_of_lt hu) (by rw [hdu]; exact (validCell_iff.1 hv).1)).symm

/-- the direct upstream cells of `c` are among its eight neighbours: `u` sits at the position mirrored
(`8 - k`) to the one its flow direction points to -/
theorem directUp_neighbour {g : FlowGrid} (hg : WF g) (hcodes : g.codes.length = 9) {c : Int}
    (hv : validCell g.nrows g.ncols c = true) {u : Nat} (hu : u ∈ directUp g c) :
    ∃ k, k < 9 ∧ k ≠ 4 ∧ neighbour g.nrows g.ncols c k = (u : Int) := by
  obtain ⟨hlt, rfl⟩ := mem_directUp.1 hu
  have huv : validCell g.nrows g.ncols (u : Int) = true := valid_of_lt hlt
  have hc0 := (validCell_iff.1 hv).1
  -- `c` is the neighbour of `u` at a position `k ≠ 4`, so `u` is the neighbour of `c` at the mirrored position
  rcases dn_neg_or_neighbour hg.size_eq huv with h | h | ⟨-, k, hk, hk4, hkn⟩
  · omega
  · omega
  · rw [hcodes] at hk
    exact ⟨8 - k, by omega, by omega, neighbour_mirror hg.ncols_pos huv hk hkn (by omega)⟩

/-! ### the headline: an acyclic grid run with the default limit -/

/-- on any flow-direction grid without cycles, run with the default limit, the call succeeds; every cell that
drains nowhere holds the no-data value and every other cell holds the sum of the field over the cells draining
through it -/
theorem accumulate_acyclic_default {α : Type} [AddCommMonoid α] {g : FlowGrid} (hg : WF g) (hr : 1 ≤ g.nrows)
    (hnc : NoCycle g) (nodata : α) {field : Array α} {F : Nat → α} (hF : Rep g.ntot.toNat field F) :
    ∃ acc, accumulate g (-1) nodata field = .ok acc ∧ acc.size = g.ntot.toNat ∧
      ∀ c : Int, validCell g.nrows g.ncols c = true →
        acc[c.toNat]? = some (if dn g c < 0 then nodata else ∑ u ∈ drainsThrough g c, F u) := by
  have hcap := capOf_pos hg hr (m := -1) (Or.inl rfl)
  have hT := allTerminate_default hg hnc
  obtain ⟨acc, h1, h2⟩ := cAccumulate_spec hg.size_eq hcap hr (nodata := nodata) hF hF
  refine ⟨acc, h1, h2.1, fun c hv => ?_⟩
  split
  · rename_i hd; exact accumulate_terminal hg hr hcap hT nodata hF h1 hv hd
  · rename_i hd; exact accumulate_eq_sum hg hr hcap hT nodata hF h1 hv (by omega)

/-! ### the kernel as it was at the pinned commit -/

/-- the pinned kernel (adds the value of the visited cell instead of the source cell's) computes the same
result as the repaired one on every spatially uniform field — which is all the pinned tests used -/
theorem cAccumulatePinned_eq_of_uniform {α : Type} [Add α] {g : FlowGrid} (hg : WF g) (m : Int) (nodata v : α)
    {field : Array α} (hF : Rep g.ntot.toNat field (fun _ => v)) (acc0 : Array α) :
    cAccumulatePinned g m nodata field acc0 = cAccumulate g m nodata field acc0 := by
  unfold cAccumulatePinned cAccumulate
  split
  · rfl
  · split
    · rfl
    · exact accLoopPinned_eq_accLoop hg.size_eq hF _ _ (fun i hi => List.mem_range.1 hi) acc0

/-! ### the two float buffers as memory, and the wrapper on grid objects -/

/-- with two distinct buffers the kernel on memory is the pure kernel: `to_accumulate` is left as it was and the
`accumulation` memory holds `cAccumulate` -/
theorem cAccumulateS_unaliased {α : Type} [Add α] (g : FlowGrid) (m : Int) (nodata : α) (f a : Array α) :
    cAccumulateS g m nodata ⟨f, a, false⟩ =
      (cAccumulate g m nodata f a).map (fun a' => (⟨f, a', false⟩ : Store α)) :=
  cAccumulateS_unaliased_eq g m nodata f a

/-- the cell values of `to_accumulate` are not altered by the kernel when `accumulation` is another array
(the flow-direction buffer has no write access in the model at all: it is not part of the store) -/
theorem cAccumulateS_field_unchanged {α : Type} [Add α] {g : FlowGrid} {m : Int} {nodata : α} {s s' : Store α}
    (h : s.aliased = false) (hr : cAccumulateS g m nodata s = .ok s') :
    s'.field = s.field ∧ s'.aliased = false ∧ cAccumulate g m nodata s.field s.acc = .ok s'.acc := by
  obtain ⟨f, a, al⟩ := s
  simp only at h
  subst h
  rw [cAccumulateS_unaliased_eq] at hr
  cases hc : cAccumulate g m nodata f a with
  | error e => rw [hc] at hr; cases hr
  | ok a' =>
    rw [hc] at hr
    cases hr
    exact ⟨rfl, rfl, rfl⟩

/-- the Cython asserts: a field grid whose shape is not the flow-direction grid's is rejected (before the limit
is looked at) -/
theorem gridAccumulate_shape {α : Type} [Add α] [OfNat α 1] (g : FlowGrid) (fdNodata : α) (f : FieldGrid α) (m : Int)
    (h : f.nrows ≠ g.nrows ∨ f.ncols ≠ g.ncols) : gridAccumulate g fdNodata (some f) m = .error .shape := by
  rw [gridAccumulate_eq m rfl]
  exact if_pos h

/-- on a field grid of the right shape the wrapper is `accumulate` on the field's data with the field's no-data
value; the field's memory is returned unchanged; the result grid has the field's no-data value and dimensions -/
theorem gridAccumulate_some {α : Type} [Add α] [OfNat α 1] (g : FlowGrid) (fdNodata : α) (f : FieldGrid α) (m : Int)
    (h : f.nrows = g.nrows ∧ f.ncols = g.ncols) :
    gridAccumulate g fdNodata (some f) m =
      (accumulate g m f.nodata f.data).map
        (fun a => ((⟨f.data, a, false⟩ : Store α), (⟨f.nrows, f.ncols, a, f.nodata⟩ : FieldGrid α))) := by
  rw [gridAccumulate_eq m rfl]
  exact if_neg (not_or.2 ⟨not_not.2 h.1, not_not.2 h.2⟩)

/-- `to_accumulate=None`: unit field on the flow-direction grid's shape, no-data value of the flow-direction grid -/
theorem gridAccumulate_none {α : Type} [Add α] [OfNat α 1] (g : FlowGrid) (fdNodata : α) (m : Int) :
    gridAccumulate g fdNodata none m =
      (accumulateUnit g m fdNodata).map
        (fun a => ((⟨Array.replicate g.flowdir.size 1, a, false⟩ : Store α),
                   (⟨g.nrows, g.ncols, a, fdNodata⟩ : FieldGrid α))) := by
  rw [gridAccumulate_eq m rfl]
  exact if_neg (not_or.2 ⟨not_not.2 rfl, not_not.2 rfl⟩)

/-- the input grids' cell values are not altered by a successful call, and the result grid is described by
`accumulate` (hence by every theorem above), with the field's no-data value and the flow-direction grid's shape -/
theorem gridAccumulate_inputs_unchanged {α : Type} [Add α] [OfNat α 1] {g : FlowGrid} {fdNodata : α}
    {f : FieldGrid α} {m : Int} {s : Store α} {r : FieldGrid α}
    (hr : gridAccumulate g fdNodata (some f) m = .ok (s, r)) :
    s.field = f.data ∧ r.nodata = f.nodata ∧ r.nrows = g.nrows ∧ r.ncols = g.ncols ∧
      accumulate g m f.nodata f.data = .ok r.data := by
  obtain ⟨h1, h2, a, ha, rfl, rfl⟩ := gridAccumulate_ok hr rfl
  exact ⟨rfl, rfl, h1, h2, ha⟩

/-! ### which cells drain nowhere; the closures the driver computes -/

/-- a cell drains nowhere exactly when its flow direction is 0 (sink), is not a code of the table, or is a code
whose neighbour (at the code's last position in the table) is off the grid -/
theorem dn_neg_iff {g : FlowGrid} {c : Int} (hv : validCell g.nrows g.ncols c = true) {fd : Int}
    (hfd : g.flowdir[c.toNat]? = some fd) :
    dn g c < 0 ↔ fd = 0 ∨ fd ∉ g.codes ∨
      ∃ k : Nat, g.codes[k]? = some fd ∧ (∀ k' : Nat, k < k' → g.codes[k']? ≠ some fd) ∧
        neighbour g.nrows g.ncols c k = -1 := by
  by_cases h0 : fd = 0
  · subst h0
    rw [dn_sink hv hfd]
    exact ⟨fun _ => Or.inl rfl, fun _ => by decide⟩
  · rw [or_iff_right h0]
    by_cases hmem : fd ∈ g.codes
    · rw [or_iff_right (not_not.2 hmem)]
      constructor
      · intro hd
        obtain ⟨k, h1, h2⟩ := exists_last_index hmem
        rw [dn_of_code hv hfd h0 h1 h2] at hd
        exact ⟨k, h1, h2, (neighbour_eq_neg_one_or_nonneg _ _ c k).resolve_right (Int.not_le.2 hd)⟩
      · rintro ⟨k, h1, h2, h3⟩
        rw [dn_of_code hv hfd h0 h1 h2, h3]
        decide
    · rw [dn_unknown_code hv hfd h0 hmem]
      exact ⟨fun _ => Or.inl hmem, fun _ => by decide⟩

/-- the list the driver computes (`clo` request, compared with the harness's own upstream graph search) is the
upstream closure the sum theorems range over -/
theorem mem_upClosure_iff {g : FlowGrid} {fuel : Nat} (hT : AllTerminate g fuel) {j : Nat}
    (hj : j < g.ntot.toNat) (u : Nat) : u ∈ upClosure g fuel (j : Int) ↔ u ∈ drainsThrough g (j : Int) := by
  rw [(drainsThrough_eq_insert hT (valid_of_lt hj)).1, Int.toNat_natCast, Finset.mem_insert, Finset.mem_filter,
    Finset.mem_range]
  unfold upClosure
  rw [List.mem_filter, List.mem_range, Bool.or_eq_true, decide_eq_true_eq]
  constructor
  · rintro ⟨hu, h | h⟩
    · left; omega
    · right; exact ⟨hu, h⟩
  · rintro (h | ⟨hu, h⟩)
    · subst h; exact ⟨hj, Or.inl rfl⟩
    · exact ⟨hu, Or.inr h⟩

theorem mem_directUpList_iff {g : FlowGrid} {c : Int} (u : Nat) : u ∈ directUpList g c ↔ u ∈ directUp g c := by
  unfold directUpList
  rw [mem_directUp, List.mem_filter, List.mem_range, decide_eq_true_eq]

/-! ### the kernel in rounded arithmetic: what stays exact, and how far the rest can be from the sum

`Rounded α rnd` is `α` with `a + b := rnd (a + b)`; `accumulate_eq_fold` applies to it verbatim. IEEE doubles are the
case `rnd` = rounding to nearest: the identity on the integers up to `2^53`, relative error at most `2^-53`, monotone,
idempotent. -/

/-- integer-valued contributions are accumulated exactly by any rounding that keeps the integers of absolute value
`≤ B`, as long as the absolute values upstream of the cell sum to at most `B` — no rounding budget is needed for them -/
theorem accumulate_rounded_exact {α : Type} [AddGroupWithOne α] (rnd : α → α) (B : Nat)
    (hrnd : ∀ z : Int, z.natAbs ≤ B → rnd (z : α) = (z : α))
    {g : FlowGrid} (hg : WF g) (hr : 1 ≤ g.nrows) {m : Int} (hm : 1 ≤ capOf g m)
    (hT : AllTerminate g (fuelOf (capOf g m))) (nodata : Rounded α rnd) {field : Array (Rounded α rnd)}
    {N : Nat → Int} (hF : Rep g.ntot.toNat field (fun u => (⟨(N u : α)⟩ : Rounded α rnd)))
    {acc : Array (Rounded α rnd)} (hacc : accumulate g m nodata field = .ok acc)
    {c : Int} (hv : validCell g.nrows g.ncols c = true) (hd : 0 ≤ dn g c)
    (hB : ∑ u ∈ drainsThrough g c, (N u).natAbs ≤ B) :
    acc[c.toNat]? = some ⟨((∑ u ∈ drainsThrough g c, N u : Int) : α)⟩ := by
  rw [accumulate_eq_fold hg hr hm hT nodata hF hacc hv hd, ← List.foldl_filter, ← foldl_onPath_eq_sum hT hv N]
  rw [← foldl_onPath_eq_sum hT hv fun u => (N u).natAbs] at hB
  exact congrArg some (foldl_rounded_int rnd B hrnd N _ (N c.toNat) (N c.toNat).natAbs (Nat.le_refl _) hB)

/-- the default unit field in rounded arithmetic: the count of the cells draining through a cell is exact as soon as
the rounding keeps the integers up to the number of cells of the grid (doubles: grids of up to `2^53` cells) -/
theorem accumulateUnit_rounded_eq_card {α : Type} [AddGroupWithOne α] (rnd : α → α)
    {g : FlowGrid} (hrnd : ∀ z : Int, z.natAbs ≤ g.ntot.toNat → rnd (z : α) = (z : α))
    (hg : WF g) (hr : 1 ≤ g.nrows) {m : Int} (hm : 1 ≤ capOf g m)
    (hT : AllTerminate g (fuelOf (capOf g m))) (nodata : Rounded α rnd)
    {acc : Array (Rounded α rnd)} (hacc : accumulateUnit g m nodata = .ok acc)
    {c : Int} (hv : validCell g.nrows g.ncols c = true) (hd : 0 ≤ dn g c) :
    acc[c.toNat]? = some ⟨(((drainsThrough g c).card : Nat) : α)⟩ := by
  have hF : Rep g.ntot.toNat (Array.replicate g.flowdir.size (1 : Rounded α rnd))
      (fun _ => (⟨(((1 : Int)) : α)⟩ : Rounded α rnd)) := by
    rw [Int.cast_one, ← hg.size_eq]
    exact rep_replicate _ _
  have hcard : (drainsThrough g c).card ≤ g.ntot.toNat :=
    (Finset.card_le_card (drainsThrough_subset g c)).trans_eq (Finset.card_range _)
  rw [accumulate_rounded_exact rnd g.ntot.toNat hrnd hg hr hm hT nodata hF hacc hv hd
    (by rw [Finset.sum_const, Int.natAbs_one, nsmul_one]; exact hcard),
    Finset.sum_const, nsmul_one, Int.cast_natCast]

/-- relative-error rounding (`|rnd x - x| ≤ u |x|`; doubles: `u = 2^-53`): the accumulated value of a draining cell is
within `((1+u)^k - 1) * Σ|f|` of the exact sum over the cells draining through it, `k` the number of additions.
(The harness compares within `4 n 2^-52 Σ|f|`, which exceeds this bound while `n u` is small; that comparison of the two
bounds is not a theorem here.) -/
theorem accumulate_rounded_error {α : Type} [Field α] [LinearOrder α] [IsStrictOrderedRing α] (rnd : α → α) {u : α}
    (hu : 0 ≤ u) (hrnd : ∀ x, |rnd x - x| ≤ u * |x|)
    {g : FlowGrid} (hg : WF g) (hr : 1 ≤ g.nrows) {m : Int} (hm : 1 ≤ capOf g m)
    (hT : AllTerminate g (fuelOf (capOf g m))) (nodata : Rounded α rnd) {field : Array (Rounded α rnd)}
    {f : Nat → α} (hF : Rep g.ntot.toNat field (fun i => (⟨f i⟩ : Rounded α rnd)))
    {acc : Array (Rounded α rnd)} (hacc : accumulate g m nodata field = .ok acc)
    {c : Int} (hv : validCell g.nrows g.ncols c = true) (hd : 0 ≤ dn g c) :
    ∃ r : α, acc[c.toNat]? = some ⟨r⟩ ∧
      |r - ∑ i ∈ drainsThrough g c, f i| ≤
        ((1 + u) ^ ((drainsThrough g c).card - 1) - 1) * ∑ i ∈ drainsThrough g c, |f i| := by
  refine ⟨_, accumulate_eq_fold hg hr hm hT nodata hF hacc hv hd, ?_⟩
  rw [← List.foldl_filter]
  have key := foldl_rounded_err rnd hu hrnd f
    ((List.range g.ntot.toNat).filter fun (i : Nat) => onPath g (fuelOf (capOf g m)) (i : Int) c)
    (f c.toNat) (f c.toNat) |f c.toNat| 0 (by rw [sub_self, abs_zero, pow_zero, sub_self, zero_mul]) (le_refl _)
  rwa [foldl_onPath_eq_sum hT hv f, foldl_onPath_eq_sum hT hv fun i => |f i|, foldl_onPath_count hT hv] at key

/-- monotone idempotent rounding that keeps the contributions, non-negative field: the accumulated value of a draining
cell is a fixed point of the rounding and is at least every single contribution from the cells draining through it
(in particular its own) — nothing is cancelled or lost below a summand -/
theorem accumulate_rounded_ge {α : Type} [AddCommMonoid α] [PartialOrder α] [IsOrderedAddMonoid α] (rnd : α → α)
    (hmono : ∀ x y, x ≤ y → rnd x ≤ rnd y) (hidem : ∀ x, rnd (rnd x) = rnd x)
    {g : FlowGrid} (hg : WF g) (hr : 1 ≤ g.nrows) {m : Int} (hm : 1 ≤ capOf g m)
    (hT : AllTerminate g (fuelOf (capOf g m))) (nodata : Rounded α rnd) {field : Array (Rounded α rnd)}
    {f : Nat → α} (hf0 : ∀ i, 0 ≤ f i) (hfr : ∀ i, rnd (f i) = f i)
    (hF : Rep g.ntot.toNat field (fun i => (⟨f i⟩ : Rounded α rnd)))
    {acc : Array (Rounded α rnd)} (hacc : accumulate g m nodata field = .ok acc)
    {c : Int} (hv : validCell g.nrows g.ncols c = true) (hd : 0 ≤ dn g c) :
    ∃ r : α, acc[c.toNat]? = some ⟨r⟩ ∧ rnd r = r ∧ ∀ i ∈ drainsThrough g c, f i ≤ r := by
  refine ⟨_, accumulate_eq_fold hg hr hm hT nodata hF hacc hv hd, ?_⟩
  rw [← List.foldl_filter]
  obtain ⟨r1, r2, r3⟩ := foldl_rounded_mono rnd hmono hidem f hf0 hfr
    ((List.range g.ntot.toNat).filter fun (i : Nat) => onPath g (fuelOf (capOf g m)) (i : Int) c) (f c.toNat)
    (hfr _) (hf0 _)
  refine ⟨r1, fun i hi => ?_⟩
  rw [(drainsThrough_eq_insert hT hv).1, Finset.mem_insert, Finset.mem_filter, Finset.mem_range] at hi
  rcases hi with hi | ⟨hi, hp⟩
  · subst hi; exact r2
  · exact r3 i (List.mem_filter.2 ⟨List.mem_range.2 hi, hp⟩)

/-- the kernel computing in `p`-bit binary floating point (round to nearest, ties to even, unbounded exponent range —
IEEE binary64 is `p = 53` away from overflow and subnormal numbers): no hypothesis on the rounding is left; the
accumulated value of a draining cell is within `((1 + 2^-p)^(k-1) - 1) Σ|f|` of the exact upstream sum, `k` the number
of cells draining through it -/
theorem accumulate_binary_error (p : Nat) {g : FlowGrid} (hg : WF g) (hr : 1 ≤ g.nrows) {m : Int}
    (hm : 1 ≤ capOf g m) (hT : AllTerminate g (fuelOf (capOf g m))) (nodata : Rounded ℚ (rndBits p))
    {field : Array (Rounded ℚ (rndBits p))} {f : Nat → ℚ}
    (hF : Rep g.ntot.toNat field (fun i => (⟨f i⟩ : Rounded ℚ (rndBits p))))
    {acc : Array (Rounded ℚ (rndBits p))} (hacc : accumulate g m nodata field = .ok acc)
    {c : Int} (hv : validCell g.nrows g.ncols c = true) (hd : 0 ≤ dn g c) :
    ∃ r : ℚ, acc[c.toNat]? = some ⟨r⟩ ∧
      |r - ∑ i ∈ drainsThrough g c, f i| ≤
        ((1 + (2 : ℚ) ^ (-(p : Int))) ^ ((drainsThrough g c).card - 1) - 1) * ∑ i ∈ drainsThrough g c, |f i| :=
  accumulate_rounded_error (rndBits p) (by positivity) (rndBits_err p) hg hr hm hT nodata hF hacc hv hd

/-- in `p`-bit binary floating point (`p ≥ 1`) integer-valued fields whose absolute values upstream of a cell sum to at
most `2^p` are accumulated exactly -/
theorem accumulate_binary_exact {p : Nat} (hp : 1 ≤ p) {g : FlowGrid} (hg : WF g) (hr : 1 ≤ g.nrows) {m : Int}
    (hm : 1 ≤ capOf g m) (hT : AllTerminate g (fuelOf (capOf g m))) (nodata : Rounded ℚ (rndBits p))
    {field : Array (Rounded ℚ (rndBits p))} {N : Nat → Int}
    (hF : Rep g.ntot.toNat field (fun u => (⟨(N u : ℚ)⟩ : Rounded ℚ (rndBits p))))
    {acc : Array (Rounded ℚ (rndBits p))} (hacc : accumulate g m nodata field = .ok acc)
    {c : Int} (hv : validCell g.nrows g.ncols c = true) (hd : 0 ≤ dn g c)
    (hB : ∑ u ∈ drainsThrough g c, (N u).natAbs ≤ 2 ^ p) :
    acc[c.toNat]? = some ⟨((∑ u ∈ drainsThrough g c, N u : Int) : ℚ)⟩ :=
  accumulate_rounded_exact (rndBits p) (2 ^ p) (fun z hz => rndBits_int hp z hz) hg hr hm hT nodata hF hacc hv hd hB

/-- the unit field in binary64: exact cell counts on every grid of up to `2^53` cells -/
theorem accumulateUnit_binary64_eq_card {g : FlowGrid} (hsize : g.ntot.toNat ≤ 2 ^ 53) (hg : WF g) (hr : 1 ≤ g.nrows)
    {m : Int} (hm : 1 ≤ capOf g m) (hT : AllTerminate g (fuelOf (capOf g m))) (nodata : Rounded ℚ (rndBits 53))
    {acc : Array (Rounded ℚ (rndBits 53))} (hacc : accumulateUnit g m nodata = .ok acc)
    {c : Int} (hv : validCell g.nrows g.ncols c = true) (hd : 0 ≤ dn g c) :
    acc[c.toNat]? = some ⟨(((drainsThrough g c).card : Nat) : ℚ)⟩ :=
  accumulateUnit_rounded_eq_card (rndBits 53)
    (fun z hz => rndBits_int (by norm_num) z (le_trans hz hsize)) hg hr hm hT nodata hacc hv hd

/-! ### `nprint` decides only the number of progress lines -/

/-- for every `nprint` — zero and negative values included, the guard `nprint > 0` keeps `i % nprint` from being
evaluated — the kernel returns what it returns without progress lines -/
theorem cAccumulateP_result {α : Type} [Add α] (g : FlowGrid) (nprint m : Int) (nodata : α) (field acc0 : Array α) :
    (cAccumulateP g nprint m nodata field acc0).map (·.1) = cAccumulate g m nodata field acc0 := by
  unfold cAccumulateP cAccumulate
  split
  · rfl
  · split
    · rfl
    · exact accLoopP_fst ..

/-- the number of progress lines: one per source cell `i` with `i % nprint = 0` when `nprint > 0`, none otherwise -/
theorem cAccumulateP_lines {α : Type} [Add α] {g : FlowGrid} {nprint m : Int} {nodata : α} {field acc0 : Array α}
    {r : Array α × Nat} (h : cAccumulateP g nprint m nodata field acc0 = .ok r) :
    r.2 = ((List.range g.ntot.toNat).filter (progressAt nprint)).length ∧
      (nprint ≤ 0 → r.2 = 0) := by
  unfold cAccumulateP at h
  split at h
  · cases h
  · split at h
    · cases h
    · have := accLoopP_snd h
      rw [Nat.zero_add] at this
      refine ⟨this, fun hn => ?_⟩
      rw [this, List.filter_eq_nil_iff.2 fun i _ => by rw [progressAt_of_nonpos hn]; exact Bool.false_ne_true]
      rfl

/-! ### the hypotheses `1 ≤ nrows`, `0 < ncols` of the theorems above are needed: what the code does without them -/

/-- a grid without cells (no rows or no columns) run with the default limit: the default limit is then
`nrows*ncols = 0`, which the kernel rejects — the call raises -/
theorem accumulate_default_rejects_empty {α : Type} [Add α] (g : FlowGrid) (h : g.nrows * g.ncols < 1)
    (nodata : α) (field : Array α) : accumulate g (-1) nodata field = .error .badMaxCells := by
  unfold accumulate cAccumulate capOf
  rw [if_pos rfl, if_pos h]

/-- a grid without rows is rejected whatever the limit (`nrows < 1`) -/
theorem cAccumulate_rejects_rows {α : Type} [Add α] (g : FlowGrid) (h : g.nrows < 1) (m : Int)
    (nodata : α) (field acc0 : Array α) : ∃ e, cAccumulate g m nodata field acc0 = .error e := by
  unfold cAccumulate
  split
  · exact ⟨_, rfl⟩
  · rw [if_pos (Or.inl h)]; exact ⟨_, rfl⟩

/-- a grid with rows but no columns is NOT rejected by an explicit limit `≥ 1` (the guard tests `nrows` twice and
never `ncols`): the loop has no cell to visit and the buffer comes back untouched -/
theorem cAccumulate_zero_cols {α : Type} [Add α] (g : FlowGrid) (hr : 1 ≤ g.nrows) (hc : g.ncols = 0) {m : Int}
    (hm : 1 ≤ m) (nodata : α) (field acc0 : Array α) : cAccumulate g m nodata field acc0 = .ok acc0 := by
  unfold cAccumulate
  rw [if_neg (by omega), if_neg (by omega)]
  have : g.ntot.toNat = 0 := by unfold FlowGrid.ntot; rw [hc]; simp
  rw [this]
  rfl

/-! ### histories: any sequence of calls and edits of the grid objects (`Sess`, `step`, `run`)

`Inv`: every grid object holds `nrows x ncols` values and the references the caller holds designate objects — what
the constructor and the guarded `data` setter of `Grid` maintain. It discharges the hypotheses `WF` / "field of the
same size" of the theorems above. -/

/-- an operation that raises (wrong shape assigned, cell index outside the grid, call rejected, no result yet) leaves
the flow-direction grid, every float grid object and the caller's references exactly as they were -/
theorem step_rejected_unchanged {α : Type} [Add α] [OfNat α 1] (s : Sess α) (op : Op α)
    (h : (step s op).2 = .rejected) : (step s op).1 = s := step_rejected_eq s op h

/-- the invariant survives every history, and no operation changes the shape or the code table of the
flow-direction grid -/
theorem run_invariant {α : Type} [Add α] [OfNat α 1] {s : Sess α} (hI : Inv s) (ops : List (Op α)) :
    Inv (run s ops).1 ∧ (run s ops).1.fd.nrows = s.fd.nrows ∧ (run s ops).1.fd.ncols = s.fd.ncols ∧
      (run s ops).1.fd.codes = s.fd.codes := run_inv hI ops

/-- the answer of a call is the wrapper on the CURRENT contents of the objects (no state is kept between calls), and
the call leaves the flow-direction grid, the limit, the caller's field reference and every existing object as they
were; a successful call adds one object, the result, and makes it the last result -/
theorem call_frame {α : Type} [Add α] [OfNat α 1] (s : Sess α) :
    (step s .call).2 = (match gridAccumulate s.fd s.fdNodata s.fieldGrid s.cap with
      | .error _ => .rejected
      | .ok (_, r) => .result r) ∧
    (step s .call).1.fd = s.fd ∧ (step s .call).1.fdNodata = s.fdNodata ∧ (step s .call).1.cap = s.cap ∧
    (step s .call).1.field = s.field ∧
    (∀ q, q < s.heap.size → (step s .call).1.heap[q]? = s.heap[q]?) ∧
    (∀ r, (step s .call).2 = .result r →
      (step s .call).1.res = some s.heap.size ∧ (step s .call).1.heap[s.heap.size]? = some r) := by
  rw [step_call_eq s]
  cases gridAccumulate s.fd s.fdNodata s.fieldGrid s.cap with
  | error e => exact ⟨rfl, rfl, rfl, rfl, rfl, fun _ _ => rfl, fun r h => by cases h⟩
  | ok p =>
    obtain ⟨st, r⟩ := p
    refine ⟨rfl, rfl, rfl, rfl, rfl, fun q hq => ?_, fun r' h => ?_⟩
    · show (s.heap.push r)[q]? = s.heap[q]?
      rw [Array.getElem?_push, if_neg (by omega)]
    · cases h
      exact ⟨rfl, Array.getElem?_push_size⟩

/-- the field grid seen by a call does not change through the call (same object, same contents) -/
theorem call_keeps_field {α : Type} [Add α] [OfNat α 1] {s : Sess α} (hI : Inv s) :
    (step s .call).1.fieldGrid = s.fieldGrid := by
  obtain ⟨-, -, -, -, hf, hheap, -⟩ := call_frame s
  unfold Sess.fieldGrid
  rw [hf]
  cases hq : s.field with
  | none => rfl
  | some q => exact hheap q (hI.fieldRef q hq)

/-- no hidden state: the same call made again gives the same answer -/
theorem call_twice_same {α : Type} [Add α] [OfNat α 1] {s : Sess α} (hI : Inv s) :
    (step (step s .call).1 .call).2 = (step s .call).2 := by
  have h1 := (call_frame (step s .call).1).1
  have h2 := (call_frame s).1
  obtain ⟨-, hfd, hnd, hcap, -, -, -⟩ := call_frame s
  rw [h1, h2, hfd, hnd, hcap, call_keeps_field hI]

/-- the grid returned is a new object: whatever the caller then does to it (`e`: cells, fill, no-data value) leaves
the field grid as it was — the next call sees the same field -/
theorem edit_result_keeps_field {α : Type} [Add α] [OfNat α 1] {s : Sess α} (hI : Inv s) {r : FieldGrid α}
    (hres : (step s .call).2 = .result r) (e : FieldGrid α → Option (FieldGrid α)) :
    (((step s .call).1).editAt ((step s .call).1).res e).1.fieldGrid = s.fieldGrid := by
  obtain ⟨-, -, -, -, hf, -, hnew⟩ := call_frame s
  -- the result is the object after the last one of the old heap; the field reference designates an old one
  have hne : ∀ q, (step s .call).1.res = some q → (step s .call).1.field ≠ some q := by
    intro q hq hfq
    rw [(hnew r hres).1] at hq
    cases hq
    rw [hf] at hfq
    exact Nat.lt_irrefl _ (hI.fieldRef _ hfq)
  rw [editAt_fieldGrid e hne, call_keeps_field hI]

/-- the wrapper in terms of what the kernel receives in the state `s` (`Sess.input`): the field's data and no-data
value, or the unit field and the flow-direction grid's no-data value -/
theorem gridAccumulate_input {α : Type} [Add α] [OfNat α 1] (s : Sess α)
    (hshape : ∀ f, s.fieldGrid = some f → f.nrows = s.fd.nrows ∧ f.ncols = s.fd.ncols) :
    gridAccumulate s.fd s.fdNodata s.fieldGrid s.cap =
      (accumulate s.fd s.cap s.input.2 s.input.1).map
        (fun a => ((⟨s.input.1, a, false⟩ : Store α), (⟨s.fd.nrows, s.fd.ncols, a, s.input.2⟩ : FieldGrid α))) := by
  unfold Sess.input
  cases hf : s.fieldGrid with
  | none => exact gridAccumulate_none s.fd s.fdNodata s.cap
  | some f =>
    obtain ⟨h1, h2⟩ := hshape f hf
    rw [gridAccumulate_some s.fd s.fdNodata f s.cap ⟨h1, h2⟩, h1, h2]

theorem input_size {α : Type} [Add α] [OfNat α 1] {s : Sess α} (hI : Inv s)
    (hshape : ∀ f, s.fieldGrid = some f → f.nrows = s.fd.nrows ∧ f.ncols = s.fd.ncols) :
    s.input.1.size = s.fd.ntot.toNat := by
  unfold Sess.input
  cases hf : s.fieldGrid with
  | none => simp only [Array.size_replicate]; exact hI.fdSize
  | some f =>
    obtain ⟨h1, h2⟩ := hshape f hf
    have hws := hI.fieldGrid_shaped hf
    unfold FieldGrid.wellShaped at hws
    rw [decide_eq_true_eq, h1, h2] at hws
    exact hws

/-- after ANY history on well-formed objects, a call with the default limit or a limit `≥ 1` on a grid with cells
answers — flow directions with cycles included — with one value per cell: `WF` and "field of the same size" are
consequences of the guards of `Grid`, not assumptions -/
theorem history_call_total {α : Type} [Add α] [OfNat α 1] {s0 : Sess α} (hI : Inv s0) (ops : List (Op α))
    (hr : 1 ≤ s0.fd.nrows) (hc : 0 < s0.fd.ncols)
    (hcap : (run s0 ops).1.cap = -1 ∨ 1 ≤ (run s0 ops).1.cap)
    (hshape : ∀ f, (run s0 ops).1.fieldGrid = some f →
      f.nrows = (run s0 ops).1.fd.nrows ∧ f.ncols = (run s0 ops).1.fd.ncols) :
    ∃ r, (step (run s0 ops).1 .call).2 = .result r ∧ r.data.size = (run s0 ops).1.fd.ntot.toNat ∧
      r.nrows = s0.fd.nrows ∧ r.ncols = s0.fd.ncols ∧ r.nodata = (run s0 ops).1.input.2 := by
  obtain ⟨hIs, hnr, hnc, -⟩ := run_inv hI ops
  generalize (run s0 ops).1 = s at *
  have hg : WF s.fd := ⟨hnc.symm ▸ hc, hIs.fdSize⟩
  obtain ⟨acc, hacc, hsz⟩ := accumulate_total hg (hnr.symm ▸ hr) hcap s.input.2 (input_size hIs hshape)
  refine ⟨⟨s.fd.nrows, s.fd.ncols, acc, s.input.2⟩, ?_, hsz, hnr, hnc, rfl⟩
  rw [(call_frame s).1, gridAccumulate_input s hshape, hacc]
  rfl

/-- a limit below one (other than `-1`) or a field grid of another shape makes the call raise, and nothing changes -/
theorem history_call_rejected {α : Type} [Add α] [OfNat α 1] (s : Sess α)
    (h : (s.cap < 1 ∧ s.cap ≠ -1 ∧ ∀ f, s.fieldGrid = some f → f.nrows = s.fd.nrows ∧ f.ncols = s.fd.ncols) ∨
      ∃ f, s.fieldGrid = some f ∧ (f.nrows ≠ s.fd.nrows ∨ f.ncols ≠ s.fd.ncols)) :
    step s .call = (s, .rejected) := by
  rw [step_call_eq s]
  rcases h with ⟨h1, h2, h3⟩ | ⟨f, hf, hne⟩
  · rw [gridAccumulate_input s h3, accumulate_rejects_limit s.fd h1 h2]
    rfl
  · rw [hf, gridAccumulate_shape s.fd s.fdNodata f s.cap hne]

/-- headline over histories: whatever calls and edits came before, a call with the default limit on flow directions
that are acyclic NOW returns, for the field as it is NOW, the no-data value on the cells that drain nowhere and the
sum of the field over the upstream closure on every other cell -/
theorem history_call_acyclic {α : Type} [AddCommMonoid α] [OfNat α 1] {s0 : Sess α} (hI : Inv s0)
    (ops : List (Op α)) (hr : 1 ≤ s0.fd.nrows) (hc : 0 < s0.fd.ncols)
    (hnc : NoCycle (run s0 ops).1.fd) (hcap : (run s0 ops).1.cap = -1)
    (hshape : ∀ f, (run s0 ops).1.fieldGrid = some f →
      f.nrows = (run s0 ops).1.fd.nrows ∧ f.ncols = (run s0 ops).1.fd.ncols) :
    ∃ r, (step (run s0 ops).1 .call).2 = .result r ∧ r.data.size = (run s0 ops).1.fd.ntot.toNat ∧
      r.nodata = (run s0 ops).1.input.2 ∧
      ∀ c : Int, validCell s0.fd.nrows s0.fd.ncols c = true →
        r.data[c.toNat]? = some (if dn (run s0 ops).1.fd c < 0 then (run s0 ops).1.input.2
          else ∑ u ∈ drainsThrough (run s0 ops).1.fd c,
            (run s0 ops).1.input.1[u]?.getD (run s0 ops).1.input.2) := by
  obtain ⟨hIs, hnr, hnc', -⟩ := run_inv hI ops
  generalize (run s0 ops).1 = s at *
  have hg : WF s.fd := ⟨hnc'.symm ▸ hc, hIs.fdSize⟩
  have hF : Rep s.fd.ntot.toNat s.input.1 (fun j => s.input.1[j]?.getD s.input.2) :=
    input_size hIs hshape ▸ rep_self s.input.1 s.input.2
  obtain ⟨acc, hacc, hsz, hval⟩ := accumulate_acyclic_default hg (hnr.symm ▸ hr) hnc s.input.2 hF
  refine ⟨⟨s.fd.nrows, s.fd.ncols, acc, s.input.2⟩, ?_, hsz, rfl, fun c hv => ?_⟩
  · rw [(call_frame s).1, gridAccumulate_input s hshape, hcap, hacc]
    rfl
  · exact hval c (by rw [hnr, hnc']; exact hv)

/-! ### evaluated examples: the grid `gEx` (its hypotheses hold together), aliased buffers, a 2-cycle -/

example : WF gEx := gEx_wf
example : AllTerminate gEx (fuelOf (capOf gEx (-1))) := gEx_allTerminate
example : NoCycle gEx := gEx_noCycle
example : gEx.codes.length = 9 := rfl
example : validCell gEx.nrows gEx.ncols 1 = true ∧ 0 ≤ dn gEx 1 ∧ dn gEx 2 < 0 := by decide
example : gEx.flowdir[(3 : Int).toNat]? = some 128 ∧ gEx.codes[2]? = some 128 ∧ dn gEx 3 = 1 ∧
    neighbour gEx.nrows gEx.ncols 3 2 = 1 := by decide
/-- field 5, 1, 7, 2, 3, 4: cell 1 receives 5 + 1 + 2 + 3 = 11, cell 2 and 5 are terminal -/
example : accumulate gEx (-1) (-9999 : Int) #[5, 1, 7, 2, 3, 4] = .ok #[5, 11, -9999, 2, 3, -9999] := by
  decide +kernel
/-- the pinned kernel on the same input: cell 1 receives its own value once per upstream cell -/
example : cAccumulatePinned gEx 6 (-9999 : Int) #[5, 1, 7, 2, 3, 4] #[5, 1, 7, 2, 3, 4]
    = .ok #[5, 4, -9999, 2, 3, -9999] := by decide +kernel
/-- the headline theorem applies to the example grid: all its hypotheses hold together -/
example : ∃ acc, accumulate gEx (-1) (-9999 : Int) #[5, 1, 7, 2, 3, 4] = .ok acc ∧ acc.size = gEx.ntot.toNat ∧
    ∀ c : Int, validCell gEx.nrows gEx.ncols c = true →
      acc[c.toNat]? = some (if dn gEx c < 0 then -9999
        else ∑ u ∈ drainsThrough gEx c, (fun j => (#[5, 1, 7, 2, 3, 4] : Array Int)[j]?.getD 0) u) :=
  accumulate_acyclic_default gEx_wf gEx_rows gEx_noCycle (-9999) (rep_self (#[5, 1, 7, 2, 3, 4] : Array Int) 0)
/-- wrapper on grid objects: result grid and unchanged field memory; a 3x2 field on the 2x3 grid is rejected -/
example : gridAccumulate gEx (-1 : Int) (some ⟨2, 3, #[5, 1, 7, 2, 3, 4], -9999⟩) (-1) =
    .ok (⟨#[5, 1, 7, 2, 3, 4], #[5, 11, -9999, 2, 3, -9999], false⟩, ⟨2, 3, #[5, 11, -9999, 2, 3, -9999], -9999⟩) := by
  decide +kernel
example : gridAccumulate gEx (-1 : Int) (some ⟨3, 2, #[5, 1, 7, 2, 3, 4], -9999⟩) 0 = .error .shape := by decide
/-- the same array passed as `to_accumulate` and `accumulation` on the chain 0 → 1 → 2 → 3 (sink): the field IS
altered and cell 2 holds 18 instead of 7 + 5 + 1 = 13, because the walk from cell 1 reads the value the walk from
cell 0 has already incremented — aliasing matters, so the wrapper's clone matters -/
example : (cAccumulateS ⟨1, 4, [32, 64, 128, 16, 0, 1, 8, 4, 2], #[1, 1, 1, 0]⟩ 4 (-9999 : Int)
      ⟨#[5, 1, 7, 0], #[], true⟩).map (·.field) = .ok #[5, 6, 18, -9999] ∧
    (cAccumulateS ⟨1, 4, [32, 64, 128, 16, 0, 1, 8, 4, 2], #[1, 1, 1, 0]⟩ 4 (-9999 : Int)
      ⟨#[5, 1, 7, 0], #[5, 1, 7, 0], false⟩).map (fun s => (s.field, s.acc))
      = .ok (#[5, 1, 7, 0], #[5, 6, 13, -9999]) := by decide +kernel
example : upClosure gEx 7 1 = [0, 1, 3, 4] ∧ directUpList gEx 1 = [0, 3, 4] := by decide +kernel
/-- a 2-cycle (cells 0 ⇄ 1) terminates at the cap -/
example : accumulate ⟨1, 2, [32, 64, 128, 16, 0, 1, 8, 4, 2], #[1, 16]⟩ (-1) (-1 : Int) #[1, 1] = .ok #[4, 4] := by
  decide +kernel

/-! ### the value theorems applied on `gEx` -/

example : WF gEx ∧ (1 : Int) ≤ gEx.nrows ∧ 1 ≤ capOf gEx (-1) ∧ AllTerminate gEx (fuelOf (capOf gEx (-1))) ∧
    validCell gEx.nrows gEx.ncols 1 = true ∧ 0 ≤ dn gEx 1 :=
  ⟨gEx_wf, gEx_rows, gEx_cap, gEx_allTerminate, gEx_valid1, gEx_drains1⟩

/-- with `rndEx` the field 5, 1, 7, 2, 3, 4 is accumulated exactly (all hypotheses of `accumulate_rounded_exact` hold
together) -/
example (acc : Array (Rounded ℚ rndEx))
    (hacc : accumulate gEx (-1) (⟨-9999⟩ : Rounded ℚ rndEx)
      ((#[5, 1, 7, 2, 3, 4] : Array Int).map fun (z : Int) => (⟨(z : ℚ)⟩ : Rounded ℚ rndEx)) = .ok acc) :
    acc[(1 : Int).toNat]? =
      some ⟨((∑ u ∈ drainsThrough gEx 1, (#[5, 1, 7, 2, 3, 4] : Array Int)[u]?.getD 0 : Int) : ℚ)⟩ :=
  accumulate_rounded_exact (g := gEx) rndEx 100 rndEx_int gEx_wf gEx_rows gEx_cap gEx_allTerminate ⟨-9999⟩
    (rep_rounded_int rndEx #[5, 1, 7, 2, 3, 4]) hacc gEx_valid1 gEx_drains1
    ((sum_drainsThrough_le _).trans (by decide))

/-- a rounding of `ℚ` with relative error 1/8 -/
def rndErr (x : ℚ) : ℚ := x + x / 8

example (acc : Array (Rounded ℚ rndErr))
    (hacc : accumulate gEx (-1) (⟨-9999⟩ : Rounded ℚ rndErr)
      ((#[5, 1, 7, 2, 3, 4] : Array ℚ).map fun x => (⟨x⟩ : Rounded ℚ rndErr)) = .ok acc) :
    ∃ r : ℚ, acc[(1 : Int).toNat]? = some ⟨r⟩ ∧
      |r - ∑ i ∈ drainsThrough gEx 1, (#[5, 1, 7, 2, 3, 4] : Array ℚ)[i]?.getD 0| ≤
        ((1 + 1 / 8) ^ ((drainsThrough gEx 1).card - 1) - 1) *
          ∑ i ∈ drainsThrough gEx 1, |(#[5, 1, 7, 2, 3, 4] : Array ℚ)[i]?.getD 0| :=
  accumulate_rounded_error (g := gEx) rndErr (by norm_num)
    (fun x => by rw [rndErr, add_sub_cancel_left, abs_div, abs_of_pos (by norm_num : (0 : ℚ) < 8), div_eq_inv_mul,
      one_div])
    gEx_wf gEx_rows gEx_cap gEx_allTerminate ⟨-9999⟩
    (rep_rounded rndErr #[5, 1, 7, 2, 3, 4] 0) hacc gEx_valid1 gEx_drains1

/-- a monotone idempotent rounding of `ℕ`: the identity up to 8, down to a multiple of 4 above -/
def rndDown (n : Nat) : Nat := if n ≤ 8 then n else n - n % 4

example (acc : Array (Rounded Nat rndDown))
    (hacc : accumulate gEx (-1) (⟨0⟩ : Rounded Nat rndDown)
      ((#[5, 1, 7, 2, 3, 4] : Array Nat).map fun x => (⟨x⟩ : Rounded Nat rndDown)) = .ok acc) :
    ∃ r : Nat, acc[(1 : Int).toNat]? = some ⟨r⟩ ∧ rndDown r = r ∧
      ∀ i ∈ drainsThrough gEx 1, (#[5, 1, 7, 2, 3, 4] : Array Nat)[i]?.getD 0 ≤ r :=
  accumulate_rounded_ge (g := gEx) rndDown
    (fun x y h => by
      unfold rndDown
      split
      · split
        · exact h
        · omega
      · rw [if_neg (by omega)]
        omega)
    (fun x => by
      unfold rndDown
      split
      · rfl
      · split
        · rfl
        · rw [Nat.sub_mod_eq_zero_of_mod_eq (Nat.mod_mod _ _).symm, Nat.sub_zero])
    gEx_wf gEx_rows gEx_cap gEx_allTerminate ⟨0⟩
    (fun i => Nat.zero_le _)
    (fun i => if_pos (getD_of_forall (P := (· ≤ 8)) (by decide) (by decide) i))
    (rep_rounded rndDown #[5, 1, 7, 2, 3, 4] 0) hacc gEx_valid1 gEx_drains1
/-- the rounding is visible: with `rndDown` cell 1 receives 5+1 = 6, 6+2 = 8, 8+3 = 11 → 8 -/
example : accumulate gEx (-1) (⟨0⟩ : Rounded Nat rndDown) #[⟨5⟩, ⟨1⟩, ⟨7⟩, ⟨2⟩, ⟨3⟩, ⟨4⟩] =
    .ok #[⟨5⟩, ⟨8⟩, ⟨0⟩, ⟨2⟩, ⟨3⟩, ⟨0⟩] := by decide +kernel

/-- `nprint`: 0 and a negative value print nothing, 2 prints for the cells 0, 2, 4; the values are those of `cAccumulate` -/
example : (cAccumulateP gEx 0 6 (-9999 : Int) #[5, 1, 7, 2, 3, 4] #[5, 1, 7, 2, 3, 4]).map (·.2) = .ok 0 ∧
    (cAccumulateP gEx (-3) 6 (-9999 : Int) #[5, 1, 7, 2, 3, 4] #[5, 1, 7, 2, 3, 4]).map (·.2) = .ok 0 ∧
    cAccumulateP gEx 2 6 (-9999 : Int) #[5, 1, 7, 2, 3, 4] #[5, 1, 7, 2, 3, 4] =
      .ok (#[5, 11, -9999, 2, 3, -9999], 3) := by decide +kernel

/-- grids without cells: default limit rejected; without rows rejected; without columns and a limit: empty answer -/
example : accumulate ⟨2, 0, gEx.codes, #[]⟩ (-1) (-1 : Int) #[] = .error .badMaxCells ∧
    cAccumulate ⟨0, 3, gEx.codes, #[]⟩ 4 (-1 : Int) #[] #[] = .error .badDims ∧
    cAccumulate ⟨2, 0, gEx.codes, #[]⟩ 4 (-1 : Int) #[] #[] = .ok #[] := by decide

example : Inv sEx := sEx_inv

example : (run sEx opsEx).2 =
    [.result ⟨2, 3, #[5, 11, -9999, 2, 3, -9999], -9999⟩, .done, .done, .done, .rejected, .rejected, .done, .rejected, .done] ∧
    (run sEx opsEx).1.fieldGrid = some ⟨2, 3, #[9, 1, 1, 1, 1, 1], -9999⟩ ∧
    (run sEx opsEx).1.field = some 1 ∧ (run sEx opsEx).1.res = some 1 ∧
    (step (run sEx opsEx).1 .call).2 = .result ⟨2, 3, #[9, 12, -9999, 1, 1, -9999], -9999⟩ := by
  rw [run_sEx]
  decide +kernel

/-- `history_call_acyclic` applies to the state this history reaches (the field is now the edited former result) -/
example : ∃ r, (step (run sEx opsEx).1 .call).2 = .result r ∧ r.data.size = (run sEx opsEx).1.fd.ntot.toNat ∧
    r.nodata = (run sEx opsEx).1.input.2 ∧
    ∀ c : Int, validCell sEx.fd.nrows sEx.fd.ncols c = true →
      r.data[c.toNat]? = some (if dn (run sEx opsEx).1.fd c < 0 then (run sEx opsEx).1.input.2
        else ∑ u ∈ drainsThrough (run sEx opsEx).1.fd c,
          (run sEx opsEx).1.input.1[u]?.getD (run sEx opsEx).1.input.2) := by
  have h := history_call_acyclic sEx_inv opsEx gEx_rows gEx_wf.ncols_pos
  rw [run_sEx] at h ⊢
  exact h gEx_noCycle rfl fun f hf => by cases hf; decide

/-- the same object as result and field (right after `feedBack`): editing "the result" edits the field — which is why
`edit_result_keeps_field` needs the result to come from the call just made -/
example : ((run sEx [.call, .feedBack, .rFill 0]).1).fieldGrid = some ⟨2, 3, #[0, 0, 0, 0, 0, 0], -9999⟩ := by
  decide +kernel

/-- the unit field in the rounded arithmetic `rndEx`: cell 1 of `gEx` counts its 4 cells exactly -/
example (acc : Array (Rounded ℚ rndEx)) (hacc : accumulateUnit gEx (-1) (⟨-1⟩ : Rounded ℚ rndEx) = .ok acc) :
    acc[(1 : Int).toNat]? = some ⟨(((drainsThrough gEx 1).card : Nat) : ℚ)⟩ :=
  accumulateUnit_rounded_eq_card (g := gEx) rndEx (fun z hz => rndEx_int z (hz.trans (by decide)))
    gEx_wf gEx_rows gEx_cap gEx_allTerminate ⟨-1⟩ hacc gEx_valid1 gEx_drains1

/-- any flow directions: the 2-cycle 0 ⇄ 1 with the limit 3 answers; the limit 0 and a 3x2 field are rejected -/
example : ∃ r, (step (run sCyc [.fSetCell 1 5]).1 .call).2 = .result r ∧
    r.data.size = (run sCyc [.fSetCell 1 5]).1.fd.ntot.toNat ∧ r.nrows = sCyc.fd.nrows ∧ r.ncols = sCyc.fd.ncols ∧
    r.nodata = (run sCyc [.fSetCell 1 5]).1.input.2 :=
  history_call_total (Inv.of_checks (by decide) (by decide) (by decide) (by decide)) [.fSetCell 1 5] (by decide) (by decide) (Or.inr (by decide))
    (fun f hf => by
      have : (run sCyc [.fSetCell 1 5]).1.fieldGrid = some ⟨1, 2, #[3, 5], -9999⟩ := by decide
      rw [this] at hf
      cases hf
      decide)

example : step (run sCyc [.setCap 0]).1 .call = ((run sCyc [.setCap 0]).1, .rejected) :=
  history_call_rejected _ (Or.inl ⟨by decide, by decide, fun f hf => by
    have : (run sCyc [.setCap 0]).1.fieldGrid = some ⟨1, 2, #[3, 4], -9999⟩ := by decide
    rw [this] at hf
    cases hf
    decide⟩)

example : step (run sCyc [.fNew ⟨2, 1, #[3, 4], 0⟩]).1 .call = ((run sCyc [.fNew ⟨2, 1, #[3, 4], 0⟩]).1, .rejected) :=
  history_call_rejected _ (Or.inr ⟨⟨2, 1, #[3, 4], 0⟩, by decide, by decide⟩)

/-! ### rounded arithmetic on `gEx` -/

/-- binary floating point with 4 significant bits on `gEx`: every hypothesis of `accumulate_binary_error` holds (the
rounding needs none); core `Rat` does not reduce in the kernel, so the values themselves are computed by the driver only
(`accr` request) -/
example (acc : Array (Rounded ℚ (rndBits 4)))
    (hacc : accumulate gEx (-1) (⟨0⟩ : Rounded ℚ (rndBits 4))
      ((#[5, 1, 7, 20, 3, 4] : Array ℚ).map fun x => (⟨x⟩ : Rounded ℚ (rndBits 4))) = .ok acc) :
    ∃ r : ℚ, acc[(1 : Int).toNat]? = some ⟨r⟩ ∧
      |r - ∑ i ∈ drainsThrough gEx 1, (#[5, 1, 7, 20, 3, 4] : Array ℚ)[i]?.getD 0| ≤
        ((1 + (2 : ℚ) ^ (-((4 : Nat) : Int))) ^ ((drainsThrough gEx 1).card - 1) - 1) *
          ∑ i ∈ drainsThrough gEx 1, |(#[5, 1, 7, 20, 3, 4] : Array ℚ)[i]?.getD 0| :=
  accumulate_binary_error 4 (g := gEx) gEx_wf gEx_rows gEx_cap gEx_allTerminate ⟨0⟩
    (rep_rounded (rndBits 4) #[5, 1, 7, 20, 3, 4] 0) hacc gEx_valid1 gEx_drains1
/-- binary64: the integer field 5, 1, 7, 2, 3, 4 is accumulated exactly (all hypotheses of `accumulate_binary_exact`) -/
example (acc : Array (Rounded ℚ (rndBits 53)))
    (hacc : accumulate gEx (-1) (⟨-9999⟩ : Rounded ℚ (rndBits 53))
      ((#[5, 1, 7, 2, 3, 4] : Array Int).map fun (z : Int) => (⟨(z : ℚ)⟩ : Rounded ℚ (rndBits 53))) = .ok acc) :
    acc[(1 : Int).toNat]? =
      some ⟨((∑ u ∈ drainsThrough gEx 1, (#[5, 1, 7, 2, 3, 4] : Array Int)[u]?.getD 0 : Int) : ℚ)⟩ :=
  accumulate_binary_exact (p := 53) (by norm_num) (g := gEx) gEx_wf gEx_rows gEx_cap gEx_allTerminate ⟨-9999⟩
    (rep_rounded_int (rndBits 53) #[5, 1, 7, 2, 3, 4]) hacc gEx_valid1 gEx_drains1
    ((sum_drainsThrough_le _).trans (by decide))
example : gEx.ntot.toNat ≤ 2 ^ 53 := by decide

end HydroVerif.C11
