/-
C14 — property theorems for `c_var2h` / `dutils.var2h`.
Model: `HydroVerif/Model/C14.lean`; vocabulary and loop invariant: `Lemmas/C14.lean`; the interpolant as one
function ℝ → ℝ: `Lemmas/C14Real.lean`; the kernel on the caller's buffer and call histories: `Lemmas/C14Buf.lean`;
the control skeleton and arithmetic-free missing pattern: `Lemmas/C14Skel.lean`, `Lemmas/C14Arith.lean`.

Reading guide.  `obs` is the list of observations `(epoch second, value or NaN)`, `pairs obs` its
observation intervals, period `i` is `[perS P hstart i, perE P hstart i)` in whole seconds.
`contrib c S E a b` is the exact integral over `[S, E]` of the affine piece through `a` and `b`
(`trapArea`, Mathlib's interval integral) — or, for rainfall, the share of the increment `b.2` that falls in
`[S, E]` (times `P`).  `invalid c a b` is the kernel's validity test (`invalid_iff`).  `interp obs` is the
piecewise-linear interpolant.  Statements in `section field` hold for every ordered field (`ℝ`, `ℚ`, …) unless they
mention an integral; statements in `section anyarith` hold for EVERY instance of the model (no law of the
arithmetic is used, or only `ExactInt`: whole seconds are cast / compared / added / subtracted exactly — true of IEEE
doubles below 2^53), for every series length and every number of periods.  Every model function named here
(`kernel`, `wrapper`, `wrapperSeries`, `wrapperIdx`, `seriesIdx`, `wrapperArg`, `maxgapOfArg`, `labels`, `freqSec`,
`startScan`, `origin`, `nvalhOf`, `wallSec`, `kernelInto`, `pyxVar2h`, `step`, `run`, `kernelMiss`, `marks`, `toQ`,
`cfgQ`) is executed by the driver and compared with the real code.

CLAUSE → THEOREMS (what remains outside)

1. "every value var2h returns is either missing or the time-average over its period of the piecewise-linear
   interpolant"
   → on the returned object: `series_value_is_average_over_its_period` (ℝ: every pair `(t, h)` of the returned series
     has h = (∫_t^{t+P} interp obs)/P), `series_labels_are_period_starts` (pair i is (origin + i·P, value i)),
     `freqSec_eq_period`, `labels_getElem?`;
     `value_is_average_of_interpolant`, `wrapper_value_is_average_of_interpolant` (ℝ: h = (∫_S^E interp obs)/P);
     `value_is_period_integral` (any field, closed form), `value_is_integral_of_interpolant`,
     `trapArea_eq_integral`, `contrib_eq_segInt`, `overlaps_tile(_covered)`, `lin_left/right`, `kernel_total`,
     `wrapper_spec`, `wrapper_is_kernel_plus_final`.
   outside: IEEE rounding of the VALUES (Float instance compared with the code, bit-equal so far).  Which periods
   are missing is NOT subject to rounding: see 4.
2. "(for rainfall, the period total of the increments spread uniformly over their intervals)"
   → `rainfall_value_is_prorated_total`.
3. "so that the time-integral of the series is conserved" → `conservation` (any run of non-missing periods).
4. "apart from the final period, a period is missing exactly when an interval overlapping it is invalid
   (missing or negative end value, or longer than maxgapsec)"
   → `invalid_iff`, `valid_iff` (what invalid means); `invalid_overlap_makes_missing`, `gap_makes_missing`
     (⇐); `missing_has_cause`, `valid_data_gives_value` (⇒); `missing_iff_invalid_overlap` (⇔ when no invalid
     interval merely ends on the period start); `nonmissing_covered_and_valid`; `series_missing_has_cause` (on the
     returned object, by label);
     in ANY arithmetic with exact whole seconds (floats included, no field law): `missing_pattern_is_skeleton` (the
     pattern is `kernelMiss` of the `marks`: integer comparisons + the per-interval validity test),
     `missing_pattern_same_as_exact` (= the pattern of the exact-rational kernel on stand-in values),
     `kernel_total_any_arith`, `missing_has_cause_any_arith`, `invalid_overlap_makes_missing_any_arith`,
     `valid_data_gives_value_any_arith`;
     `maxgapsec` passed as a float: `maxgap_truncation_harmless`, `gap_test_with_float_maxgap`;
     final period: `wrapper_final_missing`, `kernel_final_period_untouched` (the kernel never writes it: it keeps
     the caller's NaN); hourly: `hourly_periods_within_data`, `wrapper_hourly_missing_cause`
     (no other cause exists); half-hourly: `halfhourly_periods_within_data`, `halfhourly_periods_overhang` —
     only period `nvalh-2` can extend past the last stamp (by at most 1800 s: it can lie wholly after the data) and is then missing although no interval
     is invalid: the interpolant does not exist there, clause 1 forces it (this is the repaired defect).
   outside: intervals that merely touch a period boundary (left open by the property; the model says exactly
   what the code does: `missing_has_cause` has `≤`, the converse `<`); "negative" is `< -1e-8`; that IEEE doubles
   satisfy `ExactInt` for |x| ≤ 2^53 (core `Float` is opaque; the driver runs skeleton, Float kernel and exact kernel
   side by side on every kernel case and the harness compares all three with the real code's NaN pattern).
5. "the result does not depend on the storage resolution or time zone of the index"
   → `index_independence`, `index_independence_two`, `series_index_independence`, `wallSec_whole`, `wallSec_floor`:
     the stored index (unit, raw int64 count of the UTC instant, UTC offset of each stamp) is part of the model
     (`wrapperIdx`, `seriesIdx`).
   outside: pandas/numpy do compute `raw`, the offsets and the final `date_range` (external; the correspondence
   compares `wallSec` with the wall-clock seconds the index was built from for every unit/zone, offsets from zoneinfo, and
   the returned index with the model's `labels`).
6. quantifier "≥ 2 observations, ≥ 2 periods, integer-second stamps, duplicates, stamps on boundaries, any
   values, P ∈ {1800,3600}, rainfall flag, maxgapsec ≥ 3600": hypotheses `Sorted`, two leading observations,
   `CfgOK`, `3600 ≤ maxgap`, `1 ≤ nvalh` only; stamps are `Int` by type.  Wrapper arithmetic: `origin_spec`,
   `nvalhOf_spec`, `wrapper_empty`, `startScan_position`.  Hypotheses the text does not state, each discharged or shown
   necessary: first stamp ≤ origin (`origin_spec` gives it in the wrapper; `kernel_rejects_late_start` at the excluded
   point), `Sorted` (`kernel_rejects_decreasing_pair`; an example at the end of the file shows that a decreasing pair the
   walk never meets is not rejected), `3600 ≤ maxgap` (`wrapper_rejects_small_maxgap`), `1 ≤ nvalh` (`wrapper_empty`), `CfgOK`
   (`wrapper_rejects_bad_period`; rainfall flag: `kernel_guard_error_leaves_buffer`).
7. (glue, not a clause) the kernel as it is called — results written into the caller's buffer, the Cython entry
   point, call histories on one set of buffers, for EVERY arithmetic: `kernel_writes_prefix_only`,
   `kernel_stale_buffer_irrelevant`, `kernel_return_code`, `kernel_guard_error_leaves_buffer`, `kernel_buffer_length`,
   `pyx_rejects_length_mismatch`, `pyx_is_kernel`, `call_keeps_inputs`, `history_answer` (after ANY list of
   operations — edits, scribbling over the output, other calls, rejected calls — a call answers with the kernel's
   values for the arrays as they are now), `history_call_values_as_required` (… and these are as the property requires).
Each group is followed, at the end of the file, by `example`s on one worked series (`exObs`; `exObs8` in the rounded
arithmetic `Rnd8`, in `Lemmas/C14Sample.lean` with the evaluations that more than one `example` uses).
-/
import HydroVerif.Lemmas.C14
import HydroVerif.Lemmas.C14Real
import HydroVerif.Lemmas.C14Buf
import HydroVerif.Lemmas.C14Arith
import HydroVerif.Lemmas.C14Sample
import Mathlib.Analysis.SpecialFunctions.Integrals.Basic

namespace HydroVerif.C14

section field
-- several statements of this file do not use every class of the section they stand in (`index_independence`,
-- `wrapper_rejects_bad_period`, `lin_left`, … need no order): the linter that reports it is silenced, here and below
set_option linter.unusedSectionVars false
variable {α : Type} [Field α] [LinearOrder α] [IsStrictOrderedRing α]

/-- **No error, right size.** On a non-decreasing series of at least two observations starting at or
before the origin, the kernel succeeds (in particular the two states in which the C code would index
outside its arrays never arise) and writes exactly `nvalh - 1` values. -/
theorem kernel_total (c : Cfg α) (hc : CfgOK c) (hstart nvalh : Int) (a b : Obs α) (rest : List (Obs α))
    (hs : Sorted (a :: b :: rest)) (ha : a.1 ≤ hstart) :
    ∃ out, kernel c hstart nvalh (a :: b :: rest) = .ok out ∧ out.length = (nvalh - 1).toNat := by
  obtain ⟨out, h1, h2, _⟩ := kernel_spec hc nvalh hs ha
  exact ⟨out, h1, h2⟩

/-- **Value.** Every non-missing value, times the period, is the sum over all observation intervals of
the exact integral of the affine piece over the part of the interval inside the period
(rainfall: of the prorated increments, times `P`). -/
theorem value_is_period_integral (c : Cfg α) (hc : CfgOK c) (hstart nvalh : Int) (a b : Obs α)
    (rest : List (Obs α)) (hs : Sorted (a :: b :: rest)) (ha : a.1 ≤ hstart)
    (out : List (Option α)) (hk : kernel c hstart nvalh (a :: b :: rest) = .ok out)
    (i : Nat) (h : α) (hi : out[i]? = some (some h)) :
    h * (c.P : α) =
      ((pairs (a :: b :: rest)).map fun p => contrib c (perS c.P hstart i) (perE c.P hstart i) p.1 p.2).sum := by
  rw [(kernel_periodOK hc hs ha hk hi).1, psum_eq_contrib c hc.eps_pos hc.eps_lt]

/-- **Non-missing ⇒ covered and valid.** A value is returned only for a period that ends at or before
the last observation and all of whose overlapping intervals (`t_a < E`, `S < t_b`) are valid. -/
theorem nonmissing_covered_and_valid (c : Cfg α) (hc : CfgOK c) (hstart nvalh : Int) (a b : Obs α)
    (rest : List (Obs α)) (hs : Sorted (a :: b :: rest)) (ha : a.1 ≤ hstart)
    (out : List (Option α)) (hk : kernel c hstart nvalh (a :: b :: rest) = .ok out)
    (i : Nat) (h : α) (hi : out[i]? = some (some h)) :
    perE c.P hstart i ≤ lastTime (a :: b :: rest) ∧
      ∀ p ∈ pairs (a :: b :: rest), p.1.1 < perE c.P hstart i → perS c.P hstart i < p.2.1 →
        invalid c p.1 p.2 = false :=
  (kernel_periodOK hc hs ha hk hi).2

/-- **Missing ⇒ a cause.** A missing value has a reason the property admits: the period extends past the
last observation, or an invalid interval overlaps or touches it (`t_a < E`, `S ≤ t_b`). -/
theorem missing_has_cause (c : Cfg α) (hc : CfgOK c) (hstart nvalh : Int) (a b : Obs α)
    (rest : List (Obs α)) (hs : Sorted (a :: b :: rest)) (ha : a.1 ≤ hstart)
    (out : List (Option α)) (hk : kernel c hstart nvalh (a :: b :: rest) = .ok out)
    (i : Nat) (hi : out[i]? = some none) :
    lastTime (a :: b :: rest) < perE c.P hstart i ∨
      ∃ p ∈ pairs (a :: b :: rest), p.1.1 < perE c.P hstart i ∧ perS c.P hstart i ≤ p.2.1 ∧
        invalid c p.1 p.2 = true :=
  kernel_periodOK hc hs ha hk hi

/-- **Missing exactly when.** For a period inside the data on whose start no invalid interval merely
ends (the "touching" case the property leaves open), the value is missing if and only if an invalid
interval overlaps the period. -/
theorem missing_iff_invalid_overlap (c : Cfg α) (hc : CfgOK c) (hstart nvalh : Int) (a b : Obs α)
    (rest : List (Obs α)) (hs : Sorted (a :: b :: rest)) (ha : a.1 ≤ hstart)
    (out : List (Option α)) (hk : kernel c hstart nvalh (a :: b :: rest) = .ok out)
    (i : Nat) (o : Option α) (hi : out[i]? = some o)
    (hcov : perE c.P hstart i ≤ lastTime (a :: b :: rest))
    (htouch : ∀ p ∈ pairs (a :: b :: rest), invalid c p.1 p.2 = true → p.2.1 ≠ perS c.P hstart i) :
    o = none ↔ ∃ p ∈ pairs (a :: b :: rest), p.1.1 < perE c.P hstart i ∧ perS c.P hstart i < p.2.1 ∧
        invalid c p.1 p.2 = true := by
  have hok := kernel_periodOK hc hs ha hk hi
  cases o with
  | none =>
    rw [eq_self_iff_true, true_iff]
    rcases hok with hlt | ⟨p, hp, h1, h2, h3⟩
    · omega
    · exact ⟨p, hp, h1, lt_of_le_of_ne h2 (Ne.symm (htouch p hp h3)), h3⟩
  | some h =>
    refine iff_of_false (by simp) ?_
    rintro ⟨p, hp, h1, h2, h3⟩
    rw [hok.2.2 p hp h1 h2] at h3
    exact absurd h3 (by simp)

/-- **Conservation.** Over a run of `m` consecutive non-missing periods the values add up (times `P`) to
the contributions over the whole span `[S_i, S_(i+m)]`: the time-integral of the series is conserved. -/
theorem conservation (c : Cfg α) (hc : CfgOK c) (hstart nvalh : Int) (a b : Obs α)
    (rest : List (Obs α)) (hs : Sorted (a :: b :: rest)) (ha : a.1 ≤ hstart)
    (out : List (Option α)) (hk : kernel c hstart nvalh (a :: b :: rest) = .ok out)
    (i m : Nat) (v : Nat → α) (hv : ∀ k < m, out[i + k]? = some (some (v k))) :
    ((List.range m).map v).sum * (c.P : α) =
      ((pairs (a :: b :: rest)).map fun p => contrib c (perS c.P hstart i) (perS c.P hstart (i + m)) p.1 p.2).sum := by
  induction m with
  | zero => simp [contrib_self]
  | succ m ih =>
    rw [List.sum_range_succ, add_mul, ih fun k hk' => hv k (Nat.lt_succ_of_lt hk'),
      value_is_period_integral c hc hstart nvalh a b rest hs ha out hk (i + m) (v m) (hv m (Nat.lt_succ_self m)),
      show i + (m + 1) = (i + m) + 1 by omega, perS_succ]
    rw [← List.sum_map_add]
    exact congrArg List.sum (List.map_congr_left fun p _ =>
      contrib_add c (perS_mono hc.P_pos.le hstart (Nat.le_add_right i m))
        (Int.le_add_of_nonneg_right hc.P_pos.le) p.1 p.2)

/-- **Rainfall.** With the rainfall flag a non-missing value is the period total of the increments spread
uniformly over their intervals. -/
theorem rainfall_value_is_prorated_total (c : Cfg α) (hc : CfgOK c) (hr : c.rain = 1) (hstart nvalh : Int)
    (a b : Obs α) (rest : List (Obs α)) (hs : Sorted (a :: b :: rest)) (ha : a.1 ≤ hstart)
    (out : List (Option α)) (hk : kernel c hstart nvalh (a :: b :: rest) = .ok out)
    (i : Nat) (h : α) (hi : out[i]? = some (some h)) :
    h = ((pairs (a :: b :: rest)).map fun p =>
        if ovLo (perS c.P hstart i) p.1 < ovHi (perE c.P hstart i) p.2 then
          match p.1.2, p.2.2 with
          | some _, some v2 => rainShare p.1 p.2 v2 (ovLo (perS c.P hstart i) p.1) (ovHi (perE c.P hstart i) p.2)
          | _, _ => 0
        else 0).sum := by
  have hPne : (c.P : α) ≠ 0 := Int.cast_ne_zero.2 hc.P_pos.ne'
  refine mul_right_cancel₀ hPne ((value_is_period_integral c hc hstart nvalh a b rest hs ha out hk i h hi).trans ?_)
  rw [← List.sum_map_mul_right]
  refine congrArg List.sum (List.map_congr_left fun p _ => ?_)
  rcases p with ⟨⟨ta, va⟩, ⟨tb, vb⟩⟩
  unfold contrib
  cases va <;> cases vb <;> simp [hr]

/-- the validity test spelled out as the property words it: a missing end value, an end value below
`-eps` ("negative"), or an interval longer than `maxgapsec` (whole seconds) -/
theorem invalid_iff (c : Cfg α) (a b : Obs α) :
    invalid c a b = true ↔ a.2 = none ∨ b.2 = none ∨ (∃ v, a.2 = some v ∧ v < -c.eps) ∨
      (∃ v, b.2 = some v ∧ v < -c.eps) ∨ c.maxgap < b.1 - a.1 := by
  obtain ⟨ta, va⟩ := a
  obtain ⟨tb, vb⟩ := b
  cases va with
  | none => exact ⟨fun _ => Or.inl rfl, fun _ => rfl⟩
  | some v1 =>
    cases vb with
    | none => exact ⟨fun _ => Or.inr (Or.inl rfl), fun _ => rfl⟩
    | some v2 => rw [invalid_some_iff c rfl rfl]; simp

/-- what "valid" means: both end values present and not below `-eps`, and the interval not longer than
`maxgapsec` — so in the sums above every overlapping interval of a non-missing period has both values -/
theorem valid_iff (c : Cfg α) (a b : Obs α) :
    invalid c a b = false ↔ ∃ v1 v2, a.2 = some v1 ∧ b.2 = some v2 ∧ ¬ v1 < -c.eps ∧ ¬ v2 < -c.eps ∧
      ¬ (c.maxgap : α) < (b.1 : α) - (a.1 : α) := by
  obtain ⟨ta, va⟩ := a
  obtain ⟨tb, vb⟩ := b
  cases va <;> cases vb <;> simp [invalid, and_assoc]

/-- **The clipped intervals tile the period.** For a non-decreasing series the overlaps
`[max(t_a,S), min(t_b,E)]` of the observation intervals with `[S, E]` have total length
`clamp(last) - clamp(first)`; so for a period inside the data (`first ≤ S`, `E ≤ last`) they cover it
exactly once (`overlaps_tile_covered`; for the integrals themselves: `integral_interp_eq_sum`). -/
theorem overlaps_tile (S E : Int) (hSE : S ≤ E) :
    ∀ (a : Obs α) (l : List (Obs α)), Sorted (a :: l) →
      ((pairs (a :: l)).map fun p => max 0 (ovHi E p.2 - ovLo S p.1)).sum =
        min E (max S (lastTime (a :: l))) - min E (max S a.1)
  | a, [], _ => (sub_self _).symm
  | a, b :: r, hs => by
    simp only [pairs_cons_cons, List.map_cons, List.sum_cons, lastTime_cons_cons, overlaps_tile S E hSE b r hs.tail]
    rw [ovHi, ovLo, overlap_length (hs.head_le b (by simp)) hSE, sub_add_sub_cancel']

theorem overlaps_tile_covered (S E : Int) (hSE : S ≤ E) (a : Obs α) (l : List (Obs α)) (hs : Sorted (a :: l))
    (h0 : a.1 ≤ S) (h1 : E ≤ lastTime (a :: l)) :
    ((pairs (a :: l)).map fun p => max 0 (ovHi E p.2 - ovLo S p.1)).sum = E - S := by
  rw [overlaps_tile S E hSE a l hs, min_eq_left (h1.trans (le_max_right _ _)), max_eq_left h0, min_eq_right hSE]

/-- **The start scan** leaves `varindex` on the interval that contains the origin:
`varsec[varindex] ≤ hstart`, and the next stamp is later than `hstart` unless it is the last one. -/
theorem startScan_position (hstart : Int) (a b : Obs α) (rest : List (Obs α)) (ha : a.1 ≤ hstart) :
    ∃ suf, startScan hstart (a :: b :: rest) = some suf ∧
      (∃ pre, a :: b :: rest = pre ++ suf.1 :: suf.2) ∧ suf.1.1 ≤ hstart ∧
      ((∃ x, suf.2 = [x]) ∨ ∀ x ∈ suf.2.head?, hstart < x.1) := by
  obtain ⟨h1, _, h3, h4⟩ := scanFrom_spec (a :: b :: rest) hstart (b :: rest) a [] rfl (by simp) ha
  exact ⟨_, startScan_of_le b rest ha, h1, h3, h4⟩

theorem kernel_rejects_late_start (c : Cfg α) (hc : CfgOK c) (hstart nvalh : Int) (a : Obs α)
    (rest : List (Obs α)) (ha : hstart < a.1) :
    kernel c hstart nvalh (a :: rest) = .error .startBeforeData := by
  have hs : startScan hstart (a :: rest) = none := by
    cases rest with
    | nil => rfl
    | cons b r => simp [startScan, not_le.2 ha]
  simp only [kernel, hc.rain_guard, hc.period_guard, if_false, hs]

/-- `Sorted` is needed: two observations in decreasing order are rejected by the kernel's own guard as soon as
one period is computed (`t2 < t1` met during the walk) -/
theorem kernel_rejects_decreasing_pair (c : Cfg α) (hc : CfgOK c) (hstart nvalh : Int) (a b : Obs α)
    (ha : a.1 ≤ hstart) (hba : b.1 < a.1) (hn : 2 ≤ nvalh) :
    kernel c hstart nvalh [a, b] = .error .decreasing := by
  obtain ⟨k, hk⟩ : ∃ k, (nvalh - 1).toNat = k + 1 := ⟨(nvalh - 1).toNat - 1, by omega⟩
  have hae : ((a.1 : Int) : α) < pEnd c hstart 0 := by
    rw [pEnd_eq]; exact Int.cast_lt.2 (by have := hc.P_pos; unfold perE; omega)
  rw [kernel_eq_loop hc nvalh (show startScan hstart [a, b] = some (a, [b]) from startScan_of_le b [] ha),
    hk, loop, period, if_pos hae, walk, if_pos (Int.cast_lt.2 hba)]

/-- the origin is the first whole hour strictly after the first stamp -/
theorem origin_spec (first : Int) :
    origin first % 3600 = 0 ∧ first < origin first ∧ origin first ≤ first + 3600 := by
  unfold origin; omega

/-- the number of values is `trunc((last - first) / P)`: a series spanning `k` whole periods gives `k` values -/
theorem nvalhOf_spec (first last P : Int) (h : first ≤ last) (hP : 0 < P) :
    nvalhOf first last P * P ≤ last - first ∧ last - first < (nvalhOf first last P + 1) * P := by
  unfold nvalhOf
  rw [Int.tdiv_eq_ediv_of_nonneg (sub_nonneg.2 h)]
  exact ⟨Int.ediv_mul_le _ hP.ne', Int.lt_ediv_add_one_mul_self _ hP⟩

/-- hourly output: every period the kernel computes ends at or before the last stamp, so none is
missing for lack of data -/
theorem hourly_periods_within_data (first last : Int) (h : first ≤ last) (i : Nat)
    (hi : (i : Int) < nvalhOf first last 3600 - 1) :
    perE 3600 (origin first) i ≤ last := by
  have := perE_origin_le h (by decide : (0 : Int) < 3600) i 1 (by omega)
  omega

/-- half-hourly output: a computed period can extend past the last stamp, by at most one period (attained: first stamp 0,
last 3600 give origin 3600, and period 0 = [3600, 5400) lies wholly after the data) -/
theorem halfhourly_periods_overhang (first last : Int) (h : first ≤ last) (i : Nat)
    (hi : (i : Int) < nvalhOf first last 1800 - 1) :
    perE 1800 (origin first) i ≤ last + 1800 := by
  have := perE_origin_le h (by decide : (0 : Int) < 1800) i 1 (by omega)
  omega

/-- half-hourly output: only the last computed period (number `nvalh - 2`) can overhang the data; all the
earlier ones end at or before the last stamp -/
theorem halfhourly_periods_within_data (first last : Int) (h : first ≤ last) (i : Nat)
    (hi : (i : Int) < nvalhOf first last 1800 - 2) :
    perE 1800 (origin first) i ≤ last := by
  have := perE_origin_le h (by decide : (0 : Int) < 1800) i 2 (by omega)
  omega

/-- **The wrapper.** For admissible arguments and a non-decreasing series of at least two observations,
`var2h` returns the origin, and `nvalh` values: the kernel's values for periods `0 .. nvalh-2`, each as
the property requires, followed by one missing value. -/
theorem wrapper_spec (c : Cfg α) (hc : CfgOK c) (hgap : 3600 ≤ c.maxgap) (a b : Obs α) (rest : List (Obs α))
    (hs : Sorted (a :: b :: rest)) (hn : 1 ≤ nvalhOf a.1 (lastTime (a :: b :: rest)) c.P) :
    ∃ out, wrapper c (a :: b :: rest) = .ok (origin a.1, out ++ [none]) ∧
      ((out.length : Int) = nvalhOf a.1 (lastTime (a :: b :: rest)) c.P - 1) ∧
      ∀ i o, out[i]? = some o →
        PeriodOK c (a :: b :: rest) (perS c.P (origin a.1) i) (perE c.P (origin a.1) i) o := by
  obtain ⟨out, hk, hlen, hall⟩ := kernel_spec hc (nvalhOf a.1 (lastTime (a :: b :: rest)) c.P) hs
    (lt_origin a.1).le
  exact ⟨out, by rw [wrapper_of_kernel hc hgap hs hk, if_neg (by omega)], by rw [hlen]; omega, hall⟩

/-- **Hourly output: missing only for an invalid interval.** With `P = 3600` every period the wrapper
computes lies inside the data, so a missing value (other than the final one) always comes from an invalid
interval that overlaps or touches the period. -/
theorem wrapper_hourly_missing_cause (c : Cfg α) (hc : CfgOK c) (hP : c.P = 3600) (hgap : 3600 ≤ c.maxgap)
    (a b : Obs α) (rest : List (Obs α)) (hs : Sorted (a :: b :: rest))
    (hn : 1 ≤ nvalhOf a.1 (lastTime (a :: b :: rest)) c.P)
    (hstart : Int) (out : List (Option α)) (hw : wrapper c (a :: b :: rest) = .ok (hstart, out ++ [none]))
    (i : Nat) (hi : out[i]? = some none) :
    ∃ p ∈ pairs (a :: b :: rest), p.1.1 < perE c.P hstart i ∧ perS c.P hstart i ≤ p.2.1 ∧
      invalid c p.1 p.2 = true := by
  obtain ⟨out', hw', hlen, hall⟩ := wrapper_spec c hc hgap a b rest hs hn
  obtain ⟨rfl, hout⟩ := Prod.mk.inj (Except.ok.inj (hw'.symm.trans hw))
  cases List.append_cancel_right hout
  have hilt : i < out.length := (List.getElem?_eq_some_iff.1 hi).1
  rcases hall i none hi with hlt | h
  · have := hourly_periods_within_data a.1 _ (Sorted.le_lastTime hs a (by simp)) i (by rw [hP] at hlen; omega)
    rw [hP] at hlt; omega
  · exact h

/-- **An invalid interval that overlaps a period makes it missing** — whatever else the period contains. -/
theorem invalid_overlap_makes_missing (c : Cfg α) (hc : CfgOK c) (hstart nvalh : Int) (a b : Obs α)
    (rest : List (Obs α)) (hs : Sorted (a :: b :: rest)) (ha : a.1 ≤ hstart)
    (out : List (Option α)) (hk : kernel c hstart nvalh (a :: b :: rest) = .ok out)
    (i : Nat) (o : Option α) (hi : out[i]? = some o)
    (p : Obs α × Obs α) (hp : p ∈ pairs (a :: b :: rest))
    (h1 : p.1.1 < perE c.P hstart i) (h2 : perS c.P hstart i < p.2.1) (hinv : invalid c p.1 p.2 = true) :
    o = none := by
  cases o with
  | none => rfl
  | some h =>
    have := (nonmissing_covered_and_valid c hc hstart nvalh a b rest hs ha out hk i h hi).2 p hp h1 h2
    rw [this] at hinv; exact absurd hinv (by simp)

/-- **Gap handling.** An interval longer than `maxgapsec` makes every period it overlaps missing. -/
theorem gap_makes_missing (c : Cfg α) (hc : CfgOK c) (hstart nvalh : Int) (a b : Obs α)
    (rest : List (Obs α)) (hs : Sorted (a :: b :: rest)) (ha : a.1 ≤ hstart)
    (out : List (Option α)) (hk : kernel c hstart nvalh (a :: b :: rest) = .ok out)
    (i : Nat) (o : Option α) (hi : out[i]? = some o)
    (p : Obs α × Obs α) (hp : p ∈ pairs (a :: b :: rest))
    (h1 : p.1.1 < perE c.P hstart i) (h2 : perS c.P hstart i < p.2.1) (hgap : c.maxgap < p.2.1 - p.1.1) :
    o = none :=
  invalid_overlap_makes_missing c hc hstart nvalh a b rest hs ha out hk i o hi p hp h1 h2
    ((invalid_iff c p.1 p.2).mpr (Or.inr (Or.inr (Or.inr (Or.inr hgap)))))

/-- **An interval at most `maxgapsec` long with two non-negative end values never makes a period missing**:
if every interval that overlaps or touches the period is of that kind and the data reach the end of the
period, a value is returned. -/
theorem valid_data_gives_value (c : Cfg α) (hc : CfgOK c) (hstart nvalh : Int) (a b : Obs α)
    (rest : List (Obs α)) (hs : Sorted (a :: b :: rest)) (ha : a.1 ≤ hstart)
    (out : List (Option α)) (hk : kernel c hstart nvalh (a :: b :: rest) = .ok out)
    (i : Nat) (o : Option α) (hi : out[i]? = some o)
    (hcov : perE c.P hstart i ≤ lastTime (a :: b :: rest))
    (hvalid : ∀ p ∈ pairs (a :: b :: rest), p.1.1 < perE c.P hstart i → perS c.P hstart i ≤ p.2.1 →
      (∃ v1 v2, p.1.2 = some v1 ∧ p.2.2 = some v2 ∧ 0 ≤ v1 ∧ 0 ≤ v2) ∧ p.2.1 - p.1.1 ≤ c.maxgap) :
    ∃ h, o = some h := by
  cases o with
  | some h => exact ⟨h, rfl⟩
  | none =>
    exfalso
    rcases missing_has_cause c hc hstart nvalh a b rest hs ha out hk i hi with hlt | ⟨p, hp, h1, h2, hinv⟩
    · exact not_lt.2 hcov hlt
    · obtain ⟨⟨v1, v2, e1, e2, p1, p2⟩, hg⟩ := hvalid p hp h1 h2
      have hneg : -c.eps ≤ 0 := neg_nonpos.2 hc.eps_pos.le
      rcases (invalid_some_iff c e1 e2).1 hinv with h | h | h
      · exact not_lt.2 (hneg.trans p1) h
      · exact not_lt.2 (hneg.trans p2) h
      · exact not_lt.2 hg h

/-- `np.int32(maxgapsec)` truncates a float argument; against whole-second interval lengths the truncated value
decides "longer than maxgapsec" exactly as the number that was passed -/
theorem maxgap_truncation_harmless (q : ℚ) (hq : 0 ≤ q) (g : Int) : maxgapOfArg q < g ↔ q < (g : ℚ) := by
  have hnum : 0 ≤ q.num := Rat.num_nonneg.mpr hq
  unfold maxgapOfArg
  rw [Int.tdiv_eq_ediv_of_nonneg hnum, ← Rat.floor_def', Int.floor_lt]

/-- the wrapper called with a non-integer `maxgapsec`: an interval with present, non-negative end values is invalid
exactly when it is longer than the number passed -/
theorem gap_test_with_float_maxgap (P rain : Int) (q : ℚ) (hq : 0 ≤ q) (eps : α) (heps : 0 ≤ eps) (a b : Obs α)
    (v1 v2 : α) (h1 : a.2 = some v1) (h2 : b.2 = some v2) (p1 : 0 ≤ v1) (p2 : 0 ≤ v2) :
    invalid (⟨P, rain, maxgapOfArg q, eps⟩ : Cfg α) a b = true ↔ q < ((b.1 - a.1 : Int) : ℚ) := by
  rw [invalid_some_iff _ h1 h2, ← maxgap_truncation_harmless q hq,
    or_iff_right (not_lt.2 ((neg_nonpos.2 heps).trans p1)), or_iff_right (not_lt.2 ((neg_nonpos.2 heps).trans p2))]

theorem wrapper_rejects_bad_period (c : Cfg α) (obs : List (Obs α)) (h : c.P ≠ 1800 ∧ c.P ≠ 3600) :
    wrapper c obs = .error .badPeriod := by
  simp [wrapper, h]

theorem wrapper_rejects_small_maxgap (c : Cfg α) (obs : List (Obs α)) (hP : c.P = 1800 ∨ c.P = 3600)
    (h : c.maxgap < 3600) : wrapper c obs = .error .badMaxgap := by
  have h2 : ¬ (c.P ≠ 1800 ∧ c.P ≠ 3600) := fun h' => hP.elim h'.1 h'.2
  simp [wrapper, h2, h]

theorem wrapper_empty (c : Cfg α) (hc : CfgOK c) (hgap : 3600 ≤ c.maxgap) (a b : Obs α) (rest : List (Obs α))
    (hs : Sorted (a :: b :: rest)) (hn : nvalhOf a.1 (lastTime (a :: b :: rest)) c.P = 0) :
    wrapper c (a :: b :: rest) = .ok (origin a.1, []) := by
  obtain ⟨out, hk, _⟩ := kernel_spec hc (nvalhOf a.1 (lastTime (a :: b :: rest)) c.P) hs
    (lt_origin a.1).le
  rw [wrapper_of_kernel hc hgap hs hk, if_pos hn]

/-- **The wrapper is the kernel plus one final missing value.** Whatever `var2h` returns on a
non-decreasing series spanning at least one period is: the origin `origin a.1`, then the kernel's values for
that origin and size, then one missing value.  Every kernel theorem above therefore speaks about the
returned series (`res[i]? = out[i]?` for `i < out.length`). -/
theorem wrapper_is_kernel_plus_final (c : Cfg α) (hc : CfgOK c) (hgap : 3600 ≤ c.maxgap) (a b : Obs α)
    (rest : List (Obs α)) (hs : Sorted (a :: b :: rest))
    (hn : 1 ≤ nvalhOf a.1 (lastTime (a :: b :: rest)) c.P)
    (hstart : Int) (res : List (Option α)) (hw : wrapper c (a :: b :: rest) = .ok (hstart, res)) :
    hstart = origin a.1 ∧ a.1 ≤ hstart ∧ (res.length : Int) = nvalhOf a.1 (lastTime (a :: b :: rest)) c.P ∧
      ∃ out, kernel c hstart (nvalhOf a.1 (lastTime (a :: b :: rest)) c.P) (a :: b :: rest) = .ok out ∧
        res = out ++ [none] := by
  obtain ⟨out, hk, hlen, _⟩ := kernel_spec hc (nvalhOf a.1 (lastTime (a :: b :: rest)) c.P) hs
    (lt_origin a.1).le
  rw [wrapper_of_kernel hc hgap hs hk, if_neg (by omega)] at hw
  cases hw
  exact ⟨rfl, (lt_origin a.1).le, by rw [List.length_append, hlen, List.length_singleton]; omega, out, hk, rfl⟩

theorem wrapper_final_missing (c : Cfg α) (hc : CfgOK c) (hgap : 3600 ≤ c.maxgap) (a b : Obs α)
    (rest : List (Obs α)) (hs : Sorted (a :: b :: rest))
    (hn : 1 ≤ nvalhOf a.1 (lastTime (a :: b :: rest)) c.P)
    (hstart : Int) (res : List (Option α)) (hw : wrapper c (a :: b :: rest) = .ok (hstart, res)) :
    res.getLast? = some none := by
  obtain ⟨_, _, _, out, _, rfl⟩ := wrapper_is_kernel_plus_final c hc hgap a b rest hs hn hstart res hw
  simp

/-- a whole-second wall-clock stamp `t` in a zone whose offset is `off` is stored as `(t - off) * perSec`
ticks (the UTC instant); the wrapper's conversion gives back `t`, for every unit and every offset -/
theorem wallSec_whole (u : TUnit) (t off : Int) : wallSec u ((t - off) * u.perSec) off = t :=
  wallSec_stored u t off

/-- sub-second stamps are floored to the second (naive index).  The walk then runs on the floored stamps as in the code;
the SIZE `nvalh` is modelled for whole-second stamps only (the code divides the unfloored span) -/
theorem wallSec_floor (u : TUnit) (q r : Int) (h0 : 0 ≤ r) (h1 : r < u.perSec) :
    wallSec u (q * u.perSec + r) 0 = q := by
  unfold wallSec
  have hp : 0 < u.perSec := by cases u <;> decide
  rw [zero_mul, add_zero, add_comm, Int.add_mul_ediv_right _ _ (ne_of_gt hp), Int.ediv_eq_zero_of_lt h0 h1, zero_add]

/-- **Independence of storage resolution and time zone.** Take whole-second wall-clock stamps
`(t, utc offset, value)`; store them in any unit, each with its own UTC offset (any zone, daylight
saving included): `var2h` returns what it returns for the naive list of wall-clock seconds. -/
theorem index_independence (c : Cfg α) (u : TUnit) (l : List (Int × Int × Option α)) :
    wrapperIdx c u (l.map fun x => ((x.1 - x.2.1) * u.perSec, x.2.1, x.2.2)) =
      wrapper c (l.map fun x => (x.1, x.2.2)) :=
  congrArg (wrapper c) (obsOfIndex_stored u l)

theorem index_independence_two (c : Cfg α) (u1 u2 : TUnit) (l1 l2 : List (Stamp α))
    (h : obsOfIndex u1 l1 = obsOfIndex u2 l2) : wrapperIdx c u1 l1 = wrapperIdx c u2 l2 := by
  unfold wrapperIdx; rw [h]

theorem lin_left (t1 t2 v1 v2 : α) : lin t1 t2 v1 v2 t1 = v1 := by simp [lin]

theorem lin_right (t1 t2 v1 v2 : α) (h : t1 ≠ t2) : lin t1 t2 v1 v2 t2 = v2 := by
  rw [lin, div_mul_cancel₀ _ (sub_ne_zero.2 h.symm), sub_add_cancel]

open intervalIntegral in
theorem trapArea_eq_integral (a b : Obs ℝ) (v1 v2 : ℝ) (lo hi : Int) :
    trapArea a b v1 v2 lo hi = ∫ x in (lo : ℝ)..(hi : ℝ), lin (a.1 : ℝ) (b.1 : ℝ) v1 v2 x := by
  unfold trapArea lin
  generalize (v2 - v1) / ((b.1 : ℝ) - (a.1 : ℝ)) = sl
  rw [intervalIntegral.integral_add, intervalIntegral.integral_const_mul, intervalIntegral.integral_sub,
    integral_id, intervalIntegral.integral_const, intervalIntegral.integral_const]
  · simp only [smul_eq_mul]; ring
  all_goals exact Continuous.intervalIntegrable (by fun_prop) _ _

/-- **Value, as an integral.** Over the reals, without the rainfall flag: a non-missing value times the
period is the sum, over the observation intervals that overlap the period, of the interval integral of
the linear interpolant between `max(t_a, S)` and `min(t_b, E)`. -/
theorem value_is_integral_of_interpolant (c : Cfg ℝ) (hc : CfgOK c) (hr : c.rain = 0) (hstart nvalh : Int)
    (a b : Obs ℝ) (rest : List (Obs ℝ)) (hs : Sorted (a :: b :: rest)) (ha : a.1 ≤ hstart)
    (out : List (Option ℝ)) (hk : kernel c hstart nvalh (a :: b :: rest) = .ok out)
    (i : Nat) (h : ℝ) (hi : out[i]? = some (some h)) :
    h * (c.P : ℝ) = ((pairs (a :: b :: rest)).map fun p =>
        if ovLo (perS c.P hstart i) p.1 < ovHi (perE c.P hstart i) p.2 then
          match p.1.2, p.2.2 with
          | some v1, some v2 =>
            ∫ x in ((ovLo (perS c.P hstart i) p.1 : Int) : ℝ)..((ovHi (perE c.P hstart i) p.2 : Int) : ℝ),
              lin (p.1.1 : ℝ) (p.2.1 : ℝ) v1 v2 x
          | _, _ => 0
        else 0).sum := by
  rw [value_is_period_integral c hc hstart nvalh a b rest hs ha out hk i h hi]
  refine congrArg List.sum (List.map_congr_left fun p _ => ?_)
  rcases p with ⟨⟨ta, va⟩, ⟨tb, vb⟩⟩
  unfold contrib
  have hr1 : ¬ c.rain = 1 := by omega
  cases va <;> cases vb <;> simp [hr1, trapArea_eq_integral]

theorem contrib_eq_segInt (c : Cfg ℝ) (hr : c.rain = 0) (S E : Int) (p : Obs ℝ × Obs ℝ) :
    contrib c S E p.1 p.2 = segInt S E p := by
  rcases p with ⟨⟨ta, va⟩, ⟨tb, vb⟩⟩
  unfold contrib segInt pieceFun
  have hr1 : ¬ c.rain = 1 := by omega
  cases va <;> cases vb <;> simp [hr1, trapArea_eq_integral]

/-- **Value, as the time-average of THE interpolant.** Over the reals, without the rainfall flag, every
non-missing value is the interval integral over its period of the piecewise-linear interpolant `interp obs`
of the observations (one function ℝ → ℝ), divided by the period. -/
theorem value_is_average_of_interpolant (c : Cfg ℝ) (hc : CfgOK c) (hr : c.rain = 0) (hstart nvalh : Int)
    (a b : Obs ℝ) (rest : List (Obs ℝ)) (hs : Sorted (a :: b :: rest)) (ha : a.1 ≤ hstart)
    (out : List (Option ℝ)) (hk : kernel c hstart nvalh (a :: b :: rest) = .ok out)
    (i : Nat) (h : ℝ) (hi : out[i]? = some (some h)) :
    h = (∫ x in ((perS c.P hstart i : Int) : ℝ)..((perE c.P hstart i : Int) : ℝ), interp (a :: b :: rest) x)
          / (c.P : ℝ) := by
  have hP := hc.P_pos
  rw [integral_interp_eq_sum (perE c.P hstart i) (b :: rest) a (perS c.P hstart i) hs
      (ha.trans (Int.le_add_of_nonneg_right (mul_nonneg (Int.natCast_nonneg i) hP.le)))
      (Int.le_add_of_nonneg_right hP.le)
      (nonmissing_covered_and_valid c hc hstart nvalh a b rest hs ha out hk i h hi).1,
    eq_div_iff (Int.cast_ne_zero.2 hP.ne'), value_is_period_integral c hc hstart nvalh a b rest hs ha out hk i h hi]
  exact congrArg List.sum (List.map_congr_left fun p _ => contrib_eq_segInt c hr _ _ p)

/-- the same for what `dutils.var2h` returns: origin the first whole hour after the first stamp, value `i`
the average of the interpolant over `[origin + i P, origin + (i+1) P]` -/
theorem wrapper_value_is_average_of_interpolant (c : Cfg ℝ) (hc : CfgOK c) (hr : c.rain = 0)
    (hgap : 3600 ≤ c.maxgap) (a b : Obs ℝ) (rest : List (Obs ℝ)) (hs : Sorted (a :: b :: rest))
    (hn : 1 ≤ nvalhOf a.1 (lastTime (a :: b :: rest)) c.P)
    (hstart : Int) (res : List (Option ℝ)) (hw : wrapper c (a :: b :: rest) = .ok (hstart, res))
    (i : Nat) (h : ℝ) (hi : res[i]? = some (some h)) :
    hstart = origin a.1 ∧
    h = (∫ x in ((perS c.P hstart i : Int) : ℝ)..((perE c.P hstart i : Int) : ℝ), interp (a :: b :: rest) x)
          / (c.P : ℝ) := by
  obtain ⟨h1, h2, _, out, hk, rfl⟩ := wrapper_is_kernel_plus_final c hc hgap a b rest hs hn hstart res hw
  refine ⟨h1, ?_⟩
  have hi' : out[i]? = some (some h) := by
    rw [List.getElem?_append] at hi
    split_ifs at hi with hlt
    · exact hi
    · cases hk' : i - out.length <;> simp [hk'] at hi
  exact value_is_average_of_interpolant c hc hr hstart _ a b rest hs h2 out hk i h hi'

/-- for the two admissible periods the spacing of the returned index is the period -/
theorem freqSec_eq_period (c : Cfg α) (hc : CfgOK c) : freqSec c.P = c.P := by
  rcases hc.period with h | h <;> simp [freqSec, h]

/-- label `i` of `date_range(hstart, freq, periods = n)` -/
theorem labels_getElem? (hstart P : Int) (n i : Nat) (h : i < n) :
    (labels hstart P n)[i]? = some (hstart + (i : Int) * freqSec P) := by
  simp [labels, h]

/-- **Each returned value carries the start of its own period as label.** `dutils.var2h` returns `nvalh`
pairs; pair `i` is `(origin + i·P, value i of the wrapper)` — the value that the theorems above describe for
the period `[origin + i·P, origin + (i+1)·P]`. -/
theorem series_labels_are_period_starts (c : Cfg α) (hc : CfgOK c) (hgap : 3600 ≤ c.maxgap) (a b : Obs α)
    (rest : List (Obs α)) (hs : Sorted (a :: b :: rest))
    (hn : 1 ≤ nvalhOf a.1 (lastTime (a :: b :: rest)) c.P)
    (ser : List (Int × Option α)) (hw : wrapperSeries c (a :: b :: rest) = .ok ser) :
    (ser.length : Int) = nvalhOf a.1 (lastTime (a :: b :: rest)) c.P ∧
    ∃ res, wrapper c (a :: b :: rest) = .ok (origin a.1, res) ∧
      ∀ i t o, ser[i]? = some (t, o) → t = perS c.P (origin a.1) i ∧ res[i]? = some o := by
  obtain ⟨out, hw', hlen, _⟩ := wrapper_spec c hc hgap a b rest hs hn
  unfold wrapperSeries at hw
  rw [hw'] at hw
  cases hw
  refine ⟨by simp [labels, -lastTime_cons_cons]; omega, out ++ [none], hw', fun i t o hi => ?_⟩
  obtain ⟨h1, h2⟩ := List.getElem?_zip_eq_some.1 hi
  rw [labels_getElem? _ _ _ _ (List.getElem?_eq_some_iff.1 h2).1, freqSec_eq_period c hc] at h1
  exact ⟨(Option.some.inj h1).symm, h2⟩

/-- **A missing value in the returned series has a cause** (every label but the last): the period it labels
extends past the last observation, or an invalid interval overlaps or touches it. -/
theorem series_missing_has_cause (c : Cfg α) (hc : CfgOK c) (hgap : 3600 ≤ c.maxgap) (a b : Obs α)
    (rest : List (Obs α)) (hs : Sorted (a :: b :: rest))
    (hn : 1 ≤ nvalhOf a.1 (lastTime (a :: b :: rest)) c.P)
    (ser : List (Int × Option α)) (hw : wrapperSeries c (a :: b :: rest) = .ok ser)
    (i : Nat) (t : Int) (hi : ser[i]? = some (t, none)) (hnl : i + 1 < ser.length) :
    lastTime (a :: b :: rest) < t + c.P ∨
      ∃ p ∈ pairs (a :: b :: rest), p.1.1 < t + c.P ∧ t ≤ p.2.1 ∧ invalid c p.1 p.2 = true := by
  obtain ⟨hlen, res, hres, hall⟩ := series_labels_are_period_starts c hc hgap a b rest hs hn ser hw
  obtain ⟨rfl, hri⟩ := hall i _ none hi
  obtain ⟨_, h2, hrl, out, hk, rfl⟩ := wrapper_is_kernel_plus_final c hc hgap a b rest hs hn _ res hres
  rw [List.length_append, List.length_singleton] at hrl
  rw [List.getElem?_append_left (by omega)] at hri
  exact missing_has_cause c hc (origin a.1) _ a b rest hs h2 out hk i hri

/-- **Clause 1 on the returned object.** Over the reals, without the rainfall flag: whenever the series
`dutils.var2h` returns holds the pair `(t, h)` with `h` not missing, `h` is the integral of the piecewise-linear
interpolant of the observations over `[t, t + P]`, divided by `P`. -/
theorem series_value_is_average_over_its_period (c : Cfg ℝ) (hc : CfgOK c) (hr : c.rain = 0)
    (hgap : 3600 ≤ c.maxgap) (a b : Obs ℝ) (rest : List (Obs ℝ)) (hs : Sorted (a :: b :: rest))
    (hn : 1 ≤ nvalhOf a.1 (lastTime (a :: b :: rest)) c.P)
    (ser : List (Int × Option ℝ)) (hw : wrapperSeries c (a :: b :: rest) = .ok ser)
    (t : Int) (h : ℝ) (hm : (t, some h) ∈ ser) :
    h = (∫ x in ((t : Int) : ℝ)..((t + c.P : Int) : ℝ), interp (a :: b :: rest) x) / (c.P : ℝ) := by
  obtain ⟨_, res, hres, hall⟩ := series_labels_are_period_starts c hc hgap a b rest hs hn ser hw
  obtain ⟨i, hi⟩ := List.mem_iff_getElem?.mp hm
  obtain ⟨ht, hri⟩ := hall i t (some h) hi
  have := (wrapper_value_is_average_of_interpolant c hc hr hgap a b rest hs hn _ res hres i h hri).2
  rw [ht]
  exact this

end field

section anyarith
set_option linter.unusedSectionVars false
variable {α : Type} [Add α] [Sub α] [Mul α] [Div α] [Neg α] [LT α] [DecidableLT α]
  [OfNat α 0] [OfNat α 2] [IntCast α]

/-! No law of the arithmetic is used for the kernel on the caller's buffer, the Cython entry point and call
histories: these hold for every instance of the model, `Float` included. -/

/-- **The kernel writes `hvalues[0 .. nvalh-2]` and nothing else**: after a successful call the buffer holds the
kernel's values followed by whatever it held before — so the answer does not depend on what an earlier call
left in the buffer, and `hvalues[nvalh-1]` (the final period) is not written. -/
theorem kernel_writes_prefix_only (c : Cfg α) (hstart nvalh : Int) (obs : List (Obs α)) (buf out : List (Option α))
    (hk : kernel c hstart nvalh obs = .ok out) (hlen : (nvalh - 1).toNat ≤ buf.length) :
    kernelInto c hstart nvalh obs buf = (out ++ buf.drop out.length, none) :=
  Prod.ext ((kernelInto_of_ok hk buf).2.2 hlen) (kernelInto_of_ok hk buf).2.1

/-- the final period keeps the value the caller put there (`dutils.var2h`: NaN) -/
theorem kernel_final_period_untouched (c : Cfg α) (hstart nvalh : Int) (obs : List (Obs α))
    (buf out : List (Option α)) (hk : kernel c hstart nvalh obs = .ok out) (hlen : (nvalh - 1).toNat < buf.length) :
    (kernelInto c hstart nvalh obs buf).1[(nvalh - 1).toNat]? = buf[(nvalh - 1).toNat]? := by
  obtain ⟨hol, _, h⟩ := kernelInto_of_ok hk buf
  rw [h (Nat.le_of_lt hlen), ← hol]
  rw [List.getElem?_append_right (le_refl _), List.getElem?_drop]
  simp

/-- two calls with the same arguments on buffers holding different stale values return the same values -/
theorem kernel_stale_buffer_irrelevant (c : Cfg α) (hstart nvalh : Int) (obs : List (Obs α))
    (buf1 buf2 out : List (Option α)) (hk : kernel c hstart nvalh obs = .ok out)
    (h1 : (nvalh - 1).toNat ≤ buf1.length) (h2 : (nvalh - 1).toNat ≤ buf2.length) :
    (kernelInto c hstart nvalh obs buf1).1.take out.length = out ∧
    (kernelInto c hstart nvalh obs buf2).1.take out.length = out := by
  rw [(kernelInto_of_ok hk buf1).2.2 h1, (kernelInto_of_ok hk buf2).2.2 h2]
  simp

/-- the return code is non-zero exactly when the kernel (as a function) fails, with the same guard -/
theorem kernel_return_code (c : Cfg α) (hstart nvalh : Int) (obs : List (Obs α)) (buf : List (Option α)) :
    (kernelInto c hstart nvalh obs buf).2 =
      (match kernel c hstart nvalh obs with | .ok _ => none | .error x => some x) := by
  have h := (kernelInto_eq c hstart nvalh obs buf).2
  cases hk : kernel c hstart nvalh obs with
  | error e => rw [hk] at h; exact h
  | ok out => rw [hk] at h; exact h.2.1

/-- **A call rejected by a guard before the loop leaves the buffer as it was** (bad rainfall flag, bad
period, origin before the first stamp / fewer than two observations). -/
theorem kernel_guard_error_leaves_buffer (c : Cfg α) (hstart nvalh : Int) (obs : List (Obs α))
    (buf : List (Option α))
    (h : (c.rain < 0 ∨ 1 < c.rain) ∨ (c.P ≠ 1800 ∧ c.P ≠ 3600) ∨ startScan hstart obs = none) :
    (kernelInto c hstart nvalh obs buf).1 = buf ∧ (kernelInto c hstart nvalh obs buf).2 ≠ none := by
  unfold kernelInto
  split_ifs with h1 h2
  · exact ⟨rfl, nofun⟩
  · exact ⟨rfl, nofun⟩
  · rw [(h.resolve_left h1).resolve_left h2]; exact ⟨rfl, nofun⟩

/-- whatever happens, the buffer keeps its length (nothing is written past `hvalues`) -/
theorem kernel_buffer_length (c : Cfg α) (hstart nvalh : Int) (obs : List (Obs α)) (buf : List (Option α)) :
    (kernelInto c hstart nvalh obs buf).1.length = buf.length :=
  (kernelInto_eq c hstart nvalh obs buf).1

/-- the Cython entry point rejects value and stamp arrays of different lengths and touches nothing -/
theorem pyx_rejects_length_mismatch (c : Cfg α) (hstart : Int) (varsec : List Int) (varvalues hv : List (Option α))
    (h : varsec.length ≠ varvalues.length) :
    pyxVar2h c hstart varsec varvalues hv = (hv, some .lengthMismatch) := by
  simp [pyxVar2h, h]

/-- the Cython entry point: `nvalh` is the length of `hvalues`; on success the buffer holds the kernel's
`nvalh - 1` values followed by its old last cell -/
theorem pyx_is_kernel (c : Cfg α) (hstart : Int) (varsec : List Int) (varvalues hv out : List (Option α))
    (h : varsec.length = varvalues.length)
    (hk : kernel c hstart (hv.length : Int) (varsec.zip varvalues) = .ok out) :
    pyxVar2h c hstart varsec varvalues hv = (out ++ hv.drop out.length, none) := by
  simp only [pyxVar2h, h, ne_eq, not_true_eq_false, if_false]
  exact kernel_writes_prefix_only c hstart _ _ hv out hk (by omega)

theorem call_keeps_inputs (s : Bufs α) (c : Cfg α) (hstart : Int) :
    (step s (.call c hstart)).1.varsec = s.varsec ∧ (step s (.call c hstart)).1.varvalues = s.varvalues ∧
      (step s (.call c hstart)).1.hvalues.length = s.hvalues.length := by
  refine ⟨rfl, rfl, ?_⟩
  simp only [step, pyxVar2h]
  split
  · rfl
  · exact (kernelInto_eq _ _ _ _ _).1

/-- **Histories.** After ANY history `ops` on one set of buffers (edits of stamps and values, scribbling over the
output, earlier calls with other arguments, rejected calls), one more call answers with the kernel's values for
the arrays as they are now: `hvalues` = those values followed by the old last cell, return code 0. -/
theorem history_answer (s : Bufs α) (ops : List (Op α)) (c : Cfg α) (hstart : Int) (out : List (Option α))
    (hlen : (run s ops).1.varsec.length = (run s ops).1.varvalues.length)
    (hk : kernel c hstart ((run s ops).1.hvalues.length : Int)
      ((run s ops).1.varsec.zip (run s ops).1.varvalues) = .ok out) :
    (run s (ops ++ [.call c hstart])).1.hvalues = out ++ (run s ops).1.hvalues.drop out.length ∧
    (run s (ops ++ [.call c hstart])).1.varsec = (run s ops).1.varsec ∧
    (run s (ops ++ [.call c hstart])).1.varvalues = (run s ops).1.varvalues ∧
    (run s (ops ++ [.call c hstart])).2.getLast? = some none := by
  rw [run_append]
  simp only [run, step]
  rw [pyx_is_kernel c hstart _ _ _ out hlen hk]
  simp

/-! `α` is ANY number system (no field law, no law relating `*` and `/` to anything): the only assumption is `ExactInt α R`
— whole seconds in the range `R` are cast, compared, added and subtracted exactly — and that the stamps, the period
boundaries, the interval lengths and `maxgapsec` lie in `R` (`InRange`).  True of IEEE doubles with
`R x := |x| ≤ 2^53`. -/

/-- **The missing pattern is decided in whole-second arithmetic.** In any such arithmetic the kernel fails with the
same guard as, or marks as missing exactly the periods marked by, the control skeleton `kernelMiss` run on the
`marks` (stamp, "the interval ending here fails the kernel's validity test") of the observations. -/
theorem missing_pattern_is_skeleton {R : Int → Prop} (hx : ExactInt α R) (c : Cfg α) (hstart nvalh : Int)
    (obs : List (Obs α)) (hr : InRange R c hstart nvalh obs) :
    Except.map (List.map Option.isNone) (kernel c hstart nvalh obs) =
      kernelMiss c.P c.rain hstart nvalh (marks c obs) :=
  kernel_marks hx c hstart nvalh obs hr.stamps hr.period hr.per

/-- **Same missing pattern as exact arithmetic.** The kernel run in `α` and the kernel run on exact rationals (on
stand-in values of the same validity class) return the same error or the same missing pattern: rounding of
`+ − × ÷` cannot move a period between "missing" and "returned". -/
theorem missing_pattern_same_as_exact {R : Int → Prop} (hx : ExactInt α R) (c : Cfg α) (hstart nvalh : Int)
    (obs : List (Obs α)) (hr : InRange R c hstart nvalh obs) :
    Except.map (List.map Option.isNone) (kernel c hstart nvalh obs) =
      Except.map (List.map Option.isNone) (kernel (cfgQ c) hstart nvalh (obs.map (toQ c))) :=
  kernel_pattern_toQ hx hr

/-- `kernel_total` without a field. -/
theorem kernel_total_any_arith {R : Int → Prop} (hx : ExactInt α R) (c : Cfg α) (hP : c.P = 1800 ∨ c.P = 3600)
    (hrain : c.rain = 0 ∨ c.rain = 1) (hstart nvalh : Int) (a b : Obs α) (rest : List (Obs α))
    (hs : Sorted (a :: b :: rest)) (ha : a.1 ≤ hstart) (hr : InRange R c hstart nvalh (a :: b :: rest)) :
    ∃ out, kernel c hstart nvalh (a :: b :: rest) = .ok out ∧ out.length = (nvalh - 1).toNat := by
  obtain ⟨outQ, hkQ, _⟩ := kernel_total (cfgQ c) (cfgQ_ok c hP hrain) hstart nvalh (toQ c a) (toQ c b) (rest.map (toQ c))
    (hs.map (toQ_fst c)) ha
  have hpat := kernel_pattern_toQ hx hr
  rw [List.map_cons, List.map_cons, hkQ] at hpat
  cases hk : kernel c hstart nvalh (a :: b :: rest) with
  | error x => rw [hk] at hpat; cases hpat
  | ok out => exact ⟨out, rfl, kernel_length hk⟩

/-- `missing_has_cause` without a field; the validity test is evaluated in that arithmetic. -/
theorem missing_has_cause_any_arith {R : Int → Prop} (hx : ExactInt α R) (c : Cfg α) (hP : c.P = 1800 ∨ c.P = 3600)
    (hrain : c.rain = 0 ∨ c.rain = 1) (hstart nvalh : Int) (a b : Obs α) (rest : List (Obs α))
    (hs : Sorted (a :: b :: rest)) (ha : a.1 ≤ hstart) (hr : InRange R c hstart nvalh (a :: b :: rest))
    (out : List (Option α)) (hk : kernel c hstart nvalh (a :: b :: rest) = .ok out)
    (i : Nat) (hi : out[i]? = some none) :
    lastTime (a :: b :: rest) < perE c.P hstart i ∨
      ∃ p ∈ pairs (a :: b :: rest), p.1.1 < perE c.P hstart i ∧ perS c.P hstart i ≤ p.2.1 ∧
        invalid c p.1 p.2 = true :=
  (pattern_any_arith hx hP hrain hs ha hr hk hi).1 rfl

/-- `invalid_overlap_makes_missing` without a field. -/
theorem invalid_overlap_makes_missing_any_arith {R : Int → Prop} (hx : ExactInt α R) (c : Cfg α)
    (hP : c.P = 1800 ∨ c.P = 3600) (hrain : c.rain = 0 ∨ c.rain = 1) (hstart nvalh : Int) (a b : Obs α)
    (rest : List (Obs α)) (hs : Sorted (a :: b :: rest)) (ha : a.1 ≤ hstart)
    (hr : InRange R c hstart nvalh (a :: b :: rest))
    (out : List (Option α)) (hk : kernel c hstart nvalh (a :: b :: rest) = .ok out)
    (i : Nat) (o : Option α) (hi : out[i]? = some o)
    (p : Obs α × Obs α) (hp : p ∈ pairs (a :: b :: rest))
    (h1 : p.1.1 < perE c.P hstart i) (h2 : perS c.P hstart i < p.2.1) (hinv : invalid c p.1 p.2 = true) :
    o = none := by
  by_contra hne
  have := ((pattern_any_arith hx hP hrain hs ha hr hk hi).2 hne).2 p hp h1 h2
  rw [hinv] at this
  cases this

/-- `valid_data_gives_value` without a field; validity is the kernel's test itself, not bounds on the values. -/
theorem valid_data_gives_value_any_arith {R : Int → Prop} (hx : ExactInt α R) (c : Cfg α)
    (hP : c.P = 1800 ∨ c.P = 3600) (hrain : c.rain = 0 ∨ c.rain = 1) (hstart nvalh : Int) (a b : Obs α)
    (rest : List (Obs α)) (hs : Sorted (a :: b :: rest)) (ha : a.1 ≤ hstart)
    (hr : InRange R c hstart nvalh (a :: b :: rest))
    (out : List (Option α)) (hk : kernel c hstart nvalh (a :: b :: rest) = .ok out)
    (i : Nat) (o : Option α) (hi : out[i]? = some o)
    (hcov : perE c.P hstart i ≤ lastTime (a :: b :: rest))
    (hvalid : ∀ p ∈ pairs (a :: b :: rest), p.1.1 < perE c.P hstart i → perS c.P hstart i ≤ p.2.1 →
      invalid c p.1 p.2 = false) :
    ∃ h, o = some h := by
  cases o with
  | some h => exact ⟨h, rfl⟩
  | none =>
    exfalso
    rcases missing_has_cause_any_arith hx c hP hrain hstart nvalh a b rest hs ha hr out hk i hi with
      h | ⟨p, hp, h1, h2, h3⟩
    · omega
    · rw [hvalid p hp h1 h2] at h3; exact absurd h3 (by simp)

/-- the labelled series does not depend on the storage unit or the time zone of the index either -/
theorem series_index_independence (c : Cfg α) (u : TUnit) (l : List (Int × Int × Option α)) :
    seriesIdx c u (l.map fun x => ((x.1 - x.2.1) * u.perSec, x.2.1, x.2.2)) =
      wrapperSeries c (l.map fun x => (x.1, x.2.2)) :=
  congrArg (wrapperSeries c) (obsOfIndex_stored u l)

end anyarith

section field
set_option linter.unusedSectionVars false
variable {α : Type} [Field α] [LinearOrder α] [IsStrictOrderedRing α]

/-- **Histories, with the property.** After any history on one set of buffers, if the arrays now hold a
non-decreasing series of at least two observations starting at or before the origin, a call succeeds and every
value it writes is what the property requires of that period *for the arrays as they are now*. -/
theorem history_call_values_as_required (c : Cfg α) (hc : CfgOK c) (s : Bufs α) (ops : List (Op α)) (hstart : Int)
    (a b : Obs α) (rest : List (Obs α))
    (hlen : (run s ops).1.varsec.length = (run s ops).1.varvalues.length)
    (hcur : (run s ops).1.varsec.zip (run s ops).1.varvalues = a :: b :: rest)
    (hs : Sorted (a :: b :: rest)) (ha : a.1 ≤ hstart) :
    ∃ out, (run s (ops ++ [.call c hstart])).1.hvalues = out ++ (run s ops).1.hvalues.drop out.length ∧
      (run s (ops ++ [.call c hstart])).2.getLast? = some none ∧
      out.length = (run s ops).1.hvalues.length - 1 ∧
      ∀ i o, out[i]? = some o → PeriodOK c (a :: b :: rest) (perS c.P hstart i) (perE c.P hstart i) o := by
  obtain ⟨out, hk, hol, hall⟩ := kernel_spec hc ((run s ops).1.hvalues.length : Int) hs ha
  rw [← hcur] at hk
  obtain ⟨h1, _, _, h4⟩ := history_answer s ops c hstart out hlen hk
  exact ⟨out, h1, h4, by omega, hall⟩

end field

/-! The hypotheses are satisfiable: one worked series over ℚ,
hourly output from 01:00, `maxgapsec = 7200`: stamps on period boundaries, a duplicate stamp (jump 8 → 6 at
02:00), a 3-hour gap, a NaN, a negative value. -/

def exCfg : Cfg ℚ := ⟨3600, 0, 7200, 1 / 100000000⟩

def exObs : List (Obs ℚ) :=
  [(0, some 0), (1800, some 2), (3600, some 4), (7200, some 8), (7200, some 6), (10800, some 6),
   (21600, some 6), (25200, none), (28800, some 1), (32400, some (-1)), (36000, some 3), (39600, some 3),
   (43200, some 5)]

/-- `CfgOK` (all theorems): the kernel's own constants -/
example : CfgOK exCfg := ⟨Or.inr rfl, Or.inl rfl, by norm_num [exCfg], by norm_num [exCfg]⟩
example : CfgOK (⟨1800, 1, 3600, 1 / 100000000⟩ : Cfg ℚ) := ⟨Or.inl rfl, Or.inr rfl, by norm_num, by norm_num⟩
example : CfgOK (⟨3600, 0, 432000, 1 / 100000000⟩ : Cfg ℝ) := exCfgR_ok

/-- `Sorted`, at least two observations, first stamp not later than the origin -/
example : Sorted exObs := by unfold Sorted exObs; decide

/-- `kernel_total`, and the outputs the other examples refer to: periods 0, 1 and 10 are returned, 2-4
are hit by the gap, 5-6 by the NaN, 7-8 by the negative value, 9 only *touches* the invalid interval
32400 → 36000 (the case the property leaves open; the code makes it missing) -/
example : kernel exCfg 3600 12 exObs =
    .ok [some 6, some 6, none, none, none, none, none, none, none, none, some 4] := by decide +kernel

/-- `value_is_period_integral` (i = 0, h = 6): the right-hand side is `6 * 3600` -/
example : ((pairs exObs).map fun p => contrib exCfg (perS 3600 3600 0) (perE 3600 3600 0) p.1 p.2).sum
    = 6 * 3600 := by decide +kernel

/-- `nonmissing_covered_and_valid` / `valid_data_gives_value` (i = 0): the period ends before the last stamp and
all touching intervals have present, non-negative values and are at most `maxgapsec` long -/
example : perE exCfg.P 3600 0 ≤ lastTime exObs ∧
    ∀ p ∈ pairs exObs, p.1.1 < perE exCfg.P 3600 0 → perS exCfg.P 3600 0 ≤ p.2.1 →
      invalid exCfg p.1 p.2 = false ∧ p.2.1 - p.1.1 ≤ exCfg.maxgap := by decide +kernel

/-- `missing_iff_invalid_overlap` (i = 2): the period is inside the data, no invalid interval ends on its
start, and an invalid interval (the gap) overlaps it -/
example : perE exCfg.P 3600 2 ≤ lastTime exObs ∧
    (∀ p ∈ pairs exObs, invalid exCfg p.1 p.2 = true → p.2.1 ≠ perS exCfg.P 3600 2) ∧
    (∃ p ∈ pairs exObs, p.1.1 < perE exCfg.P 3600 2 ∧ perS exCfg.P 3600 2 < p.2.1 ∧ invalid exCfg p.1 p.2 = true) := by
  decide +kernel

/-- the touching case (i = 9): no invalid interval overlaps the period, one ends exactly on its start
(`htouch` fails), and the code returns missing — `missing_has_cause` applies, `missing_iff_invalid_overlap` does not -/
example : (¬ ∃ p ∈ pairs exObs, p.1.1 < perE exCfg.P 3600 9 ∧ perS exCfg.P 3600 9 < p.2.1 ∧ invalid exCfg p.1 p.2 = true) ∧
    (∃ p ∈ pairs exObs, invalid exCfg p.1 p.2 = true ∧ p.2.1 = perS exCfg.P 3600 9) := by decide +kernel

/-- `gap_makes_missing` (i = 2): the interval 10800 → 21600 is longer than `maxgapsec` and overlaps the period -/
example : ((10800, some 6), (21600, some 6)) ∈ pairs exObs ∧ (10800 : Int) < perE exCfg.P 3600 2 ∧
    perS exCfg.P 3600 2 < (21600 : Int) ∧ exCfg.maxgap < 21600 - 10800 := by decide +kernel

/-- `conservation` (i = 0, m = 2): `(6 + 6) * 3600` is the integral over 3600 .. 10800 -/
example : ((List.range 2).map fun _ => (6 : ℚ)).sum * (exCfg.P : ℚ) =
    ((pairs exObs).map fun p => contrib exCfg (perS exCfg.P 3600 0) (perS exCfg.P 3600 (0 + 2)) p.1 p.2).sum := by
  decide +kernel

/-- `rainfall_value_is_prorated_total`: with the flag, period 0 gets the whole increment 8, period 1 the 6 -/
example : kernel { exCfg with rain := 1 } 3600 3 exObs = .ok [some 8, some 6] := by decide +kernel

example : ((pairs exObs).map fun p => max 0 (ovHi 7200 p.2 - ovLo 3600 p.1)).sum = 7200 - 3600 := by decide +kernel

example : kernel exCfg (-1) 3 exObs = .error .startBeforeData := by decide +kernel

/-- `wrapper_spec`, `wrapper_is_kernel_plus_final`, `wrapper_final_missing`, `hourly_periods_within_data`:
`nvalh = 12`, origin 3600, the kernel's 11 values and the final missing one -/
example : nvalhOf 0 (lastTime exObs) exCfg.P = 12 ∧ origin 0 = 3600 := by decide +kernel
example : wrapper exCfg exObs =
    .ok (3600, [some 6, some 6, none, none, none, none, none, none, none, none, some 4, none]) := by decide +kernel

/-- `halfhourly_periods_overhang`: the defect input of the property — constant 10 every 10 minutes from
00:00:01 to 02:00:01, half-hourly: `nvalh = 4`, period 2 = 02:00–02:30 extends past the last stamp and is missing
(before the fix: `10 * 1 s / 1800 s`) -/
example : wrapper (⟨1800, 0, 432000, 1 / 100000000⟩ : Cfg ℚ)
    [(1, some 10), (601, some 10), (1201, some 10), (1801, some 10), (2401, some 10), (3001, some 10),
     (3601, some 10), (4201, some 10), (4801, some 10), (5401, some 10), (6001, some 10), (6601, some 10),
     (7201, some 10)] = .ok (3600, [some 10, some 10, none, none]) := by decide +kernel

example : wrapper exCfg [(10, some 1), (700, some 2)] = .ok (3600, []) := by decide +kernel
example : wrapper { exCfg with P := 900 } exObs = .error .badPeriod := by decide +kernel
example : wrapper { exCfg with maxgap := 3599 } exObs = .error .badMaxgap := by decide +kernel

/-- `index_independence`: the wall-clock stamps 00:00, 01:00, 02:00, 03:00 stored in milliseconds in a zone
9 h 30 min ahead of UTC (raw counts are the UTC instants) give the result of the naive seconds -/
example : wrapperIdx exCfg .ms [(0 - 34200000, 34200, some 0), (3600000 - 34200000, 34200, some 4),
      (7200000 - 34200000, 34200, some 8), (10800000 - 34200000, 34200, some 8)] =
    wrapper exCfg [(0, some 0), (3600, some 4), (7200, some 8), (10800, some 8)] := by decide +kernel

/-- the theorems over ℝ (`trapArea_eq_integral`, `value_is_integral_of_interpolant`,
`value_is_average_of_interpolant`, `wrapper_value_is_average_of_interpolant`): on real-valued data 0, 4, 8 at
00:00, 01:00, 02:00 the kernel returns 6 for 01:00–02:00 … -/
example : kernel (⟨3600, 0, 432000, 1 / 100000000⟩ : Cfg ℝ) 3600 2
    [(0, some 0), (3600, some 4), (7200, some 8)] = .ok [some 6] :=
  kernel_three_hourly

/-- … and the theorem says that this 6 is the integral of the interpolant over the period, divided by 3600 -/
example : (6 : ℝ) =
    (∫ x in ((perS 3600 3600 0 : Int) : ℝ)..((perE 3600 3600 0 : Int) : ℝ),
        interp [(0, some 0), (3600, some 4), (7200, some 8)] x) / ((3600 : Int) : ℝ) :=
  value_is_average_of_interpolant _ exCfgR_ok rfl 3600 2 _ _ _ exObsR_sorted (by decide)
    [some 6] kernel_three_hourly 0 6 rfl

/-- `series_labels_are_period_starts`, `series_missing_has_cause`: hourly labels 01:00, 02:00, … each with its value -/
example : wrapperSeries exCfg exObs =
    .ok [(3600, some 6), (7200, some 6), (10800, none), (14400, none), (18000, none), (21600, none), (25200, none),
      (28800, none), (32400, none), (36000, none), (39600, some 4), (43200, none)] := by decide +kernel

/-- half-hourly, on a four-point series: the labels are 1800 s apart (`freqSec`) -/
example : wrapperSeries { exCfg with P := 1800 } [(0, some 0), (3600, some 4), (7200, some 8), (9000, some 8)] =
    .ok [(3600, some 5), (5400, some 7), (7200, some 8), (9000, none), (10800, none)] := by decide +kernel

/-- `series_index_independence`: stored in milliseconds, 9 h 30 min ahead of UTC -/
example : seriesIdx exCfg .ms [(0 - 34200000, 34200, some 0), (3600000 - 34200000, 34200, some 4),
      (7200000 - 34200000, 34200, some 8), (10800000 - 34200000, 34200, some 8)] =
    .ok [(3600, some 6), (7200, some 8), (10800, none)] := by decide +kernel

/-- `series_value_is_average_over_its_period` on real data: the pair `(3600, 6)` -/
example : wrapperSeries (⟨3600, 0, 432000, 1 / 100000000⟩ : Cfg ℝ) [(0, some 0), (3600, some 4), (7200, some 8)] =
    .ok [(3600, some 6), (7200, none)] := by
  rw [wrapperSeries, wrapper_of_kernel exCfgR_ok (by decide) exObsR_sorted kernel_three_hourly]
  rfl

/-- `kernel_writes_prefix_only`, `kernel_final_period_untouched`, `kernel_stale_buffer_irrelevant`: `nvalh = 3`
on a buffer of stale 99s — two values written, the third cell (the final period) and the fourth keep their 99 -/
example : kernelInto exCfg 3600 3 exObs [some 99, some 99, some 99, some 99] =
    ([some 6, some 6, some 99, some 99], none) := by decide +kernel

/-- `kernel_guard_error_leaves_buffer`: origin before the first stamp -/
example : kernelInto exCfg (-1) 3 exObs [some 99, none, some 7] = ([some 99, none, some 7], some .startBeforeData) := by
  decide +kernel

/-- `kernel_return_code` on the `decreasing` return in the middle of the loop: period 0 written, period 1 set to NaN -/
example : kernelInto exCfg 3600 4 [(0, some 0), (3600, some 4), (7200, some 8), (7100, some 8), (20000, some 1)]
    [some 99, some 99, some 99, some 99] = ([some 6, none, some 99, some 99], some .decreasing) := by decide +kernel

example : pyxVar2h exCfg 3600 [0, 3600, 7200] [some 0, some 4] [some 99, some 99] =
    ([some 99, some 99], some .lengthMismatch) := by decide +kernel
example : pyxVar2h exCfg 3600 [0, 3600, 7200, 10800] [some 0, some 4, some 8, some 8] [some 99, some 99, some 99] =
    ([some 6, some 8, some 99], none) := by decide +kernel

/-- `history_answer`, `history_call_values_as_required`, `call_keeps_inputs`: call, edit a value, scribble over the
output, a rejected call (origin before the data), another call — the last answer is the kernel's for the edited
arrays, whatever happened before -/
example : run (⟨[0, 3600, 7200, 10800], [some 0, some 4, some 8, some 8], [some 99, some 99, some 99]⟩ : Bufs ℚ)
      [.call exCfg 3600, .setVal 1 (some 6), .scribble (some 1), .call exCfg (-5), .call exCfg 3600] =
    (⟨[0, 3600, 7200, 10800], [some 0, some 6, some 8, some 8], [some 7, some 8, some 1]⟩,
      [none, none, none, some .startBeforeData, none]) := by decide +kernel

/-- `kernel_rejects_decreasing_pair`; and a decreasing pair that the walk never meets is NOT rejected (which is why
`Sorted` is a hypothesis of the theorems and not a consequence of the kernel's guard) -/
example : kernel exCfg 3600 2 [(100, some 1), (50, some 1)] = .error .decreasing := by decide +kernel
example : kernel exCfg 3600 2 [(0, some 1), (100, some 1), (50, some 1), (3000, some 1), (9000, some 1)] =
    .ok [some 1] := by decide +kernel

/-- `ExactInt`: exact rationals, and an arithmetic that rounds every operation to multiples of 1/8 -/
example : ExactInt ℚ (fun _ => True) := exactInt_rat
example : ExactInt Rnd8 (fun _ => True) := Rnd8.exactInt

/-- `InRange` with the range of IEEE doubles, `|x| ≤ 2^53` -/
example : InRange (fun x => -9007199254740992 ≤ x ∧ x ≤ 9007199254740992) exCfg8 3600 13 exObs8 where
  stamps := by decide +kernel
  diff := by decide +kernel
  period := by decide +kernel
  gap := by decide +kernel
  per := by
    intro k hk
    have : (exCfg8.P : Int) = 3600 := rfl
    rw [this]
    constructor <;> constructor <;> omega

/-- rounding changes the VALUES: `Rnd8` returns 4, 6, …, 3, −201/4 where exact arithmetic returns 6, 6, …, 4, 23/4 … -/
example : (kernel exCfg8 3600 13 exObs8).toOption.map (List.map (Option.map Rnd8.val)) =
    some [some 4, some 6, none, none, none, none, none, none, none, none, some 3, some (-201 / 4)] := by
  rw [kernel_exObs8]; rfl
example : kernel (cfgQ exCfg8) 3600 13 (exObs8.map fun x => (x.1, x.2.map Rnd8.val)) =
    .ok [some 6, some 6, none, none, none, none, none, none, none, none, some 4, some (23 / 4)] := by decide +kernel

/-- … but not the missing pattern (`missing_pattern_is_skeleton`, `missing_pattern_same_as_exact`,
`missing_has_cause_any_arith`, `invalid_overlap_makes_missing_any_arith`, `kernel_total_any_arith`): the kernel in
`Rnd8`, the control skeleton on the marks, and the exact kernel on the stand-in series agree -/
example : Except.map (List.map Option.isNone) (kernel exCfg8 3600 13 exObs8) =
    .ok [false, false, true, true, true, true, true, true, true, true, false, false] := by
  rw [kernel_exObs8]; rfl
example : kernelMiss exCfg8.P exCfg8.rain 3600 13 (marks exCfg8 exObs8) =
    .ok [false, false, true, true, true, true, true, true, true, true, false, false] := by decide +kernel
example : Except.map (List.map Option.isNone) (kernel (cfgQ exCfg8) 3600 13 (exObs8.map (toQ exCfg8))) =
    .ok [false, false, true, true, true, true, true, true, true, true, false, false] := by decide +kernel

/-- `maxgap_truncation_harmless`, `gap_test_with_float_maxgap`: `maxgapsec = 5400.9` acts as 5400, 36000.5 as 36000 -/
example : maxgapOfArg (54009 / 10) = 5400 := by decide +kernel
example : wrapperArg 3600 0 (72001 / 2) (1 / 100000000 : ℚ) exObs = wrapper { exCfg with maxgap := 36000 } exObs :=
  congrArg (fun g => wrapper (⟨3600, 0, g, 1 / 100000000⟩ : Cfg ℚ) exObs)
    (by decide +kernel : maxgapOfArg (72001 / 2) = 36000)

end HydroVerif.C14
