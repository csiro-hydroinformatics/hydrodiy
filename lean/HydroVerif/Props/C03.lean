/-
C03 — property theorems, and two helpers about `EntryShape` for the entry-level invariances (`entryShape_of_forall₂_perm`,
`entryShape_map`). Model: `HydroVerif/Model/C03.lean`; lemmas: `HydroVerif/Lemmas/C03*.lean`.
Unless marked "any carrier", theorems are over an arbitrary linearly ordered field `α`, every number of
forecasts `n ≥ 1`, ensemble size `m ≥ 1`, all observation and member values (ties included); `sort` is any
function returning a sorted permutation (`SortOK`), which is all the kernel needs of `qsort`.
`kernel` = `c_crps` (use_weights = 0, is_sorted = 0); `wrapper` = `metrics.crps` on `[n]` / `[n,m]` data with NaN
as `none`; `wrapperNd` = the same with the shape handling of `__check_ensemble_data`; `kernelGen` / `stepOp` /
`runOps` = the extension-level entry point `c_hydrodiy_stat.crps` with both flags, the caller's weights and the
caller's output arrays (which `c_crps` adds to), as histories of operations on one pair of arrays;
`definitionCrps` = the definition itself, executable. All of them run in the driver and are compared with the
real code (`definitionCrps`: with the oracle's exact definition) on every case.

Clause → theorems → what stays outside
 1  CRPS = mean over forecasts of E|X-y| - ½E|X-X'| (all n, m; ties, outliers, constant ensembles)
      crps_eq_definition (kernel), entry_point_spec (entry point, NaN observations anywhere), wrapper_finite
      outside: IEEE rounding (Float instance executed: ≤ 4 ulp to the code; exact-rational oracle on the code)
 1b one member: mean absolute error                      crps_single_member
 2  crps = reliability + potential                       crps_decomposition, entry_point_spec        (rounding: as 1)
 3  resolution = uncertainty - potential                 crps_decomposition, entry_point_spec,
      resolution_eq_uncertainty_minus_potential_any_carrier (literal, so also in IEEE doubles)
 4  reliability, potential, uncertainty ≥ 0 (not NaN)    crps_decomposition, entry_point_spec,
      signs_under_any_monotone_rounding, entry_signs_under_any_monotone_rounding (any arithmetic that rounds every
      operation monotonically, so also IEEE doubles short of overflow; no hypothesis on qsort or shapes: uses the
      kernel's EDOM guard and the cut of o[0], o[ncol] at 1, `clampFreq` = c_crps.c:170-171)
      outside: overflow to inf (oracle on data up to the bound where even the un-normalised sums are finite; data up
      to 2^1021 generated for the model/code correspondence)
 5  uncertainty = CRPS of the observed climatology       uncertainty_eq_climatology_crps, entry_point_spec
 6  order of members                                     member_permutation_invariant, entry_member_permutation_invariant,
      member_order_irrelevant_any_carrier (bit-for-bit in IEEE doubles given qsort's output is the same)
      (the first is a case of the third: the members enter through the sorted rows only)
 7  order of forecasts                                   forecast_permutation_invariant, entry_forecast_permutation_invariant
      outside: float summation order (oracle with rounding budget)
 8  common shift                                         shift_invariant, entry_shift_invariant      (rounding of x+c: oracle)
 9  positive scale                                       scale_equivariant, entry_scale_equivariant  (rounding of c·x: oracle)
      (8 and 9 are the cases c = 1 and d = 0 of finalAcc_affine: change of units x ↦ c·x + d, c > 0)
10  forecasts with missing observation ignored           missing_observation_ignored (any carrier), entry_point_spec
      (through wrapper_eq_kernel_kept: the entry point IS the kernel on the kept forecasts)
 glue  [n] and [n,1] observation layouts agree (all n): obs_column_layout_same; [n]/[n',m] arrays:
      wrapperNd_vector_matrix; rejected input: wrapper_rejects_length_mismatch, wrapper_rejects_no_valid_forecast,
      obs_two_dimensional_rejected (all any carrier)
      outside: dtype conversion (`astype(float64)`), kept forecasts with some-but-not-all NaN members (model
      declines: nanMember; never generated); ensembles with more than two dimensions are never answered by the
      code (ValueError / IndexError): model ensNot2D, compared as "rejected" only
 n = 0  kernel_zero_forecasts: what the kernel returns at the point `Shape.n_pos` excludes (all parts 0); the entry
      point rejects it before (wrapper_rejects_no_valid_forecast), the extension-level stream calls it
 arrays  entry_point_spec_arrays: clauses 1-4 on `[n]` observations / a C-ordered `[n,m]` array, with `m` members per
      forecast derived from the array shape instead of assumed; CRPS stated with the executable `definitionCrps`
 extension level (the other public route to the same kernel; `metrics.crps` = both flags 0 on zeroed arrays)
      extension_call_zeroed_is_kernel, zeroed_call_forgets_history (any earlier history on the same output arrays
      is irrelevant once they are zeroed), unzeroed_outputs_offset (the zeroing is needed: d0 + CRPS, d1 + reliability),
      call_reads_two_cells, failing_op_leaves_outputs (List Op; AssertionError / EDOM leave both arrays untouched),
      explicit_uniform_weights_same, sorted_flag_same, sorted_flag_rejects_unsorted (all any carrier except the offset)
      outside: use_weights = 1 with fewer weights than forecasts and ncol = 0 read outside the C arrays (model
      declines: weightsLen / shape; never generated); general weights are compared (Float), not given a theorem
 the assumption on qsort is satisfiable  mergeSort_sortOK: the driver's sort satisfies SortOK
-/
import HydroVerif.Model.C03
import HydroVerif.Lemmas.C03
import HydroVerif.Lemmas.C03Entry
import HydroVerif.Lemmas.C03Pyx
import HydroVerif.Lemmas.C03Round
import Mathlib.Algebra.Order.Field.Rat

set_option linter.unusedSectionVars false
namespace HydroVerif.C03
variable {α : Type} [Field α] [LinearOrder α] [IsStrictOrderedRing α]

/-- the driver's sort (stable merge sort) meets the hypothesis made on `qsort` -/
theorem mergeSort_sortOK : SortOK (fun l : List α => l.mergeSort fun a b => decide (a ≤ b)) :=
  fun l => ⟨List.pairwise_mergeSort' (· ≤ ·) l, List.mergeSort_perm l _⟩

/-! ### the kernel in exact arithmetic: clauses 1, 1b, 2-5, 7, 8, 9 -/

/-- **CRPS equals its definition**: the kernel never fails on well-shaped finite input and the returned CRPS
(the Hersbach α/β sum, outlier bins included) is the mean over forecasts of `E|X-y| - ½E|X-X'|` taken over the
empirical distribution of the *unsorted* members -/
theorem crps_eq_definition {sort : List α → List α} (hsort : SortOK sort) {m : ℕ} {obs : List α}
    {ens : List (List α)} (h : Shape m obs ens) :
    ∃ res, kernel sort m obs ens = .ok res ∧
      res.crps = ((obs.zip ens).map fun p => energy p.1 p.2).sum / (obs.length : α) := by
  refine ⟨_, kernel_eq hsort h, ?_⟩
  rw [finish_crps m h.m_pos, (finalAcc_inv hsort h).crps]
  ring

/-- one member: the CRPS is the mean absolute error -/
theorem crps_single_member {sort : List α → List α} (hsort : SortOK sort) {obs xs : List α}
    (hlen : xs.length = obs.length) (hn : 1 ≤ obs.length) :
    ∃ res, kernel sort 1 obs (xs.map fun x => [x]) = .ok res ∧
      res.crps = ((obs.zip xs).map fun p => |p.2 - p.1|).sum / (obs.length : α) := by
  have hsh : Shape 1 obs (xs.map fun x => [x]) :=
    ⟨by simpa using hlen, le_refl _, hn, by intro r hr; simp at hr; obtain ⟨x, _, rfl⟩ := hr; rfl⟩
  obtain ⟨res, h1, h2⟩ := crps_eq_definition hsort hsh
  refine ⟨res, h1, ?_⟩
  rw [h2, List.zip_map_right, List.map_map]
  congr 2
  apply List.map_congr_left
  intro p _
  simp [energy_single]

/-- **the decomposition is exact**: `crps = reliability + potential`, `resolution = uncertainty - potential`,
with reliability, potential and uncertainty non-negative (none of them NaN), for every input — both outlier
bins and empty inner bins (`g = 0`, whose table entries are NaN) included -/
theorem crps_decomposition {sort : List α → List α} (hsort : SortOK sort) {m : ℕ} {obs : List α}
    {ens : List (List α)} (h : Shape m obs ens) :
    ∃ res reli pot, kernel sort m obs ens = .ok res ∧ res.reli = some reli ∧ res.pot = some pot ∧
      res.resol = some (res.unc - pot) ∧ res.crps = reli + pot ∧ 0 ≤ reli ∧ 0 ≤ pot ∧ 0 ≤ res.unc := by
  have hinv := finalAcc_inv hsort h
  have hn : (((obs.zip ens).length : ℕ) : α) * (1 / (obs.length : α)) = 1 := by
    rw [List.length_zip, h.len, Nat.min_self]
    exact mul_one_div_cancel (Nat.cast_ne_zero.mpr (Nat.ne_of_gt h.n_pos))
  obtain ⟨reli, pot, h1, h2, hc, h5, h6⟩ := (hinv.splits hn).decomposition m h.m_pos
  exact ⟨_, reli, pot, kernel_eq hsort h, h1, h2, by show Option.map _ (finish m _).pot = _; rw [h2]; rfl,
    hc, h5, h6, hinv.nn.unc⟩

/-- **uncertainty is the CRPS of the observed climatology**: the same kernel, run with the observation
vector as the ensemble of every forecast, returns as CRPS the uncertainty of the original call -/
theorem uncertainty_eq_climatology_crps {sort : List α → List α} (hsort : SortOK sort) {m : ℕ} {obs : List α}
    {ens : List (List α)} (h : Shape m obs ens) :
    ∃ res clim, kernel sort m obs ens = .ok res ∧
      kernel sort obs.length obs (List.replicate obs.length obs) = .ok clim ∧ res.unc = clim.crps := by
  have hc : Shape obs.length obs (List.replicate obs.length obs) :=
    ⟨by simp, h.n_pos, h.n_pos, by intro r hr; rw [(List.mem_replicate.mp hr).2]⟩
  obtain ⟨clim, hk, hcr⟩ := crps_eq_definition hsort hc
  refine ⟨_, clim, kernel_eq hsort h, hk, ?_⟩
  have hu := (finalAcc_inv hsort h).unc
  rw [List.map_fst_zip (by rw [h.len])] at hu
  show (finalAcc sort m obs ens).unc = clim.crps
  rw [hcr, zip_replicate_map, List.map_map]
  show _ = (obs.map fun y => energy y obs).sum / _
  rw [sum_energy_self]
  linear_combination (1 / 2 : α) * hu

/-- **order of forecasts**: permuting the (observation, ensemble) pairs changes nothing in the result -/
theorem forecast_permutation_invariant {sort : List α → List α} (hsort : SortOK sort) {m : ℕ}
    {obs obs' : List α} {ens ens' : List (List α)} (h : Shape m obs ens) (h' : Shape m obs' ens')
    (hp : (obs'.zip ens').Perm (obs.zip ens)) :
    kernel sort m obs' ens' = kernel sort m obs ens := by
  rw [kernel_eq hsort h, kernel_eq hsort h', finalAcc_forecast_perm hsort h h' hp]

/-- **common shift**: adding a constant to every observation and member changes nothing in the result -/
theorem shift_invariant {sort : List α → List α} (hsort : SortOK sort) {m : ℕ} {obs : List α}
    {ens : List (List α)} (h : Shape m obs ens) (c : α) :
    kernel sort m (obs.map (· + c)) (ens.map fun r => r.map (· + c)) = kernel sort m obs ens := by
  rw [kernel_eq hsort h, kernel_eq hsort (shape_map (· + c) h), finalAcc_shift hsort h c]

/-- **positive scale factor**: multiplying every observation and member by `c > 0` multiplies CRPS,
reliability, resolution, uncertainty, potential and the columns `a, b, g, reliability, potential` of the
table by `c` and leaves the frequencies unchanged -/
theorem scale_equivariant {sort : List α → List α} (hsort : SortOK sort) {m : ℕ} {obs : List α}
    {ens : List (List α)} (h : Shape m obs ens) (c : α) (hc : 0 < c) :
    ∃ res, kernel sort m obs ens = .ok res ∧
      kernel sort m (obs.map (c * ·)) (ens.map fun r => r.map (c * ·)) = .ok (scaleResult c res) := by
  refine ⟨_, kernel_eq hsort h, ?_⟩
  rw [kernel_eq hsort (shape_map (c * ·) h), finalAcc_scale hsort h c hc, finish_scale c hc]

/-! ### the same at the entry point `metrics.crps`: clauses 1-5 (`entry_point_spec`), 7, 8, 9 -/

theorem wrapper_finite (sort : List α → List α) {m : ℕ} {ys : List α} {rows : List (List α)}
    (h : Shape m ys rows) :
    wrapper sort m (ys.map some) (rows.map fun r => r.map some) = kernel sort m ys rows := by
  rw [wrapper_eq_kernel_kept sort (entryShape_of_shape h), keptPairs_map_some,
    List.map_fst_zip (by rw [h.len]), List.map_snd_zip (by rw [h.len])]


/-- **the whole property at the entry point**: for observations with NaN anywhere (at least one present) and
finite members, `metrics.crps` succeeds; its CRPS is the mean, over the forecasts whose observation is present,
of `E|X-y| - ½E|X-X'|`; the decomposition is exact with non-negative parts; the uncertainty is the CRPS the
kernel returns for the climatology of the present observations -/
theorem entry_point_spec {sort : List α → List α} (hsort : SortOK sort) {m : ℕ} {obs : List (Option α)}
    {rows : List (List α)} (h : EntryShape m obs rows) :
    ∃ res reli pot clim, wrapper sort m obs (rows.map fun r => r.map some) = .ok res ∧
      res.crps = ((keptPairs obs rows).map fun p => energy p.1 p.2).sum / ((keptPairs obs rows).length : α) ∧
      res.reli = some reli ∧ res.pot = some pot ∧ res.resol = some (res.unc - pot) ∧
      res.crps = reli + pot ∧ 0 ≤ reli ∧ 0 ≤ pot ∧ 0 ≤ res.unc ∧
      kernel sort (keptPairs obs rows).length ((keptPairs obs rows).map Prod.fst)
        (List.replicate (keptPairs obs rows).length ((keptPairs obs rows).map Prod.fst)) = .ok clim ∧
      res.unc = clim.crps := by
  have hs := shape_kept h
  obtain ⟨r1, hk1, hc⟩ := crps_eq_definition hsort hs
  obtain ⟨r2, reli, pot, hk2, h1, h2, h3, h4, h5, h6, h7⟩ := crps_decomposition hsort hs
  obtain ⟨r3, clim, hk3, hkc, hu⟩ := uncertainty_eq_climatology_crps hsort hs
  obtain rfl : r1 = r2 := Except.ok.inj (hk1.symm.trans hk2)
  obtain rfl : r1 = r3 := Except.ok.inj (hk1.symm.trans hk3)
  refine ⟨r1, reli, pot, clim, ?_, ?_, h1, h2, h3, h4, h5, h6, h7, ?_, hu⟩
  · rw [wrapper_eq_kernel_kept sort h]; exact hk1
  · rw [hc, zip_fst_snd, List.length_map]
  · simpa using hkc

theorem entryShape_of_forall₂_perm {m : ℕ} {obs : List (Option α)} {rows rows' : List (List α)}
    (h : EntryShape m obs rows) (hp : List.Forall₂ List.Perm rows' rows) : EntryShape m obs rows' := by
  refine ⟨by rw [hp.length_eq, h.len], h.m_pos, rows_of_forall₂_perm hp h.row_len, ?_⟩
  intro h0
  have := (keptPairs_forall₂_perm obs hp).1
  rw [h0] at this
  exact h.some_obs (List.map_eq_nil_iff.mp this.symm)

theorem entry_forecast_permutation_invariant {sort : List α → List α} (hsort : SortOK sort) {m : ℕ}
    {obs obs' : List (Option α)} {rows rows' : List (List α)} (h : EntryShape m obs rows)
    (h' : EntryShape m obs' rows') (hp : (obs'.zip rows').Perm (obs.zip rows)) :
    wrapper sort m obs' (rows'.map fun r => r.map some) = wrapper sort m obs (rows.map fun r => r.map some) := by
  rw [wrapper_eq_kernel_kept sort h, wrapper_eq_kernel_kept sort h']
  apply forecast_permutation_invariant hsort (shape_kept h) (shape_kept h')
  rw [zip_fst_snd, zip_fst_snd]
  exact hp.filterMap _

theorem entryShape_map (f : α → α) {m : ℕ} {obs : List (Option α)} {rows : List (List α)}
    (h : EntryShape m obs rows) : EntryShape m (obs.map (Option.map f)) (rows.map (List.map f)) := by
  refine ⟨by simp [h.len], h.m_pos, ?_, ?_⟩
  · intro r hr
    obtain ⟨r', hr', rfl⟩ := List.mem_map.mp hr
    simpa using h.row_len r' hr'
  · rw [keptPairs_map]
    intro h0
    exact h.some_obs (List.map_eq_nil_iff.mp h0)

theorem entry_shift_invariant {sort : List α → List α} (hsort : SortOK sort) {m : ℕ}
    {obs : List (Option α)} {rows : List (List α)} (h : EntryShape m obs rows) (c : α) :
    wrapper sort m (obs.map (Option.map (· + c))) ((rows.map (List.map (· + c))).map fun r => r.map some)
      = wrapper sort m obs (rows.map fun r => r.map some) := by
  rw [wrapper_eq_kernel_kept sort h, wrapper_eq_kernel_kept sort (entryShape_map (· + c) h), keptPairs_map]
  rw [map_fst_map_both (· + c), map_snd_map_both (· + c)]
  exact shift_invariant hsort (shape_kept h) c

theorem entry_scale_equivariant {sort : List α → List α} (hsort : SortOK sort) {m : ℕ}
    {obs : List (Option α)} {rows : List (List α)} (h : EntryShape m obs rows) (c : α) (hc : 0 < c) :
    ∃ res, wrapper sort m obs (rows.map fun r => r.map some) = .ok res ∧
      wrapper sort m (obs.map (Option.map (c * ·))) ((rows.map (List.map (c * ·))).map fun r => r.map some)
        = .ok (scaleResult c res) := by
  obtain ⟨res, h1, h2⟩ := scale_equivariant hsort (shape_kept h) c hc
  refine ⟨res, by rw [wrapper_eq_kernel_kept sort h]; exact h1, ?_⟩
  rw [wrapper_eq_kernel_kept sort (entryShape_map (c * ·) h), keptPairs_map]
  rw [map_fst_map_both (c * ·), map_snd_map_both (c * ·)]
  exact h2

/-! ### clauses 3, 6, 10, the glue and the extension level: facts that need no algebraic law, they hold over ANY carrier with the kernel's operations, so also for
the IEEE-double instance the driver executes -/
section AnyCarrier
variable {β : Type} [Add β] [Sub β] [Mul β] [Div β] [LT β] [DecidableLT β] [LE β] [DecidableLE β]
  [BEq β] [OfNat β 0] [OfNat β 1] [NatCast β]

/-- `resolution = uncertainty - potential` literally (one subtraction of the two returned numbers) -/
theorem resolution_eq_uncertainty_minus_potential_any_carrier (sort : List β → List β) (m : ℕ) (obs : List β)
    (ens : List (List β)) (res : Result β) (h : kernel sort m obs ens = .ok res) :
    res.resol = res.pot.map fun p => res.unc - p := by
  obtain ⟨s, _, rfl⟩ := kernel_ok h
  rfl

/-- the result depends on the members only through the sorted rows: whenever `qsort` returns the same array
for two orderings of the members (true of any sorted permutation in an order without NaN), every output is
bit-for-bit the same -/
theorem member_order_irrelevant_any_carrier (sort : List β → List β) (m : ℕ) (obs : List β)
    (ens ens' : List (List β)) (h1 : ens'.map sort = ens.map sort)
    (h2 : ens'.map List.length = ens.map List.length) :
    kernel sort m obs ens' = kernel sort m obs ens := by
  have hl : ens'.length = ens.length := by simpa using congrArg List.length h2
  have ha : (ens'.any fun r => r.length != m) = (ens.any fun r => r.length != m) := by
    have : ∀ e : List (List β), (e.any fun r => r.length != m) = ((e.map List.length).any fun k => k != m) := by
      intro e; rw [List.any_map]; rfl
    rw [this, this, h2]
  unfold kernel
  dsimp only
  rw [hl, ha, loop_congr sort _ (obs.zip ens') (obs.zip ens) [] (init m)
    (by rw [zip_map_sort, zip_map_sort, h1])]

/-- **forecasts whose observation is missing are ignored**: inserting, anywhere, a forecast with a NaN
observation (whatever its members) does not change the result -/
theorem missing_observation_ignored (sort : List β → List β) (m : ℕ) (o1 o2 : List (Option β))
    (e1 e2 : List (List (Option β))) (r : List (Option β)) (h1 : e1.length = o1.length) :
    wrapper sort m (o1 ++ none :: o2) (e1 ++ r :: e2) = wrapper sort m (o1 ++ o2) (e1 ++ e2) := by
  unfold wrapper
  have hlen : ((e1 ++ r :: e2).length ≠ (o1 ++ none :: o2).length) ↔ ((e1 ++ e2).length ≠ (o1 ++ o2).length) := by
    simp only [List.length_append, List.length_cons]; omega
  have hk : ((o1 ++ none :: o2).zip (e1 ++ r :: e2)).filter keep = ((o1 ++ o2).zip (e1 ++ e2)).filter keep := by
    rw [List.zip_append h1.symm, List.zip_append h1.symm, List.filter_append, List.filter_append,
      List.zip_cons_cons, List.filter_cons]
    simp [keep]
  simp only [hlen, hk]

theorem wrapper_rejects_length_mismatch (sort : List β → List β) (m : ℕ) (obs : List (Option β))
    (ens : List (List (Option β))) (h : ens.length ≠ obs.length) : wrapper sort m obs ens = .error .shape := by
  unfold wrapper; rw [if_pos h]

/-- rejected input: no forecast has both an observation and a member (all observations NaN, all rows NaN,
zero members, zero forecasts) -/
theorem wrapper_rejects_no_valid_forecast (sort : List β → List β) (m : ℕ) (obs : List (Option β))
    (ens : List (List (Option β))) (h : ens.length = obs.length) (hk : ∀ p ∈ obs.zip ens, keep p = false) :
    wrapper sort m obs ens = .error .noValidData := by
  unfold wrapper
  have : (obs.zip ens).filter keep = [] := List.filter_eq_nil_iff.mpr (fun p hp => by simp [hk p hp])
  simp [h, this]

/-- documented layouts: an `[n,1]` observation array is read as the `[n]` vector, for every `n` (also `n = 1`) -/
theorem obs_column_layout_same (sort : List β → List β) (n : ℕ) (obs : List (Option β)) (eshape : List ℕ)
    (ens : List (Option β)) : wrapperNd sort [n, 1] obs eshape ens = wrapperNd sort [n] obs eshape ens := by
  unfold wrapperNd obsForecasts
  by_cases h : n = 1
  · subst h; simp
  · have : (n != 1) = true := by simpa using h
    simp [this]

theorem wrapperNd_vector_matrix (sort : List β → List β) (n n' m : ℕ) (obs ens : List (Option β)) :
    wrapperNd sort [n] obs [n', m] ens = wrapper sort m obs (reshape m n' ens) := by
  simp [wrapperNd, obsForecasts, ensDims]

theorem obs_two_dimensional_rejected (sort : List β → List β) (a b : ℕ) (ha : a ≠ 1) (hb : b ≠ 1)
    (obs : List (Option β)) (eshape : List ℕ) (ens : List (Option β)) :
    wrapperNd sort [a, b] obs eshape ens = .error .obsNot1D := by
  have h1 : (a != 1) = true := by simpa using ha
  have h2 : (b != 1) = true := by simpa using hb
  simp [wrapperNd, obsForecasts, h1, h2]


/-- **`metrics.crps` is the extension-level call with both flags off on zeroed arrays**: whatever is passed as
weight vector (it is not read), with `crps_decompos[0] = crps_decompos[1] = 0` on entry, `c_crps` computes
exactly what `kernel` describes -/
theorem extension_call_zeroed_is_kernel (sort : List β → List β) (useW : Int) (hw : useW ≠ 1) (m : ℕ)
    (obs : List β) (ens : List (List β)) (weights : List β) (out : Result β) (h0 : out.crps = 0)
    (h1 : out.reli = some 0) :
    kernelGen sort useW 0 m obs ens weights out = kernel sort m obs ens := by
  rw [kernelGen_plain sort hw]
  unfold kernel
  split
  · rfl
  · dsimp only
    cases loop sort (1 / (obs.length : β)) [] (obs.zip ens) (init m) with
    | error e => rfl
    | ok s =>
      unfold finishInto finish finishCore
      rw [h0, h1]
      rfl

/-- **explicit uniform weights change nothing**: `use_weights = 1` with the vector `1/n, …, 1/n` (longer
vectors: only the first `n` entries are read) gives, bit for bit, the answer of `use_weights = 0` -/
theorem explicit_uniform_weights_same (sort : List β → List β) (isSorted : Int) (m : ℕ) (obs : List β)
    (ens : List (List β)) (extra ws' : List β) (out : Result β) :
    kernelGen sort 1 isSorted m obs ens (List.replicate obs.length (1 / (obs.length : β)) ++ extra) out
      = kernelGen sort 0 isSorted m obs ens ws' out := by
  have h1 : ¬ ((1 : Int) = 1 ∧
      (List.replicate obs.length (1 / (obs.length : β)) ++ extra).length < obs.length) := by
    rw [List.length_append, List.length_replicate]; omega
  have h2 : ¬ ((0 : Int) = 1 ∧ ws'.length < obs.length) := fun h => absurd h.1 (by decide)
  unfold kernelGen
  rw [if_neg h1, if_neg h2, if_pos rfl, if_neg (by decide : ¬ (0 : Int) = 1),
    List.take_left' List.length_replicate]

/-- **`is_sorted = 1` on members that are in order**: when `qsort` would return every row as it is, skipping
it gives the same answer (for a sorted permutation in a total order this is every row in non-decreasing order:
`sort_fixed_of_sorted`) -/
theorem sorted_flag_same (sort : List β → List β) (useW isSorted : Int) (m : ℕ) (obs : List β)
    (ens : List (List β)) (weights : List β) (out : Result β) (h : ∀ r ∈ ens, sort r = r) :
    kernelGen sort useW isSorted m obs ens weights out = kernelGen sort useW 0 m obs ens weights out := by
  unfold kernelGen
  dsimp only
  rw [if_pos rfl, loopW_congr_srt (if isSorted = 0 then sort else id) sort _ _ _ fun p hp => by
    split
    · rfl
    · exact (h p.2 (List.of_mem_zip hp).2).symm]

/-- **`is_sorted = 1` on members that are NOT in order is refused** (`EDOM`, c_crps.c:112-122): the guard
inside the bin loop means a wrong flag can never produce a number -/
theorem sorted_flag_rejects_unsorted (sort : List β → List β) (useW isSorted : Int) (hs : isSorted ≠ 0) (m : ℕ)
    (hm : 1 ≤ m) (obs : List β) (ens : List (List β)) (weights : List β) (out : Result β)
    (hlen : ens.length = obs.length) (hrows : ∀ r ∈ ens, r.length = m)
    (hw : useW = 1 → obs.length ≤ weights.length) (hu : ∃ r ∈ ens, unsortedAt r = true) :
    kernelGen sort useW isSorted m obs ens weights out = .error .edom := by
  unfold kernelGen
  have h2 : ¬ (useW = 1 ∧ weights.length < obs.length) := by
    intro hc; have := hw hc.1; omega
  rw [if_neg (shape_guard hlen hm hrows), if_neg h2]
  simp only [if_neg hs]
  have hwl : (if useW = 1 then weights.take obs.length
      else List.replicate obs.length (1 / (obs.length : β))).length = obs.length := by
    split
    · rename_i h; have := hw h; simp; omega
    · simp
  rw [loopW_id_unsorted] <;> rw [List.map_snd_zip (by rw [List.length_zip, hwl, Nat.min_self, hlen])]
  · exact fun r hr => List.ne_nil_of_length_pos (by rw [hrows r hr]; exact hm)
  · exact hu

/-- **a failing operation leaves the output arrays as they were**, after any history: wrong shapes
(`AssertionError`) are caught before `c_crps` runs, and `EDOM` is returned from inside the forecast loop,
before the first write to `reliability_table` / `crps_decompos` -/
theorem failing_op_leaves_outputs (sort : List β → List β) (m : ℕ) (out : Result β) (h : List (Op β)) (op : Op β)
    (hf : (stepOp sort m (runOps sort m out h).1 op).2 ≠ none) :
    (runOps sort m out (h ++ [op])).1 = (runOps sort m out h).1 := by
  rw [(opsTrace sort m).run_append]
  simp only [runOps]
  generalize (runOps sort m out h).1 = st at hf ⊢
  cases op with
  | fill v => simp [stepOp] at hf
  | call useW isSorted obs cols sim weights =>
    simp only [stepOp] at hf ⊢
    by_cases hc : obs.length ≠ sim.length ∨ m ≠ cols
    · rw [if_pos hc]
    · rw [if_neg hc] at hf ⊢
      cases hk : kernelGen sort useW isSorted cols obs sim weights st with
      | error e => rfl
      | ok r => rw [hk] at hf; exact absurd rfl hf

/-- **zeroing the arrays before the call makes the history irrelevant** — what `metrics.crps` does by
allocating `np.zeros` outputs for every call: after ANY sequence of earlier operations on the same arrays
(successful, failed, with other data, other flags), `fill 0` followed by the plain call leaves exactly the
kernel's answer -/
theorem zeroed_call_forgets_history (sort : List β → List β) (m : ℕ) (out : Result β) (h : List (Op β))
    (obs : List β) (ens : List (List β)) (weights : List β) (res : Result β) (hlen : obs.length = ens.length)
    (hk : kernel sort m obs ens = .ok res) :
    runOps sort m out (h ++ [.fill 0, .call 0 0 obs m ens weights])
      = (res, (runOps sort m out h).2 ++ [none, none]) := by
  rw [(opsTrace sort m).run_append]
  have hz := extension_call_zeroed_is_kernel sort 0 (by decide) m obs ens weights (filled m (0 : β)) rfl rfl
  simp only [runOps, stepOp, hlen, ne_eq, not_true_eq_false, or_self, if_false, hz, hk]

/-- **what a successful call reads of the output arrays** is `crps_decompos[0]` and `crps_decompos[1]` only -/
theorem call_reads_two_cells (sort : List β → List β) (useW isSorted : Int) (m : ℕ) (obs : List β)
    (ens : List (List β)) (weights : List β) (out out' : Result β) (h0 : out.crps = out'.crps)
    (h1 : out.reli = out'.reli) :
    kernelGen sort useW isSorted m obs ens weights out = kernelGen sort useW isSorted m obs ens weights out' := by
  unfold kernelGen finishInto
  rw [h0, h1]

end AnyCarrier

/-! ### exact arithmetic again: clause 6, the offset of non-zeroed output arrays, the point `n = 0` -/

/-- **order of ensemble members**: permuting the members of any forecasts changes nothing in the result
(decomposition and table) -/
theorem member_permutation_invariant {sort : List α → List α} (hsort : SortOK sort) {m : ℕ} {obs : List α}
    {ens ens' : List (List α)} (h : Shape m obs ens) (hp : List.Forall₂ List.Perm ens' ens) :
    kernel sort m obs ens' = kernel sort m obs ens :=
  member_order_irrelevant_any_carrier sort m obs ens ens' (map_sort_of_forall₂_perm hsort hp)
    (map_length_of_forall₂_perm hp)

theorem entry_member_permutation_invariant {sort : List α → List α} (hsort : SortOK sort) {m : ℕ}
    {obs : List (Option α)} {rows rows' : List (List α)} (h : EntryShape m obs rows)
    (hp : List.Forall₂ List.Perm rows' rows) :
    wrapper sort m obs (rows'.map fun r => r.map some) = wrapper sort m obs (rows.map fun r => r.map some) := by
  rw [wrapper_eq_kernel_kept sort h, wrapper_eq_kernel_kept sort (entryShape_of_forall₂_perm h hp)]
  obtain ⟨h1, h2⟩ := keptPairs_forall₂_perm obs hp
  rw [h1]
  exact member_permutation_invariant hsort (shape_kept h) h2

/-- **the zeroing is needed**: on arrays holding `d0`, `d1` in `crps_decompos[0..1]` a successful call returns
`d0 + CRPS` and `d1 + reliability` (so a second call on the same arrays doubles both), while resolution,
uncertainty, potential and the table are those of the plain call -/
theorem unzeroed_outputs_offset {sort : List α → List α} (hsort : SortOK sort) {m : ℕ} {obs : List α}
    {ens : List (List α)} (h : Shape m obs ens) (weights : List α) (out : Result α) (d1 : α)
    (hd : out.reli = some d1) :
    ∃ res r, kernel sort m obs ens = .ok res ∧ kernelGen sort 0 0 m obs ens weights out = .ok r ∧
      r.crps = out.crps + res.crps ∧ r.reli = res.reli.map (d1 + ·) ∧ r.resol = res.resol ∧ r.unc = res.unc ∧
      r.pot = res.pot ∧ r.table = res.table := by
  refine ⟨_, finishInto m (finalAcc sort m obs ens) out, kernel_eq hsort h, ?_, ?_⟩
  · rw [kernelGen_plain sort (by decide), if_neg (shape_guard h.len h.m_pos h.rows),
      loop_eq_pure hsort _ _ _ _ (rows_ne_nil h)]
    rfl
  · have key := foldl_accRow_offset out.crps d1 (table m (clampFreq (finalAcc sort m obs ens)))
      ({ crps := 0, reli := some 0, pot := some 0 } : Tot α)
    simp only [add_zero, Option.map_some] at key
    unfold finishInto finish finishCore
    simp only [hd, key, and_self]


/-- **the excluded point `n = 0`** (`Shape.n_pos`): with no forecast at all the kernel still returns — CRPS,
reliability, potential and uncertainty all 0 (the mean over an empty set of forecasts is not defined; the
entry point never gets here: `wrapper_rejects_no_valid_forecast`; the extension-level stream of the harness
calls it with zero forecasts) -/
theorem kernel_zero_forecasts (sort : List α → List α) {m : ℕ} (hm : 1 ≤ m) :
    ∃ res, kernel sort m [] [] = .ok res ∧ res.crps = 0 ∧ res.reli = some 0 ∧ res.pot = some 0 ∧
      res.resol = some 0 ∧ res.unc = 0 := by
  unfold kernel
  rw [if_neg (shape_guard rfl hm (List.forall_mem_nil _))]
  refine ⟨_, rfl, ?_⟩
  -- the decomposition holds of the initial state too: two parts `≥ 0` that add up to `crps = 0`
  obtain ⟨x, z, hx, hz, hc, hx0, hz0⟩ := (Splits.init (α := α) m).decomposition m hm
  have h0 : (finish m (init m : Acc α)).crps = 0 :=
    (finish_crps m hm _).trans ((Inv_init (1 : α) m hm).crps.trans (zero_mul _))
  obtain ⟨rfl, rfl⟩ := (add_eq_zero_iff_of_nonneg hx0 hz0).mp (hc.symm.trans h0)
  exact ⟨h0, hx, hz, by show Option.map _ (finish m _).pot = _; rw [hz]; exact congrArg some (sub_zero 0), rfl⟩


/-! ### clause 4 over any carrier that satisfies `SignArith` -/

section Signs
variable {β : Type} [Add β] [Sub β] [Mul β] [Div β] [LT β] [DecidableLT β] [LE β] [DecidableLE β]
  [BEq β] [OfNat β 0] [OfNat β 1] [NatCast β] [SignArith β]

/-- **reliability, potential and uncertainty are non-negative numbers in ROUNDED arithmetic too**: over every
carrier whose operations satisfy `SignArith` — every ordered field, and every arithmetic that rounds each
operation with a monotone idempotent map fixing 0 and 1 (`Fl R`; IEEE-754 doubles as long as nothing
overflows) — whenever the kernel returns, the three parts are numbers `≥ 0`. No hypothesis on `qsort`, on the
shapes or on the data: that bin widths are non-negative comes from the kernel's own guard
(`ensemb[j+1] < ensemb[j] → EDOM`), and that the outlier frequencies are at most 1 from the cut
`if(o > 1.0) o = 1.0` (in exact arithmetic the cut never acts; in rounded arithmetic it is what keeps the
potential CRPS of an outlier bin from going negative). -/
theorem signs_under_any_monotone_rounding (sort : List β → List β) (m : ℕ) (obs : List β) (ens : List (List β))
    (res : Result β) (h : kernel sort m obs ens = .ok res) :
    (∃ x, res.reli = some x ∧ 0 ≤ x) ∧ (∃ z, res.pot = some z ∧ 0 ≤ z) ∧ 0 ≤ res.unc := by
  obtain ⟨s, hs, rfl⟩ := kernel_ok h
  have hw : (0 : β) ≤ 1 / (obs.length : β) :=
    SignArith.div_nonneg SignArith.zero_le_one (SignArith.natCast_nonneg _)
  exact finish_nn m s (NN_loop sort hw _ _ _ s hs (NN_init m))

/-- the same at the entry point `metrics.crps`, whatever the shapes, NaN pattern and values passed: if it returns,
reliability, potential and uncertainty are numbers `≥ 0` -/
theorem entry_signs_under_any_monotone_rounding (sort : List β → List β) (oshape : List ℕ) (obs : List (Option β))
    (eshape : List ℕ) (ens : List (Option β)) (res : Result β)
    (h : wrapperNd sort oshape obs eshape ens = .ok res) :
    (∃ x, res.reli = some x ∧ 0 ≤ x) ∧ (∃ z, res.pot = some z ∧ 0 ≤ z) ∧ 0 ≤ res.unc := by
  obtain ⟨m, ys, rows, hk⟩ := wrapperNd_ok h
  exact signs_under_any_monotone_rounding sort m ys rows res hk

end Signs

/-! ### the entry point on the arrays themselves -/

/-- **the property at the entry point, stated on the arrays themselves**: `obs` a vector of `n` values (NaN
anywhere, one present), `ens` a C-ordered `[n, m]` array of finite members with `m ≥ 1`. Nothing else is
assumed: that every forecast has `m` members is a consequence of the array shape (`reshape_row_len`). -/
theorem entry_point_spec_arrays {sort : List α → List α} (hsort : SortOK sort) {n m : ℕ} (hm : 1 ≤ m)
    {obs : List (Option α)} {flat : List α} (hobs : obs.length = n) (hflat : flat.length = n * m)
    (hsome : ∃ y, some y ∈ obs) :
    ∃ res reli pot, wrapperNd sort [n] obs [n, m] (flat.map some) = .ok res ∧
      res.crps = definitionCrps obs (reshape m n flat) ∧
      res.reli = some reli ∧ res.pot = some pot ∧ res.resol = some (res.unc - pot) ∧
      res.crps = reli + pot ∧ 0 ≤ reli ∧ 0 ≤ pot ∧ 0 ≤ res.unc := by
  have hE : EntryShape m obs (reshape m n flat) :=
    ⟨by rw [reshape_length, hobs], hm, reshape_row_len m n flat hflat,
      keptPairs_ne_nil obs _ (by rw [reshape_length, hobs]) hsome⟩
  obtain ⟨res, reli, pot, _, h1, h2, h3, h4, h5, h6, h7, h8, h9, _, _⟩ := entry_point_spec hsort hE
  refine ⟨res, reli, pot, ?_, ?_, h3, h4, h5, h6, h7, h8, h9⟩
  · rw [wrapperNd_vector_matrix, reshape_map]; exact h1
  · rw [definitionCrps_eq]; exact h2


/-! ### the hypotheses are satisfiable (concrete, non-trivial inputs over `ℚ`) -/

example : Shape (α := ℚ) 2 [3, 5] [[3, 1], [2, 2]] := demo_shape

example : List.Forall₂ List.Perm [[(1 : ℚ), 3], [2, 2]] [[3, 1], [2, 2]] :=
  .cons (List.Perm.swap _ _ _) (.cons (List.Perm.refl _) .nil)

example : ([(5 : ℚ), 3].zip [[(2 : ℚ), 2], [3, 1]]).Perm ([(3 : ℚ), 5].zip [[(3 : ℚ), 1], [2, 2]]) :=
  List.Perm.swap _ _ _

/-- on that input the theorems give: the call succeeds and CRPS = (1/2 + 3)/2 = 7/4 -/
example : ∃ res, kernel (fun l : List ℚ => l.mergeSort fun a b => decide (a ≤ b)) 2 [3, 5] [[3, 1], [2, 2]]
    = .ok res ∧ res.crps = 7 / 4 := by
  obtain ⟨res, h1, h2⟩ := crps_eq_definition mergeSort_sortOK demo_shape
  refine ⟨res, h1, ?_⟩
  rw [h2]
  decide +kernel

example : EntryShape (α := ℚ) 2 [some 3, none, some 5] [[3, 1], [7, 7], [2, 2]] := demo_entryShape

example : ∃ res, wrapper (fun l : List ℚ => l.mergeSort fun a b => decide (a ≤ b)) 2 [some 3, none, some 5]
    ([[3, 1], [7, 7], [2, 2]].map fun r => r.map some) = .ok res ∧ res.crps = 7 / 4 := by
  obtain ⟨res, _, _, _, h1, h2, _⟩ := entry_point_spec mergeSort_sortOK demo_entryShape
  refine ⟨res, h1, ?_⟩
  rw [h2]
  decide +kernel

/-- the hypotheses of `member_order_irrelevant_any_carrier` hold for every permutation of the members
whenever `qsort` is a sorted permutation -/
example {sort : List α → List α} (hsort : SortOK sort) {ens ens' : List (List α)}
    (hp : List.Forall₂ List.Perm ens' ens) :
    ens'.map sort = ens.map sort ∧ ens'.map List.length = ens.map List.length :=
  ⟨map_sort_of_forall₂_perm hsort hp, map_length_of_forall₂_perm hp⟩

-- `hk` of `wrapper_rejects_no_valid_forecast`
example : ∀ p ∈ ([none, none] : List (Option ℚ)).zip [[some 1], [some 2]], keep p = false := by
  decide

-- `hlen`, `hn` of `crps_single_member`
example : ([(1 : ℚ), 4, 2]).length = ([(0 : ℚ), 5, 2]).length ∧ 1 ≤ ([(0 : ℚ), 5, 2]).length := by decide

-- `h` of `sorted_flag_same`
example {sort : List ℚ → List ℚ} (hsort : SortOK sort) : ∀ r ∈ [[(1 : ℚ), 3], [2, 2]], sort r = r := by
  intro r hr
  apply sort_fixed_of_sorted hsort
  simp at hr
  rcases hr with rfl | rfl <;> simp

-- `hu` of `sorted_flag_rejects_unsorted`, and the theorem on that input
example : ∃ r ∈ [[(3 : ℚ), 1], [2, 2]], unsortedAt r = true := ⟨[3, 1], by simp, by simp [unsortedAt]⟩

example (sort : List ℚ → List ℚ) (out : Result ℚ) :
    kernelGen sort 0 1 2 [3, 5] [[3, 1], [2, 2]] [] out = .error .edom :=
  sorted_flag_rejects_unsorted sort 0 1 (by decide) 2 (by decide) [3, 5] [[3, 1], [2, 2]] [] out rfl
    demo_shape.rows (by decide) ⟨[3, 1], by simp, by simp [unsortedAt]⟩

-- `hf` of `failing_op_leaves_outputs`
example (sort : List ℚ → List ℚ) (st : Result ℚ) :
    (stepOp sort 2 st (.call 0 1 [3, 5] 2 [[3, 1], [2, 2]] [])).2 ≠ none := by
  simp [stepOp, kernelGen, loopW, unsortedAt]

-- `hobs`, `hflat`, `hsome` of `entry_point_spec_arrays`
example : ([some (3 : ℚ), none, some 5]).length = 3 ∧ ([(3 : ℚ), 1, 7, 7, 2, 2]).length = 3 * 2 ∧
    ∃ y, some y ∈ [some (3 : ℚ), none, some 5] := ⟨rfl, rfl, 3, by simp⟩

example : ceilQuarter.rnd (1 / 3) = 1 / 2 := by
  norm_num [ceilQuarter, Int.ceil_eq_iff]

example (sort : List (Fl ceilQuarter) → List (Fl ceilQuarter)) (m : ℕ) (obs : List (Fl ceilQuarter))
    (ens : List (List (Fl ceilQuarter))) (res : Result (Fl ceilQuarter)) (h : kernel sort m obs ens = .ok res) :
    0 ≤ res.unc := (signs_under_any_monotone_rounding sort m obs ens res h).2.2

/-- `signs_under_any_monotone_rounding` is not vacuous in rounded arithmetic: one forecast with one member, any
two representable numbers — the kernel returns -/
example (a b : Fl ceilQuarter) : ∃ res, kernel id 1 [a] [[b]] = .ok res := by
  simp [kernel, loop, unsortedAt]

-- `h0`, `h1` of `extension_call_zeroed_is_kernel` on zeroed arrays
example : (filled 2 (0 : ℚ)).crps = 0 ∧ (filled 2 (0 : ℚ)).reli = some 0 := ⟨rfl, rfl⟩

example : ∃ res, kernel (fun l : List ℚ => l.mergeSort fun a b => decide (a ≤ b)) 2 [3, 5] [[3, 1], [2, 2]] = .ok res := by
  obtain ⟨res, h, _⟩ := crps_eq_definition mergeSort_sortOK demo_shape
  exact ⟨res, h⟩

end HydroVerif.C03
