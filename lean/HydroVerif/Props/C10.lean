/-
C10 — property theorems (only). Model: `HydroVerif/Model/C10.lean` (+ `Generated/CvmTable.lean`, regenerated from the
shipped archive at every run); helper lemmas and the specification vocabulary (`ps`, `rowScore`, `wm`, `wmF`, `wmU`,
`wmRanks`, `PairOK`, `RanksOK`, `PerfectOrder`, `ValidRanking`, `cvmTextbook`, `adTextbook`, `SortsAscending`, `ADSorts` …)
in `Lemmas/C10*.lean`: C10WM (the comparison of two ensembles), C10Scan and C10Kernel (the scan of `c_ensrank`), C10Rank (the
kernel against the specification), C10Sort, C10Real (the score), C10Unif and C10ADReal (uniformity tests), C10TranscR (the
`Transc ℝ` instance), C10Table, C10Pit, C10Entry, C10List (lists and layouts, no arithmetic).

`α` is any linearly ordered field; ℝ where a square root or a logarithm is involved, and also in the theorems on `alpha`'s
entry point and on the buffer histories (`alpha_refilter`, `ensrank_step`, `ensrank_history_free`), which need no more than a field. `sort` stands for glibc
`qsort` / `np.sort`; what is assumed of it is spelled out in `PairOK` (stable, by the tolerant comparator),
`SortsAscending` and `ADSorts`, and `List.mergeSort` (the driver's sort) is proved to meet it. `eps` is the tie
tolerance given to `c_ensrank`, `ceps` the one compiled into its comparator (1e-8): values are assumed pairwise tied or
separated by more than both (`Separated`). Every model function named below is executed by the driver and compared
with the real code in harness/c10.py.

CLAUSE → THEOREMS (→ what stays outside)
 1. "the discrimination score lies in [0, 1]"
      `dscore_range` (no hypothesis), `dscoreOf_none_iff`: D is NaN exactly when a rank vector is constant
      → known finding dscore/constant_forecast_ranks/nan (every forecast ties: D = NaN, not in [0, 1]).
 2. "equals 1 when forecasts order the observations perfectly and 0 when they order them inversely"
      `dscore_perfect`, `dscore_inverse` (n ≥ 2 distinct observations, every m ≥ 1).
 3. "unchanged by any strictly increasing re-scaling of the observations"
      `dscore_obs_map_invariant` (stable ranks, no hypothesis); `dscore_any_argsort`,
      `dscore_obs_map_invariant_any_argsort`: for distinct observations ANY ordinal ranking may stand for numpy's argsort
      → for tied observations numpy's tie-breaking is external (oracle on the real code).
 4. "… or of all forecast values and by permuting ensemble members"
      `dscore_forecast_map_invariant`, `dscore_member_perm_invariant`; kernel level `ensrank_strictMono_invariant`,
      `ensrank_member_perm_invariant`, `fpair_strictMono_invariant`, `fpair_member_perm_invariant`.
 5. "the ensemble ranks behind it equal the pairwise mid-rank comparison of Weigel and Mason (2011)"
      `scan_eq_pooled_midranks`, `fpair_eq_weigel_mason`, `wmF_range`, `ensrank_eq_weigel_mason`, `ensrank_rejects_iff`,
      `franks_eq_weigel_mason` (m = 1 branch included), `dscore_eq_rank_correlation`; sort hypothesis discharged for
      `List.mergeSort` by `mergeSort_pairOK`, `fpair_mergeSort_eq_weigel_mason`
      → glibc qsort's stability is an assumption (PairOK).
 6. "PIT values lie in [0, 1]"
      `pitRandom_range` (every cst), `pitRank_range`.
 7. "… and increase strictly with the number of ensemble members lying below the observation"
      `pit_strictMono_count` (in the count the code uses), `pit_count_bounds`, `pitRandom_eq_count`,
      `pitRandom_strictMono_members_below` (in the TRUE count, for any jitter within EPS and members not within 2 EPS of
      the observation), `pitRank_strictMono_count`
      → IEEE rounding of value + jitter (executed, not proved).
 8. "the pseudo-PIT flag is raised exactly when the observation and at least one member are at or below the
     censoring threshold"
      `isSudo_iff`; glue in front of pit / alpha: `checkEnsemble_spec`, `checkEnsemble_complete`
      (the code compares `obs - censor` and `ens - censor` with EPS, which keeps the tolerance at large thresholds).
 9. "the Cramer-von Mises and Anderson-Darling statistics computed from values in [0, 1] equal their textbook
     formulas whatever the order of the data"
      `cvm_eq_textbook`, `cvm_perm_invariant`, `ad_eq_textbook`, `ad_perm_invariant` (sample in the open interval).
10. "their p-values (and those of alpha) lie in [0, 1]"
      `interp_range`, `cvm_pvalue_range`, `cvm_pvalue_defined` (no table hypothesis), `ad_pvalue_range`,
      `alpha_cv_pvalue_range`, `alpha_ad_accepts`, `pvalue_range_partial`
      → `pvalue_range_statement`: scipy's kstest p-value (alpha type KS) is outside the model (oracle only).
11. "data outside [0, 1] are rejected by the Anderson-Darling test"
      `ad_rejects_iff` (NaN included; nothing else is rejected), `ad_never_unsorted` (with a correct sort the order
      check never fires: a rejection of NaN-free data is a range rejection).

THE SAME CLAUSES AT THE ENTRY POINTS, WITH CONCRETE SORTS AND UNDER ROUNDING (model: `Model/C10Entry.lean`, lemmas:
`Lemmas/C10Pit.lean`, `Lemmas/C10Entry.lean`):
  sorts      `sortAsc_sortsAscending`, `sortADm_adSorts` (the sorts the model is run with — a merge sort by `≤`, a stable
             merge sort by the comparator of c_andersondarling.c with NaN equal to everything — meet `SortsAscending` /
             `ADSorts`), hence `cvm_sortAsc_eq_textbook`, `ad_sortADm_eq_textbook`, `ad_sortADm_rejects_iff` with no sort
             hypothesis (clauses 9, 11).
  kind       `pitKind_range`, `pitKind_strictMono_count`: clauses 6, 7 for `pit`'s optional argument kind = rank, weak,
             strict, mean (scipy percentileofscore re-modelled); `pit_ties_needed`.
  pit        `pitEntry_rejects_iff`, `pitEntry_range`, `pitEntry_random_defined`, `pitEntry_complete`,
             `pitEntry_obs_layouts`: the whole entry point (layouts, "obs is not 1D", first dimension, NaN filter, NaN
             members, both branches): clause 6 for everything `pit` returns, and on complete data `pit` IS
             `pitRandom` / `pitKind` / `isSudo` forecast by forecast (clauses 6-8).
  alpha      `alpha_refilter`, `alphaEntry_pvalue_range`, `alphaEntry_ad_accepts`, `alphaEntry_badType` (clause 10 at the
             entry point: every layout, NaN rows; the second filter inside `pit` is the identity).
  dscore     `dscoreEntry_range`, `dscoreEntry_rejects_iff`, `dscoreEntry_vec` (a vector of single-member forecasts is a
             column — fixed defect dscore/documented_layout_raises), `dscore_range_any_argsort` (clause 1 whatever
             numpy's tie-break of tied observations), `dscoreOf_through_finish`.
  rounding   `pit_range_rounded`, `pit_mono_rounded`, `sudo_rounded_at_or_below`, `sudo_rounded_above`,
             `dscore_range_rounded`, `rounded_id`: the RANGE clauses (1, 6), weak monotonicity (7) and the flag at / away
             from the threshold (8) for every monotone rounding operator that is exact on small integers and
             half-integers — true of IEEE double precision; strictness in clause 7 stays an exact-field statement.
  guards     `ensrank_ok_eq_weigel_mason` (0 < eps, eps ≥ 1e-20, m ≥ 1, n ≥ 1 follow from the kernel ACCEPTING the call),
             `separation_needed`, `stability_needed` (the two remaining hypotheses of clause 5 cannot be dropped; the
             harness runs the real code at the excluded points), `ensrank_ranks_sum` (no hypothesis at all: the ranks sum
             to n(n+1)/2 — what is checked at the excluded points).
  histories  `ensrank_step`, `ensrank_history_free`: `c_hydrodiy_stat.ensrank` on caller-owned buffers as a step function
             over arbitrary operation lists (accepted calls, calls rejected by the wrapper's assertions or by the kernel —
             buffers untouched — and the caller scribbling into its buffers): every reply is the reply on fresh buffers.
-/
import HydroVerif.Lemmas.C10Sort
import HydroVerif.Lemmas.C10Table
import HydroVerif.Lemmas.C10Entry
import HydroVerif.Lemmas.C10Kernel
import HydroVerif.Lemmas.C10ADReal
import HydroVerif.Lemmas.C10Real
import HydroVerif.Lemmas.History

set_option linter.unusedSectionVars false

namespace HydroVerif.C10
open HydroVerif.C04 (sumL absG mean ssd pearson)

section field
variable {α : Type} [Field α] [LinearOrder α] [IsStrictOrderedRing α]

/-! ### `c_ensrank` against Weigel and Mason -/

/-- the tie-sequence scan over the (stably) sorted pooled array returns the sum, over the members `a` of
the first ensemble, of their mid-rank in the pooled sample: `½ + #{b < a} + ½ #{b = a}`
(all ensemble sizes, all tie patterns) -/
theorem scan_eq_pooled_midranks (sort : List (α × ℕ) → List (α × ℕ)) (eps ceps : α) (heps : 0 < eps)
    (hc : 0 ≤ ceps) (e1 e2 : List α) (h : PairOK sort eps ceps e1 e2) :
    scan eps e1.length (sort (pool e1 e2)) = (e1.map fun a => 1 / 2 + rowScore a (e1 ++ e2)).sum := by
  rw [scan_pool heps hc h.1 h.2, relSpec_pool_midranks]

/-- hence the kernel's `F` is eq. 1 of Weigel and Mason: `F · m² = Σ_a Σ_b ([b<a] + ½[a=b])` -/
theorem fpair_eq_weigel_mason (sort : List (α × ℕ) → List (α × ℕ)) (eps ceps : α) (heps : 0 < eps)
    (hc : 0 ≤ ceps) (e1 e2 : List α) (h : PairOK sort eps ceps e1 e2) :
    fpair sort eps e1 e2 = wm e1 e2 / (e1.length : α) / (e1.length : α) := by
  unfold fpair
  simp only
  rw [scan_pool heps hc h.1 h.2, relSpec_pool]
  congr 2
  ring

/-- the sort hypothesis is met by an actual stable sort: `List.mergeSort` (the sort of the model driver) driven by
the kernel's tolerant comparator satisfies `PairOK` for every pair of ensembles whose pooled values are tied or
separated — so for that sort eq. 1 holds with no assumption left on the sort -/
theorem mergeSort_pairOK (eps ceps : α) (hc : 0 ≤ ceps) (e1 e2 : List α)
    (hsep : Separated eps ceps (e1 ++ e2)) :
    PairOK (fun l => l.mergeSort (leTol ceps)) eps ceps e1 e2 :=
  ⟨hsep, mergeSort_stableSortedBy ceps hc (e1 ++ e2) fun a ha b hb => (hsep a ha b hb).imp id (·.2)⟩

theorem fpair_mergeSort_eq_weigel_mason (eps ceps : α) (heps : 0 < eps) (hc : 0 ≤ ceps) (e1 e2 : List α)
    (hsep : Separated eps ceps (e1 ++ e2)) :
    fpair (fun l => l.mergeSort (leTol ceps)) eps e1 e2 = wm e1 e2 / (e1.length : α) / (e1.length : α) :=
  fpair_eq_weigel_mason _ eps ceps heps hc e1 e2 (mergeSort_pairOK eps ceps hc e1 e2 hsep)

theorem wmF_range (e1 e2 : List α) (hlen : e1.length = e2.length) (hpos : 0 < e1.length) :
    0 ≤ wmF e1 e2 ∧ wmF e1 e2 ≤ 1 ∧ wmF e1 e2 + wmF e2 e1 = 1 := by
  have h1 := wmF_nonneg e1 e2
  have h2 := wmF_nonneg e2 e1
  have h3 := wmF_add_swap hlen hpos
  exact ⟨h1, by linarith, h3⟩

/-- the comparison uses only `<` and `=`. `h'`: a strictly increasing map can bring two values closer than `eps`, so
that the images are tied-or-separated is asked for, not derived -/
theorem fpair_strictMono_invariant (sort : List (α × ℕ) → List (α × ℕ)) (eps ceps : α) (heps : 0 < eps)
    (hc : 0 ≤ ceps) (f : α → α) (hf : StrictMono f) (e1 e2 : List α)
    (h : PairOK sort eps ceps e1 e2) (h' : PairOK sort eps ceps (e1.map f) (e2.map f)) :
    fpair sort eps (e1.map f) (e2.map f) = fpair sort eps e1 e2 := by
  rw [fpair_eq_weigel_mason sort eps ceps heps hc _ _ h, fpair_eq_weigel_mason sort eps ceps heps hc _ _ h',
    wm_map hf, List.length_map]

theorem fpair_member_perm_invariant (sort : List (α × ℕ) → List (α × ℕ)) (eps ceps : α) (heps : 0 < eps)
    (hc : 0 ≤ ceps) (e1 e1' e2 e2' : List α) (p1 : e1.Perm e1') (p2 : e2.Perm e2')
    (h : PairOK sort eps ceps e1 e2) (h' : PairOK sort eps ceps e1' e2') :
    fpair sort eps e1' e2' = fpair sort eps e1 e2 := by
  rw [fpair_eq_weigel_mason sort eps ceps heps hc _ _ h, fpair_eq_weigel_mason sort eps ceps heps hc _ _ h',
    wm_perm p1 p2, p1.length_eq]

/-- the whole kernel: `fmat` holds eq. 1 for every pair `i1 < i2` and `ranks` is eq. 2,
`1 + Σ_{k≠i} u(i,k)` with `u = 1, ½, 0` as ensemble `i` beats, ties with, or loses to ensemble `k`;
for every number of forecasts and every ensemble size `m ≥ 1` -/
theorem ensrank_eq_weigel_mason (sort : List (α × ℕ) → List (α × ℕ)) (epsmin eps ceps : α)
    (hmin : epsmin ≤ eps) (heps : 0 < eps) (hc : 0 ≤ ceps) (m : ℕ) (hm : 0 < m) (rows : List (List α))
    (hne : rows ≠ []) (hlen : ∀ e ∈ rows, e.length = m) (hok : rows.Pairwise (PairOK sort eps ceps)) :
    ensrank sort epsmin eps m rows = .ok (upperF wmF rows, wmRanks rows) := by
  have hF : rows.Pairwise fun e1 e2 => fpair sort eps e1 e2 = wmF e1 e2 :=
    hok.imp fun h => fpair_eq_weigel_mason sort eps ceps heps hc _ _ h
  unfold ensrank
  rw [if_neg (not_lt.mpr hmin), if_neg (by
    rw [not_or]; exact ⟨hm.ne', by simpa [List.length_eq_zero_iff] using hne⟩)]
  rw [upperF_congr hF, ranksOf_eq_wmRanks hm hlen hF]

/-- the kernel rejects exactly a tolerance below `epsmin` (1e-20) or an empty dimension -/
theorem ensrank_rejects_iff (sort : List (α × ℕ) → List (α × ℕ)) (epsmin eps : α) (m : ℕ)
    (rows : List (List α)) :
    (∃ e, ensrank sort epsmin eps m rows = .error e) ↔ (eps < epsmin ∨ m = 0 ∨ rows = []) := by
  unfold ensrank
  split_ifs with h1 h2 <;> simp_all [List.length_eq_zero_iff]

theorem ensrank_strictMono_invariant (sort : List (α × ℕ) → List (α × ℕ)) (epsmin eps ceps : α)
    (hmin : epsmin ≤ eps) (heps : 0 < eps) (hc : 0 ≤ ceps) (m : ℕ) (hm : 0 < m) (rows : List (List α))
    (hne : rows ≠ []) (hlen : ∀ e ∈ rows, e.length = m) (f : α → α) (hf : StrictMono f)
    (hok : rows.Pairwise (PairOK sort eps ceps))
    (hok' : (rows.map (List.map f)).Pairwise (PairOK sort eps ceps)) :
    ensrank sort epsmin eps m (rows.map (List.map f)) = ensrank sort epsmin eps m rows := by
  rw [ensrank_eq_weigel_mason sort epsmin eps ceps hmin heps hc m hm rows hne hlen hok,
    ensrank_eq_weigel_mason sort epsmin eps ceps hmin heps hc m hm _ (by simpa using hne)
      (by intro e he; obtain ⟨e0, h0, rfl⟩ := List.mem_map.mp he; rw [List.length_map]; exact hlen e0 h0) hok',
    upperF_wmF_map hf, wmRanks_map hf]

theorem ensrank_member_perm_invariant (sort : List (α × ℕ) → List (α × ℕ)) (epsmin eps ceps : α)
    (hmin : epsmin ≤ eps) (heps : 0 < eps) (hc : 0 ≤ ceps) (m : ℕ) (hm : 0 < m) (rows rows' : List (List α))
    (hne : rows ≠ []) (hlen : ∀ e ∈ rows, e.length = m) (hp : List.Forall₂ List.Perm rows rows')
    (hok : rows.Pairwise (PairOK sort eps ceps)) (hok' : rows'.Pairwise (PairOK sort eps ceps)) :
    ensrank sort epsmin eps m rows' = ensrank sort epsmin eps m rows := by
  rw [ensrank_eq_weigel_mason sort epsmin eps ceps hmin heps hc m hm rows hne hlen hok,
    ensrank_eq_weigel_mason sort epsmin eps ceps hmin heps hc m hm rows' (by rintro rfl; cases hp; exact hne rfl)
      (forall₂_perm_length hp m hlen) hok',
    upperF_wmF_perm hp, wmRanks_perm hp]

/-- the forecast ranks used by `dscore` are the Weigel–Mason ranks for every ensemble size, the
single-member branch (mid-ranks of the column) included -/
theorem franks_eq_weigel_mason (sort : List (α × ℕ) → List (α × ℕ)) (epsmin eps ceps : α) (m : ℕ)
    (rows : List (List α)) (h : RanksOK sort epsmin eps ceps m rows) :
    franksOf sort epsmin eps m rows = wmRanks rows := by
  obtain ⟨hmin, heps, hc, hm, hne, hlen, hok⟩ := h
  unfold franksOf
  by_cases h1 : m = 1
  · rw [if_pos h1]
    subst h1
    have hs := singletons_eq rows hlen
    conv_rhs => rw [hs]
    conv_lhs => rw [hs]
    exact midRanks_singletons rows.flatten
  · rw [if_neg h1, ensrank_eq_weigel_mason sort epsmin eps ceps hmin heps hc m hm rows hne hlen (hok h1)]

/-! ### `pit`: the random branch, `percentileofscore`, the pseudo-PIT flag -/

/-- PIT values of the random branch lie in [0, 1] for every plotting constant (it is clamped at ½),
every ensemble size and every jitter -/
theorem pitRandom_range (cst obs dobs : α) (ens dens : List α) :
    0 ≤ pitRandom cst obs dobs ens dens ∧ pitRandom cst obs dobs ens dens ≤ 1 :=
  pitFormula_range (clampCst_le_half cst) (belowJit_le obs dobs ens dens)

theorem pit_strictMono_count (cst : α) (nens cnt cnt' : ℕ) (h : cnt < cnt') :
    pitFormula (clampCst cst) cnt nens < pitFormula (clampCst cst) cnt' nens :=
  pitFormula_lt (clampCst_le_half cst) nens h

/-- the jitter (observation and members each moved by at most `e`, the code's EPS) cannot reorder values further
than `2e` apart: the count the code uses lies between the members certainly below (`< obs - 2e`) and possibly below
(`≤ obs + 2e`) the observation -/
theorem pit_count_bounds (e obs dobs : α) (ens dens : List α) (hd : |dobs| ≤ e)
    (hlen : dens.length = ens.length) (hdens : ∀ d ∈ dens, |d| ≤ e) :
    (ens.filter fun a => decide (a < obs - 2 * e)).length ≤ belowJit obs dobs ens dens ∧
      belowJit obs dobs ens dens ≤ (ens.filter fun a => decide (a ≤ obs + 2 * e)).length := by
  simp only [← List.countP_eq_length_filter]
  induction ens generalizing dens with
  | nil => simp [belowJit]
  | cons a ens ih =>
    cases dens with
    | nil => simp at hlen
    | cons d dens =>
      have hm := jit_member e obs dobs a d hd (hdens d List.mem_cons_self)
      have ih' := ih dens (Nat.succ.inj hlen) fun x hx => hdens x (List.mem_cons_of_mem _ hx)
      rw [List.countP_cons, List.countP_cons, belowJit, Nat.add_comm (List.countP _ ens), Nat.add_comm (List.countP _ ens)]
      exact ⟨Nat.add_le_add (ite_one_le_of_imp fun h => hm.1 (of_decide_eq_true h)) ih'.1,
        Nat.add_le_add (ite_one_le_of_imp fun h => decide_eq_true (hm.2 h)) ih'.2⟩

/-- when no member is within `2e` of the observation the PIT is the plotting position of the TRUE number of members
below the observation, whatever the jitter -/
theorem pitRandom_eq_count (e cst obs dobs : α) (ens dens : List α) (hd : |dobs| ≤ e)
    (hlen : dens.length = ens.length) (hdens : ∀ d ∈ dens, |d| ≤ e) (hsep : ∀ a ∈ ens, 2 * e < |a - obs|) :
    pitRandom cst obs dobs ens dens
      = pitFormula (clampCst cst) (ens.filter fun a => decide (a < obs)).length ens.length := by
  have h2e : 0 ≤ 2 * e := mul_nonneg two_pos.le (le_trans (abs_nonneg _) hd)
  have hb := pit_count_bounds e obs dobs ens dens hd hlen hdens
  -- a member further than `2e` from the observation is on the same side of `obs - 2e`, `obs` and `obs + 2e`
  have key : ∀ a ∈ ens, (a ≤ obs + 2 * e → a < obs) ∧ (a < obs → a < obs - 2 * e) := by
    intro a ha
    rcases lt_abs.mp (hsep a ha) with h | h
    · have h' : obs + 2 * e < a := lt_sub_iff_add_lt'.mp h
      exact ⟨fun hle => absurd hle (not_le.mpr h'),
        fun hlt => absurd (hlt.trans_le (le_add_of_nonneg_right h2e)) (lt_asymm h')⟩
    · rw [neg_sub] at h
      have h' : a < obs - 2 * e := lt_sub_comm.mp h
      exact ⟨fun _ => h'.trans_le (sub_le_self _ h2e), fun _ => h'⟩
  rw [pitRandom_eq]
  congr 1
  exact le_antisymm
    (hb.2.trans (filter_length_mono ens fun a ha h => decide_eq_true ((key a ha).1 (of_decide_eq_true h))))
    ((filter_length_mono ens fun a ha h => decide_eq_true ((key a ha).2 (of_decide_eq_true h))).trans hb.1)

/-- hence, between two forecasts with the same number of members, the PIT increases strictly with the number of
members lying below the observation -/
theorem pitRandom_strictMono_members_below (e cst : α) (obs dobs obs' dobs' : α) (ens dens ens' dens' : List α)
    (hm : ens.length = ens'.length)
    (hd : |dobs| ≤ e) (hlen : dens.length = ens.length) (hdens : ∀ d ∈ dens, |d| ≤ e)
    (hsep : ∀ a ∈ ens, 2 * e < |a - obs|)
    (hd' : |dobs'| ≤ e) (hlen' : dens'.length = ens'.length) (hdens' : ∀ d ∈ dens', |d| ≤ e)
    (hsep' : ∀ a ∈ ens', 2 * e < |a - obs'|)
    (hcnt : (ens.filter fun a => decide (a < obs)).length < (ens'.filter fun a => decide (a < obs')).length) :
    pitRandom cst obs dobs ens dens < pitRandom cst obs' dobs' ens' dens' := by
  rw [pitRandom_eq_count e cst obs dobs ens dens hd hlen hdens hsep,
    pitRandom_eq_count e cst obs' dobs' ens' dens' hd' hlen' hdens' hsep', hm]
  exact pit_strictMono_count cst _ _ _ hcnt

theorem pitKind_range (k : PctKind) (obs : α) (ens : List α) (hne : ens ≠ []) :
    0 ≤ pitKind k obs ens ∧ pitKind k obs ens ≤ 1 :=
  pctFormula_range k _ _ _ (List.length_pos_iff.mpr hne) (filter_lt_le_length obs ens) (List.length_filter_le _ _)

theorem pitKind_strictMono_count (k : PctKind) (nens left left' ties : ℕ) (hn : 0 < nens) (h : left < left') :
    pctFormula (α := α) k left (left + ties) nens / 100 < pctFormula (α := α) k left' (left' + ties) nens / 100 := by
  rw [pctFormula_eq, pctFormula_eq]
  exact div_lt_div_of_pos_right (Nat.cast_lt.mpr (pctNum_strict k left left' ties h))
    (Nat.cast_pos.mpr (Nat.mul_pos two_pos hn))

/-- the non-random branch is `percentileofscore(kind="rank")/100` -/
theorem pitRank_range (obs : α) (ens : List α) (hne : ens ≠ []) :
    0 ≤ pitRank obs ens ∧ pitRank obs ens ≤ 1 :=
  pitKind_rank obs ens ▸ pitKind_range .rank obs ens hne

theorem pitRank_strictMono_count (nens left left' ties : ℕ) (hn : 0 < nens) (h : left < left') :
    pitRankFormula (α := α) left (left + ties) nens < pitRankFormula left' (left' + ties) nens :=
  pitKind_strictMono_count .rank nens left left' ties hn h

/-- "same number of ties" in `pitRank_strictMono_count` / `pitKind_strictMono_count` is needed: with 3 members tied
with the observation and none below, the rank PIT is above the PIT of one member below and no tie -/
theorem pit_ties_needed : pitRankFormula (α := ℚ) 1 1 4 < pitRankFormula (α := ℚ) 0 3 4 := by
  unfold pitRankFormula; norm_num

/-- the pseudo-PIT flag is raised exactly when the observation and at least one member are at or below the
censoring threshold (within the code's `EPS`) -/
theorem isSudo_iff (eps censor obs : α) (ens : List α) :
    isSudo eps censor obs ens = true ↔ (obs < censor + eps ∧ ∃ a ∈ ens, a < censor + eps) := by
  simp [isSudo, List.length_pos_iff, List.filter_eq_nil_iff, sub_lt_iff_lt_add']

/-! ### `__check_ensemble_data` -/

/-- the forecasts kept are exactly those whose observation is present and that have at least one member present,
in order -/
theorem checkEnsemble_spec {β : Type} (obs : List (Option β)) (ens : List (List (Option β)))
    (k : List (β × List (Option β))) (h : checkEnsemble obs ens = .ok k) :
    ens.length = obs.length ∧ k ≠ [] ∧
      k = (obs.zip ens).filterMap fun p =>
        match p.1 with
        | some o => if p.2.any Option.isSome then some (o, p.2) else none
        | none => none := by
  obtain ⟨h1, h2, h3⟩ := checkEnsemble_ok_iff.mp h
  exact ⟨h1, h3, by rw [← h2]; exact keepRows_spec obs ens⟩

/-- complete data (no NaN, `n ≥ 1` forecasts of `m ≥ 1` members) pass unchanged: the filter does not interfere
inside the property's quantifier -/
theorem checkEnsemble_complete {β : Type} (os : List β) (rows : List (List β)) (hlen : rows.length = os.length)
    (hos : os ≠ []) (hne : ∀ r ∈ rows, r ≠ []) :
    checkEnsemble (os.map some) (rows.map fun r => r.map some)
      = .ok (os.zip (rows.map fun r => r.map some)) := by
  refine checkEnsemble_ok_iff.mpr ⟨by simp [hlen], keepRows_complete hlen hne, ?_⟩
  cases os with
  | nil => exact absurd rfl hos
  | cons o os' =>
    cases rows with
    | nil => simp at hlen
    | cons r rs => simp

/-! ### Cramér–von Mises: statistic, p-value; the driver's sorts meet the sort hypotheses -/

/-- the statistic equals the textbook formula `1/(12n) + Σ ((2i-1)/(2n) - x_(i))²` on the order statistics
`s` of the data, whatever the order of the data -/
theorem cvm_eq_textbook (sort : List α → List α) (hs : SortsAscending sort) (data s : List α)
    (hperm : s.Perm data) (hsorted : s.Pairwise (· ≤ ·)) :
    cvmStat sort data = cvmTextbook s := by
  have : sort data = s := ((hs data).1.trans hperm.symm).eq_of_pairwise' (hs data).2 hsorted
  rw [cvmStat_eq (hs data).1.length_eq, this]

theorem cvm_perm_invariant (sort : List α → List α) (hs : SortsAscending sort) (data data' : List α)
    (h : data.Perm data') : cvmStat sort data' = cvmStat sort data := by
  rw [cvmStat_eq (hs data).1.length_eq, cvmStat_eq (hs data').1.length_eq,
    (((hs data).1.trans h).trans (hs data').1.symm).eq_of_pairwise' (hs data).2 (hs data').2]

/-- `np.interp` into a table stays between the bounds of the tabulated ordinates (increasing abscissae) -/
theorem interp_range (x lo hi : α) (xp fp : List α) (hxp : xp.Pairwise (· < ·))
    (hfp : ∀ f ∈ fp, lo ≤ f ∧ f ≤ hi) (v : α) (h : interp x xp fp = some v) : lo ≤ v ∧ v ≤ hi := by
  match xp, fp, h with
  | x0 :: xs, f0 :: fs, h =>
    simp only [interp, Option.some.injEq] at h
    have hf0 := hfp f0 (by simp)
    by_cases hlt : x < x0
    · rw [if_pos hlt] at h; rw [← h]; exact hf0
    · rw [if_neg hlt] at h; rw [← h]
      exact interpAux_range x lo hi xs fs x0 f0 (not_lt.mp hlt) hf0
        (fun f hf => hfp f (by simp [hf])) hxp

/-- the Cramer-von Mises p-value lies in [0, 1] for every sample size and every value of the statistic —
with NO hypothesis on the table: `Generated/CvmTable.lean` is regenerated from the archive shipped in the working
tree at every run, and `qq_increasing`, `columns_in_unit` (kernel evaluation over all 500 x 69 entries) are
re-proved against it -/
theorem cvm_pvalue_range (n : ℕ) (stat v : α) (h : cvmPvalue n stat = some v) : 0 ≤ v ∧ v ≤ 1 := by
  unfold cvmPvalue at h
  split at h
  · cases h
  · rename_i j _
    split at h
    · cases h
    · rename_i col hcol
      exact interp_range stat 0 1 _ _ qq_pairwise
        (column_unit col (List.mem_of_getElem? hcol)) v h

theorem cvm_pvalue_defined (n : ℕ) (stat : α) : ∃ v, cvmPvalue n stat = some v := by
  obtain ⟨j, hj, hlt⟩ := closestIdx_some n sizes_ne_nil
  rw [← columns_length] at hlt
  have hne : Gen.columns[j] ≠ [] := by
    simpa using List.all_eq_true.mp columns_ne_nil _ (List.getElem_mem hlt)
  obtain ⟨q0, qs, hq⟩ := List.exists_cons_of_ne_nil qq_ne_nil
  obtain ⟨c0, cs, hc⟩ := List.exists_cons_of_ne_nil hne
  unfold cvmPvalue
  simp only [hj, List.getElem?_eq_getElem hlt, hq, hc, List.map_cons, interp]
  exact ⟨_, rfl⟩

/-- `sortAsc` (the driver's `np.sort`) sorts ascending: `SortsAscending` is not an assumption for it -/
theorem sortAsc_sortsAscending : SortsAscending (sortAsc : List α → List α) :=
  fun l => ⟨sortAsc_perm l, sortAsc_sorted l⟩

/-- `sortADm` — a stable merge sort driven by the comparator of c_andersondarling.c, NaN comparing equal to everything —
meets `ADSorts`: a permutation on every input, the ascending order on NaN-free input -/
theorem sortADm_adSorts : ADSorts (sortADm : List (Option α) → List (Option α)) :=
  ⟨fun data => List.mergeSort_perm data _,
    fun xs => ⟨sortAsc xs, sortADm_map_some xs, sortAsc_perm xs, sortAsc_sorted xs⟩⟩

/-- hence the Cramer-von Mises statistic of the model as it is run equals the textbook formula, no hypothesis left -/
theorem cvm_sortAsc_eq_textbook (data s : List α) (hperm : s.Perm data) (hsorted : s.Pairwise (· ≤ ·)) :
    cvmStat sortAsc data = cvmTextbook s :=
  cvm_eq_textbook sortAsc sortAsc_sortsAscending data s hperm hsorted

/-! ### `metrics.pit`, the entry point -/

/-- `pit` rejects exactly: an observation array with two dimensions left after `squeeze`, a first dimension of `ens`
different from the number of observations, or no forecast with an observation and a member present -/
theorem pitEntry_rejects_iff (random : Bool) (kind : PctKind) (eps cst censor : α) (obs ens : ArrIn (Option α))
    (dobs : List α) (dens : List (List α)) :
    (∃ e, pitEntry random kind eps cst censor obs ens dobs dens = .error e) ↔
      ((∃ c rows, obs = .mat c rows ∧ rows.length ≠ 1 ∧ c ≠ 1) ∨
        ∃ os, normObs obs = .ok os ∧ ((normEns ens).length ≠ os.length ∨ keepRows os (normEns ens) = [])) := by
  unfold pitEntry checkEnsembleIn
  cases ho : normObs obs with
  | error e =>
    simp only [(normObs_error_iff obs).mp ⟨e, ho⟩, true_or, iff_true]
    exact ⟨e, rfl⟩
  | ok os =>
    have hno : ¬ ∃ c rows, obs = .mat c rows ∧ rows.length ≠ 1 ∧ c ≠ 1 := fun h => by
      obtain ⟨e, he⟩ := (normObs_error_iff obs).mpr h
      rw [ho] at he; cases he
    simp only [hno, false_or, Except.ok.injEq, exists_eq_left', ← checkEnsemble_error_iff]
    cases checkEnsemble os (normEns ens) <;> simp

/-- every PIT value `pit` returns lies in [0, 1]: every layout, every `kind`, both branches, NaN members included
(`none` = the NaN `percentileofscore` propagates from a NaN member in the non-random branch) -/
theorem pitEntry_range (random : Bool) (kind : PctKind) (eps cst censor : α) (obs ens : ArrIn (Option α))
    (dobs : List α) (dens : List (List α)) (r : List (Option α × Bool))
    (h : pitEntry random kind eps cst censor obs ens dobs dens = .ok r) :
    ∀ q ∈ r, ∀ v, q.1 = some v → 0 ≤ v ∧ v ≤ 1 := by
  obtain ⟨k, hk, rfl⟩ := pitEntry_ok h
  intro q hq v hv
  obtain ⟨o, e, d, de, hm, rfl⟩ := mem_pitRows hq
  refine pitOne_range ?_ hv
  rintro rfl
  simpa using (checkEnsembleIn_ok hk).2 _ hm

theorem pitEntry_random_defined (kind : PctKind) (eps cst censor : α) (obs ens : ArrIn (Option α))
    (dobs : List α) (dens : List (List α)) (r : List (Option α × Bool))
    (h : pitEntry true kind eps cst censor obs ens dobs dens = .ok r) : ∀ q ∈ r, q.1.isSome = true := by
  obtain ⟨k, hk, rfl⟩ := pitEntry_ok h
  intro q hq
  obtain ⟨o, e, d, de, _, rfl⟩ := mem_pitRows hq
  rfl

/-- on complete data (the property's quantifier: no NaN, `n ≥ 1` forecasts of `m ≥ 1` members) the entry point
returns, forecast by forecast, `pitRandom` / `pitKind` and `isSudo` — the functions of clauses 6 to 8 -/
theorem pitEntry_complete (random : Bool) (kind : PctKind) (eps cst censor : α) (os : List α) (c : ℕ)
    (rows : List (List α)) (hlen : rows.length = os.length) (hos : os ≠ []) (hne : ∀ r ∈ rows, r ≠ [])
    (dobs : List α) (dens : List (List α)) :
    pitEntry random kind eps cst censor (.vec (os.map some)) (.mat c (rows.map fun r => r.map some)) dobs dens
      = .ok (pitSpec random kind eps cst censor os rows dobs dens) := by
  unfold pitEntry checkEnsembleIn
  simp only [normObs, normEns]
  rw [checkEnsemble_complete os rows hlen hos hne]
  simp only [pitRows_complete]

/-- the documented layouts of `obs` — [n], [n,1] — and a row [1,n] give the same answer -/
theorem pitEntry_obs_layouts (random : Bool) (kind : PctKind) (eps cst censor : α) (l : List (Option α))
    (ens : ArrIn (Option α)) (dobs : List α) (dens : List (List α)) :
    pitEntry random kind eps cst censor (.mat 1 (l.map fun a => [a])) ens dobs dens
        = pitEntry random kind eps cst censor (.vec l) ens dobs dens ∧
      pitEntry random kind eps cst censor (.mat l.length [l]) ens dobs dens
        = pitEntry random kind eps cst censor (.vec l) ens dobs dens := by
  unfold pitEntry checkEnsembleIn
  simp [normObs, flatten_singletons]

/-! ### the formulas of `pit` and the last step of `dscore` under rounding -/

/-- PIT of the random branch in [0, 1] with every arithmetic operation rounded (`cst ≥ 0`: the property's plotting
constants; values above ½ are clamped) -/
theorem pit_range_rounded (rnd : α → α) (nens : ℕ) (hr : RoundsCounts rnd nens) (cst : α) (hc0 : 0 ≤ cst)
    (cnt : ℕ) (hcnt : cnt ≤ nens) :
    0 ≤ pitFormulaR rnd (clampCst cst) cnt nens ∧ pitFormulaR rnd (clampCst cst) cnt nens ≤ 1 := by
  obtain ⟨hn1, hn2⟩ := pitR_num hr (clampCst_nonneg cst hc0) (clampCst_le_half cst) hcnt
  have hd := pitR_den hr (clampCst_le_half cst)
  have h0 := hr.nat 0 (Nat.zero_le _)
  have h1 := hr.nat 1 (Nat.succ_le_succ (Nat.zero_le _))
  rw [Nat.cast_zero] at h0
  rw [Nat.cast_one] at h1
  have hnd := hn2.trans ((add_le_add (Nat.cast_le.mpr hcnt) le_rfl).trans hd)
  exact Round.rnd_div_mem hr.mono h0 h1 ((Nat.cast_nonneg cnt).trans hn1) hnd

set_option linter.unusedVariables false in
/-- … and it never decreases when one more member lies below the observation (strictness is the exact statement
`pit_strictMono_count`; in double precision it holds as long as the step 1/(1 - cst + m) exceeds one ulp).
Monotonicity needs neither `0 ≤ cst` nor `cnt' ≤ nens` -/
theorem pit_mono_rounded (rnd : α → α) (nens : ℕ) (hr : RoundsCounts rnd nens) (cst : α) (hc0 : 0 ≤ cst)
    (cnt cnt' : ℕ) (h : cnt ≤ cnt') (hcnt : cnt' ≤ nens) :
    pitFormulaR rnd (clampCst cst) cnt nens ≤ pitFormulaR rnd (clampCst cst) cnt' nens := by
  have hden := (add_pos_of_nonneg_of_pos (Nat.cast_nonneg nens) one_half_pos).trans_le
    (pitR_den hr (clampCst_le_half cst))
  exact hr.mono (div_le_div_of_nonneg_right
    (hr.mono (sub_le_sub_right (hr.mono (add_le_add (Nat.cast_le.mpr h) le_rfl)) _)) hden.le)

theorem rounded_id (c eps censor obs : α) (cnt nens : ℕ) (ens : List α) :
    pitFormulaR id c cnt nens = pitFormula c cnt nens ∧ isSudoR id eps censor obs ens = isSudo eps censor obs ens :=
  ⟨pitFormulaR_id c cnt nens, isSudoR_id eps censor obs ens⟩

/-- the pseudo-PIT flag IS raised when the observation and a member are at or below the threshold, whatever the
rounding of `obs - censor`, `ens - censor` -/
theorem sudo_rounded_at_or_below (rnd : α → α) (hm : Monotone rnd) (h0 : rnd 0 = 0) (eps censor obs : α)
    (heps : 0 < eps) (ens : List α) (hobs : obs ≤ censor) (hens : ∃ a ∈ ens, a ≤ censor) :
    isSudoR rnd eps censor obs ens = true := by
  have key : ∀ x, x ≤ censor → rnd (x - censor) < eps := fun x hx =>
    ((hm (sub_nonpos.mpr hx)).trans_eq h0).trans_lt heps
  obtain ⟨a, ha, hac⟩ := hens
  simp only [isSudoR, Bool.and_eq_true, decide_eq_true_eq, List.length_pos_iff, ne_eq, List.filter_eq_nil_iff,
    not_forall, not_not]
  exact ⟨key obs hobs, a, ha, key a hac⟩

/-- … and is NOT raised when the observation, or every member, is at least EPS above it -/
theorem sudo_rounded_above (rnd : α → α) (hm : Monotone rnd) (eps censor obs : α) (he : rnd eps = eps)
    (ens : List α) (h : eps ≤ obs - censor ∨ ∀ a ∈ ens, eps ≤ a - censor) :
    isSudoR rnd eps censor obs ens = false := by
  have key : ∀ x, eps ≤ x - censor → ¬ rnd (x - censor) < eps := fun x hx =>
    not_lt.mpr (he.symm.trans_le (hm hx))
  rcases h with h | h
  · simp [isSudoR, key obs h]
  · simpa [isSudoR, List.filter_eq_nil_iff] using fun _ a ha => not_lt.mp (key a (h a ha))

/-- the score stays in [0, 1] under rounding whatever `np.corrcoef` computed before its clip -/
theorem dscore_range_rounded (rnd : α → α) (hm : Monotone rnd) (h0 : rnd 0 = 0) (h1 : rnd 1 = 1) (h2 : rnd 2 = 2)
    (r : α) : 0 ≤ dFinishR rnd r ∧ dFinishR rnd r ≤ 1 := by
  obtain ⟨hc1, hc2⟩ := C04.clip1_mem r
  obtain ⟨ha, hb⟩ := Round.rnd_mem hm h0 h2 (neg_le_iff_add_nonneg.mp hc1) ((add_le_add hc2 le_rfl).trans_eq one_add_one_eq_two)
  exact Round.rnd_div_mem hm h0 h1 ha hb

/-! ### `c_ensrank`: what acceptance implies; the rank sum without any hypothesis -/

/-- whenever `c_ensrank` ACCEPTS a call (`epsmin` = 1e-20 > 0) on a rectangular array whose pairs are tied-or-separated
and stably sorted, it returns Weigel and Mason's eq. 1 and 2: `0 < eps`, `epsmin ≤ eps`, `m ≥ 1`, `n ≥ 1` all follow
from the acceptance -/
theorem ensrank_ok_eq_weigel_mason (sort : List (α × ℕ) → List (α × ℕ)) (epsmin eps ceps : α) (h0 : 0 < epsmin)
    (hc : 0 ≤ ceps) (m : ℕ) (rows : List (List α)) (hlen : ∀ e ∈ rows, e.length = m)
    (hok : rows.Pairwise (PairOK sort eps ceps)) (r : List (List α) × List α)
    (h : ensrank sort epsmin eps m rows = .ok r) : r = (upperF wmF rows, wmRanks rows) := by
  obtain ⟨_, h1, h2, h3⟩ := ensrank_ok_inv h
  have hmin : epsmin ≤ eps := not_lt.mp h1
  have := ensrank_eq_weigel_mason sort epsmin eps ceps hmin (lt_of_lt_of_le h0 hmin) hc m (Nat.pos_of_ne_zero h2)
    rows h3 hlen hok
  rw [this] at h
  injection h with h
  exact h.symm

/-- with NO hypothesis on ties, separation or the sort: whenever the kernel accepts, the ranks it returns sum to
`n(n+1)/2` (every pair of forecasts shares exactly one unit) — this is what remains true of the excluded inputs and
what the harness checks there -/
theorem ensrank_ranks_sum (sort : List (α × ℕ) → List (α × ℕ)) (epsmin eps : α) (m : ℕ) (rows : List (List α))
    (r : List (List α) × List α) (h : ensrank sort epsmin eps m rows = .ok r) :
    r.2.sum = (rows.length : α) * ((rows.length : α) + 1) / 2 := by
  obtain ⟨hr, _, _, _⟩ := ensrank_ok_inv h
  rw [hr]
  exact ranksOf_sum _ rows

end field

/-! ### separation and stability are needed -/

/-- `Separated` is needed: two distinct values closer than the tolerance — correctly and stably sorted — are not
compared as eq. 1 compares them (the statement says `≠ wmF` only; in the example the kernel's `F` is -1: the member of the
second ensemble opens no tie sequence and the member of the first one, within `eps` of it, does not either) -/
theorem separation_needed :
    ∃ (sort : List (ℚ × ℕ) → List (ℚ × ℕ)) (e1 e2 : List ℚ),
      StableSortedBy (cmpTol (1 / 10 ^ 8 : ℚ)) (pool e1 e2) (sort (pool e1 e2)) ∧
        ¬ Separated (1 / 10 ^ 6 : ℚ) (1 / 10 ^ 8) (e1 ++ e2) ∧ fpair sort (1 / 10 ^ 6) e1 e2 ≠ wmF e1 e2 := by
  refine ⟨fun _ => [((0 : ℚ), 1), (1 / 10 ^ 7, 0)], [1 / 10 ^ 7], [0], ⟨?_, ?_⟩, ?_, ?_⟩
  · unfold pool; decide +kernel
  · unfold cmpTol; decide +kernel
  · intro h
    have := h (1 / 10 ^ 7) (by simp) 0 (by simp)
    norm_num at this
  · unfold wmF wm rowScore ps; decide +kernel

/-- stability is needed: a sort that orders the pooled values correctly but puts the tied member of the SECOND
ensemble first gives another `F` -/
theorem stability_needed :
    ∃ (sort : List (ℚ × ℕ) → List (ℚ × ℕ)) (e1 e2 : List ℚ),
      (sort (pool e1 e2)).Perm (pool e1 e2) ∧ (sort (pool e1 e2)).Pairwise (fun x y => x.1 ≤ y.1) ∧
        fpair sort (1 / 10 ^ 6) e1 e2 ≠ wmF e1 e2 := by
  refine ⟨fun _ => [((1 : ℚ), 1), (1, 0)], [1], [1], ?_, ?_, ?_⟩
  · unfold pool; decide +kernel
  · simp
  · unfold wmF wm rowScore ps; decide +kernel

/-! ### `dscore` (over ℝ: a square root) -/

/-- `D` is the rank correlation of Weigel and Mason mapped to [0, 1]:
`(Pearson(observation ranks, Weigel–Mason forecast ranks) + 1)/2` -/
theorem dscore_eq_rank_correlation (sort : List (ℝ × ℕ) → List (ℝ × ℕ)) (epsmin eps ceps : ℝ) (m : ℕ)
    (oranks : List ℕ) (rows : List (List ℝ)) (h : RanksOK sort epsmin eps ceps m rows) :
    dscoreWith sort epsmin eps m oranks rows
      = dscoreOf (oranks.map fun (r : ℕ) => (Nat.cast r : ℝ)) (wmRanks rows) := by
  unfold dscoreWith
  rw [franks_eq_weigel_mason sort epsmin eps ceps m rows h]

/-- whenever it is defined, `0 ≤ D ≤ 1` — for all inputs, with no hypothesis on ties or on the sort -/
theorem dscore_range (sort : List (ℝ × ℕ) → List (ℝ × ℕ)) (epsmin eps : ℝ) (m : ℕ) (obs : List ℝ)
    (rows : List (List ℝ)) (D : ℝ) (h : dscore sort epsmin eps m obs rows = some D) : 0 ≤ D ∧ D ≤ 1 :=
  dscoreOf_range _ _ D h

/-- `D` is undefined (NaN in the code) exactly when one of the two rank vectors is constant -/
theorem dscoreOf_none_iff (x y : List ℝ) :
    dscoreOf x y = none ↔ ¬ (0 < ssd (mean x) x ∧ 0 < ssd (mean y) y) := by
  unfold dscoreOf
  split <;> simp_all

/-- `dscoreOf` is `dFinishR id` of the (clipped) correlation: the rounded range theorem is about the code's last step -/
theorem dscoreOf_through_finish (x y : List ℝ) : dscoreOfFin x y = dscoreOf x y := by
  unfold dscoreOfFin dscoreOf dFinishR
  have : C04.clip1 (pearson x y) = pearson x y := by
    unfold pearson
    exact C04.clip1_idem _
  simp only [id, this]

/-- `D = 1` when the forecasts order the (distinct) observations perfectly: for every pair of forecasts the
one with the larger observation wins the ensemble comparison; any `n ≥ 2`, any `m ≥ 1` -/
theorem dscore_perfect (sort : List (ℝ × ℕ) → List (ℝ × ℕ)) (epsmin eps ceps : ℝ) (m : ℕ)
    (pairs : List (ℝ × List ℝ)) (hn : 2 ≤ pairs.length) (hnd : (pairs.map Prod.fst).Nodup)
    (hperf : PerfectOrder pairs) (hok : RanksOK sort epsmin eps ceps m (pairs.map Prod.snd)) :
    dscore sort epsmin eps m (pairs.map Prod.fst) (pairs.map Prod.snd) = some 1 := by
  unfold dscore
  rw [dscore_eq_rank_correlation sort epsmin eps ceps m _ _ hok, wmRanks_perfect hnd hperf, stableRanks_nodup hnd,
    dscoreOf_affine 1 1 one_ne_zero _ (ssd_obs_ranks_pos hnd (by rwa [List.length_map]))]
  simp

theorem dscore_inverse (sort : List (ℝ × ℕ) → List (ℝ × ℕ)) (epsmin eps ceps : ℝ) (m : ℕ)
    (pairs : List (ℝ × List ℝ)) (hn : 2 ≤ pairs.length) (hnd : (pairs.map Prod.fst).Nodup)
    (hinv : InverseOrder pairs) (hok : RanksOK sort epsmin eps ceps m (pairs.map Prod.snd)) :
    dscore sort epsmin eps m (pairs.map Prod.fst) (pairs.map Prod.snd) = some 0 := by
  unfold dscore
  rw [dscore_eq_rank_correlation sort epsmin eps ceps m _ _ hok, wmRanks_inverse hnd hinv, stableRanks_nodup hnd,
    dscoreOf_affine (-1) _ (by norm_num) _ (ssd_obs_ranks_pos hnd (by rwa [List.length_map]))]
  norm_num

theorem dscore_obs_map_invariant (sort : List (ℝ × ℕ) → List (ℝ × ℕ)) (epsmin eps : ℝ) (m : ℕ)
    (f : ℝ → ℝ) (hf : StrictMono f) (obs : List ℝ) (rows : List (List ℝ)) :
    dscore sort epsmin eps m (obs.map f) rows = dscore sort epsmin eps m obs rows := by
  unfold dscore
  rw [stableRanks_map hf]

theorem dscore_forecast_map_invariant (sort : List (ℝ × ℕ) → List (ℝ × ℕ)) (epsmin eps ceps : ℝ) (m : ℕ)
    (f : ℝ → ℝ) (hf : StrictMono f) (obs : List ℝ) (rows : List (List ℝ))
    (h : RanksOK sort epsmin eps ceps m rows) (h' : RanksOK sort epsmin eps ceps m (rows.map (List.map f))) :
    dscore sort epsmin eps m obs (rows.map (List.map f)) = dscore sort epsmin eps m obs rows := by
  unfold dscore
  rw [dscore_eq_rank_correlation sort epsmin eps ceps m _ _ h,
    dscore_eq_rank_correlation sort epsmin eps ceps m _ _ h', wmRanks_map hf]

theorem dscore_member_perm_invariant (sort : List (ℝ × ℕ) → List (ℝ × ℕ)) (epsmin eps ceps : ℝ) (m : ℕ)
    (obs : List ℝ) (rows rows' : List (List ℝ)) (hp : List.Forall₂ List.Perm rows rows')
    (h : RanksOK sort epsmin eps ceps m rows) (h' : RanksOK sort epsmin eps ceps m rows') :
    dscore sort epsmin eps m obs rows' = dscore sort epsmin eps m obs rows := by
  unfold dscore
  rw [dscore_eq_rank_correlation sort epsmin eps ceps m _ _ h,
    dscore_eq_rank_correlation sort epsmin eps ceps m _ _ h', wmRanks_perm hp]

/-- `np.argsort` is external and its tie-breaking unspecified; for pairwise distinct observations this cannot
matter: with ANY ordinal ranking of the observations (`ValidRanking`) in place of `np.argsort(np.argsort(obs))`
the score is the one of the model -/
theorem dscore_any_argsort (sort : List (ℝ × ℕ) → List (ℝ × ℕ)) (epsmin eps : ℝ) (m : ℕ) (obs : List ℝ)
    (hnd : obs.Nodup) (r : List ℕ) (hr : ValidRanking obs r) (rows : List (List ℝ)) :
    dscoreWith sort epsmin eps m r rows = dscore sort epsmin eps m obs rows := by
  unfold dscore
  rw [validRanking_unique hnd hr]

/-- … and the invariance under a strictly increasing re-scaling of distinct observations holds for any two such
rankings, before and after the map -/
theorem dscore_obs_map_invariant_any_argsort (sort : List (ℝ × ℕ) → List (ℝ × ℕ)) (epsmin eps : ℝ) (m : ℕ)
    (f : ℝ → ℝ) (hf : StrictMono f) (obs : List ℝ) (hnd : obs.Nodup) (r r' : List ℕ)
    (hr : ValidRanking obs r) (hr' : ValidRanking (obs.map f) r') (rows : List (List ℝ)) :
    dscoreWith sort epsmin eps m r' rows = dscoreWith sort epsmin eps m r rows := by
  rw [dscore_any_argsort sort epsmin eps m obs hnd r hr rows,
    dscore_any_argsort sort epsmin eps m (obs.map f) (hnd.map hf.injective) r' hr' rows,
    dscore_obs_map_invariant sort epsmin eps m f hf obs rows]

/-! ### `alpha` and the Anderson–Darling test (over ℝ: logarithms) -/

/-- `alpha(type="CV")`: the p-value is defined and lies in [0, 1], whatever the forecasts and the jitter -/
theorem alpha_cv_pvalue_range (sort : List ℝ → List ℝ) (cst0 : ℝ) (obs dobs : List ℝ) (ens dens : List (List ℝ)) :
    ∃ v, (alphaCV sort cst0 obs dobs ens dens).2 = some v ∧ 0 ≤ v ∧ v ≤ 1 := by
  unfold alphaCV
  simp only
  obtain ⟨v, hv⟩ := cvm_pvalue_defined (α := ℝ) (pitRandomAll cst0 obs dobs ens dens).length
    (cvmStat sort (pitRandomAll cst0 obs dobs ens dens))
  exact ⟨v, hv, cvm_pvalue_range _ _ v hv⟩

/-- data outside [0, 1] or NaN are rejected, and nothing else is (`prev0`: the initial `prev` of `ADtest`'s order
check, -1e-300 in the code) -/
theorem ad_rejects_iff (sort : List (Option ℝ) → List (Option ℝ)) (hs : ADSorts sort) (prev0 : ℝ)
    (hprev : prev0 ≤ 0) (data : List (Option ℝ)) :
    (∃ e, adTest sort prev0 data = .error e) ↔ ∃ x ∈ data, BadAD x := by
  constructor
  · rintro ⟨e, he⟩
    rcases exists_map_some_or_none_mem data with ⟨xs, rfl⟩ | hn
    · obtain ⟨s, _, _, h⟩ := adTest_map_some hs hprev xs
      rw [h] at he
      split_ifs at he with hall
      by_contra hno
      refine hall fun v hv => by_contra fun hb => hno ⟨some v, List.mem_map_of_mem hv, ?_⟩
      exact (not_and_or.mp hb).imp not_le.mp not_le.mp
    · exact ⟨none, hn, trivial⟩
  · rintro ⟨x, hx, hb⟩
    have hg := adGuards_of_bad prev0 (sort data) ⟨x, (hs.1 data).mem_iff.mpr hx, hb⟩
    unfold adTest
    cases hgd : adGuards prev0 (sort data) with
    | none => exact absurd hgd hg
    | some e => exact ⟨e, by dsimp only; rw [hgd]⟩

/-- on a sample in the open interval (0, 1) the statistic equals the textbook formula
`-n - (1/n) Σ (2i-1) [ln x_(i) + ln(1 - x_(n+1-i))]` on the order statistics `s`, whatever the order of the data -/
theorem ad_eq_textbook (sort : List (Option ℝ) → List (Option ℝ)) (hs : ADSorts sort) (prev0 : ℝ)
    (hprev : prev0 ≤ 0) (xs s : List ℝ) (hx : ∀ v ∈ xs, 0 < v ∧ v < 1)
    (hperm : s.Perm xs) (hsorted : s.Pairwise (· ≤ ·)) :
    adTest sort prev0 (xs.map some) = .ok (adTextbook s) := by
  obtain ⟨s', hperm', hsorted', h⟩ := adTest_map_some hs hprev xs
  rw [h, if_pos fun v hv => ⟨(hx v hv).1.le, (hx v hv).2.le⟩,
    (hperm'.trans hperm.symm).eq_of_pairwise' hsorted' hsorted,
    adStat_eq fun v hv => hx v (hperm.mem_iff.mp hv)]

theorem ad_perm_invariant (sort : List (Option ℝ) → List (Option ℝ)) (hs : ADSorts sort) (prev0 : ℝ)
    (hprev : prev0 ≤ 0) (xs xs' : List ℝ) (hx : ∀ v ∈ xs, 0 < v ∧ v < 1) (h : xs.Perm xs') :
    adTest sort prev0 (xs'.map some) = adTest sort prev0 (xs.map some) := by
  obtain ⟨s, _, hperm, hsorted⟩ := hs.2 xs
  rw [ad_eq_textbook sort hs prev0 hprev xs s hx hperm hsorted,
    ad_eq_textbook sort hs prev0 hprev xs' s (fun v hv => hx v (h.mem_iff.mpr hv)) (hperm.trans h) hsorted]

/-- the Anderson-Darling p-value returned with the statistic lies in [0, 1], for every sample size and every
value of the statistic (the code clamps Marsaglia's approximation `1 - AD(n, z)`) -/
theorem ad_pvalue_range (n : ℕ) (stat : ℝ) : 0 ≤ adPvalue n stat ∧ adPvalue n stat ≤ 1 :=
  clamp01_range _

/-- `alpha(type="AD")`: the PIT series of the random branch lies strictly inside (0, 1) (`pit`'s default
plotting constant is below ½), so the Anderson-Darling test never rejects it, and its p-value lies in [0, 1] -/
theorem alpha_ad_accepts (sort : List (Option ℝ) → List (Option ℝ)) (hs : ADSorts sort) (prev0 cst0 : ℝ)
    (hprev : prev0 ≤ 0) (hc : cst0 < 1 / 2) (obs dobs : List ℝ) (ens dens : List (List ℝ)) :
    ∃ s p, alphaAD sort prev0 cst0 obs dobs ens dens = .ok (s, p) ∧ 0 ≤ p ∧ p ≤ 1 := by
  obtain ⟨s, _, _, h⟩ := adTest_map_some hs hprev (pitRandomAll cst0 obs dobs ens dens)
  have hopen := pitRandomAll_open cst0 hc obs dobs ens dens
  unfold alphaAD
  simp only
  rw [h, if_pos fun v hv => ⟨(hopen v hv).1.le, (hopen v hv).2.le⟩]
  exact ⟨_, _, rfl, ad_pvalue_range _ _⟩

/-- FULL p-value clause of the property ("the p-values of the Cramer-von Mises and Anderson-Darling tests and of
alpha lie in [0, 1]"): alpha returns the Cramer-von Mises, the Anderson-Darling or scipy's Kolmogorov-Smirnov
p-value of the PIT series. `ks` stands for `scipy.stats.kstest(pits, "uniform").pvalue`, which is outside the model;
not proved as a whole for that reason (the oracle range-checks it on the real code). -/
def pvalue_range_statement (ks : List ℝ → ℝ) : Prop :=
  (∀ (n : ℕ) (stat v : ℝ), cvmPvalue n stat = some v → 0 ≤ v ∧ v ≤ 1) ∧
    (∀ (n : ℕ) (stat : ℝ), 0 ≤ adPvalue n stat ∧ adPvalue n stat ≤ 1) ∧
    (∀ pits, 0 ≤ ks pits ∧ ks pits ≤ 1)

/-- proved part: everything that is computed by hydrodiy itself — the Cramer-von Mises p-value (for the table the
working tree ships) and the Anderson-Darling p-value, for every sample size and every statistic -/
theorem pvalue_range_partial :
    (∀ (n : ℕ) (stat v : ℝ), cvmPvalue n stat = some v → 0 ≤ v ∧ v ≤ 1) ∧
      (∀ (n : ℕ) (stat : ℝ), 0 ≤ adPvalue n stat ∧ adPvalue n stat ≤ 1) :=
  ⟨fun n stat v h => cvm_pvalue_range n stat v h, fun n stat => ad_pvalue_range n stat⟩

theorem ad_sortADm_eq_textbook (prev0 : ℝ) (hprev : prev0 ≤ 0) (xs s : List ℝ) (hx : ∀ v ∈ xs, 0 < v ∧ v < 1)
    (hperm : s.Perm xs) (hsorted : s.Pairwise (· ≤ ·)) :
    adTest sortADm prev0 (xs.map some) = .ok (adTextbook s) :=
  ad_eq_textbook sortADm sortADm_adSorts prev0 hprev xs s hx hperm hsorted

theorem ad_sortADm_rejects_iff (prev0 : ℝ) (hprev : prev0 ≤ 0) (data : List (Option ℝ)) :
    (∃ e, adTest sortADm prev0 data = .error e) ↔ ∃ x ∈ data, BadAD x :=
  ad_rejects_iff sortADm sortADm_adSorts prev0 hprev data

/-- with a correct sort the order check of `ADtest` never fires on NaN-free data: a rejection is a range rejection -/
theorem ad_never_unsorted (sort : List (Option ℝ) → List (Option ℝ)) (hs : ADSorts sort) (prev0 : ℝ)
    (hprev : prev0 ≤ 0) (xs : List ℝ) : adTest sort prev0 (xs.map some) ≠ .error .unsorted ∧
      adTest sort prev0 (xs.map some) ≠ .error .nan := by
  obtain ⟨s, _, _, h⟩ := adTest_map_some hs hprev xs
  rw [h]
  split_ifs <;> simp

/-- `alpha` filters, then `pit` filters again: the second filter changes nothing (what the first kept, it keeps) -/
theorem alpha_refilter (kind : PctKind) (eps cst censor : ℝ) (k : List (ℝ × List (Option ℝ)))
    (hk : ∀ p ∈ k, p.2.any Option.isSome = true) (hne : k ≠ []) (c : ℕ) (dobs : List ℝ) (dens : List (List ℝ)) :
    pitEntry true kind eps cst censor (.vec (keptObs k)) (.mat c (keptEns k)) dobs dens
      = .ok (pitRows true kind eps cst censor k dobs dens) := by
  unfold pitEntry checkEnsembleIn keptObs keptEns
  simp only [normObs, normEns]
  rw [checkEnsemble_ok_iff.mpr ⟨by simp, keepRows_idem hk, hne⟩]

/-- `alpha` with type CV or AD: whenever it returns, its p-value is defined and lies in [0, 1] (every layout, NaN rows,
every jitter) -/
theorem alphaEntry_pvalue_range (sortA : List ℝ → List ℝ) (sortD : List (Option ℝ) → List (Option ℝ))
    (ks : List ℝ → ℝ × ℝ) (typ : AlphaType) (htyp : typ ≠ .ks) (eps prev0 cst0 : ℝ) (obs ens : ArrIn (Option ℝ))
    (dobs : List ℝ) (dens : List (List ℝ)) (s : ℝ) (p : Option ℝ) (flags : List Bool)
    (h : alphaEntry sortA sortD ks typ eps prev0 cst0 obs ens dobs dens = .ok (s, p, flags)) :
    ∃ v, p = some v ∧ 0 ≤ v ∧ v ≤ 1 := by
  unfold alphaEntry at h
  cases hk : checkEnsembleIn obs ens with
  | error e => rw [hk] at h; cases h
  | ok k =>
    obtain ⟨hne, hany⟩ := checkEnsembleIn_ok hk
    rw [hk] at h
    simp only [alpha_refilter .rank eps cst0 0 k hany hne] at h
    cases typ with
    | ks => exact absurd rfl htyp
    | cv =>
      simp only [Except.ok.injEq, Prod.mk.injEq] at h
      obtain ⟨v, hv⟩ := cvm_pvalue_defined (α := ℝ) _ s
      rw [← h.1] at hv
      exact ⟨v, h.2.1.symm.trans hv, cvm_pvalue_range _ _ v hv⟩
    | ad =>
      simp only at h
      split at h
      · simp only [Except.ok.injEq, Prod.mk.injEq] at h
        exact ⟨_, h.2.1.symm, ad_pvalue_range _ _⟩
      · cases h
    | other => cases h

/-- with a correct sort the Anderson-Darling test never rejects alpha's own PIT series -/
theorem alphaEntry_ad_accepts (sortA : List ℝ → List ℝ) (sortD : List (Option ℝ) → List (Option ℝ))
    (hs : ADSorts sortD) (ks : List ℝ → ℝ × ℝ) (eps prev0 cst0 : ℝ) (hprev : prev0 ≤ 0) (hc : cst0 < 1 / 2)
    (obs ens : ArrIn (Option ℝ)) (dobs : List ℝ) (dens : List (List ℝ)) (e : ADErr) :
    alphaEntry sortA sortD ks .ad eps prev0 cst0 obs ens dobs dens ≠ .error (.adTest e) := by
  unfold alphaEntry
  cases hk : checkEnsembleIn obs ens with
  | error e' => simp
  | ok k =>
    obtain ⟨hne, hany⟩ := checkEnsembleIn_ok hk
    simp only
    rw [alpha_refilter .rank eps cst0 0 k hany hne]
    simp only
    have hopen := pitRows_random_open .rank eps cst0 0 hc k dobs dens
    obtain ⟨s, _, _, h⟩ := adTest_map_some hs hprev ((pitRows true .rank eps cst0 0 k dobs dens).filterMap Prod.fst)
    rw [h, if_pos fun v hv => ⟨(hopen v hv).1.le, (hopen v hv).2.le⟩]
    simp

/-- a type other than CV / KS / AD is rejected, after the data checks -/
theorem alphaEntry_badType (sortA : List ℝ → List ℝ) (sortD : List (Option ℝ) → List (Option ℝ))
    (ks : List ℝ → ℝ × ℝ) (eps prev0 cst0 : ℝ) (obs ens : ArrIn (Option ℝ)) (dobs : List ℝ) (dens : List (List ℝ))
    (k : List (ℝ × List (Option ℝ))) (hk : checkEnsembleIn obs ens = .ok k) :
    alphaEntry sortA sortD ks .other eps prev0 cst0 obs ens dobs dens = .error .badType := by
  obtain ⟨hne, hany⟩ := checkEnsembleIn_ok hk
  unfold alphaEntry
  rw [hk]
  simp only
  rw [alpha_refilter .rank eps cst0 0 k hany hne]

/-! ### `metrics.dscore`, the entry point -/

/-- whenever `dscore` returns a number it lies in [0, 1] — for every layout of `sim` -/
theorem dscoreEntry_range (sort : List (ℝ × ℕ) → List (ℝ × ℕ)) (epsmin eps : ℝ) (obs : List ℝ) (sim : SimIn ℝ)
    (D : ℝ) (h : dscoreEntry sort epsmin eps obs sim = .ok (some D)) : 0 ≤ D ∧ D ≤ 1 := by
  unfold dscoreEntry at h
  simp only at h
  split at h
  · cases h
  · injection h with h
    exact dscore_range sort epsmin eps _ obs _ D h

theorem dscoreEntry_rejects_iff (sort : List (ℝ × ℕ) → List (ℝ × ℕ)) (epsmin eps : ℝ) (obs : List ℝ) (sim : SimIn ℝ) :
    (∃ e, dscoreEntry sort epsmin eps obs sim = .error e) ↔ obs.length ≠ (simRows sim).2.length := by
  unfold dscoreEntry
  simp only
  split
  · rename_i h; exact ⟨fun _ => h, fun _ => ⟨_, rfl⟩⟩
  · rename_i h; exact ⟨fun ⟨e, he⟩ => (by cases he), fun h' => absurd h' h⟩

/-- single-member forecasts given as a vector [n] are scored as the column [n,1]: one forecast per value, ranked by
their mid-ranks (= Weigel–Mason ranks, `franks_eq_weigel_mason`), NOT as one forecast of `n` members -/
theorem dscoreEntry_vec (sort : List (ℝ × ℕ) → List (ℝ × ℕ)) (epsmin eps : ℝ) (obs l : List ℝ)
    (hlen : obs.length = l.length) :
    dscoreEntry sort epsmin eps obs (.vec l) = dscoreEntry sort epsmin eps obs (.mat 1 (l.map fun a => [a])) ∧
      dscoreEntry sort epsmin eps obs (.vec l)
        = .ok (dscoreOf ((stableRanks obs).map fun (r : ℕ) => (Nat.cast r : ℝ)) (midRanks l)) := by
  refine ⟨rfl, ?_⟩
  unfold dscoreEntry
  simp only [simRows, List.length_map]
  rw [if_neg (by simpa using hlen)]
  unfold dscore dscoreWith franksOf
  rw [if_pos rfl, flatten_singletons]

/-- the range clause does not depend on how `np.argsort` ranks (tied) observations: whatever rank vector stands for
`np.argsort(np.argsort(obs))`, the score is NaN or in [0, 1] -/
theorem dscore_range_any_argsort (sort : List (ℝ × ℕ) → List (ℝ × ℕ)) (epsmin eps : ℝ) (m : ℕ) (oranks : List ℕ)
    (rows : List (List ℝ)) (D : ℝ) (h : dscoreWith sort epsmin eps m oranks rows = some D) : 0 ≤ D ∧ D ≤ 1 :=
  dscoreOf_range _ _ D h

/-! ### the kernel on caller-owned buffers: a history of calls and scribbles -/

/-- one call: with buffers of the right shape the answer read back (return code, upper triangle of `fmat`, `ranks`)
is the answer on fresh buffers, and the buffers keep their shape; with buffers of another shape the wrapper's
assertion fires; a rejected call (assertion or return code) leaves the buffers untouched -/
theorem ensrank_step (sort : List (ℝ × ℕ) → List (ℝ × ℕ)) (epsmin eps : ℝ) (ncol : ℕ) (rows : List (List ℝ))
    (b : Bufs ℝ) :
    (shapesOK b rows.length = true →
        (bufStep sort epsmin b (.call eps ncol rows)).2 = callReply sort epsmin eps ncol rows ∧
          shapesOK (bufStep sort epsmin b (.call eps ncol rows)).1 rows.length = true) ∧
      (shapesOK b rows.length = false → bufStep sort epsmin b (.call eps ncol rows) = (b, .assertion)) ∧
      (∀ e, (bufStep sort epsmin b (.call eps ncol rows)).2 = .code e →
        (bufStep sort epsmin b (.call eps ncol rows)).1 = b) := by
  refine ⟨bufStep_call sort epsmin eps ncol rows b, ?_, ?_⟩
  · intro h; simp [bufStep, h]
  · intro e he
    by_cases hs : shapesOK b rows.length = true
    · cases hr : ensrank sort epsmin eps ncol rows with
      | error e' => simp [bufStep, hs, hr]
      | ok r => simp [bufStep, hs, hr] at he
    · simp [bufStep, hs] at he

/-- a whole history over `n` forecasts — calls (accepted or rejected by the kernel) and the caller scribbling into its
buffers, in any order and number: every reply is the reply on fresh buffers. Nothing leaks from one call to the next -/
theorem ensrank_history_free (sort : List (ℝ × ℕ) → List (ℝ × ℕ)) (epsmin : ℝ) (n : ℕ) (ops : List (BufOp ℝ)) :
    ∀ b : Bufs ℝ, shapesOK b n = true → (∀ op ∈ ops, OpShape n op) →
      (bufRun sort epsmin b ops).2 = ops.map (replyOf sort epsmin) := by
  intro b hb hops
  -- the shapes are kept by every operation, and on buffers of the right shape the reply depends on the operation alone
  refine (History.PairTrace.of_eqns (step := bufStep sort epsmin) (run := bufRun sort epsmin) (fun _ => rfl)
    fun _ _ _ => rfl).outs_eq_map (fun b => shapesOK b n = true) (replyOf sort epsmin) (fun b op ho hb => ?_) hb
  cases op with
  | scribble f r => exact ⟨hops _ ho, rfl⟩
  | call eps ncol rows =>
    obtain rfl : rows.length = n := hops _ ho
    exact (bufStep_call sort epsmin eps ncol rows b hb).symm

/-! ### instances of the hypotheses -/

/-- a pooled pair with a tie across the two ensembles, stably sorted: `PairOK` holds -/
example : PairOK (fun _ => [((1 : ℚ), 0), (1, 2), (2, 3), (3, 1)]) (1 / 1000000 : ℚ) (1 / 100000000)
    [1, 3] [1, 2] := by
  refine ⟨?_, ?_, ?_⟩
  · unfold Separated; decide +kernel
  · unfold pool; decide +kernel
  · unfold cmpTol; decide +kernel

example : PerfectOrder [((1 : ℚ), [0, 1]), (2, [1, 2]), (5, [2, 2])] := by
  unfold PerfectOrder wm rowScore ps; decide +kernel

example : InverseOrder [((1 : ℚ), [2, 2]), (2, [1, 2]), (5, [0, 1])] := by
  unfold InverseOrder wm rowScore ps; decide +kernel

/-- two forecasts of two members with a tie across them: a valid `dscore` configuration -/
example : RanksOK (fun _ => [((1 : ℚ), 0), (1, 2), (2, 3), (3, 1)]) (1 / 10 ^ 20 : ℚ) (1 / 1000000)
    (1 / 100000000) 2 [[1, 3], [1, 2]] := by
  refine ⟨by norm_num, by norm_num, by norm_num, by norm_num, by simp, by simp, fun _ => ?_⟩
  rw [List.pairwise_pair]
  refine ⟨?_, ?_, ?_⟩
  · unfold Separated; decide +kernel
  · unfold pool; decide +kernel
  · unfold cmpTol; decide +kernel

example : ValidRanking [(3 : ℚ), 1, 2] [2, 0, 1] := by
  unfold ValidRanking; decide +kernel

/-- jitter within `e` and members further than `2e` from the observation (hypotheses of `pitRandom_eq_count`) -/
example : |(1 / 20 : ℚ)| ≤ 1 / 10 ∧ (∀ d ∈ [(-1 / 10 : ℚ), 1 / 10], |d| ≤ 1 / 10) ∧
    (∀ a ∈ [(0 : ℚ), 2], 2 * (1 / 10) < |a - 1|) := by
  decide +kernel

example : SortsAscending fun l : List ℚ => l.mergeSort fun a b => decide (a ≤ b) :=
  sortAsc_sortsAscending

/-- a sort on NaN-free samples (identity otherwise) satisfies `ADSorts` -/
example : ADSorts fun data : List (Option ℚ) =>
    match allSome data with
    | some xs => (xs.mergeSort fun a b => decide (a ≤ b)).map some
    | none => data := by
  constructor
  · intro data
    cases h : allSome data with
    | none => simp only [h]; exact List.Perm.refl _
    | some xs =>
      simp only [h]
      rw [eq_map_some_of_allSome h]
      exact (sortAsc_perm xs).map some
  · intro xs
    exact ⟨sortAsc xs, by simp [allSome_map_some, sortAsc], sortAsc_perm xs, sortAsc_sorted xs⟩

/-- a rounding that is NOT the identity (round down to a multiple of 2⁻¹⁰) meets `RoundsCounts` -/
example : RoundsCounts (fun x : ℚ => (⌊x * 1024⌋ : ℚ) / 1024) 7 ∧ (⌊(1 / 3 : ℚ) * 1024⌋ : ℚ) / 1024 ≠ 1 / 3 := by
  refine ⟨⟨?_, ?_, ?_⟩, ?_⟩
  · intro a b hab
    dsimp only
    apply div_le_div_of_nonneg_right _ (by norm_num)
    exact_mod_cast Int.floor_mono (by linarith)
  · intro k _
    have : (k : ℚ) * 1024 = ((k * 1024 : ℤ) : ℚ) := by push_cast; ring
    rw [this, Int.floor_intCast]; push_cast; field_simp
  · intro k _
    have : ((k : ℚ) + 1 / 2) * 1024 = ((k * 1024 + 512 : ℤ) : ℚ) := by push_cast; ring
    rw [this, Int.floor_intCast]; push_cast; field_simp; ring
  · have : ⌊(1 / 3 : ℚ) * 1024⌋ = 341 := by
      rw [Int.floor_eq_iff]; constructor <;> norm_num
    rw [this]; norm_num

/-- `pit` on data with a missing observation and a NaN member: the forecast without observation is dropped, the NaN
member is counted in the ensemble size but not below the observation, and is not censored -/
example : (pitEntry (α := ℚ) true .rank (1 / 10 ^ 10) (3 / 10) 0 (.vec [some 2, none, some 0])
      (.mat 2 [[some 1, none], [some 1, some 1], [some 0, some 3]]) [0, 0] [[0, 0], [0, 0]]).toOption
    = some [(some (4 / 9), false), (some (2 / 27), true)] := by
  decide +kernel

/-- … and a [n,1] observation array gives the same as the vector; a [2,2] one is rejected -/
example : pitEntry (α := ℚ) false .mean (1 / 10 ^ 10) (3 / 10) 0 (.mat 2 [[some 1, some 2], [some 3, some 4]])
      (.mat 2 [[some 1, some 1], [some 1, some 1]]) [] [] = .error .obsNotOneD := by
  decide +kernel

/-- a history on two single-member forecasts: an accepted call, a call the kernel rejects (eps = 0), the caller
scribbling over both buffers, another accepted call — hypotheses of `ensrank_history_free` -/
example : shapesOK (⟨[[0, 0], [0, 0]], [0, 0]⟩ : Bufs ℚ) 2 = true ∧
    ∀ op ∈ [BufOp.call (1 / 10 ^ 6 : ℚ) 1 [[1], [2]], .call 0 1 [[1], [2]], .scribble [[7, 7], [7, 7]] [3, 3],
      .call (1 / 10 ^ 6) 1 [[2], [1]]], OpShape 2 op := by
  refine ⟨by decide +kernel, ?_⟩
  intro op hop
  simp only [List.mem_cons, List.not_mem_nil, or_false] at hop
  rcases hop with rfl | rfl | rfl | rfl <;> simp [OpShape, shapesOK]

/-- … and what the run returns on it (identity sort: the pooled pairs are already in order) -/
example : (bufRun (fun l => l) (1 / 10 ^ 20 : ℚ) ⟨[[0, 0], [0, 0]], [0, 0]⟩
      [BufOp.call (1 / 10 ^ 6 : ℚ) 1 [[1], [2]], .call 0 1 [[1], [2]], .scribble [[7, 7], [7, 7]] [3, 3]]).1.ranks
    = [3, 3] ∧
    (bufRun (fun l => l) (1 / 10 ^ 20 : ℚ) ⟨[[0, 0], [0, 0]], [0, 0]⟩
      [BufOp.call (1 / 10 ^ 6 : ℚ) 1 [[1], [2]], .call 0 1 [[1], [2]]]).1.ranks = [1, 2] := by
  decide +kernel

/-- single-member forecasts as a vector: accepted when there are as many observations -/
example : (simRows (.vec [(1 : ℚ), 2, 2, 4])).2.length = [(1 : ℚ), 2, 3, 4].length := by decide

/-- a pseudo-PIT configuration at the threshold (hypotheses of `sudo_rounded_at_or_below`) and one above it -/
example : (2 : ℚ) ≤ 2 ∧ (∃ a ∈ [(3 : ℚ), 1], a ≤ 2) ∧ ((1 / 10 ^ 10 : ℚ) ≤ 5 - 2 ∨ ∀ a ∈ [(3 : ℚ), 1], 1 / 10 ^ 10 ≤ a - 2) := by
  decide +kernel

end HydroVerif.C10
