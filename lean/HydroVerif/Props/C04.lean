/-
C04 — property theorems. Model: `HydroVerif/Model/C04.lean`; helper lemmas: `Lemmas/C04.lean`, `Lemmas/C04Conf.lean`,
`Lemmas/C04Full.lean` (null filter = removal, histories, `binary` and its error paths), `Lemmas/C04Rnd.lean` (rounded carrier),
`Lemmas/C04Real.lean` (the square roots of `np.std` / `np.corrcoef` over ℝ).
`o` = (transformed) observations, `s` = (transformed) simulations. The whole functions (`biasFull`, `nseFull`, `kgeFull`,
`corrRaw`, `binaryOf`, `binarySeries`) take the RAW arguments and the transform as a function `f` (`trans.forward` on one value);
the driver runs them with the transform model of C01/C02 as `f`, so the composition with the transform, the argument checks,
the null filter, the guards and the error kinds are inside the model. The theorems about the whole functions are stated for an
arbitrary `f`, hence for Identity, Log, BoxCox2, Reciprocal, Sinh at any parameters; the closed-form theorems are about series
already transformed.
Also here, used by the theorems below: the instance `Transc ℝ` with `sqrt_def`, `log_def`; `std_pos_iff`, `quad_nonneg`, `scd_comm`;
`insertLE_perm`, `insertLE_sorted`, `sortL_eq_of_perm` (instances of `Lemmas/Lists`); `allSomeL_map_some`; `orient_single`.

Clause of the property                                   | theorems                                                       | outside the theorems
---------------------------------------------------------|----------------------------------------------------------------|---------------------
scores equal their textbook definitions on the transformed series | nse (definition), nseFull_complete, biasStd_value, biasNorm_value, kge_value, kge_textbook + corrPearson_textbook (non-degeneracy discharged from the guards: ssd_pos_of_std_guard), pearson_textbook (clipping of corrcoef never acts: cauchy_schwarz), pearson_comm, ranks / corrSpearman (definition) | numpy pairwise sums vs sequential sums (condition-scaled tolerance); exp/log/pow/asinh of the transforms (C01/C02)
perfect simulation: bias 0, NSE 1, KGE 1, corr 1          | biasStd_perfect, biasNorm_perfect, biasLog_perfect, nse_perfect, nse_perfect_trans, kge_perfect, pearson_self, corr_perfect, spearman_perfect, corrFull_perfect, corrRaw_perfect; exactly so in floating point: nse_perfect_rnd, bias_perfect_rnd; strictness of the guard: kge_perfect_boundary | -
simulating the observed mean scores NSE 0                | nse_mean_sim                                                   | -
NSE and KGE never exceed 1                               | nse_le_one, kge_le_one (pearson_range); in floating point: nse_le_one_rnd, kge_le_one_rnd, pearson_range_rnd | -
NSE invariant under a common affine map                  | nse_affine                                                     | -
bias and KGE invariant under positive scaling            | biasStd_scale, biasNorm_scale, biasLog_scale, kge_scale (std_scale, pearson_scale); the guard hypothesis after scaling is needed: biasStd_scale_needs_guard | -
excludenull = score of the series with incomplete pairs removed | biasFull_excl, nseFull_excl, kgeFull_excl, corrSeries_excl (prep_excl_eq_removed), full_excl_noValid, nonull_spec, nonull_complete, mem_checkEns | np.isfinite / pd.notnull / np.isnan (driver: Float.isFinite / isNaN)
argument checks and error kinds                           | full_shape_error, corrRaw_shape_error, corrRaw_censored, corrRaw_orient, orient_idem, orient_square, orient_of_length_ne_one | the wording of the messages
ensemble statistic mean / median                         | ensStat_single, ensStat_skips_nan, ensStat_all_nan, ensMean_value, median_perm, median_bounds, sortL_perm, sortL_sorted | np.nanmean / np.nanmedian (compared per row)
Spearman depends on the data through their order only    | ranks_map_strictMono, spearman_monotone_invariant              | scipy.stats.spearmanr (compared by result)
confusion matrix: every pair once, requested size        | confusion_labels, confusion_cells, confusion_total, inferNcat_covers; labels ≥ ncat are dropped: confusion_total_needs_range; a returned table is a value whatever is computed or edited afterwards: held_table_is_value, hstep_edit_out_of_range, hrun_length (over arbitrary operation lists) | pandas.crosstab (compared by result)
binary scores equal contingency-table definitions        | binary_rates, binary_f1_harmonic, binary_theta, binary_orss, binary_lor_defined, binary_accuracy_range, binary_mcc_range; never rejected on positive tables / rejected exactly when FN = 0 or FP = 0: binaryOf_pos, binaryOf_zeroDiv_iff; from two 0/1 series: binarySeries_eq; in floating point: binary_rates_range_rnd, binary_orss_range_rnd | sqrt / log of the driver's Float
biasNorm in [-1, 1]                                       | biasNorm_range, biasNorm_range_rnd                             | -
signs (which way a score points)                         | binary_skill_sign, biasStd_sign, biasStd_sign_rnd              | -
-/
import HydroVerif.Lemmas.C04
import HydroVerif.Lemmas.C04Conf
import HydroVerif.Lemmas.C04Full
import HydroVerif.Lemmas.C04Rnd
import HydroVerif.Lemmas.C04Real
import Mathlib.Analysis.SpecialFunctions.Pow.Real
import Mathlib.Analysis.SpecialFunctions.Log.Basic

namespace HydroVerif.C04

section field
variable {α : Type} [Field α] [LinearOrder α] [IsStrictOrderedRing α]

/-- `_h` is not used by the proof (`sse o o = 0` and `0 / x = 0` for every `x`, `x = 0` included); it restricts the
statement to the series on which the quotient of the code is defined -/
theorem nse_perfect (o : List α) (_h : ssd (mean o) o ≠ 0) : nse o o = 1 := by
  simp [nse, sse_self]

theorem nse_mean_sim (o : List α) (h : ssd (mean o) o ≠ 0) :
    nse o (List.replicate o.length (mean o)) = 0 := by
  rw [nse, sse_const_eq_ssd, div_self h, sub_self]

theorem nse_le_one (o s : List α) (h : 0 < ssd (mean o) o) : nse o s ≤ 1 :=
  sub_le_self _ (div_nonneg (sse_nonneg o s) h.le)

theorem nse_affine (a b : α) (ha : a ≠ 0) (o s : List α) (ho : o ≠ []) :
    nse (o.map fun x => a * x + b) (s.map fun x => a * x + b) = nse o s := by
  rw [nse, nse, mean_affine a b o ho, sse_affine, ssd_affine, mul_div_mul_left _ _ (mul_ne_zero ha ha)]

theorem biasStd_perfect (eps : α) (o : List α) (h : ¬ |mean o| < eps) : biasStd eps o o = some 0 := by
  rw [biasStd_of_guard h, sub_self, zero_div]

theorem biasNorm_perfect (eps : α) (o : List α) (h : ¬ |mean o| < eps) : biasNorm eps o o = some 0 := by
  rw [biasNorm_of_guard h, sub_self, zero_div]

theorem biasStd_value (eps : α) (o s : List α) (h : ¬ |mean o| < eps) (hm : mean o ≠ 0) :
    biasStd eps o s = some (mean s / mean o - 1) := by
  rw [biasStd_of_guard h, sub_div, div_self hm]

theorem biasStd_scale (eps c : α) (hc : 0 < c) (o s : List α)
    (h : ¬ |mean o| < eps) (h' : ¬ |c * mean o| < eps) :
    biasStd eps (o.map fun x => c * x) (s.map fun x => c * x) = biasStd eps o s := by
  rw [biasStd_of_guard h, biasStd_of_guard (by rwa [mean_mul]), mean_mul, mean_mul, ← mul_sub,
    mul_div_mul_left _ _ hc.ne']

theorem biasNorm_scale (eps c : α) (hc : 0 < c) (o s : List α)
    (h : ¬ |mean o| < eps) (h' : ¬ |c * mean o| < eps) :
    biasNorm eps (o.map fun x => c * x) (s.map fun x => c * x) = biasNorm eps o s := by
  rw [biasNorm_of_guard h, biasNorm_of_guard (by rwa [mean_mul]), mean_mul, mean_mul, ← mul_sub, ← mul_add,
    mul_div_mul_left _ _ hc.ne']

/-- `__nonulldata` keeps exactly the pairs in which both entries are present, in order -/
theorem nonull_spec (o s : List (Option α)) :
    nonull o s = ((o.zip s).filterMap fun p => match p with
      | (some a, some b) => some (a, b)
      | _ => none).unzip :=
  nonull_eq_filterMap o s

/-- without missing entries the filter is the identity: `excludenull=True` changes nothing -/
theorem nonull_complete (o s : List α) (h : o.length = s.length) :
    nonull (o.map some) (s.map some) = (o, s) :=
  nonull_map_some o s h

end field

noncomputable instance : Transc ℝ where
  exp := Real.exp
  log := Real.log
  sqrt := Real.sqrt
  sinh := Real.sinh
  cosh := Real.cosh
  tanh := Real.tanh
  asinh := Real.log ∘ fun x => x + Real.sqrt (x * x + 1)
  pow := fun x y => x ^ y

theorem sqrt_def (x : ℝ) : Transc.sqrt x = Real.sqrt x := rfl
theorem log_def (x : ℝ) : Transc.log x = Real.log x := rfl

theorem kge_le_one (eps : ℝ) (o s : List ℝ) (v : ℝ) (h : kge eps o s = some v) : v ≤ 1 := by
  obtain ⟨-, -, -, rfl⟩ := kge_eq_some_iff.mp h
  exact sub_le_self _ (Real.sqrt_nonneg _)

theorem kge_value (eps : ℝ) (o s : List ℝ) (hm : ¬ |mean o| < eps) (hso : ¬ |std o| < eps) (hss : eps < |std s|) :
    kge eps o s = some (1 - Real.sqrt ((1 - mean s / mean o) ^ 2 + (1 - std s / std o) ^ 2 + (1 - pearson o s) ^ 2)) := by
  rw [kge_eq_some_iff, absG_eq_abs, absG_eq_abs, absG_eq_abs, sq, sq, sq]
  exact ⟨hm, hso, hss, rfl⟩

theorem pearson_self (o : List ℝ) (h : 0 < ssd (mean o) o) : pearson o o = 1 := by
  rw [pearson_eq, scd_self]
  exact (clip1_corrcoef h h (pred_length_pos_of_ssd_pos o h) le_rfl).trans
    (by rw [Real.mul_self_sqrt h.le, div_self h.ne'])

theorem std_pos_iff (o : List ℝ) : 0 < std o ↔ 0 < ssd (mean o) o := by
  unfold std
  rw [sqrt_def, Real.sqrt_pos]
  constructor
  · intro hq
    rcases div_pos_iff.mp hq with ⟨hp, -⟩ | ⟨-, hn⟩
    · exact hp
    · exact absurd hn (Nat.cast_nonneg _).not_gt
  · intro hp
    exact div_pos hp (Nat.cast_pos.mpr (by have := two_le_length_of_ssd_pos o hp; omega))

theorem kge_perfect (eps : ℝ) (he : 0 < eps) (o : List ℝ)
    (hm : ¬ |mean o| < eps) (hs : eps < |std o|) : kge eps o o = some 1 := by
  have h0 : 0 ≤ std o := Real.sqrt_nonneg _
  have hstd : 0 < std o := he.trans (by rwa [abs_of_nonneg h0] at hs)
  have hmo : mean o ≠ 0 := by
    intro h0; rw [h0, abs_zero] at hm; exact hm he
  rw [kge_value eps o o hm (not_lt.mpr hs.le) hs, pearson_self o ((std_pos_iff o).mp hstd), div_self hmo,
    div_self hstd.ne', sub_self]
  norm_num

/-- `corr(type="Pearson")` of a series with itself is 1 -/
theorem corr_perfect (eps : ℝ) (o : List ℝ) (hs : ¬ |std o| < eps) (hp : 0 < ssd (mean o) o) :
    corrPearson eps o o = some 1 :=
  corrPearson_eq_some_iff.mpr ⟨by rwa [absG_eq_abs], pearson_self o hp⟩

theorem pearson_range (x y : List ℝ) : -1 ≤ pearson x y ∧ pearson x y ≤ 1 :=
  clip1_mem _

theorem std_scale (c : ℝ) (hc : 0 < c) (l : List ℝ) : std (l.map fun x => c * x) = c * std l := by
  unfold std
  rw [mean_mul, ssd_mul, List.length_map, sqrt_def, sqrt_def, sqrt_mul_self_mul_div hc.le]

theorem pearson_scale (c : ℝ) (hc : 0 < c) (x y : List ℝ) :
    pearson (x.map fun v => c * v) (y.map fun v => c * v) = pearson x y := by
  rw [pearson_eq, pearson_eq]
  simp only [mean_mul, scd_mul, ssd_mul, List.length_map, sqrt_def, sqrt_mul_self_mul_div hc.le]
  -- `c²` of the covariance against `c` of each root-variance
  rw [mul_assoc, mul_div_assoc, mul_div_mul_left _ _ hc.ne', mul_div_assoc, mul_div_assoc, mul_div_mul_left _ _ hc.ne']

theorem kge_scale (eps c : ℝ) (hc : 0 < c) (o s : List ℝ)
    (hm : ¬ |mean o| < eps) (hm' : ¬ |c * mean o| < eps)
    (hso : ¬ |std o| < eps) (hso' : ¬ |c * std o| < eps)
    (hss : eps < |std s|) (hss' : eps < |c * std s|) :
    kge eps (o.map fun x => c * x) (s.map fun x => c * x) = kge eps o s := by
  unfold kge
  simp only [absG_eq_abs, mean_mul, std_scale c hc, pearson_scale c hc, hm, hm', hso, hso', hss, hss',
    if_false, if_true]
  rw [mul_div_mul_left _ _ hc.ne', mul_div_mul_left _ _ hc.ne']

theorem biasLog_scale (eps c : ℝ) (hc : 0 < c) (o s : List ℝ)
    (hm : ¬ |mean o| < eps) (hm' : ¬ |c * mean o| < eps)
    (h1 : eps < mean s ∧ eps < mean o) (h2 : eps < c * mean s ∧ eps < c * mean o) (he : 0 < eps) :
    biasLog eps (o.map fun x => c * x) (s.map fun x => c * x) = biasLog eps o s := by
  unfold biasLog
  simp only [absG_eq_abs, mean_mul, hm, hm', h1, h2, and_self, if_false, if_true, log_def]
  congr 1
  rw [Real.log_mul hc.ne' (he.trans h1.1).ne', Real.log_mul hc.ne' (he.trans h1.2).ne']
  ring

/-- discriminant form of Cauchy-Schwarz on paired lists: the quadratic `Σ ((x-cx) t + (y-cy))²` is non-negative -/
theorem quad_nonneg (cx cy : ℝ) (x y : List ℝ) (h : x.length = y.length) (t : ℝ) :
    0 ≤ ssd cx x * (t * t) + 2 * scd cx cy x y * t + ssd cy y := by
  induction x generalizing y with
  | nil => cases y <;> simp [ssd, scd] at h ⊢
  | cons a x ih =>
    cases y with
    | nil => simp at h
    | cons b y =>
      have := ih y (by simpa using h)
      simp only [ssd, List.map_cons, sumL, scd] at this ⊢
      linarith [mul_self_nonneg ((a - cx) * t + (b - cy))]

theorem cauchy_schwarz (cx cy : ℝ) (x y : List ℝ) (h : x.length = y.length) :
    scd cx cy x y * scd cx cy x y ≤ ssd cx x * ssd cy y := by
  have := discrim_le_zero (quad_nonneg cx cy x y h)
  rw [discrim] at this
  linarith

/-- `pearson` (numpy's `corrcoef`, with its clipping) is the textbook coefficient
`Σ(x-x̄)(y-ȳ) / (√Σ(x-x̄)² · √Σ(y-ȳ)²)` for every pair of non-constant series of equal length -/
theorem pearson_textbook (x y : List ℝ) (h : x.length = y.length)
    (hx : 0 < ssd (mean x) x) (hy : 0 < ssd (mean y) y) :
    pearson x y = scd (mean x) (mean y) x y / (Real.sqrt (ssd (mean x) x) * Real.sqrt (ssd (mean y) y)) :=
  clip1_corrcoef hx hy (pred_length_pos_of_ssd_pos x hx) (cauchy_schwarz _ _ x y h)

theorem scd_comm (cx cy : ℝ) (x y : List ℝ) : scd cx cy x y = scd cy cx y x := by
  induction x generalizing y with
  | nil => cases y <;> simp [scd]
  | cons a x ih => cases y with
    | nil => simp [scd]
    | cons b y => simp only [scd, ih y]; ring

theorem pearson_comm (x y : List ℝ) (h : x.length = y.length)
    (hx : 0 < ssd (mean x) x) (hy : 0 < ssd (mean y) y) : pearson x y = pearson y x := by
  rw [pearson_textbook x y h hx hy, pearson_textbook y x h.symm hy hx, scd_comm, mul_comm]

theorem biasLog_perfect (eps : ℝ) (o : List ℝ) (h : ¬ |mean o| < eps) (hp : eps < mean o) :
    biasLog eps o o = some 0 := by
  simp [biasLog, absG_eq_abs, h, hp]

theorem biasNorm_value (eps : ℝ) (o s : List ℝ) (h : ¬ |mean o| < eps) :
    biasNorm eps o s = some ((mean s - mean o) / (mean s + mean o)) :=
  biasNorm_of_guard h

theorem biasNorm_range (eps : ℝ) (o s : List ℝ) (v : ℝ) (ho : 0 < mean o) (hs : 0 < mean s)
    (h : biasNorm eps o s = some v) : -1 < v ∧ v < 1 := by
  obtain ⟨-, rfl⟩ := biasNorm_eq_some_iff.mp h
  have : 0 < mean s + mean o := add_pos hs ho
  constructor
  · rw [lt_div_iff₀ this]; linarith
  · rw [div_lt_one this]; linarith

/-- the scores "on the transformed series": for ANY transform `f` (Identity, Log, BoxCox2, Reciprocal, Sinh, ... at any
parameters) a perfect simulation scores NSE 1, as long as the transformed observations are not constant -/
theorem nse_perfect_trans {α : Type} [Field α] [LinearOrder α] [IsStrictOrderedRing α] (f : α → α) (o : List α)
    (h : ssd (mean (o.map f)) (o.map f) ≠ 0) : nse (o.map f) (o.map f) = 1 :=
  nse_perfect _ h

section ensStat
variable {α : Type} [Field α] [LinearOrder α] [IsStrictOrderedRing α]

theorem insertLE_perm (x : α) (l : List α) : (insertLE x l).Perm (x :: l) :=
  Lists.ins_perm insertLE (fun _ => rfl) (fun _ _ _ => rfl) x l

theorem sortL_perm (l : List α) : (sortL l).Perm l := Lists.foldr_ins_perm insertLE (fun _ => rfl) (fun _ _ _ => rfl) l

theorem insertLE_sorted (x : α) (l : List α) (h : l.Pairwise (· ≤ ·)) : (insertLE x l).Pairwise (· ≤ ·) :=
  Lists.ins_sorted insertLE (fun _ => rfl) (fun _ _ _ => rfl) x l h

theorem sortL_sorted (l : List α) : (sortL l).Pairwise (· ≤ ·) :=
  Lists.foldr_ins_sorted insertLE (fun _ => rfl) (fun _ _ _ => rfl) l

theorem sortL_eq_of_perm (l₁ l₂ : List α) (h : l₁.Perm l₂) : sortL l₁ = sortL l₂ :=
  ((sortL_perm l₁).trans (h.trans (sortL_perm l₂).symm)).eq_of_pairwise' (sortL_sorted l₁) (sortL_sorted l₂)

/-- the median statistic does not depend on the order of the ensemble members (a sorted list is determined by its
elements: `sortL_eq_of_perm`) -/
theorem median_perm (l₁ l₂ : List α) (h : l₁.Perm l₂) : median l₁ = median l₂ := by
  unfold median
  rw [sortL_eq_of_perm l₁ l₂ h]

/-- the median is one of the values or the mid-point of two of them; in any case it lies between the
smallest and the largest value -/
theorem median_bounds (l : List α) (lo hi : α) (hlo : ∀ x ∈ l, lo ≤ x) (hhi : ∀ x ∈ l, x ≤ hi) (v : α)
    (h : median l = some v) : lo ≤ v ∧ v ≤ hi := by
  have hm : ∀ x ∈ sortL l, lo ≤ x ∧ x ≤ hi := fun x hx =>
    ⟨hlo x ((sortL_perm l).subset hx), hhi x ((sortL_perm l).subset hx)⟩
  unfold median at h
  simp only at h
  split at h
  · exact hm v (List.mem_of_getElem? h)
  · split at h
    · rename_i a b ha hb
      injection h with h
      obtain ⟨la, ua⟩ := hm a (List.mem_of_getElem? ha)
      obtain ⟨lb, ub⟩ := hm b (List.mem_of_getElem? hb)
      have h2 : (0 : α) < 1 + 1 := add_pos one_pos one_pos
      rw [← h, le_div_iff₀ h2, div_le_iff₀ h2, mul_add, mul_add, mul_one, mul_one]
      exact ⟨add_le_add la lb, add_le_add ua ub⟩
    · cases h

theorem ensStat_single (st : Stat) (x : α) : ensStat st [some x] = some x := by
  cases st <;> simp [ensStat, present, mean, sumL, median, sortL, insertLE]

/-- a forecast whose members are all NaN has statistic NaN -/
theorem ensStat_all_nan (st : Stat) (n : Nat) : ensStat st (List.replicate n (none : Option α)) = none := by
  simp [ensStat, present, List.filterMap_replicate_of_none]

/-- NaN members are skipped -/
theorem ensStat_skips_nan (st : Stat) (pre post : List (Option α)) :
    ensStat st (pre ++ none :: post) = ensStat st (pre ++ post) := by
  simp [ensStat, present, List.filterMap_append]

theorem ensMean_value (row : List (Option α)) (h : present row ≠ []) :
    ensStat .mean row = some (mean (present row)) := by
  simp [ensStat, h]

/-- `__check_ensemble_data` keeps exactly the forecasts with an observation and at least one member -/
theorem mem_checkEns (obs : List (Option α)) (ens : List (List (Option α))) (p : Option α × List (Option α)) :
    p ∈ checkEns obs ens ↔ p ∈ obs.zip ens ∧ p.1.isSome ∧ present p.2 ≠ [] := by
  simp [checkEns, List.mem_filter]

end ensStat

theorem allSomeL_map_some {α : Type} (l : List α) : allSomeL (l.map some) = some l :=
  allSomeL_eq_some_iff.mpr rfl

/-- `corr` of a perfect one-member "ensemble" is 1 for every transform, both statistics, with or without the
null filter (complete data), Pearson type -/
theorem corrFull_perfect (fin nanv : ℝ → Bool) (hfin : ∀ x, fin x = true) (hnan : ∀ x, nanv x = false) (eps : ℝ) (st : Stat) (excl : Bool)
    (o : List ℝ) (hs : ¬ |std o| < eps) (hp : 0 < ssd (mean o) o) :
    corrFull fin nanv eps false st excl (o.map some) (o.map fun x => [some x]) = .value 1 := by
  have hne : o ≠ [] := by rintro rfl; exact lt_irrefl _ hp
  -- the statistic of one-member forecasts is the member; nothing is NaN, nothing is filtered
  have hsim : ((o.map fun x => [some x]).map fun row => nanOpt nanv (ensStat st row)) = o.map some := by
    simp [Function.comp_def, ensStat_single, nanOpt, hnan]
  simp only [corrFull, corrSeries, hsim, prep_complete fin hfin excl o o rfl hne, corr_perfect eps o hs hp,
    Bool.false_eq_true, if_false]

theorem ranks_map_strictMono (f : ℝ → ℝ) (hf : StrictMono f) (l : List ℝ) :
    ranks (l.map f) = ranks l := by
  unfold ranks
  rw [List.map_map]
  apply List.map_congr_left
  intro x _
  unfold avgRank
  simp only [Function.comp_def, List.filter_map, List.length_map, hf.lt_iff_lt]

theorem spearman_monotone_invariant (f g : ℝ → ℝ) (hf : StrictMono f) (hg : StrictMono g) (o s : List ℝ) :
    pearson (ranks (o.map f)) (ranks (s.map g)) = pearson (ranks o) (ranks s) := by
  rw [ranks_map_strictMono f hf, ranks_map_strictMono g hg]

theorem spearman_perfect (eps : ℝ) (o : List ℝ) (hs : ¬ |std o| < eps)
    (hr : 0 < ssd (mean (ranks o)) (ranks o)) : corrSpearman eps o o = some 1 := by
  simp [corrSpearman, absG_eq_abs, hs, pearson_self (ranks o) hr]

/-- the labels of the returned table are `0 .. ncat-1` on both axes whenever every category is `< ncat`
(also when the cross-tabulation already had the requested shape and is returned as it is) -/
theorem confusion_labels (obs sim : List Int) (ncat : Nat)
    (ho : ∀ x ∈ obs, 0 ≤ x ∧ x < ncat) (hs : ∀ x ∈ sim, 0 ≤ x ∧ x < ncat) :
    (confusion obs sim ncat).1 = (List.range ncat).map Int.ofNat ∧
    (confusion obs sim ncat).2.1 = (List.range ncat).map Int.ofNat := by
  unfold confusion
  simp only
  split
  · rename_i h
    exact ⟨sorted_eq_range _ ncat (uniqueSorted_sorted obs) h.1 fun x hx => ho x ((uniqueSorted_mem obs x).mp hx),
      sorted_eq_range _ ncat (uniqueSorted_sorted sim) h.2 fun x hx => hs x ((uniqueSorted_mem sim x).mp hx)⟩
  · exact ⟨rfl, rfl⟩

/-- every cell holds the number of (observed, forecast) pairs of its row and column categories -/
theorem confusion_cells (obs sim : List Int) (ncat : Nat) :
    (confusion obs sim ncat).2.2 =
      (confusion obs sim ncat).1.map fun i => (confusion obs sim ncat).2.1.map fun j => count obs sim i j := by
  unfold confusion
  simp only

/-- every pair is counted exactly once: the cells add up to the number of pairs -/
theorem confusion_total (obs sim : List Int) (ncat : Nat) (hl : obs.length = sim.length)
    (ho : ∀ x ∈ obs, 0 ≤ x ∧ x < ncat) (hs : ∀ x ∈ sim, 0 ≤ x ∧ x < ncat) :
    tableTotal (confusion obs sim ncat).2.2 = obs.length := by
  obtain ⟨e1, e2⟩ := confusion_labels obs sim ncat ho hs
  rw [confusion_cells, e1, e2, tableTotal_count _ (List.nodup_range.map Int.ofNat_injective)]
  · simp [List.length_zip, hl]
  · intro p hp
    exact ⟨mem_range_labels (ho _ (List.of_mem_zip hp).1), mem_range_labels (hs _ (List.of_mem_zip hp).2)⟩

/-- with `ncat` inferred, every label present fits in the table -/
theorem inferNcat_covers (obs sim : List Int) (h : ∀ x ∈ obs ++ sim, 0 ≤ x) :
    ∀ x ∈ obs ++ sim, 0 ≤ x ∧ x < inferNcat obs sim := by
  intro x hx
  refine ⟨h x hx, ?_⟩
  unfold inferNcat
  have hmem := (uniqueSorted_mem (obs ++ sim) x).mpr hx
  have hsorted := uniqueSorted_sorted (obs ++ sim)
  generalize uniqueSorted (obs ++ sim) = l at hmem hsorted
  -- the last entry of a strictly increasing list is its largest
  rcases List.eq_nil_or_concat' l with rfl | ⟨l', m, rfl⟩
  · cases hmem
  · have hle : x ≤ m := by
      rcases List.mem_append.mp hmem with h1 | h1
      · exact ((List.pairwise_append.mp hsorted).2.2 x h1 m List.mem_cons_self).le
      · exact (List.mem_singleton.mp h1).le
    have := h x hx
    simp only [List.getLast?_append, List.getLast?_singleton, Option.some_or]
    omega

section binaryScores
variable {α : Type} [Field α] [LinearOrder α] [IsStrictOrderedRing α]
variable (tn fp fn tp : α)

theorem binary_theta (h1 : 0 < tn) (h2 : 0 < fp) (h3 : 0 < fn) (h4 : 0 < tp) :
    (binary tn fp fn tp).theta = tp * tn / (fp * fn) :=
  binary_theta_eq tn fp fn tp (add_pos h4 h3).ne' (add_pos h1 h2).ne'

/-- ORSS is defined for every positive table (odds ratio below, at or above 1) and equals
`(θ-1)/(θ+1) = (TP·TN − FP·FN)/(TP·TN + FP·FN)` -/
theorem binary_orss (h1 : 0 < tn) (h2 : 0 < fp) (h3 : 0 < fn) (h4 : 0 < tp) :
    (binary tn fp fn tp).orss = some ((tp * tn - fp * fn) / (tp * tn + fp * fn)) := by
  have hy := (mul_pos h2 h3).ne'
  rw [binary_orss_eq, binary_theta tn fp fn tp h1 h2 h3 h4, div_sub_one hy, div_add_one hy,
    div_div_div_cancel_right₀ hy]
  exact if_pos (neg_one_lt_zero.trans (div_pos (mul_pos h4 h1) (mul_pos h2 h3)))

theorem binary_lor_defined (h1 : 0 < tn) (h2 : 0 < fp) (h3 : 0 < fn) (h4 : 0 < tp) :
    (binary tn fp fn tp).lorDefined = true := by
  simp only [binary, Bool.and_eq_true, decide_eq_true_eq]
  exact ⟨⟨proportion h4 (lt_add_of_pos_right tp h3), (proportion h2 (lt_add_of_pos_left fp h1)).1⟩,
    (proportion h2 (lt_add_of_pos_left fp h1)).2⟩

theorem binary_rates :
    (binary tn fp fn tp).hitrate = tp / (tp + fn) ∧
    (binary tn fp fn tp).falsealarm = fp / (tn + fp) ∧
    (binary tn fp fn tp).precision = tp / (tp + fp) ∧
    (binary tn fp fn tp).accuracy = (tp + tn) / (tp + fn + (tn + fp)) ∧
    (binary tn fp fn tp).bias = (tp + fp) / (tp + fn) := ⟨rfl, rfl, rfl, rfl, rfl⟩

theorem binary_f1_harmonic (h2 : 0 < fp) (h3 : 0 < fn) (h4 : 0 < tp) :
    (binary tn fp fn tp).f1 =
      2 * (binary tn fp fn tp).hitrate * (binary tn fp fn tp).precision /
        ((binary tn fp fn tp).hitrate + (binary tn fp fn tp).precision) := by
  simp only [binary]
  field_simp
  ring

theorem binary_accuracy_range (h1 : 0 < tn) (h2 : 0 < fp) (h3 : 0 < fn) (h4 : 0 < tp) :
    0 < (binary tn fp fn tp).accuracy ∧ (binary tn fp fn tp).accuracy < 1 :=
  proportion (add_pos h4 h1) (by rw [add_add_add_comm]; exact lt_add_of_pos_right _ (add_pos h3 h2))

/-- the Matthews correlation `mccNum / sqrt mccDen2` lies in [-1, 1]: `mccNum² ≤ mccDen2`, because each pair of
opposite margins has a product of at least `TP·TN + FP·FN` -/
theorem binary_mcc_range (h1 : 0 ≤ tn) (h2 : 0 ≤ fp) (h3 : 0 ≤ fn) (h4 : 0 ≤ tp) :
    (binary tn fp fn tp).mccNum * (binary tn fp fn tp).mccNum ≤ (binary tn fp fn tp).mccDen2 := by
  have e : (binary tn fp fn tp).mccDen2 = (tp + fp) * (tn + fn) * ((tp + fn) * (tn + fp)) := by
    simp only [binary]; ring
  rw [e]
  refine mul_self_sub_le_mul (mul_nonneg h4 h1) (mul_nonneg h2 h3) ?_ ?_
  · linarith [mul_nonneg h4 h3, mul_nonneg h2 h1]
  · linarith [mul_nonneg h4 h2, mul_nonneg h3 h1]

end binaryScores

section whole

/-- `bias(..., excludenull=True)` is `bias(..., excludenull=False)` of the series with the incomplete pairs removed
(for every transform `f`, every type, valid or not) -/
theorem biasFull_excl (fin : ℝ → Bool) (eps : ℝ) (f : ℝ → Option ℝ) (ty : Option BiasType) (obs sim : List (Option ℝ))
    (hl : obs.length = sim.length) (hne : (removedRaw fin f obs sim).1 ≠ []) :
    biasFull fin eps f ty true obs sim
      = biasFull fin eps f ty false (removedRaw fin f obs sim).1 (removedRaw fin f obs sim).2 := by
  simp [biasFull, hl, removedRaw_length fin f obs sim, prep_excl_eq_removed fin f obs sim hne]

theorem nseFull_excl (fin : ℝ → Bool) (f : ℝ → Option ℝ) (obs sim : List (Option ℝ))
    (hl : obs.length = sim.length) (hne : (removedRaw fin f obs sim).1 ≠ []) :
    nseFull fin f true obs sim = nseFull fin f false (removedRaw fin f obs sim).1 (removedRaw fin f obs sim).2 := by
  simp [nseFull, hl, removedRaw_length fin f obs sim, prep_excl_eq_removed fin f obs sim hne]

theorem kgeFull_excl (fin : ℝ → Bool) (eps : ℝ) (f : ℝ → Option ℝ) (obs sim : List (Option ℝ))
    (hl : obs.length = sim.length) (hne : (removedRaw fin f obs sim).1 ≠ []) :
    kgeFull fin eps f true obs sim = kgeFull fin eps f false (removedRaw fin f obs sim).1 (removedRaw fin f obs sim).2 := by
  simp [kgeFull, hl, removedRaw_length fin f obs sim, prep_excl_eq_removed fin f obs sim hne]

/-- the same for `corr`, on the transformed observations and the per-forecast statistic -/
theorem corrSeries_excl (fin : ℝ → Bool) (eps : ℝ) (sp : Bool) (tobs tsim : List (Option ℝ))
    (hne : (removedRaw fin some tobs tsim).1 ≠ []) :
    corrSeries fin eps sp true tobs tsim
      = corrSeries fin eps sp false (removedRaw fin some tobs tsim).1 (removedRaw fin some tobs tsim).2 := by
  have := prep_excl_eq_removed fin some tobs tsim hne
  simp only [fwdL_some] at this
  simp only [corrSeries, this]

/-- with `excludenull` and no complete pair every score raises "No valid data" -/
theorem full_excl_noValid (fin : ℝ → Bool) (eps : ℝ) (f : ℝ → Option ℝ) (ty : Option BiasType) (obs sim : List (Option ℝ))
    (hl : obs.length = sim.length) (hne : (removedRaw fin f obs sim).1 = []) :
    biasFull fin eps f ty true obs sim = .errNoValid ∧ nseFull fin f true obs sim = .errNoValid ∧
    kgeFull fin eps f true obs sim = .errNoValid := by
  simp [biasFull, nseFull, kgeFull, hl, prep_excl_noValid fin f obs sim hne]

theorem full_shape_error (fin : ℝ → Bool) (eps : ℝ) (f : ℝ → Option ℝ) (ty : Option BiasType) (excl : Bool)
    (obs sim : List (Option ℝ)) (hl : obs.length ≠ sim.length) :
    biasFull fin eps f ty excl obs sim = .errShape ∧ nseFull fin f excl obs sim = .errShape ∧
    kgeFull fin eps f excl obs sim = .errShape := by
  simp [biasFull, nseFull, kgeFull, hl]

/-- on complete data the whole function is the closed form of the transformed series: score(obs, sim, trans) is the score of
trans.forward(obs), trans.forward(sim) -/
theorem nseFull_complete (fin : ℝ → Bool) (hfin : ∀ x, fin x = true) (f : ℝ → ℝ) (excl : Bool) (obs sim : List ℝ)
    (hl : obs.length = sim.length) (hne : obs ≠ []) :
    nseFull fin (fun x => some (f x)) excl (obs.map some) (sim.map some) = .value (nse (obs.map f) (sim.map f)) := by
  have e : ∀ l : List ℝ, fwdL (fun x => some (f x)) (l.map some) = (l.map f).map some := fun l => by
    simp [fwdL, Function.comp_def]
  simp only [nseFull, e, List.length_map, hl, ne_eq, not_true_eq_false, if_false,
    prep_complete fin hfin excl (obs.map f) (sim.map f) (by simp [hl]) (mt List.map_eq_nil_iff.mp hne)]

end whole

theorem orient_of_length_ne_one {α : Type} (ens : List (List (Option α))) (h : ens.length ≠ 1) : orient ens = ens := by
  match ens, h with
  | [], _ => rfl
  | [_], h => simp at h
  | _ :: _ :: _, _ => rfl

theorem orient_single {α : Type} (row : List (Option α)) : orient [row] = row.map fun x => [x] := rfl

/-- orienting twice changes nothing: a series given as `[n]`, as `[1,n]` or as `[n,1]` is the same ensemble -/
theorem orient_idem {α : Type} (ens : List (List (Option α))) : orient (orient ens) = orient ens := by
  match ens with
  | [] => rfl
  | [row] =>
    match row with
    | [] => rfl
    | [x] => rfl
    | _ :: _ :: _ => rfl
  | _ :: _ :: _ => rfl

/-- a square ensemble (as many members as forecasts, at least two) is taken as it is, never transposed -/
theorem orient_square {α : Type} (ens : List (List (Option α))) (n : Nat) (hn : 2 ≤ n) (h : ens.length = n) :
    orient ens = ens := orient_of_length_ne_one ens (by omega)

/-- the orientation step is applied once: `corr(obs, series)`, `corr(obs, series[None, :])` and `corr(obs, series[:, None])`
are the same call -/
theorem corrRaw_orient (fin nanv : ℝ → Bool) (eps : ℝ) (f : ℝ → Option ℝ) (ct : Option CorrType) (st : Option Stat) (excl : Bool)
    (obs : List (Option ℝ)) (ens : List (List (Option ℝ))) :
    corrRaw fin nanv eps f ct st excl obs (orient ens) = corrRaw fin nanv eps f ct st excl obs ens := by
  unfold corrRaw
  rw [orient_idem]

/-- an ensemble that does not have one row per observation after orientation is rejected; in particular a `[p,n]` array
with `p ≠ n`, `p ≠ 1` is never silently transposed -/
theorem corrRaw_shape_error (fin nanv : ℝ → Bool) (eps : ℝ) (f : ℝ → Option ℝ) (ct : Option CorrType) (st : Option Stat)
    (excl : Bool) (obs : List (Option ℝ)) (ens : List (List (Option ℝ))) (h1 : ens.length ≠ 1) (h : ens.length ≠ obs.length) :
    corrRaw fin nanv eps f ct st excl obs ens = .errShape := by
  unfold corrRaw
  simp [orient_of_length_ne_one ens h1, h]

/-- `type="censored"` passes the argument check and is computed exactly like `type="Spearman"` -/
theorem corrRaw_censored (fin nanv : ℝ → Bool) (eps : ℝ) (f : ℝ → Option ℝ) (st : Option Stat) (excl : Bool)
    (obs : List (Option ℝ)) (ens : List (List (Option ℝ))) :
    corrRaw fin nanv eps f (some .censored) st excl obs ens = corrRaw fin nanv eps f (some .spearman) st excl obs ens := by
  unfold corrRaw
  rfl

/-- `corr` of a perfect simulation given as a plain series is 1: for every transform `f`, both statistics, with or
without `excludenull`, whenever the transformed observations pass the standard-deviation guard -/
theorem corrRaw_perfect (fin nanv : ℝ → Bool) (hfin : ∀ x, fin x = true) (hnan : ∀ x, nanv x = false) (eps : ℝ) (f : ℝ → ℝ) (st : Stat) (excl : Bool)
    (o : List ℝ) (hs : ¬ |std (o.map f)| < eps) (hp : 0 < ssd (mean (o.map f)) (o.map f)) :
    corrRaw fin nanv eps (fun x => some (f x)) (some .pearson) (some st) excl (o.map some) [o.map some] = .value 1 := by
  have hne : o ≠ [] := by rintro rfl; exact lt_irrefl _ hp
  have := corrFull_perfect fin nanv hfin hnan eps st excl (o.map f) hs hp
  simp only [List.map_map, Function.comp_def] at this
  -- the single row becomes one-member forecasts, `__check_ensemble_data` drops none of them (`checkEns_complete`),
  -- and what is left is `corrFull` of the transformed series
  simp [corrRaw, orient_single, checkEns_complete, fwdL, Function.comp_def, hne, this]

section binaryOf
variable {α : Type} [Field α] [LinearOrder α] [IsStrictOrderedRing α]
variable (tn fp fn tp : α)

theorem binaryOf_pos (h1 : 0 < tn) (h2 : 0 < fp) (h3 : 0 < fn) (h4 : 0 < tp) :
    binaryOf [[tn, fp], [fn, tp]] = .ok (binary tn fp fn tp) := by
  rw [binaryOf_table, if_neg]
  simp only [h3.ne', h2.ne', (add_pos h4 h3).ne', (add_pos h1 h2).ne', (add_pos h4 h2).ne', (add_pos h1 h3).ne',
    or_self, not_false_iff]

/-- among the tables of non-negative counts, `binary` raises ZeroDivisionError exactly when there is no miss or no
false alarm (`FN = 0` or `FP = 0`); the test on the MCC denominator is never the first to fail -/
theorem binaryOf_zeroDiv_iff (h1 : 0 ≤ tn) (h2 : 0 ≤ fp) (h3 : 0 ≤ fn) (h4 : 0 ≤ tp) :
    binaryOf [[tn, fp], [fn, tp]] = .errZeroDiv ↔ fn = 0 ∨ fp = 0 := by
  rw [binaryOf_table, ite_eq_left_iff]
  -- a margin of non-negative counts vanishes only if both its counts do
  simp only [reduceCtorEq, imp_false, not_not, add_eq_zero_iff_of_nonneg, h1, h2, h3, h4]
  by_cases a : fn = 0 <;> by_cases b : fp = 0 <;> simp [a, b]

end binaryOf

/-- the scores of two 0/1 series are the scores of their four pair counts -/
theorem binarySeries_eq {α : Type} [Field α] [LinearOrder α] [IsStrictOrderedRing α] (obs sim : List Int)
    (ho : ∀ x ∈ obs, 0 ≤ x ∧ x < (2 : Nat)) (hs : ∀ x ∈ sim, 0 ≤ x ∧ x < (2 : Nat)) :
    (binarySeries obs sim : BinRes α) =
      binaryOf [[(count obs sim 0 0 : α), (count obs sim 0 1 : α)], [(count obs sim 1 0 : α), (count obs sim 1 1 : α)]] := by
  obtain ⟨e1, e2⟩ := confusion_labels obs sim 2 ho hs
  rw [binarySeries, confusion_cells, e1, e2]
  rfl

/-- whatever is computed or edited afterwards (`ops₂`, arbitrary, none of them writing to this table) and whatever
happened before (`ops₁`, arbitrary), the table returned for `(obs, sim, ncat)` is the table of ITS pair counts -/
theorem held_table_is_value (ops₁ ops₂ : List HOp) (obs sim : List Int) (ncat : Option Nat)
    (h : ∀ op ∈ ops₂, op.target ≠ some (hrun ops₁).length) :
    (hrun (ops₁ ++ HOp.score obs sim ncat :: ops₂))[(hrun ops₁).length]?
      = some (confusion obs sim (match ncat with | some n => n | none => inferNcat obs sim)) := by
  unfold hrun at h ⊢
  rw [List.foldl_append, List.foldl_cons, foldl_hstep_other ops₂ _ _ (by simp [hstep]) h]
  cases ncat <;> simp [hstep]

/-- an edit addressed to a table that is not held (index out of range) is rejected without any effect -/
theorem hstep_edit_out_of_range (held : List Table) (k i j v : Nat) (hk : held.length ≤ k) :
    hstep held (.setCell k i j v) = held ∧ hstep held (.fill k v) = held := by
  simp only [hstep, modifyAt_eq_modify, List.modify_eq_self hk, and_self]

/-- the number of held tables is the number of `score` operations: no operation drops or duplicates a result -/
theorem hrun_length (ops : List HOp) : (hrun ops).length = (ops.filter fun op => op.target.isNone).length := by
  suffices h : ∀ held : List Table, (ops.foldl hstep held).length
      = held.length + (ops.filter fun op => op.target.isNone).length by simpa [hrun] using h []
  induction ops with
  | nil => simp
  | cons op ops ih =>
    intro held
    rw [List.foldl_cons, ih]
    cases op <;> simp [hstep, HOp.target, modifyAt_eq_modify]
    omega

/-- the standard-deviation guard of `kge` / `corr` implies what the correlation theorems assume: non-constant data -/
theorem ssd_pos_of_std_guard (eps : ℝ) (he : 0 < eps) (o : List ℝ) (h : ¬ |std o| < eps) : 0 < ssd (mean o) o := by
  have h0 : 0 ≤ std o := Real.sqrt_nonneg _
  rw [abs_of_nonneg h0, not_lt] at h
  exact (std_pos_iff o).mp (he.trans_le h)

/-- whenever `kge` returns a number, the correlation inside it is the textbook coefficient and the number is the
textbook KGE: the non-degeneracy assumptions of `pearson_textbook` follow from the three guards -/
theorem kge_textbook (eps : ℝ) (he : 0 < eps) (o s : List ℝ) (hl : o.length = s.length) (v : ℝ) (h : kge eps o s = some v) :
    pearson o s = scd (mean o) (mean s) o s / (Real.sqrt (ssd (mean o) o) * Real.sqrt (ssd (mean s) s)) ∧
    v = 1 - Real.sqrt ((1 - mean s / mean o) ^ 2 + (1 - std s / std o) ^ 2 + (1 - pearson o s) ^ 2) := by
  obtain ⟨-, hso, hss, rfl⟩ := kge_eq_some_iff.mp h
  rw [absG_eq_abs] at hso hss
  refine ⟨pearson_textbook o s hl (ssd_pos_of_std_guard eps he o hso)
    (ssd_pos_of_std_guard eps he s (not_lt.mpr hss.le)), ?_⟩
  rw [sq, sq, sq]
  rfl

/-- `corr(type="Pearson")` returns the textbook coefficient whenever it returns a number and the simulation is not constant -/
theorem corrPearson_textbook (eps : ℝ) (he : 0 < eps) (o s : List ℝ) (hl : o.length = s.length)
    (hy : 0 < ssd (mean s) s) (v : ℝ) (h : corrPearson eps o s = some v) :
    v = scd (mean o) (mean s) o s / (Real.sqrt (ssd (mean o) o) * Real.sqrt (ssd (mean s) s)) := by
  obtain ⟨hso, rfl⟩ := corrPearson_eq_some_iff.mp h
  rw [absG_eq_abs] at hso
  exact pearson_textbook o s hl (ssd_pos_of_std_guard eps he o hso) hy

/-- the guards compare with an ABSOLUTE threshold, so "invariant under a common positive scaling" needs the guard to pass
after scaling as well (`biasStd_scale`, `kge_scale`): with `eps = 1`, halving the series `obs = [1]`, `sim = [2]` turns a
bias of 1 into NaN -/
theorem biasStd_scale_needs_guard :
    ∃ (eps c : ℚ) (o s : List ℚ), 0 < c ∧ ¬ |mean o| < eps ∧
      biasStd eps (o.map fun x => c * x) (s.map fun x => c * x) ≠ biasStd eps o s :=
  ⟨1, 1/2, [1], [2], by norm_num, by norm_num [mean, sumL], by decide +kernel⟩

/-- `kge_perfect` needs `eps < |std o|` strictly: at `std o = eps` the first guard passes, the last one does not, and a
perfect simulation scores NaN -/
theorem kge_perfect_boundary :
    ∃ (eps : ℝ) (o : List ℝ), 0 < eps ∧ ¬ |mean o| < eps ∧ ¬ |std o| < eps ∧ kge eps o o = none := by
  have hm : mean ([0, 2] : List ℝ) = 1 := by norm_num [mean, sumL]
  have hs : std ([0, 2] : List ℝ) = 1 := by norm_num [std, hm, sqrt_def, ssd, sumL]
  exact ⟨1, [0, 2], one_pos, by simp [hm], by simp [hs], by simp [kge, absG_eq_abs, hm, hs]⟩

/-- `confusion_total` needs every label below `ncat`: with a given `ncat` that is too small the pairs holding a larger
label are dropped -/
theorem confusion_total_needs_range :
    ∃ (obs sim : List Int) (ncat : Nat), obs.length = sim.length ∧ tableTotal (confusion obs sim ncat).2.2 ≠ obs.length :=
  ⟨[0, 2], [0, 0], 2, by decide, by decide⟩

/-! ### what survives rounding: the same model text evaluated with a rounding after every operation (`Rnd α r`)

`r` is any monotone, odd operator with `r 0 = 0`, `r 1 = 1` (`IsRounding`): IEEE round-to-nearest-even, round-toward-zero (not
round-up or round-down alone: they are not odd), in any precision, as long as nothing overflows.  These statements are therefore true of the float64
results themselves, not only of their real-number idealisation. -/

section rounded
set_option linter.unusedSectionVars false
variable {α : Type} [Field α] [LinearOrder α] [IsStrictOrderedRing α] {r : α → α}

theorem nse_le_one_rnd (hr : IsRounding r) (o s : List (Rnd α r)) (h : 0 < (ssd (mean o) o).val) :
    (nse o s).val ≤ 1 :=
  hr.le_one (sub_le_self _ (hr.nonneg (div_nonneg (sse_val_nonneg hr o s) h.le)))

/-- exactly 1 in floating point: every error `s - o` is exactly 0 and `r 0 = 0`, `r 1 = 1` (`_h` unused, as in `nse_perfect`) -/
theorem nse_perfect_rnd (hr : IsRounding r) (o : List (Rnd α r)) (_h : (ssd (mean o) o).val ≠ 0) :
    (nse o o).val = 1 := by
  unfold nse
  simp [sse_self_val hr o, hr.zero, hr.one]

theorem bias_perfect_rnd (hr : IsRounding r) (eps : Rnd α r) (o : List (Rnd α r)) (h : ¬ absG (mean o) < eps) :
    (biasStd eps o o).map (·.val) = some 0 ∧ (biasNorm eps o o).map (·.val) = some 0 := by
  simp [biasStd, biasNorm, h, hr.zero]

theorem biasNorm_range_rnd (hr : IsRounding r) (eps : Rnd α r) (o s : List (Rnd α r)) (v : Rnd α r)
    (ho : 0 ≤ (mean o).val) (hs : 0 ≤ (mean s).val) (hd : 0 < (mean s + mean o).val)
    (h : biasNorm eps o s = some v) : -1 ≤ v.val ∧ v.val ≤ 1 := by
  obtain ⟨-, rfl⟩ := biasNorm_eq_some_iff.mp h
  obtain ⟨h2, h1⟩ := neg_add_le_sub_le_add hs ho
  exact hr.quot_range hd h1 h2

variable (tn fp fn tp : Rnd α r)

/-- hit rate, false-alarm rate and precision are proportions in floating point too (counts are exactly
representable: `r c = c`) -/
theorem binary_rates_range_rnd (hr : IsRounding r)
    (h1 : 0 ≤ tn.val) (h2 : 0 ≤ fp.val) (h3 : 0 ≤ fn.val) (h4 : 0 ≤ tp.val)
    (e2 : r fp.val = fp.val) (e4 : r tp.val = tp.val) :
    (0 ≤ (binary tn fp fn tp).hitrate.val ∧ (binary tn fp fn tp).hitrate.val ≤ 1) ∧
    (0 ≤ (binary tn fp fn tp).falsealarm.val ∧ (binary tn fp fn tp).falsealarm.val ≤ 1) ∧
    (0 ≤ (binary tn fp fn tp).precision.val ∧ (binary tn fp fn tp).precision.val ≤ 1) := by
  refine ⟨hr.part_of_sum h4 h3 e4, ?_, hr.part_of_sum h4 h2 e4⟩
  show 0 ≤ r (fp.val / r (tn.val + fp.val)) ∧ r (fp.val / r (tn.val + fp.val)) ≤ 1
  rw [add_comm]
  exact hr.part_of_sum h2 h1 e2

theorem binary_orss_range_rnd (hr : IsRounding r)
    (h1 : 0 ≤ tn.val) (h2 : 0 ≤ fp.val) (h3 : 0 ≤ fn.val) (h4 : 0 ≤ tp.val)
    (e2 : r fp.val = fp.val) (e4 : r tp.val = tp.val) :
    ∃ v, (binary tn fp fn tp).orss = some v ∧ -1 ≤ v.val ∧ v.val ≤ 1 := by
  obtain ⟨⟨hh0, hh1⟩, ⟨hf0, hf1⟩, -⟩ := binary_rates_range_rnd tn fp fn tp hr h1 h2 h3 h4 e2 e4
  -- the odds ratio `H(1-F)/((1-H)F)` of two proportions is not negative, whatever the rounding does to it
  have ht : 0 ≤ (binary tn fp fn tp).theta.val :=
    hr.nonneg (div_nonneg (hr.nonneg (div_nonneg (hr.nonneg (mul_nonneg hh0 (hr.nonneg (sub_nonneg.mpr hf1))))
      (hr.nonneg (sub_nonneg.mpr hh1)))) hf0)
  rw [binary_orss_eq]
  exact orss_aux hr _ ht

end rounded

/-- KGE never exceeds 1 and the correlation stays within [-1, 1], in floating point too -/
theorem kge_le_one_rnd {r : ℝ → ℝ} (hr : IsRounding r) (eps : Rnd ℝ r) (o s : List (Rnd ℝ r)) (v : Rnd ℝ r)
    (h : kge eps o s = some v) : v.val ≤ 1 := by
  obtain ⟨-, -, -, rfl⟩ := kge_eq_some_iff.mp h
  exact hr.le_one (sub_le_self _ (hr.nonneg (Real.sqrt_nonneg _)))

theorem pearson_range_rnd {r : ℝ → ℝ} (x y : List (Rnd ℝ r)) : -1 ≤ (pearson x y).val ∧ (pearson x y).val ≤ 1 := by
  rw [pearson_eq, Rnd.clip1_val]
  exact clip1_mem _

section signs
set_option linter.unusedSectionVars false
variable {α : Type} [Field α] [LinearOrder α] [IsStrictOrderedRing α]

/-- ORSS, the odds ratio against 1 and the numerator of MCC all have the sign of `TP·TN − FP·FN` -/
theorem binary_skill_sign (tn fp fn tp : α) (h1 : 0 < tn) (h2 : 0 < fp) (h3 : 0 < fn) (h4 : 0 < tp) :
    ∃ v, (binary tn fp fn tp).orss = some v ∧
      (0 < v ↔ fp * fn < tp * tn) ∧ (1 < (binary tn fp fn tp).theta ↔ fp * fn < tp * tn) ∧
      (0 < (binary tn fp fn tp).mccNum ↔ fp * fn < tp * tn) := by
  refine ⟨_, binary_orss tn fp fn tp h1 h2 h3 h4, ?_, ?_, ?_⟩
  · rw [div_pos_iff_of_pos_right (add_pos (mul_pos h4 h1) (mul_pos h2 h3))]; exact sub_pos
  · rw [binary_theta tn fp fn tp h1 h2 h3 h4, one_lt_div (mul_pos h2 h3)]
  · exact sub_pos

/-- the standard bias is positive exactly when the simulated mean exceeds a positive observed mean -/
theorem biasStd_sign (eps : α) (o s : List α) (v : α) (hm : 0 < mean o) (h : biasStd eps o s = some v) :
    (0 < v ↔ mean o < mean s) := by
  obtain ⟨-, rfl⟩ := biasStd_eq_some_iff.mp h
  rw [div_pos_iff_of_pos_right hm]
  exact sub_pos

/-- ... and in floating point an over-estimating simulation never gets a negative bias, an under-estimating one never a
positive bias -/
theorem biasStd_sign_rnd {r : α → α} (hr : IsRounding r) (eps : Rnd α r) (o s : List (Rnd α r)) (v : Rnd α r)
    (hm : 0 < (mean o).val) (h : biasStd eps o s = some v) :
    ((mean o).val ≤ (mean s).val → 0 ≤ v.val) ∧ ((mean s).val ≤ (mean o).val → v.val ≤ 0) := by
  obtain ⟨-, rfl⟩ := biasStd_eq_some_iff.mp h
  simp only [Rnd.div_val, Rnd.sub_val]
  exact ⟨fun hle => hr.nonneg (div_nonneg (hr.nonneg (sub_nonneg.mpr hle)) hm.le),
    fun hle => hr.nonpos (div_nonpos_of_nonpos_of_nonneg (hr.nonpos (sub_nonpos.mpr hle)) hm.le)⟩

end signs

example : nse [(1:ℚ), 2, 4, 7] [1, 2, 4, 5] = 17/21 := by decide +kernel
example : ssd (mean [(1:ℚ), 2, 4, 7]) [1, 2, 4, 7] ≠ 0 := by decide +kernel
example : (confusion [0, 2, 2, 0] [0, 0, 0, 0] (inferNcat [0, 2, 2, 0] [0, 0, 0, 0])).2.2
    = [[2, 0, 0], [0, 0, 0], [2, 0, 0]] := by decide
example : ranks [(3:ℚ), 1, 3, 2] = [7/2, 1, 7/2, 2] := by decide +kernel
example : (binary (5:ℚ) 2 3 7).orss = some (29/41) := by decide +kernel
example : (binary (2:ℚ) 5 7 3).orss = some (-29/41) := by decide +kernel

example : removedRaw (fun _ : ℚ => true) some [some 1, none, some 3] [some 2, some 2, some 5]
    = ([some 1, some 3], [some 2, some 5]) := by decide +kernel
example : (removedRaw (fun _ : ℝ => true) some [some 1, none] [some 2, some 2]).1 ≠ [] := by
  simp [removedRaw, completeB, finOpt]
example : nseFull (fun _ : ℚ => true) some true [some 1, none, some 2, some 4, some 7] [some 1, some 9, some 2, some 4, some 5]
    = .value (17/21) := by decide +kernel
example : nseFull (fun _ : ℚ => true) some false [some 1, none, some 2] [some 1, some 9, some 2] = .nan := by decide +kernel
example : nseFull (fun _ : ℚ => true) some true [none, some 2] [some 1, none] = .errNoValid := by decide +kernel
example : (orient [[some (1:ℚ), some 2, some 3]]) = [[some 1], [some 2], [some 3]] := by decide +kernel
example : (hrun [.score [0, 1] [1, 1] none, .score [0, 2] [0, 0] (some 3), .setCell 0 0 0 9, .fill 5 1])[1]?
    = some (confusion [0, 2] [0, 0] 3) := by decide
example : untouched [.score [0, 1] [1, 1] none, .score [0, 2] [0, 0] (some 3), .setCell 0 0 0 9, .fill 5 1] = [1] := by decide
example : (match binaryOf [[(5:ℚ), 0], [3, 7]] with | .errZeroDiv => true | _ => false) = true := by decide +kernel
example : (match binaryOf [[(5:ℚ), 2], [3, 7]] with | .ok b => decide (b.orss = some (29/41)) | _ => false) = true := by decide +kernel
example : (match (binarySeries [0, 1, 1, 0, 1] [0, 1, 0, 1, 1] : BinRes ℚ) with | .ok b => decide (b.hitrate = 2/3) | _ => false) = true := by
  decide +kernel
example : IsRounding fixR ∧ fixR (7/2) = 3 ∧ fixR (-7/2) = -3 := ⟨fixR_isRounding, by decide +kernel, by decide +kernel⟩
/-- the coarsest rounding (to integers): NSE of [1,2,4,5] against [1,2,4,7] is computed as 1 - fix(4/22) = 1, still ≤ 1 -/
example : (nse ([⟨1⟩, ⟨2⟩, ⟨4⟩, ⟨7⟩] : List (Rnd ℚ fixR)) [⟨1⟩, ⟨2⟩, ⟨4⟩, ⟨5⟩]).val = 1 ∧
    0 < (ssd (mean ([⟨1⟩, ⟨2⟩, ⟨4⟩, ⟨7⟩] : List (Rnd ℚ fixR))) [⟨1⟩, ⟨2⟩, ⟨4⟩, ⟨7⟩]).val := by decide +kernel
example : ∃ v, (binary (2:ℚ) 5 7 3).orss = some v ∧ ¬ 0 < v := ⟨-29/41, by decide +kernel, by norm_num⟩

end HydroVerif.C04
