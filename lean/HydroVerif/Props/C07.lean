/-
C07 — property theorems (only).
Models: `Model/C07.lean` (integer grid core; coordinates, cast-first `coord2cell` used by C13/C16),
`Model/C07Kernel.lean` (`c_coord2cell` as written since /repo c8d188e: extent test on the floored doubles, then
the casts; request-level wrappers), `Model/C07Round.lean` (the coordinate kernels with the rounding of every arithmetic
result explicit; `round53` = IEEE double rounding on exact rationals), `Model/C07State.lean` (the Python layer:
constructor defaults and guard, request shapes, the grid object as a state machine over its public operations).
Lemmas: `Lemmas/C07Grid.lean`, `Lemmas/C07Coord.lean`, `Lemmas/C07Kernel.lean`, `Lemmas/C07Round.lean`,
`Lemmas/C07State.lean`.

Sections 1-11 hold for every grid size (`nrows`, `ncols` arbitrary integers with the stated sign hypotheses), every
cell number (any integer), every point, over any ordered field with a floor function (`ℚ`, `ℝ`): exact arithmetic.
Sections 12 and 17 are about *rounded* arithmetic: every `+ - * /` result passes through an operator `rnd` with relative
error at most `u` (the standard model of floating point arithmetic); `round53` (nearest, ties to even, 53 bits, on `ℚ`)
is proved to satisfy it with `u = 2^-53`, is executed by the driver, and is compared *exactly* with the doubles of the
code on every finite point and every cell. Section 13 is over arbitrary operation lists on one grid object.
Standing hypotheses, both inside the property's quantifier ("nrows, ncols >= 1, cell size over eight orders of
magnitude"): `0 < g.csz`, `0 < g.ncols` (`0 < nrows` follows from the existence of a valid cell). Section 14 discharges
`0 < ncols` from the constructor's own guard; section 15 shows that neither can be dropped in general (and that the
round trip needs only `csz ≠ 0`); the harness probes the code at the excluded points (stream `excluded/`).

CLAUSE -> THEOREMS -> WHAT REMAINS OUTSIDE
 A. "cells are numbered row by row from the top-left corner"
      cell2rowcol_valid, cell2rowcol_cellOf, cell2rowcol_injective (bijection valid cells <-> in-range (row, col),
      cell = row*ncols + col), cell2rowcol_zero, cell2rowcol_succ (row by row), cell2coord_top_left_order (row 0 is
      the top row, column 0 the left column).                                              outside: nothing.
 B. "cell2coord returns the centre of the cell"
      cell2coord_eq, cell2coord_centre (midpoint of the footprint), cell2coord_inFootprint; with rounded arithmetic:
      cell2coordR_error (within (3u+3u²+u³)(|ll| + csz(k+1/2)) of the exact centre), cell2coordR_id.
      outside: that the doubles obey the standard model — `round53` does (round53_standard_model), and the code is
      compared exactly with the `round53` instance on every cell; the bound itself is checked on the code's doubles.
 C. "coord2cell returns c for every point inside the footprint of cell c"
      coord2cellK_inside, coord2cellK_eq_iff, coord2cellK_lims (kernel as written); coord2cell_inside, coord2cell_eq_iff,
      coord2cell_extent (cast-first form); coord2cellK_eq_coord2cell (the two forms agree everywhere);
      cellOfQuot_inside_of_approx (the clause survives any evaluation error of the quotients up to the margin);
      quotientsR_error (that error IS at most (2u+u²)|q| with rounded arithmetic), coord2cellR_inside,
      coord2cell_double_inside (u = 2^-53 and the margin 1e-9 cell sizes are the quantifier's numbers; |q| <= 2^21 is what
      that margin allows: quotBudget_double), coord2cellR_id.
      outside: as B (exact comparison with the `round53` instance on every finite point, edges included).
 D. "and -1 for every point outside the grid extent" (4 sides and diagonals, just outside to far away)
      coord2cellK_outside, coord2cellK_lims (= -1 exactly off xlim x ylim), coord2cell_outside,
      coord2cell_eq_neg_one_iff, cellOfQuot_outside_of_approx, coord2cellR_outside, coord2cell_double_outside.
      outside: as C; NaN/inf points (not in the quantifier; the Float instance sends them to -1 like the code, compared).
 E. "so that coord2cell(cell2coord(c)) = c for every valid cell"
      coord2cellK_cell2coord, coord2cell_cell2coord, coord2cell_axes; coord2cell_cell2coord_of_ne_zero (only csz ≠ 0);
      with BOTH kernels rounded: roundtripR (accumulated error below half a cell: rtBudget u (|ll|/csz + n) < 1/2),
      roundtrip_double (u = 2^-53: every grid with |ll|/csz + n <= 2^48); constructed_roundtrip; history_roundtrip.
      outside: as B.
 F. "cell2rowcol and neighbours agree with that numbering (symmetric, positions mirror, off-grid neighbours -1)"
      neighbours_spec (entry k = cell at (row+k/3-1, col+k%3-1) or -1; 9 entries; each non-flag entry valid and with
      that (row, col)), neighbours_symmetric (mirror 8-k), neighbours_not_self.            outside: nothing.
 G. "invalid cell numbers are flagged (-1, NaN or an error) rather than mapped to a cell"
      invalid_cell_flagged (every integer outside 0..nrows*ncols-1), valid_cell_not_flagged (only those),
      coord2cellK_valid_or_flag / coord2cell_valid_or_flag (coord2cell never invents a cell number), history_rejected
      (a rejected call answers with the error and leaves the object unchanged, after any history).
      outside: numpy's conversion of Python integers that do not fit int64 (refused or wrapped to a negative number;
      observed flagged-or-error by the oracle, not modelled).
 H. observables `Grid.xvalues`, `Grid.yvalues` (and xlim / ylim)
      xvalues_eq, yvalues_eq, coord2cell_axes, coord2cellK_lims, centreR_mono (the computed centres are monotone in the
      column / row-from-below for any monotone rounding).                                  outside: as B.
 I. vectorised entry points (glue: atleast_1d / atleast_2d, one kernel entry per requested element)
      grid_requests_elementwise (entry i is answered on its own, whatever the length / order / other entries),
      request_shapes (which shapes are answered — scalar / 1-d cells, a pair / [n, 2] points — and that every other shape
      is a ValueError).        outside: numpy dtype conversion of the request (floats truncated to int64); what the code
      does with a request of another shape is outside the quantifier (compared with the model for the evidence only).
 J. the finding fixed in a909179 (truncation toward zero), kept as theorems about the pinned kernel
      coord2cellTrunc_eq_of_ge, coord2cellTrunc_left_strip, coord2cellTrunc_bottom_strip.
 K. the exact instances the driver executes are the ones of the theorems: truncRat_eq_fieldTrunc, floorRat_eq_fieldFloor.
 L. "for any grid geometry" — however the object got it: the grid object is a state machine over its public operations
      (re-assignment of the five attributes, clone / deepcopy / pickle, the five kinds of calls, rejected calls)
      step_keeps_state (calls, rejected calls and copies write nothing), finalGeom_eq_mutators, run_answer (answer i is
      the answer of a fresh object with the attributes the assignments before i produce), run_append, run_length,
      history_rejected, history_roundtrip.
      outside: that the code has no state beyond the five attributes — the harness sends every call history to the
      model's `run` and compares all answers and the final attributes; caller-side edits of returned / input arrays and
      a second live grid object are harness streams only.
 M. constructor `Grid(name, ncols, nrows=None, cellsize=1., xllcorner=0, yllcorner=0)`
      mkGrid_default, mkGrid_ok_iff (refuses exactly negative dimensions), mkGrid_valid_pos (a constructed grid with a
      valid cell has ncols, nrows > 0: discharges the standing hypothesis), constructed_roundtrip.
      outside: np.int64() conversion of non-integer arguments; MemoryError for grids that cannot be allocated.
 N. the hypotheses are needed: ncols_pos_needed, csz_pos_needed (counterexamples). The code is run at the excluded points
      (cell size <= 0, zero / negative dimensions) and compared with the Float model for the evidence only: the property
      says nothing there, so a difference is recorded, never an alarm.
-/
import HydroVerif.Lemmas.C07Coord
import HydroVerif.Lemmas.C07Kernel
import HydroVerif.Lemmas.C07Round
import HydroVerif.Lemmas.C07State
import Mathlib.Data.Rat.Floor

set_option linter.unusedSectionVars false

namespace HydroVerif.C07

variable {α : Type} [Field α] [LinearOrder α] [IsStrictOrderedRing α] [FloorRing α]

/-! ### 1. numbering: cell <-> (row, col) is a bijection, row by row from the top-left corner -/

/-- a valid cell has an in-range (row, col), and `row * ncols + col` gives the cell number back -/
theorem cell2rowcol_valid {nrows ncols c : Int} (hc : 0 < ncols) (hv : validCell nrows ncols c = true) :
    0 ≤ (cell2rowcol nrows ncols c).1 ∧ (cell2rowcol nrows ncols c).1 < nrows ∧
    0 ≤ (cell2rowcol nrows ncols c).2 ∧ (cell2rowcol nrows ncols c).2 < ncols ∧
    (cell2rowcol nrows ncols c).1 * ncols + (cell2rowcol nrows ncols c).2 = c := by
  unfold cell2rowcol
  rw [if_pos hv]
  exact valid_rowcol hc hv

/-- every in-range (row, col) is the (row, col) of exactly the cell `row * ncols + col`, which is valid -/
theorem cell2rowcol_cellOf {nrows ncols row col : Int} (hr0 : 0 ≤ row) (hr1 : row < nrows)
    (hc0 : 0 ≤ col) (hc1 : col < ncols) :
    validCell nrows ncols (row * ncols + col) = true ∧
    cell2rowcol nrows ncols (row * ncols + col) = (row, col) := by
  have hv := validCell_cellOf hr0 hr1 hc0 hc1
  refine ⟨hv, ?_⟩
  unfold cell2rowcol
  rw [show row * ncols + col = cellOf ncols row col from rfl, if_pos hv,
    rowOf_cellOf hr0 hc0 hc1, colOf_cellOf hr0 hc0 hc1]

theorem cell2rowcol_injective {nrows ncols c d : Int} (hc : 0 < ncols)
    (hvc : validCell nrows ncols c = true) (hvd : validCell nrows ncols d = true)
    (h : cell2rowcol nrows ncols c = cell2rowcol nrows ncols d) : c = d :=
  rowcol_inj hc hvc hvd h

/-- numbering starts in the top-left corner: cell 0 is row 0 (the top row, see
`cell2coord_top_left_order`), column 0 -/
theorem cell2rowcol_zero {nrows ncols : Int} (hr : 0 < nrows) (hc : 0 < ncols) :
    cell2rowcol nrows ncols 0 = (0, 0) := by
  simpa using (cell2rowcol_cellOf (row := 0) (col := 0) le_rfl hr le_rfl hc).2

/-- numbering proceeds row by row: the next cell is one column to the right, or the first column
of the next row when the current row is finished -/
theorem cell2rowcol_succ {nrows ncols c : Int} (hc : 0 < ncols)
    (hv : validCell nrows ncols c = true) (hv' : validCell nrows ncols (c + 1) = true) :
    cell2rowcol nrows ncols (c + 1) =
      if (cell2rowcol nrows ncols c).2 + 1 < ncols
      then ((cell2rowcol nrows ncols c).1, (cell2rowcol nrows ncols c).2 + 1)
      else ((cell2rowcol nrows ncols c).1 + 1, 0) := by
  obtain ⟨r0, r1, c0, c1, hidx⟩ := cell2rowcol_valid hc hv
  generalize (cell2rowcol nrows ncols c).1 = r at *
  generalize (cell2rowcol nrows ncols c).2 = k at *
  subst hidx
  split_ifs with hlt
  · rw [Int.add_assoc]
    exact (cell2rowcol_cellOf r0 r1 (by omega) hlt).2
  · have e : r * ncols + k + 1 = (r + 1) * ncols + 0 := by rw [Int.add_mul]; omega
    rw [e] at hv' ⊢
    exact (cell2rowcol_cellOf (by omega) ((validCell_cellOf_iff le_rfl hc).1 hv').2 le_rfl hc).2

/-! ### 2. `cell2coord` returns the centre of the cell -/

theorem cell2coord_eq {g : Geom α} {c : Int} (hv : validCell g.nrows g.ncols c = true) :
    cell2coord g c = some
      (g.xll + g.csz * ((colOf g.ncols c : α) + 1 / 2),
       g.yll + g.csz * (((g.nrows - 1 - rowOf g.ncols c : Int) : α) + 1 / 2)) := by
  rw [cell2coord, if_pos hv, getcoord_eq]

/-- the point returned for a valid cell is the midpoint of its footprint in both directions -/
theorem cell2coord_centre {g : Geom α} {c : Int} (hv : validCell g.nrows g.ncols c = true) :
    ∃ x y, cell2coord g c = some (x, y) ∧
      2 * x = cellLeft g c + cellRight g c ∧ 2 * y = cellBottom g c + cellTop g c := by
  refine ⟨_, _, cell2coord_eq hv, ?_, ?_⟩
  · unfold cellLeft cellRight; ring
  · unfold cellBottom cellTop rowUp; ring

/-- the centre lies strictly inside the footprint (for a positive cell size) -/
theorem cell2coord_inFootprint {g : Geom α} (hcsz : 0 < g.csz) {c : Int}
    (hv : validCell g.nrows g.ncols c = true) :
    ∃ x y, cell2coord g c = some (x, y) ∧ cellLeft g c < x ∧ x < cellRight g c ∧
      cellBottom g c < y ∧ y < cellTop g c := by
  have lo : ∀ a : α, a < a + 1 / 2 := fun a => lt_add_of_pos_right a one_half_pos
  have hi : ∀ a : α, a + 1 / 2 < a + 1 := fun a => add_lt_add_right one_half_lt_one a
  exact ⟨_, _, cell2coord_eq hv, offset_lt_offset hcsz (lo _), offset_lt_offset hcsz (hi _),
    offset_lt_offset hcsz (lo _), offset_lt_offset hcsz (hi _)⟩

/-- orientation: x grows with the column number, y *decreases* with the row number — row 0 is the
top row, column 0 the left column, so cell 0 is the top-left corner -/
theorem cell2coord_top_left_order {g : Geom α} (hcsz : 0 < g.csz) {c d : Int} {xc yc xd yd : α}
    (hvc : validCell g.nrows g.ncols c = true) (hvd : validCell g.nrows g.ncols d = true)
    (hc : cell2coord g c = some (xc, yc)) (hd : cell2coord g d = some (xd, yd)) :
    (colOf g.ncols c < colOf g.ncols d → xc < xd) ∧ (rowOf g.ncols c < rowOf g.ncols d → yd < yc) := by
  obtain ⟨rfl, rfl⟩ := Prod.mk.inj (Option.some.inj ((cell2coord_eq hvc).symm.trans hc))
  obtain ⟨rfl, rfl⟩ := Prod.mk.inj (Option.some.inj ((cell2coord_eq hvd).symm.trans hd))
  exact ⟨fun h => offset_lt_offset hcsz (add_lt_add_left (Int.cast_lt.2 h) _),
    fun h => offset_lt_offset hcsz (add_lt_add_left (Int.cast_lt.2 (by omega)) _)⟩

/-! ### 3. `coord2cell`: inside a footprint ⇒ that cell; outside the extent ⇒ -1 -/

/-- every point of the footprint of a valid cell `c` (left/bottom edges included) is mapped to `c` -/
theorem coord2cell_inside {g : Geom α} (hcsz : 0 < g.csz) (hc : 0 < g.ncols) {c : Int}
    (hv : validCell g.nrows g.ncols c = true) {x y : α} (h : InFootprint g c x y) :
    coord2cell g x y = c :=
  coord2cell_of_inFootprint hcsz hc hv h

/-- every point outside the extent — left, right, below, above or diagonal, however close or far —
is mapped to `-1`. (No side condition `x ≥ xll ∧ y ≥ yll`: the kernel takes `floor` since /repo
a909179; for the pinned kernel see `coord2cellTrunc_left_strip`.) -/
theorem coord2cell_outside {g : Geom α} (hcsz : 0 < g.csz) {x y : α}
    (h : x < g.xll ∨ g.xll + (g.ncols : α) * g.csz ≤ x ∨ y < g.yll ∨ g.yll + (g.nrows : α) * g.csz ≤ y) :
    coord2cell g x y = -1 :=
  coord2cell_of_not_inExtent hcsz fun ⟨a, b, c, d⟩ =>
    h.elim a.not_gt fun h => h.elim b.not_ge fun h => h.elim c.not_gt d.not_ge

/-- every point of the extent is mapped to a valid cell, and lies in the footprint of that cell:
the footprints of the valid cells tile the extent -/
theorem coord2cell_extent {g : Geom α} (hcsz : 0 < g.csz) {x y : α} (h : InExtent g x y) :
    validCell g.nrows g.ncols (coord2cell g x y) = true ∧ InFootprint g (coord2cell g x y) x y :=
  coord2cell_of_inExtent hcsz h

theorem coord2cell_eq_neg_one_iff {g : Geom α} (hcsz : 0 < g.csz) {x y : α} :
    coord2cell g x y = -1 ↔ ¬ InExtent g x y := by
  constructor
  · intro h hin
    have := (validCell_iff.1 (coord2cell_of_inExtent hcsz hin).1).1
    omega
  · exact coord2cell_of_not_inExtent hcsz

/-- `coord2cell` characterised: it returns the valid cell `c` exactly on the footprint of `c` -/
theorem coord2cell_eq_iff {g : Geom α} (hcsz : 0 < g.csz) (hc : 0 < g.ncols) {c : Int}
    (hv : validCell g.nrows g.ncols c = true) {x y : α} :
    coord2cell g x y = c ↔ InFootprint g c x y :=
  coord2cell_iff_inFootprint hcsz hc hv

/-- round trip: `coord2cell (cell2coord c) = c` for every valid cell -/
theorem coord2cell_cell2coord {g : Geom α} (hcsz : 0 < g.csz) (hc : 0 < g.ncols) {c : Int}
    (hv : validCell g.nrows g.ncols c = true) :
    ∃ x y, cell2coord g c = some (x, y) ∧ coord2cell g x y = c := by
  refine ⟨_, _, cell2coord_eq hv, ?_⟩
  rw [coord2cell_eq, floor_offset_centre hcsz.ne', floor_offset_centre hcsz.ne']
  exact cellOfNxNy_of_valid hc hv

/-! ### 4. neighbours agree with the numbering -/

/-- the neighbour vector of a valid cell has 9 entries; entry `k` is the cell one step away in the
direction `(k/3 - 1, k%3 - 1)` (row, col offsets) when that position is on the grid and `k ≠ 4`,
and `-1` otherwise (centre, or off-grid neighbour) -/
theorem neighbours_spec {nrows ncols c : Int} (hv : validCell nrows ncols c = true) :
    ∃ l, cNeighbours nrows ncols c = .ok l ∧ l.length = 9 ∧
      ∀ k, (hk : k < 9) → ∀ d, l[k]? = some d →
        let row := (cell2rowcol nrows ncols c).1 + ((k / 3 : Nat) - 1 : Int)
        let col := (cell2rowcol nrows ncols c).2 + ((k % 3 : Nat) - 1 : Int)
        if k ≠ 4 ∧ 0 ≤ row ∧ row < nrows ∧ 0 ≤ col ∧ col < ncols
        then d = row * ncols + col ∧ validCell nrows ncols d = true ∧ cell2rowcol nrows ncols d = (row, col)
        else d = -1 := by
  refine ⟨_, cNeighbours_eq hv, rfl, fun k hk d hd => ?_⟩
  obtain rfl := Option.some.inj ((cNeighbours_getElem? hv (cNeighbours_eq hv) hk).symm.trans hd)
  rw [show cell2rowcol nrows ncols c = (rowOf ncols c, colOf ncols c) from if_pos hv]
  intro row col
  split_ifs with h
  · obtain ⟨h4, r0, r1, c0, c1⟩ := h
    have e : neighbour nrows ncols c k = cellOf ncols row col := by
      rw [neighbour_eq, if_neg (mt nb_centre_iff.1 h4), if_pos ⟨c0, c1, r0, r1⟩]
      rfl
    rw [e]
    exact ⟨rfl, cell2rowcol_cellOf r0 r1 c0 c1⟩
  · rw [neighbour_eq_neg_one_iff, nb_centre_iff]
    by_contra hn
    rw [not_or, not_not] at hn
    obtain ⟨h4, c0, c1, r0, r1⟩ := hn
    exact h ⟨h4, r0, r1, c0, c1⟩

/-- **symmetry with mirrored position**: if `d ≠ -1` is entry `k` of the neighbour vector of the valid
cell `c`, then `d` is valid and `c` is entry `8 - k` of the neighbour vector of `d` -/
theorem neighbours_symmetric {nrows ncols c : Int} (hc : 0 < ncols)
    (hv : validCell nrows ncols c = true) {l : List Int} (hl : cNeighbours nrows ncols c = .ok l)
    {k : Nat} (hk : k < 9) {d : Int} (hd : l[k]? = some d) (hne : d ≠ -1) :
    ∃ l', cNeighbours nrows ncols d = .ok l' ∧ l'[8 - k]? = some c := by
  have hd' : neighbour nrows ncols c k = d := Option.some.inj ((cNeighbours_getElem? hv hl hk).symm.trans hd)
  have hvd := neighbour_valid hd' hne
  exact ⟨_, cNeighbours_eq hvd, (cNeighbours_getElem? hvd (cNeighbours_eq hvd) (by omega)).trans
    (congrArg some (neighbour_mirror hc hv hk hd' hne))⟩

/-- a valid cell never lists itself as a neighbour -/
theorem neighbours_not_self {nrows ncols c : Int} (hv : validCell nrows ncols c = true)
    {l : List Int} (hl : cNeighbours nrows ncols c = .ok l) : c ∉ l := by
  rw [cNeighbours_eq hv] at hl
  injection hl with hl
  subst hl
  intro hmem
  rw [List.mem_map] at hmem
  obtain ⟨k, -, hk⟩ := hmem
  exact neighbour_ne_self hv hk

/-! ### 5. invalid cell numbers are flagged, never mapped to a cell -/

/-- a cell number outside `0 .. nrows*ncols-1` gives `(-1,-1)`, `(NaN, NaN)` and an error -/
theorem invalid_cell_flagged {g : Geom α} {c : Int} (h : c < 0 ∨ g.nrows * g.ncols ≤ c) :
    cell2rowcol g.nrows g.ncols c = (-1, -1) ∧ cell2coord g c = none ∧
      cNeighbours g.nrows g.ncols c = .error .badCell := by
  have hv := validCell_eq_false_iff.2 h
  refine ⟨?_, ?_, cNeighbours_invalid hv⟩
  · unfold cell2rowcol; simp [hv]
  · unfold cell2coord; simp [hv]

/-- conversely the flags are raised only for invalid cell numbers -/
theorem valid_cell_not_flagged {g : Geom α} (hc : 0 < g.ncols) {c : Int}
    (hv : validCell g.nrows g.ncols c = true) :
    cell2rowcol g.nrows g.ncols c ≠ (-1, -1) ∧ cell2coord g c ≠ none ∧
      cNeighbours g.nrows g.ncols c ≠ .error .badCell := by
  refine ⟨?_, ?_, ?_⟩
  · intro h
    have := (cell2rowcol_valid hc hv).1
    rw [h] at this
    omega
  · rw [cell2coord_eq hv]; simp
  · rw [cNeighbours_eq hv]; simp

/-- `coord2cell` never produces an invalid cell number other than the flag `-1` -/
theorem coord2cell_valid_or_flag {g : Geom α} (hcsz : 0 < g.csz) (x y : α) :
    coord2cell g x y = -1 ∨ validCell g.nrows g.ncols (coord2cell g x y) = true := by
  by_cases h : InExtent g x y
  · exact Or.inr (coord2cell_of_inExtent hcsz h).1
  · exact Or.inl (coord2cell_of_not_inExtent hcsz h)

/-! ### 6. derived axes: `xvalues`, `yvalues` -/

/-- `xvalues[j]` is the centre abscissa of column `j`, for all `ncols` columns -/
theorem xvalues_eq {g : Geom α} (hr : 0 < g.nrows) (hc : 0 < g.ncols) :
    xvalues g = (List.range g.ncols.toNat).map fun (j : Nat) =>
      some (g.xll + g.csz * ((j : α) + 1 / 2)) := by
  unfold xvalues
  refine List.map_congr_left fun j hj => ?_
  have hj1 : (j : Int) < g.ncols := by have := List.mem_range.1 hj; omega
  have e : (j : Int) = cellOf g.ncols 0 j := by simp [cellOf]
  rw [e, cell2coord_eq (validCell_cellOf le_rfl hr (Int.natCast_nonneg j) hj1),
    colOf_cellOf le_rfl (Int.natCast_nonneg j) hj1]
  simp

/-- `yvalues[i]` is the centre ordinate of row `i` (row 0 at the top), for all `nrows` rows -/
theorem yvalues_eq {g : Geom α} (hc : 0 < g.ncols) :
    yvalues g = (List.range g.nrows.toNat).map fun (i : Nat) =>
      some (g.yll + g.csz * (((g.nrows - 1 - (i : Int) : Int) : α) + 1 / 2)) := by
  unfold yvalues
  refine List.map_congr_left fun i hi => ?_
  have hi1 : (i : Int) < g.nrows := by have := List.mem_range.1 hi; omega
  have e : (i : Int) * g.ncols = cellOf g.ncols i 0 := by simp [cellOf]
  rw [e, cell2coord_eq (validCell_cellOf (Int.natCast_nonneg i) hi1 le_rfl hc),
    rowOf_cellOf (Int.natCast_nonneg i) le_rfl hc]
  simp

/-- the axes address the cells: the point `(xvalues[j], yvalues[i])` is mapped to cell `i*ncols + j` -/
theorem coord2cell_axes {g : Geom α} (hcsz : 0 < g.csz) {i j : Int} (hi0 : 0 ≤ i) (hi1 : i < g.nrows)
    (hj0 : 0 ≤ j) (hj1 : j < g.ncols) :
    coord2cell g (g.xll + g.csz * ((j : α) + 1 / 2))
      (g.yll + g.csz * (((g.nrows - 1 - i : Int) : α) + 1 / 2)) = i * g.ncols + j := by
  rw [coord2cell_eq, floor_offset_centre hcsz.ne', floor_offset_centre hcsz.ne', sub_sub_cancel]
  exact cellOfNxNy_in ⟨hj0, hj1, hi0, hi1⟩

/-! ### 7. the pinned kernel (bare cast, truncation toward zero): the finding as a theorem -/

/-- /repo a909179 (`floor` before the cast) changes nothing for points with `x ≥ xll` and `y ≥ yll` -/
theorem coord2cellTrunc_eq_of_ge {g : Geom α} (hcsz : 0 < g.csz) {x y : α}
    (hx : g.xll ≤ x) (hy : g.yll ≤ y) : coord2cellTrunc g x y = coord2cell g x y := by
  rw [coord2cellTrunc_eq_clamp hcsz ((sub_lt_self _ hcsz).trans_le hx) ((sub_lt_self _ hcsz).trans_le hy),
    max_eq_left hx, max_eq_left hy]

/-- with truncation, a point less than one cell to the *left* of the extent (and at a height inside
it) is not flagged: it gets the same valid cell of column 0 as the point on the left edge -/
theorem coord2cellTrunc_left_strip {g : Geom α} (hcsz : 0 < g.csz) (hc : 0 < g.ncols) {x y : α}
    (hx0 : g.xll - g.csz < x) (hx1 : x < g.xll) (hy0 : g.yll ≤ y)
    (hy1 : y < g.yll + (g.nrows : α) * g.csz) :
    coord2cellTrunc g x y = coord2cell g g.xll y ∧
      validCell g.nrows g.ncols (coord2cellTrunc g x y) = true ∧ coord2cell g x y = -1 := by
  have e : coord2cellTrunc g x y = coord2cell g g.xll y := by
    rw [coord2cellTrunc_eq_clamp hcsz hx0 ((sub_lt_self _ hcsz).trans_le hy0), max_eq_right hx1.le, max_eq_left hy0]
  refine ⟨e, ?_, coord2cell_outside hcsz (Or.inl hx1)⟩
  rw [e]
  exact (coord2cell_of_inExtent hcsz
    ⟨le_rfl, lt_add_of_pos_right _ (mul_pos (Int.cast_pos.2 hc) hcsz), hy0, hy1⟩).1

/-- the same below the extent: a point less than one cell *below* it is given a cell of the bottom row -/
theorem coord2cellTrunc_bottom_strip {g : Geom α} (hcsz : 0 < g.csz) (hr : 0 < g.nrows) {x y : α}
    (hy0 : g.yll - g.csz < y) (hy1 : y < g.yll) (hx0 : g.xll ≤ x)
    (hx1 : x < g.xll + (g.ncols : α) * g.csz) :
    coord2cellTrunc g x y = coord2cell g x g.yll ∧
      validCell g.nrows g.ncols (coord2cellTrunc g x y) = true ∧ coord2cell g x y = -1 := by
  have e : coord2cellTrunc g x y = coord2cell g x g.yll := by
    rw [coord2cellTrunc_eq_clamp hcsz ((sub_lt_self _ hcsz).trans_le hx0) hy0, max_eq_left hx0, max_eq_right hy1.le]
  refine ⟨e, ?_, coord2cell_outside hcsz (Or.inr (Or.inr (Or.inl hy1)))⟩
  rw [e]
  exact (coord2cell_of_inExtent hcsz
    ⟨hx0, hx1, le_rfl, lt_add_of_pos_right _ (mul_pos (Int.cast_pos.2 hr) hcsz)⟩).1

/-! ### 8. the exact instance executed by the driver is the one the theorems speak about -/

/-- the `Rat` instance of `Model/C07.lean` (run by the driver for the exact replies) coincides with the
ordered-field instance used in every theorem above, at `α = ℚ` -/
theorem truncRat_eq_fieldTrunc : (truncRat : Trunc ℚ) = (fieldTrunc : Trunc ℚ) := by
  -- field by field the two are the same terms: on `ℚ`, `⌊x⌋` is `x.floor` and `⌈x⌉` is `-⌊-x⌋` by definition
  unfold truncRat fieldTrunc
  congr 1

theorem floorRat_eq_fieldFloor : (floorRat : FloorNum ℚ) = (fieldFloor : FloorNum ℚ) := rfl

/-! ### 9. the kernel as /repo writes it since c8d188e (extent test on the floored doubles, then the casts) -/

/-- `c_coord2cell` as written since c8d188e equals the cast-first form, for every geometry and every point:
every theorem of sections 3, 6 and 7 transfers word for word (restated below for the principal ones) -/
theorem coord2cellK_eq_coord2cell (g : Geom α) (x y : α) : coord2cellK g x y = coord2cell g x y :=
  cellOfQuot_eq ..

theorem coord2cellK_inside {g : Geom α} (hcsz : 0 < g.csz) (hc : 0 < g.ncols) {c : Int}
    (hv : validCell g.nrows g.ncols c = true) {x y : α} (h : InFootprint g c x y) :
    coord2cellK g x y = c := by
  rw [coord2cellK_eq_coord2cell]; exact coord2cell_inside hcsz hc hv h

theorem coord2cellK_outside {g : Geom α} (hcsz : 0 < g.csz) {x y : α}
    (h : x < g.xll ∨ g.xll + (g.ncols : α) * g.csz ≤ x ∨ y < g.yll ∨ g.yll + (g.nrows : α) * g.csz ≤ y) :
    coord2cellK g x y = -1 := by
  rw [coord2cellK_eq_coord2cell]; exact coord2cell_outside hcsz h

/-- the result is `-1` exactly off `xlim × ylim` (the half-open extent as `Grid.xlim` / `Grid.ylim` give it),
and on it a valid cell whose footprint contains the point -/
theorem coord2cellK_lims {g : Geom α} (hcsz : 0 < g.csz) (x y : α) :
    (coord2cellK g x y ≠ -1 ↔
      ((xlim g).1 ≤ x ∧ x < (xlim g).2 ∧ (ylim g).1 ≤ y ∧ y < (ylim g).2)) ∧
    (coord2cellK g x y ≠ -1 →
      validCell g.nrows g.ncols (coord2cellK g x y) = true ∧ InFootprint g (coord2cellK g x y) x y) := by
  rw [coord2cellK_eq_coord2cell]
  constructor
  · exact not_iff_comm.1 (coord2cell_eq_neg_one_iff hcsz).symm
  · exact fun h => coord2cell_extent hcsz (not_not.1 (mt (coord2cell_eq_neg_one_iff hcsz).2 h))

theorem coord2cellK_eq_iff {g : Geom α} (hcsz : 0 < g.csz) (hc : 0 < g.ncols) {c : Int}
    (hv : validCell g.nrows g.ncols c = true) {x y : α} :
    coord2cellK g x y = c ↔ InFootprint g c x y := by
  rw [coord2cellK_eq_coord2cell]; exact coord2cell_eq_iff hcsz hc hv

theorem coord2cellK_cell2coord {g : Geom α} (hcsz : 0 < g.csz) (hc : 0 < g.ncols) {c : Int}
    (hv : validCell g.nrows g.ncols c = true) :
    ∃ x y, cell2coord g c = some (x, y) ∧ coord2cellK g x y = c := by
  obtain ⟨x, y, h1, h2⟩ := coord2cell_cell2coord hcsz hc hv
  exact ⟨x, y, h1, by rw [coord2cellK_eq_coord2cell]; exact h2⟩

theorem coord2cellK_valid_or_flag {g : Geom α} (hcsz : 0 < g.csz) (x y : α) :
    coord2cellK g x y = -1 ∨ validCell g.nrows g.ncols (coord2cellK g x y) = true := by
  rw [coord2cellK_eq_coord2cell]; exact coord2cell_valid_or_flag hcsz x y

/-! ### 10. the conditioning region: "away from the edges by a relative margin" -/

/-- **robustness of the inside clause.** Let the two quotients be evaluated with any error of at most `δ`
cell sizes (rounded subtraction and division, for instance). If the point is at least `δ` cell sizes inside the
footprint of the valid cell `c`, the kernel still returns `c`. With `δ = 1e-9` this is the property's
"away from edges by 1e-9 relative"; the harness measures the actual error of the double evaluation on every
case (it is below `1e-9` for the whole quantifier) -/
theorem cellOfQuot_inside_of_approx {g : Geom α} (hcsz : 0 < g.csz) (hc : 0 < g.ncols) {c : Int}
    (hv : validCell g.nrows g.ncols c = true) {x y qx' qy' δ : α}
    (hqx : |qx' - (quotients g x y).1| ≤ δ) (hqy : |qy' - (quotients g x y).2| ≤ δ)
    (hin : cellLeft g c + δ * g.csz ≤ x ∧ x + δ * g.csz < cellRight g c ∧
      cellBottom g c + δ * g.csz ≤ y ∧ y + δ * g.csz < cellTop g c) :
    cellOfQuot g.nrows g.ncols qx' qy' = c := by
  obtain ⟨hl, hr, hb, ht⟩ := hin
  exact cellOfQuot_of_floor hc hv
    (floor_eq_of_approx hqx ((add_le_offset_iff hcsz).2 hl) ((offset_add_lt_iff hcsz).2 hr))
    (floor_eq_of_approx hqy ((add_le_offset_iff hcsz).2 hb) ((offset_add_lt_iff hcsz).2 ht))

/-- **robustness of the outside clause.** With the quotients evaluated within `δ` cell sizes, a point at least
`δ` cell sizes outside the extent on any side is mapped to `-1` -/
theorem cellOfQuot_outside_of_approx {g : Geom α} (hcsz : 0 < g.csz) {x y qx' qy' δ : α}
    (hqx : |qx' - (quotients g x y).1| ≤ δ) (hqy : |qy' - (quotients g x y).2| ≤ δ)
    (hout : x + δ * g.csz < g.xll ∨ g.xll + (g.ncols : α) * g.csz + δ * g.csz ≤ x ∨
      y + δ * g.csz < g.yll ∨ g.yll + (g.nrows : α) * g.csz + δ * g.csz ≤ y) :
    cellOfQuot g.nrows g.ncols qx' qy' = -1 := by
  rw [cellOfQuot_eq]
  refine cellOfNxNy_out fun hh => ?_
  have := hout.imp (floor_neg_of_margin hcsz hqx) (Or.imp (floor_ge_of_margin hcsz hqx _)
    (Or.imp (floor_neg_of_margin hcsz hqy) (floor_ge_of_margin hcsz hqy _)))
  omega

/-! ### 11. vectorised requests: each entry is answered on its own -/

/-- the answer of the vectorised entry points for entry `i` of a request is the answer for that entry alone,
whatever the length, the order and the other entries of the request (a bare scalar is the one-entry request) -/
theorem grid_requests_elementwise (g : Geom α) (cells : List Int) (pts : List (α × α)) (i : Nat) :
    (gridCell2rowcol g.nrows g.ncols cells)[i]? = cells[i]?.map (cell2rowcol g.nrows g.ncols) ∧
    (gridCell2coord g cells)[i]? = cells[i]?.map (cell2coord g) ∧
    (gridCoord2cell g pts)[i]? = pts[i]?.map (fun p => coord2cellK g p.1 p.2) ∧
    (gridCell2rowcol g.nrows g.ncols cells).length = cells.length ∧
    (gridCell2coord g cells).length = cells.length ∧ (gridCoord2cell g pts).length = pts.length :=
  ⟨List.getElem?_map, List.getElem?_map, List.getElem?_map, List.length_map _, List.length_map _,
    List.length_map _⟩

/-! ### 12. rounding: the clauses under the standard model of floating point arithmetic -/

/-- **the hypothesis of the robustness theorems, proved.** With every arithmetic result rounded with relative error
at most `u`, each quotient the kernel floors is within `(2u + u²)·|q|` of the exact quotient `q` -/
theorem quotientsR_error {rnd : α → α} {u : α} (hr : RelErr rnd u) (hu : 0 ≤ u) (g : Geom α) (x y : α) :
    |(quotientsR rnd g x y).1 - (quotients g x y).1| ≤ quotBudget u * |(quotients g x y).1| ∧
    |(quotientsR rnd g x y).2 - (quotients g x y).2| ≤ quotBudget u * |(quotients g x y).2| :=
  ⟨quot_err hr hu _ _, quot_err hr hu _ _⟩

/-- inside clause with rounded arithmetic: a point at least `δ` cell sizes inside the footprint of the valid cell
`c` is mapped to `c`, for every `δ` that covers the rounding budget of the two quotients -/
theorem coord2cellR_inside {rnd : α → α} {u : α} (hr : RelErr rnd u) (hu : 0 ≤ u) {g : Geom α}
    (hcsz : 0 < g.csz) (hc : 0 < g.ncols) {c : Int} (hv : validCell g.nrows g.ncols c = true) {x y δ : α}
    (hδx : quotBudget u * |(quotients g x y).1| ≤ δ) (hδy : quotBudget u * |(quotients g x y).2| ≤ δ)
    (hin : cellLeft g c + δ * g.csz ≤ x ∧ x + δ * g.csz < cellRight g c ∧
      cellBottom g c + δ * g.csz ≤ y ∧ y + δ * g.csz < cellTop g c) :
    coord2cellR rnd g x y = c :=
  cellOfQuot_inside_of_approx hcsz hc hv ((quotientsR_error hr hu g x y).1.trans hδx)
    ((quotientsR_error hr hu g x y).2.trans hδy) hin

/-- outside clause with rounded arithmetic: a point at least `δ` cell sizes outside the extent, on any side, is
mapped to `-1` -/
theorem coord2cellR_outside {rnd : α → α} {u : α} (hr : RelErr rnd u) (hu : 0 ≤ u) {g : Geom α}
    (hcsz : 0 < g.csz) {x y δ : α}
    (hδx : quotBudget u * |(quotients g x y).1| ≤ δ) (hδy : quotBudget u * |(quotients g x y).2| ≤ δ)
    (hout : x + δ * g.csz < g.xll ∨ g.xll + (g.ncols : α) * g.csz + δ * g.csz ≤ x ∨
      y + δ * g.csz < g.yll ∨ g.yll + (g.nrows : α) * g.csz + δ * g.csz ≤ y) :
    coord2cellR rnd g x y = -1 :=
  cellOfQuot_outside_of_approx hcsz ((quotientsR_error hr hu g x y).1.trans hδx)
    ((quotientsR_error hr hu g x y).2.trans hδy) hout

/-- the centre computed with rounded arithmetic is within `(3u + 3u² + u³)(|ll| + csz·(k + 1/2))` of the exact
centre, in both directions -/
theorem cell2coordR_error {rnd : α → α} {u : α} (hr : RelErr rnd u) (hu : 0 ≤ u) {g : Geom α} {c : Int}
    (hv : validCell g.nrows g.ncols c = true) :
    ∃ x' y' x y, cell2coordR rnd g c = some (x', y') ∧ cell2coord g c = some (x, y) ∧
      |x' - x| ≤ centreBudget u * (|g.xll| + |g.csz| * |(colOf g.ncols c : α) + 1 / 2|) ∧
      |y' - y| ≤ centreBudget u * (|g.yll| + |g.csz| * |((g.nrows - 1 - rowOf g.ncols c : Int) : α) + 1 / 2|) :=
  ⟨_, _, _, _, if_pos hv, cell2coord_eq hv, centreR_err hr hu .., centreR_err hr hu ..⟩

/-- **round trip with rounded arithmetic**: `coord2cell(cell2coord c) = c` for every valid cell, with every
arithmetic result of both kernels rounded, as long as the grid is not so large / so far from the origin that the
accumulated rounding reaches half a cell: `rtBudget u · (|ll|/csz + n) < 1/2` on both axes
(`rtBudget u ≈ 5u`; for doubles, `u = 2^-53`: any grid with `|ll|/csz + n ≤ 2^48`) -/
theorem roundtripR {rnd : α → α} {u : α} (hr : RelErr rnd u) (hu : 0 ≤ u) {g : Geom α}
    (hcsz : 0 < g.csz) (hc : 0 < g.ncols) {c : Int} (hv : validCell g.nrows g.ncols c = true)
    (hX : rtBudget u * (|g.xll| / g.csz + (g.ncols : α)) < 1 / 2)
    (hY : rtBudget u * (|g.yll| / g.csz + (g.nrows : α)) < 1 / 2) :
    ∃ x y, cell2coordR rnd g c = some (x, y) ∧ coord2cellR rnd g x y = c := by
  obtain ⟨hr0, hr1, hc0, hc1, -⟩ := valid_rowcol hc hv
  exact ⟨_, _, if_pos hv, cellOfQuot_of_floor hc hv
    (axis_roundtrip hr hu hcsz hc0 (add_le_add_right (cast_add_half_le hc1) _) hX)
    (axis_roundtrip hr hu hcsz (k := rowUp g c) (by unfold rowUp; omega)
      (add_le_add_right (cast_add_half_le (by unfold rowUp; omega)) _) hY)⟩

/-- order survives rounding: for any monotone rounding operator (IEEE rounding is monotone) and a non-negative cell
size the computed centres are monotone in the index — `xvalues` never decreases with the column, `yvalues` never
increases with the row, whatever the rounding errors -/
theorem centreR_mono {rnd : α → α} (hm : Monotone rnd) {ll csz : α} (hcsz : 0 ≤ csz) {j k : Int} (h : j ≤ k) :
    centreR rnd ll csz j ≤ centreR rnd ll csz k := by
  unfold centreR
  have hjk : (Trunc.ofInt j : α) ≤ Trunc.ofInt k := Int.cast_le.2 h
  exact hm (add_le_add_right (hm (mul_le_mul_of_nonneg_left (hm (add_le_add_left hjk _)) hcsz)) _)

/-- the rounding the driver executes on exact rationals (nearest, ties to even, 53 bits) satisfies the standard
model with `u = 2^-53` -/
theorem round53_standard_model (t : ℚ) : |round53 t - t| ≤ 1 / 2 ^ 53 * |t| := by
  unfold round53
  split_ifs with h0
  · simp [h0]
  simp only
  split_ifs with h
  · rw [ratAbs_eq] at h
    refine (Round.abs_rne_mul_sub_le t (div_pos (Round.pow2_pos _) (by positivity))).trans ?_
    calc 1 / 2 * (pow2 (binExp t) / ((2 ^ 52 : Nat) : ℚ)) = 1 / 2 ^ 53 * pow2 (binExp t) := by push_cast; ring
      _ ≤ 1 / 2 ^ 53 * |t| := mul_le_mul_of_nonneg_left h (by positivity)
  · simp

section Machine
variable {β : Type} [Add β] [Sub β] [Mul β] [Div β] [OfNat β 0] [OfNat β 1] [LE β] [DecidableLE β] [LT β]
  [DecidableLT β] [Trunc β] [FloorNum β]

/-- with the identity as rounding operator the rounded kernel is the kernel, over any numeric type: at `Float` the
operations round themselves, and this instance is what the driver runs against the code -/
theorem coord2cellR_id (g : Geom β) (x y : β) : coord2cellR (fun t => t) g x y = coord2cellK g x y := rfl

theorem cell2coordR_id (g : Geom β) (c : Int) : cell2coordR (fun t => t) g c = cell2coord g c := rfl

/-! ### 13. the grid object as a state machine: histories -/

/-- a call — answered or rejected — and `clone` leave the attributes as they were (any numeric type, `Float` included) -/
theorem step_keeps_state (g : Geom β) (o : Op β) (h : o.isMutator = false) : (step g o).1 = g := by
  cases o <;> first | rfl | (simp [Op.isMutator] at h)

/-- the attributes after a history are those after its attribute assignments alone -/
theorem finalGeom_eq_mutators (g : Geom β) (ops : List (Op β)) :
    finalGeom g ops = finalGeom g (ops.filter Op.isMutator) :=
  trace.filter Op.isMutator step_keeps_state g ops

/-- answer number `i` of a history is the answer a *fresh* object gives to operation `i` when it has the attributes
produced by the assignments before `i`: no earlier call, rejected call or copy, and nothing later, has any part in it -/
theorem run_answer (g : Geom β) (ops : List (Op β)) (i : Nat) :
    (run g ops)[i]? = ops[i]?.map fun o => (step (finalGeom g ((ops.take i).filter Op.isMutator)) o).2 := by
  rw [← finalGeom_eq_mutators]
  exact trace.outs_getElem? g ops i

/-- histories compose: the answers of `a ++ b` are those of `a`, then those of `b` on the attributes `a` left -/
theorem run_append (g : Geom β) (a b : List (Op β)) : run g (a ++ b) = run g a ++ run (finalGeom g a) b :=
  trace.outs_append g a b

theorem run_length (g : Geom β) (ops : List (Op β)) : (run g ops).length = ops.length :=
  trace.outs_length g ops

/-- a rejected `neighbours` call answers with the error and leaves the object unchanged, after any history -/
theorem history_rejected (g : Geom β) (ops : List (Op β)) (c : Int)
    (h : validCell (finalGeom g ops).nrows (finalGeom g ops).ncols c = false) :
    (run g (ops ++ [.nb c]))[ops.length]? = some (.nb (.error .badCell)) ∧
      finalGeom g (ops ++ [.nb c]) = finalGeom g ops := by
  constructor
  · rw [run_append, List.getElem?_append_right (run_length g ops).le, run_length, Nat.sub_self]
    exact congrArg (fun r => some (Ans.nb r)) (cNeighbours_invalid h)
  · exact trace.append g ops _

end Machine

/-- **round trip after any history**: whatever was done to the object before — attribute re-assignments, calls,
rejected calls, copies — `cell2coord [c]` followed by `coord2cell` of its answer gives `[c]`, for every cell that is
valid for the attributes of that moment (cell size and ncols positive at that moment); the earlier answers are
what they were -/
theorem history_roundtrip (g : Geom α) (ops : List (Op α)) {c : Int}
    (hcsz : 0 < (finalGeom g ops).csz) (hc : 0 < (finalGeom g ops).ncols)
    (hv : validCell (finalGeom g ops).nrows (finalGeom g ops).ncols c = true) :
    ∃ x y, run g (ops ++ [.c2c [c], .xy2c [(x, y)]]) = run g ops ++ [.coords [some (x, y)], .cells [c]] := by
  obtain ⟨x, y, h1, h2⟩ := coord2cellK_cell2coord hcsz hc hv
  refine ⟨x, y, ?_⟩
  rw [run_append]
  show _ ++ [Ans.coords [cell2coord (finalGeom g ops) c], Ans.cells [coord2cellK (finalGeom g ops) x y]] = _
  rw [h1, h2]

/-! ### 14. the constructor: defaults, its guard, and the hypothesis `0 < ncols` discharged -/

/-- `Grid(name, n)`: the square grid of unit cells with its lower-left corner at the origin -/
theorem mkGrid_default {n : Int} (hn : 0 ≤ n) :
    mkGrid (α := α) n none none none none = .ok ⟨n, n, 0, 0, 1⟩ := by
  rw [mkGrid_eq, if_neg (by simpa using hn)]
  rfl

/-- the constructor refuses exactly the negative dimensions, and otherwise stores what it was given -/
theorem mkGrid_ok_iff {ncols : Int} {nrows : Option Int} {csz xll yll : Option α} {g : Geom α} :
    mkGrid ncols nrows csz xll yll = .ok g ↔
      (0 ≤ ncols ∧ 0 ≤ nrows.getD ncols ∧
        g = ⟨nrows.getD ncols, ncols, xll.getD 0, yll.getD 0, csz.getD 1⟩) := by
  rw [mkGrid_eq]
  split_ifs with h
  · exact ⟨fun h' => (by cases h'), fun ⟨a, b, _⟩ => by omega⟩
  · exact ⟨fun h' => ⟨by omega, by omega, (Except.ok.inj h').symm⟩, fun ⟨_, _, e⟩ => e ▸ rfl⟩

/-- on a constructed grid the existence of a valid cell gives `0 < ncols` and `0 < nrows`: the standing hypothesis
of the theorems follows from the constructor's own guard -/
theorem mkGrid_valid_pos {ncols : Int} {nrows : Option Int} {csz xll yll : Option α} {g : Geom α}
    (hg : mkGrid ncols nrows csz xll yll = .ok g) {c : Int} (hv : validCell g.nrows g.ncols c = true) :
    0 < g.ncols ∧ 0 < g.nrows := by
  obtain ⟨h1, -, rfl⟩ := mkGrid_ok_iff.1 hg
  have hc : 0 < ncols := lt_of_le_of_ne h1 (Ne.symm (validCell_ncols_ne_zero hv))
  exact ⟨hc, nrows_pos_of_valid hc hv⟩

/-- round trip on every constructed grid with a positive cell size — no hypothesis on the number of columns -/
theorem constructed_roundtrip {ncols : Int} {nrows : Option Int} {csz xll yll : Option α} {g : Geom α}
    (hg : mkGrid ncols nrows csz xll yll = .ok g) (hcsz : 0 < g.csz) {c : Int}
    (hv : validCell g.nrows g.ncols c = true) :
    ∃ x y, cell2coord g c = some (x, y) ∧ coord2cellK g x y = c :=
  coord2cellK_cell2coord hcsz (mkGrid_valid_pos hg hv).1 hv

/-! ### 15. the hypotheses are needed (and how far they can be weakened) -/

/-- `0 < ncols` cannot be dropped: attributes can be re-assigned to a pair of negative numbers whose product is
positive; cell 4 then passes the guard and gets row -1 -/
theorem ncols_pos_needed :
    ∃ nrows ncols c : Int, validCell nrows ncols c = true ∧ (cell2rowcol nrows ncols c).1 < 0 :=
  ⟨-2, -3, 4, by decide, by decide⟩

/-- the round trip needs only `csz ≠ 0` (a negative cell size mirrors the grid; the centre still maps back) -/
theorem coord2cell_cell2coord_of_ne_zero {g : Geom α} (hcsz : g.csz ≠ 0) (hc : 0 < g.ncols) {c : Int}
    (hv : validCell g.nrows g.ncols c = true) :
    ∃ x y, cell2coord g c = some (x, y) ∧ coord2cellK g x y = c :=
  ⟨_, _, cell2coord_eq hv, cellOfQuot_of_floor hc hv (floor_offset_centre hcsz _) (floor_offset_centre hcsz _)⟩

/-- `0 < csz` cannot be dropped from the outside clause: with a negative cell size a point left of `xll` gets a cell -/
theorem csz_pos_needed :
    ∃ (g : Geom α) (x y : α), g.csz ≠ 0 ∧ 0 < g.ncols ∧ x < g.xll ∧
      validCell g.nrows g.ncols (coord2cell g x y) = true := by
  refine ⟨⟨1, 1, 0, 0, -1⟩, -1 / 2, -1 / 2, by norm_num, by norm_num, by norm_num, ?_⟩
  have h : ⌊((-1 / 2 : α) - 0) / -1⌋ = 0 := by rw [Int.floor_eq_iff]; norm_num
  rw [coord2cell_eq]
  dsimp only
  rw [h]
  decide

/-! ### 16. request shapes -/

/-- the wrappers answer a request exactly when its shape is a scalar or one-dimensional (cells), respectively a pair
or an `[n, 2]` array (points); then the answer is the element-wise one on the flat content; any other shape is a
`ValueError` and no cell / coordinate is produced -/
theorem request_shapes (g : Geom α) (shape : List Nat) (cells : List Int) (data : List α) :
    (gridCell2rowcolReq g.nrows g.ncols shape cells =
      if shape.length ≤ 1 then .ok (gridCell2rowcol g.nrows g.ncols cells) else .error .valueError) ∧
    (gridCell2coordReq g shape cells =
      if shape.length ≤ 1 then .ok (gridCell2coord g cells) else .error .valueError) ∧
    (gridCoord2cellReq g shape data =
      if (shape.length = 1 ∨ shape.length = 2) ∧ shape.getLast? = some 2
      then .ok (gridCoord2cell g (pairUp data)) else .error .valueError) := by
  match shape with
  | [] => exact ⟨rfl, rfl, rfl⟩
  | [k] | [_, k] => exact ⟨rfl, rfl, by by_cases h : k = 2 <;> simp [gridCoord2cellReq, pointsRequestLen, h]⟩
  | _ :: _ :: _ :: _ => exact ⟨rfl, rfl, by simp [gridCoord2cellReq, pointsRequestLen]⟩

/-! ### non-vacuity: the hypotheses are met by concrete grids (these are tests, not theorems) -/

/-- a 2 x 3 grid over ℚ with cell size 1/2 and a negative origin -/
def exGeom : Geom ℚ := ⟨2, 3, -7 / 2, 10, 1 / 2⟩

example : validCell 2 3 4 = true ∧ cell2rowcol 2 3 4 = (1, 1) := by decide
example : cNeighbours 2 3 4 = .ok [0, 1, 2, 3, -1, 5, -1, -1, -1] := by decide
example : cNeighbours 2 3 6 = .error .badCell := by decide
example : (0 : ℚ) < exGeom.csz ∧ 0 < exGeom.ncols ∧ validCell exGeom.nrows exGeom.ncols 4 = true := by
  decide +kernel
/-- a point of the left strip: outside the extent, `xll - csz < x < xll`, `yll ≤ y < yll + nrows*csz` -/
example : exGeom.xll - exGeom.csz < (-15 / 4 : ℚ) ∧ (-15 / 4 : ℚ) < exGeom.xll ∧
    exGeom.yll ≤ (41 / 4 : ℚ) ∧ (41 / 4 : ℚ) < exGeom.yll + (exGeom.nrows : ℚ) * exGeom.csz := by
  decide +kernel
/-- a point in the footprint of cell 4 = (row 1, col 1) -/
example : InFootprint exGeom 4 (-29 / 10) (101 / 10) := by
  unfold InFootprint
  decide +kernel

/-- the inside / outside theorems applied to that grid: the point above goes to cell 4, the strip point to -1 -/
example : coord2cell exGeom (-29 / 10) (101 / 10) = 4 ∧ coord2cell exGeom (-15 / 4) (41 / 4) = -1 := by
  have hcsz : (0 : ℚ) < exGeom.csz := by decide +kernel
  exact ⟨coord2cell_inside hcsz (by decide) (by decide) (by unfold InFootprint; decide +kernel),
    coord2cell_outside hcsz (Or.inl (by decide +kernel))⟩

/-- hypotheses of `cell2rowcol_succ` across the end of a row, and of `neighbours_symmetric`, on the 2 x 3 grid -/
example : validCell 2 3 2 = true ∧ validCell 2 3 (2 + 1) = true ∧ cell2rowcol 2 3 (2 + 1) = (1, 0) := by decide
example : ∃ l, cNeighbours 2 3 4 = .ok l ∧ l[1]? = some 1 ∧ (1 : Int) ≠ -1 ∧
    ∃ l', cNeighbours 2 3 1 = .ok l' ∧ l'[8 - 1]? = some 4 :=
  ⟨_, rfl, by decide, by decide, neighbours_symmetric (by decide) (by decide) rfl (by decide) (by decide) (by decide)⟩
example : cell2rowcol exGeom.nrows exGeom.ncols 6 = (-1, -1) ∧ cell2rowcol exGeom.nrows exGeom.ncols (-1) = (-1, -1) :=
  ⟨(invalid_cell_flagged (g := exGeom) (Or.inr (by decide))).1, (invalid_cell_flagged (g := exGeom) (Or.inl (by decide))).1⟩

/-- the robust theorems with `δ = 1/1000`: quotients off by 1/2000, point 1/5 of a cell inside cell 4;
and a point 1/4 of a cell left of the extent -/
example : cellOfQuot exGeom.nrows exGeom.ncols ((6 / 5 : ℚ) + 1 / 2000) ((1 / 5 : ℚ) - 1 / 2000) = 4 :=
  cellOfQuot_inside_of_approx (δ := 1 / 1000) (x := -29 / 10) (y := 101 / 10) (by decide +kernel) (by decide)
    (by decide) (by decide +kernel) (by decide +kernel) (by decide +kernel)
example : cellOfQuot exGeom.nrows exGeom.ncols ((-1 / 2 : ℚ) + 1 / 2000) (1 / 2 : ℚ) = -1 :=
  cellOfQuot_outside_of_approx (δ := 1 / 1000) (x := -15 / 4) (y := 41 / 4) (by decide +kernel)
    (by decide +kernel) (by decide +kernel) (Or.inl (by decide +kernel))
-- from here on the `ℚ` examples AND the three theorems of section 17 are read with the field instances of the theorems
-- (`exTrunc`, `exFloor`), not with `truncRat` / `floorRat` which the driver runs (equal to them:
-- `truncRat_eq_fieldTrunc`, `floorRat_eq_fieldFloor`)
local instance (priority := high) exTrunc : Trunc ℚ := fieldTrunc
local instance (priority := high) exFloor : FloorNum ℚ := fieldFloor

/-! ### 17. doubles: the rounded kernels on exact rationals with `round53` (what the driver executes and the harness
compares exactly with the code), with the numbers of the property's quantifier -/

/-- **inside clause for doubles**: with IEEE rounding (`round53`) of every arithmetic result, a point at least
`1e-9` cell sizes inside the footprint of a valid cell, at most `2^21` cell sizes from the lower-left corner, is
mapped to that cell -/
theorem coord2cell_double_inside {g : Geom ℚ} (hcsz : 0 < g.csz) (hc : 0 < g.ncols) {c : Int}
    (hv : validCell g.nrows g.ncols c = true) {x y : ℚ}
    (hqx : |(quotients g x y).1| ≤ 2 ^ 21) (hqy : |(quotients g x y).2| ≤ 2 ^ 21)
    (hin : cellLeft g c + 1 / 10 ^ 9 * g.csz ≤ x ∧ x + 1 / 10 ^ 9 * g.csz < cellRight g c ∧
      cellBottom g c + 1 / 10 ^ 9 * g.csz ≤ y ∧ y + 1 / 10 ^ 9 * g.csz < cellTop g c) :
    coord2cellR round53 g x y = c :=
  coord2cellR_inside round53_standard_model (by positivity) hcsz hc hv (quotBudget_double hqx) (quotBudget_double hqy) hin

/-- **outside clause for doubles**: a point at least `1e-9` cell sizes outside the extent on any side, at most
`2^21` cell sizes from the lower-left corner, is mapped to `-1` -/
theorem coord2cell_double_outside {g : Geom ℚ} (hcsz : 0 < g.csz) {x y : ℚ}
    (hqx : |(quotients g x y).1| ≤ 2 ^ 21) (hqy : |(quotients g x y).2| ≤ 2 ^ 21)
    (hout : x + 1 / 10 ^ 9 * g.csz < g.xll ∨ g.xll + (g.ncols : ℚ) * g.csz + 1 / 10 ^ 9 * g.csz ≤ x ∨
      y + 1 / 10 ^ 9 * g.csz < g.yll ∨ g.yll + (g.nrows : ℚ) * g.csz + 1 / 10 ^ 9 * g.csz ≤ y) :
    coord2cellR round53 g x y = -1 :=
  coord2cellR_outside round53_standard_model (by positivity) hcsz (quotBudget_double hqx) (quotBudget_double hqy) hout

/-- **round trip for doubles**: `coord2cell(cell2coord c) = c` with IEEE rounding of every arithmetic result of both
kernels, for every grid with `|xll|/csz + ncols ≤ 2^48` and `|yll|/csz + nrows ≤ 2^48` (the property's quantifier:
origins up to `1e4` cell sizes from zero; any allocatable grid) -/
theorem roundtrip_double {g : Geom ℚ} (hcsz : 0 < g.csz) (hc : 0 < g.ncols) {c : Int}
    (hv : validCell g.nrows g.ncols c = true)
    (hX : |g.xll| / g.csz + (g.ncols : ℚ) ≤ 2 ^ 48) (hY : |g.yll| / g.csz + (g.nrows : ℚ) ≤ 2 ^ 48) :
    ∃ x y, cell2coordR round53 g c = some (x, y) ∧ coord2cellR round53 g x y = c :=
  roundtripR round53_standard_model (by positivity) hcsz hc hv (rtBudget_double hX) (rtBudget_double hY)

/-- the rounded theorems on the 2 x 3 grid: point 1/5 of a cell inside cell 4; a point 1/4 of a cell left of the
extent; the round trip of cell 4 -/
example : coord2cellR round53 exGeom (-29 / 10) (101 / 10) = 4 :=
  coord2cell_double_inside (by decide +kernel) (by decide) (by decide) (by decide +kernel) (by decide +kernel)
    (by decide +kernel)
example : coord2cellR round53 exGeom (-15 / 4) (41 / 4) = -1 :=
  coord2cell_double_outside (by decide +kernel) (by decide +kernel) (by decide +kernel) (Or.inl (by decide +kernel))
example : ∃ x y, cell2coordR round53 exGeom 4 = some (x, y) ∧ coord2cellR round53 exGeom x y = 4 :=
  roundtrip_double (by decide +kernel) (by decide) (by decide) (by decide +kernel) (by decide +kernel)
example : centreR (fun t : ℚ => t) exGeom.xll exGeom.csz 1 ≤ centreR (fun t : ℚ => t) exGeom.xll exGeom.csz 2 :=
  centreR_mono (fun _ _ h => h) (by decide +kernel) (by decide)
/-- a history on the 2 x 3 grid: use it, transpose it (3 x 2), reject a call, copy it — then the round trip of cell 5 -/
def exOps : List (Op ℚ) := [.rowcol [0, 7], .setNrows 3, .setNcols 2, .nb 6, .clone, .setCsz 2]
example : (finalGeom exGeom exOps).nrows = 3 ∧ (finalGeom exGeom exOps).ncols = 2 ∧ (finalGeom exGeom exOps).csz = 2 :=
  ⟨rfl, rfl, rfl⟩
example : ∃ x y, run exGeom (exOps ++ [.c2c [5], .xy2c [(x, y)]]) = run exGeom exOps ++ [.coords [some (x, y)], .cells [5]] :=
  history_roundtrip exGeom exOps (by decide +kernel) (by decide) (by decide)
example : (run exGeom exOps)[3]? = some (.nb (.error .badCell)) := by
  rw [run_answer]; rfl
example : ∃ x' y' x y, cell2coordR round53 exGeom 4 = some (x', y') ∧ cell2coord exGeom 4 = some (x, y) ∧
    |x' - x| ≤ centreBudget (1 / 2 ^ 53) * (|exGeom.xll| + |exGeom.csz| * |((colOf exGeom.ncols 4 : Int) : ℚ) + 1 / 2|) ∧
    |y' - y| ≤ centreBudget (1 / 2 ^ 53) *
      (|exGeom.yll| + |exGeom.csz| * |((exGeom.nrows - 1 - rowOf exGeom.ncols 4 : Int) : ℚ) + 1 / 2|) :=
  cell2coordR_error round53_standard_model (by decide +kernel) (by decide)
/-- a rejected call after the history: cell 7 does not exist on the 3 x 2 grid the history leaves -/
example : (run exGeom (exOps ++ [.nb 7]))[exOps.length]? = some (.nb (.error .badCell)) ∧
    finalGeom exGeom (exOps ++ [.nb 7]) = finalGeom exGeom exOps :=
  history_rejected exGeom exOps 7 (by decide)
example : (step exGeom (.nb 6 : Op ℚ)).1 = exGeom := step_keeps_state exGeom _ rfl
/-- the round trip with a NEGATIVE cell size (mirrored grid) -/
example : ∃ x y, cell2coord (⟨2, 3, 0, 0, -1 / 2⟩ : Geom ℚ) 4 = some (x, y) ∧ coord2cellK (⟨2, 3, 0, 0, -1 / 2⟩ : Geom ℚ) x y = 4 :=
  coord2cell_cell2coord_of_ne_zero (by norm_num) (by decide) (by decide)
example : ∃ x y, cell2coord exGeom 4 = some (x, y) ∧ coord2cellK exGeom x y = 4 :=
  constructed_roundtrip (α := ℚ) (ncols := 3) (nrows := some 2) (csz := some (1 / 2)) (xll := some (-7 / 2)) (yll := some 10)
    rfl (by decide +kernel) (by decide)
/-- constructor: defaults, the guard, and a constructed grid with a valid cell -/
example : mkGrid (α := ℚ) 3 none none none none = .ok ⟨3, 3, 0, 0, 1⟩ := mkGrid_default (by decide)
example : mkGrid (α := ℚ) 3 (some (-1)) none none none = .error .valueError := rfl
example : mkGrid (α := ℚ) 3 (some 2) (some (1 / 2)) (some (-7 / 2)) (some 10) = .ok exGeom := rfl
example : 0 < exGeom.ncols ∧ 0 < exGeom.nrows :=
  mkGrid_valid_pos (α := ℚ) (ncols := 3) (nrows := some 2) (csz := some (1 / 2)) (xll := some (-7 / 2)) (yll := some 10)
    rfl (c := 4) (by decide)
/-- request shapes: a pair is one point, a triple is refused, `[2, 2]` is two points; cells: `[2, 1]` is refused -/
example : pointsRequestLen [2] = .ok 1 ∧ pointsRequestLen [3] = .error .valueError ∧ pointsRequestLen [2, 2] = .ok 2 ∧
    pointsRequestLen [] = .error .valueError ∧ cellsRequestLen [] = .ok 1 ∧ cellsRequestLen [2, 1] = .error .valueError := by
  decide
example : coord2cellK exGeom (-29 / 10) (101 / 10) = 4 ∧ coord2cellK exGeom (-15 / 4) (41 / 4) = -1 := by
  have hcsz : (0 : ℚ) < exGeom.csz := by decide +kernel
  exact ⟨(coord2cellK_eq_iff hcsz (by decide) (by decide)).2 (by unfold InFootprint; decide +kernel),
    coord2cellK_outside hcsz (Or.inl (by decide +kernel))⟩

end HydroVerif.C07
